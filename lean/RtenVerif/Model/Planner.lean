import RtenVerif.Model.Graph
/-!
# Planner — a model of `src/graph/planner.rs`

`Planner::create_plan` (argument checks) → `PlanBuilder::plan` (loop over the
requested outputs) → `PlanBuilder::visit` (depth-first traversal with an active
set for cycle detection) → `PlanBuilder::sort_plan` (frontier re-ordering), over
the graph IR of `Model/Graph.lean`.  Import-free and executable; every recursion
is structural (on fuel or on a list) so `decide` evaluates it.

Modelling decisions
* `FxHashSet<NodeId>` (resolved values, active set) are lists used only through
  `contains`; insertion order is irrelevant to every observable.
* `visit` is recursive in the code.  Here it recurses on a fuel counter and
  reports `PlanError.outOfFuel` when it runs out; `createPlan` supplies
  `g.nodes.length`, and `Lemmas/PlannerTotal.lean` proves that this budget is
  never exhausted (termination of the real recursion on every finite graph,
  cyclic or not).  The `while !frontier.is_empty()` loop of `sort_plan` is
  treated the same way with budget `plan.length`.
  Since commit "fix: planner: traverse the graph with an explicit stack instead of
  recursion" the code keeps the operators being visited (with the position of their next
  dependency) in a `Vec` instead of on the call stack; the recursive presentation below is
  the same computation (one frame = one pending `visit`), and the depth bound proved for
  it bounds the length of that `Vec`.
* `RunError::PlanningError(String)` is reduced to the class of the message.
* `sortPlan` takes a flag `dedup`.  `dedup = true` is the code as it stands
  (after commit "fix: planner: never schedule an operator twice in sort_plan");
  `dedup = false` is the code before that fix, kept because the witnesses in
  `Props/C03.lean` show why the fix was needed (duplicate entries, and a
  frontier loop that never ends).
-/
namespace RtenVerif.Planner
open RtenVerif.Graph

/-- `planner::PlanOptions` (with its `Default`). -/
structure PlanOptions where
  allowMissing : Bool := false
  capturesAvailable : Bool := true
deriving Repr, DecidableEq, Inhabited

/-- Classes of `RunErrorImpl::PlanningError` messages, plus fuel exhaustion of
the model itself (proved unreachable). -/
inductive PlanError where
  | dupOutput     -- "Outputs are not unique. …"
  | badOutput     -- "Output i (…) is not a value node in the graph."
  | dupInput      -- "Inputs are not unique. …"
  | badInput      -- "Input i (…) is not a value node in the graph."
  | cycle         -- "Encountered cycle visiting dependency …"
  | missingInput  -- "Missing input … for op …"
  | noSource      -- "Source node not found for output …"
  | outOfFuel     -- model artefact; never returned with the budgets `createPlan` uses
deriving Repr, DecidableEq, Inhabited

/-- Equality of planner outcomes is decidable (so `decide` can check witnesses). -/
instance {α : Type} [DecidableEq α] : DecidableEq (Except PlanError α)
  | .ok a, .ok b => if h : a = b then isTrue (by rw [h]) else isFalse (by intro h'; cases h'; exact h rfl)
  | .error a, .error b =>
    if h : a = b then isTrue (by rw [h]) else isFalse (by intro h'; cases h'; exact h rfl)
  | .ok _, .error _ => isFalse (by intro h; cases h)
  | .error _, .ok _ => isFalse (by intro h; cases h)

/-- `first_duplicate_by(xs, ==).is_some()`, returning an element that has an
earlier… (the code returns the later copy; only `is_some` is observable through
the error class). -/
def firstDup : List Nat → Option Nat
  | [] => none
  | x :: xs => if xs.contains x then some x else firstDup xs

/-- `ResolvedValueSet::new`: supplied inputs, plus graph captures if requested
(constants are handled by `rContains`). -/
def resolvedNew (g : Graph) (inputs : List Nat) (includeCaptures : Bool) : List Nat :=
  inputs ++ (if includeCaptures then g.captures else [])

/-- `ResolvedValueSet::contains`. -/
def rContains (g : Graph) (r : List Nat) (id : Nat) : Bool :=
  r.contains id || isConstant g id

/-- Mutable state of `PlanBuilder` during the traversal + the active set. -/
structure St where
  resolved : List Nat
  plan : List (Nat × OpNode)
  active : List Nat
deriving Repr, DecidableEq, Inhabited

/-- The `for input in operator_dependencies(op_node)` loop of `visit`, with the
recursive call abstracted as `rec` (instantiated with `visit … fuel`). -/
def depsLoop (g : Graph) (opts : PlanOptions)
    (rec : Nat → OpNode → St → Except PlanError St) :
    List Nat → St → Except PlanError St
  | [], st => .ok st
  | d :: ds, st =>
    if rContains g st.resolved d then depsLoop g opts rec ds st
    else
      match getSource g d with
      | some (p, pop) =>
        if st.active.contains p then .error .cycle
        else
          match rec p pop st with
          | .ok st' => depsLoop g opts rec ds st'
          | .error e => .error e
      | none =>
        if opts.allowMissing then depsLoop g opts rec ds st else .error .missingInput

/-- `PlanBuilder::visit`. -/
def visit (g : Graph) (opts : PlanOptions) : Nat → Nat → OpNode → St → Except PlanError St
  | 0, _, _, _ => .error .outOfFuel
  | fuel + 1, opId, op, st =>
    match depsLoop g opts (visit g opts fuel) (opDeps g op)
        { st with active := opId :: st.active } with
    | .ok st1 =>
      .ok { resolved := st1.resolved ++ opOutputs op
            plan := st1.plan ++ [(opId, op)]
            active := st1.active.filter (fun a => a != opId) }
    | .error e => .error e

/-- The `for output_id in outputs` loop of `PlanBuilder::plan`. -/
def planOutputs (g : Graph) (opts : PlanOptions) (fuel : Nat) :
    List Nat → St → Except PlanError St
  | [], st => .ok st
  | o :: os, st =>
    if rContains g st.resolved o then planOutputs g opts fuel os st
    else
      match getSource g o with
      | some (p, pop) =>
        match visit g opts fuel p pop st with
        | .ok st' => planOutputs g opts fuel os st'
        | .error e => .error e
      | none =>
        if opts.allowMissing then planOutputs g opts fuel os st else .error .noSource

/-- All dependencies of `op` are in the resolved set. -/
def depsResolved (g : Graph) (r : List Nat) (op : OpNode) : Bool :=
  (opDeps g op).all (rContains g r)

/-- `dependent_ops[v]`: plan entries depending on `v`, in plan order, once per
occurrence of `v` among the entry's dependencies. -/
def dependents (g : Graph) (plan : List (Nat × OpNode)) (v : Nat) : List (Nat × OpNode) :=
  plan.flatMap (fun e => ((opDeps g e.2).filter (fun d => d == v)).map (fun _ => e))

/-- The candidate loop: push every dependent that is not yet in the frontier
(`dedup`: and not yet scheduled) and whose dependencies are all resolved. -/
def pushCandidates (g : Graph) (dedup : Bool) (r : List Nat) (emitted : List Nat) :
    List (Nat × OpNode) → List (Nat × OpNode) → List (Nat × OpNode)
  | [], fr => fr
  | c :: cs, fr =>
    if fr.any (fun e => e.1 == c.1) then pushCandidates g dedup r emitted cs fr
    else if dedup && emitted.contains c.1 then pushCandidates g dedup r emitted cs fr
    else if depsResolved g r c.2 then pushCandidates g dedup r emitted cs (fr ++ [c])
    else pushCandidates g dedup r emitted cs fr

/-- `frontier.iter().position(|op| op.in_place_inputs().is_empty()).unwrap_or(0)`. -/
def pickPos (fr : List (Nat × OpNode)) : Nat :=
  (fr.findIdx? (fun e => !e.2.inPlace)).getD 0

/-- `Vec::remove(pos)` returning the element and the remaining vector. -/
def removeAt : List (Nat × OpNode) → Nat → Option ((Nat × OpNode) × List (Nat × OpNode))
  | [], _ => none
  | e :: rest, 0 => some (e, rest)
  | e :: rest, n + 1 =>
    match removeAt rest n with
    | some (x, rest') => some (x, e :: rest')
    | none => none

/-- The `while !frontier.is_empty()` loop of `sort_plan`; `emitted` is
`output_plan`. Returns `none` when the budget is exhausted with work left. -/
def sortLoop (g : Graph) (dedup : Bool) (plan : List (Nat × OpNode)) :
    Nat → List (Nat × OpNode) → List Nat → List Nat → Option (List Nat)
  | _, [], _, emitted => some emitted
  | 0, _ :: _, _, _ => none
  | fuel + 1, fr@(_ :: _), r, emitted =>
    match removeAt fr (pickPos fr) with
    | none => none
    | some (e, fr') =>
      let emitted' := emitted ++ [e.1]
      let r' := r ++ opOutputs e.2
      let cands := (opOutputs e.2).flatMap (dependents g plan)
      sortLoop g dedup plan fuel (pushCandidates g dedup r' emitted' cands fr') r' emitted'

/-- `PlanBuilder::sort_plan` with loop budget `fuel`. -/
def sortPlanFuel (g : Graph) (dedup : Bool) (fuel : Nat) (plan : List (Nat × OpNode))
    (init : List Nat) : Option (List Nat) :=
  sortLoop g dedup plan fuel (plan.filter (fun e => depsResolved g init e.2)) init []

/-- Outcome of the depth-first phase: `PlanBuilder::plan` up to the sort. -/
def dfsPlan (g : Graph) (inputs outputs : List Nat) (opts : PlanOptions) :
    Except PlanError St :=
  planOutputs g opts g.nodes.length outputs
    { resolved := resolvedNew g inputs opts.capturesAvailable, plan := [], active := [] }

/-- `Planner::create_plan` (= `Graph::execution_plan`).
`sortFuel` is the budget for the frontier loop: `none` = `plan.length`
(sufficient when `dedup`), `some k` = explicit (used to explore `dedup = false`). -/
def createPlanWith (g : Graph) (dedup : Bool) (sortFuel : Option Nat)
    (inputs outputs : List Nat) (opts : PlanOptions) : Except PlanError (List Nat) :=
  if (firstDup outputs).isSome then .error .dupOutput
  else if !outputs.all (isValueOrConstant g) then .error .badOutput
  else if (firstDup inputs).isSome then .error .dupInput
  else if !inputs.all (isValueOrConstant g) then .error .badInput
  else
    match dfsPlan g inputs outputs opts with
    | .error e => .error e
    | .ok st =>
      if opts.allowMissing || st.plan.isEmpty then .ok (st.plan.map (fun e => e.1))
      else
        match sortPlanFuel g dedup (sortFuel.getD st.plan.length) st.plan
            (resolvedNew g inputs opts.capturesAvailable) with
        | some p => .ok p
        | none => .error .outOfFuel

/-- The code as it stands. -/
def createPlan (g : Graph) (inputs outputs : List Nat) (opts : PlanOptions := {}) :
    Except PlanError (List Nat) :=
  createPlanWith g true none inputs outputs opts

end RtenVerif.Planner
