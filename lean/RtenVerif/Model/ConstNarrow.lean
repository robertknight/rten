/-
Model of the constant conversions both load paths apply to dtypes rten does not store natively
(C20): f64 → f32 (`x as f32` in `src/model/onnx_loader.rs::load_constant`, numpy
`astype(np.float32)` in `rten_convert/converter.py::constant_node_from_onnx_initializer`),
bool → i32, and the wrapping of `int32_data` into u8 / i8.  Bit patterns and scaled values are
natural numbers; import-free.
-/
namespace RtenVerif.ConstNarrow

/-- `|a - b|` on naturals. -/
def absDiff (a b : Nat) : Nat := (a - b) + (b - a)

/-- Number of significant bits (`0` for `0`). -/
def bitLen (n : Nat) : Nat := if n = 0 then 0 else Nat.log2 n + 1

/-- `x / 2^sh` rounded to nearest, ties to even (what a hardware right shift with guard/sticky
bits computes). -/
def rneShift (x sh : Nat) : Nat :=
  let k := x / 2 ^ sh
  let r := x % 2 ^ sh
  if 2 * r > 2 ^ sh ∨ (2 * r = 2 ^ sh ∧ k % 2 = 1) then k + 1 else k

def f32Inf : Nat := 0x7f800000

/-- Exact value of a *finite* f64 magnitude bit pattern (`b < 2^63`, exponent field `< 2047`),
scaled by `2^1074` (the smallest f64 subnormal is `2^-1074`, so this is a natural number). -/
def f64MagValue (b : Nat) : Nat :=
  let e := b / 2 ^ 52
  let m := b % 2 ^ 52
  if e = 0 then m else (2 ^ 52 + m) * 2 ^ (e - 1)

/-- Exact value of a *finite* f32 magnitude bit pattern (`y < 0x7f800000`), scaled by `2^1074`:
subnormals are `m * 2^-149 = m * 2^925 / 2^1074`. -/
def f32MagValue (y : Nat) : Nat :=
  let e := y / 2 ^ 23
  let m := y % 2 ^ 23
  if e = 0 then m * 2 ^ 925 else (2 ^ 23 + m) * 2 ^ (e - 1 + 925)

/-- Round the value `M * 2^E` (scaled by `2^1074`) to the nearest f32 magnitude bit pattern, ties to
even.  The result keeps 24 significant bits, but never a quantum below `2^-149` (= `2^925`
scaled): `q` is the exponent of the result's unit in the last place.  The f32 encoding is monotone
in the magnitude, so for a significand `k` (`k ≤ 2^24`, a carry to `2^24` included) at quantum `q`
the bit pattern is `(q - 925) * 2^23 + k`; anything at or above the pattern of infinity is
infinity. -/
def f32OfScaled (M E : Nat) : Nat :=
  if M = 0 then 0
  else
    let q := max (E + bitLen M - 24) 925
    let k := if q ≤ E then M * 2 ^ (E - q) else rneShift M (q - E)
    let bits := (q - 925) * 2 ^ 23 + k
    if bits ≥ f32Inf then f32Inf else bits

/-- Significand and exponent of a finite f64 magnitude: value `= M * 2^E / 2^1074`. -/
def f64Sig (b : Nat) : Nat := if b / 2 ^ 52 = 0 then b % 2 ^ 52 else 2 ^ 52 + b % 2 ^ 52
def f64Exp (b : Nat) : Nat := if b / 2 ^ 52 = 0 then 0 else b / 2 ^ 52 - 1

/-- f64 → f32 on magnitude bit patterns (`b < 2^63`), round to nearest even; NaN keeps the upper
payload bits and becomes quiet (what `cvtsd2ss` / Rust `as f32` / numpy `astype` do). -/
def f64ToF32Mag (b : Nat) : Nat :=
  if b / 2 ^ 52 = 2047 then
    (if b % 2 ^ 52 = 0 then f32Inf else 0x7fc00000 + (b % 2 ^ 52 / 2 ^ 29) % 2 ^ 22)
  else f32OfScaled (f64Sig b) (f64Exp b)

/-- f64 → f32 on full bit patterns (`b < 2^64`): the sign bit is copied. -/
def f64ToF32Bits (b : Nat) : Nat := (b / 2 ^ 63) * 2 ^ 31 + f64ToF32Mag (b % 2 ^ 63)

def isNaN32 (y : Nat) : Bool := (y % 2 ^ 31) / 2 ^ 23 = 255 ∧ (y % 2 ^ 23) ≠ 0
def isNaN64 (b : Nat) : Bool := (b % 2 ^ 63) / 2 ^ 52 = 2047 ∧ (b % 2 ^ 52) ≠ 0

/-- Every NaN is reported as the canonical quiet NaN (the harness does the same). -/
def canonNaN32 (y : Nat) : Nat := if isNaN32 y then 0x7fc00000 else y

/-! ### bool and narrow integers -/

/-- Loader: `if byte != 0 { 1 } else { 0 }` (raw bytes) / `if x != 0 { 1 } else { 0 }` (int32_data). -/
def loaderBool (x : Int) : Int := if x ≠ 0 then 1 else 0

/-- Converter: numpy views the byte as `bool` (`x != 0`) and `astype(np.int32)` maps
`True ↦ 1`, `False ↦ 0`. -/
def numpyBoolAsInt32 (x : Int) : Int := if x = 0 then 0 else 1

/-- `x as u8` of an `int32_data` element = numpy `astype(uint8)`. -/
def wrapU8 (x : Int) : Int := x % 256
/-- `x as i8` of an `int32_data` element = numpy `astype(int8)`. -/
def wrapI8 (x : Int) : Int := (x + 128) % 256 - 128

/-! ### the dtype → conversion-rule table of both loaders -/

/-- How a constant of an ONNX dtype is turned into one of rten's four native element types. -/
inductive Rule where
  | keepF32 | keepI32 | keepI8 | keepU8
  /-- int64 → i32, saturating -/
  | satI64
  /-- int64 → i32, two's-complement truncation (NOT what the property promises) -/
  | wrapI64
  /-- bool → i32 (0 / 1) -/
  | boolToI32
  /-- int16 → i32 (value preserving widening) -/
  | widenI16
  /-- f16 → f32 (exact) -/
  | f16ToF32
  /-- f64 → f32 (round to nearest even) -/
  | f64ToF32
  | unsupported
  /-- the translator did not recognise the code of this arm -/
  | unrecognised
  deriving DecidableEq, Repr

/-- Rule of a dtype in an association list (ONNX `DataType` name ↦ rule); absent = unsupported. -/
def ruleOf (tbl : List (String × Rule)) (d : String) : Rule :=
  match tbl.find? (fun p => p.1 == d) with
  | some p => p.2
  | none => .unsupported

end RtenVerif.ConstNarrow
