import RtenVerif.Props.C27

/-!
# C27 — non-vacuity examples and witnesses (kernel-evaluated on concrete tokenizers)
-/
namespace RtenVerif.ByteBpe

/-- A minimal valid vocabulary (one token per byte, id = byte) plus the token "hi" (id 256). -/
def demoVocab : List (Str × Nat) :=
  ((List.range 256).map fun b => ([byteToChar b], b)) ++ [([104, 105], 256)]

/-- The hypotheses of T2/T3 are met by a concrete tokenizer: `Bpe::new` accepts `demoVocab` with
the merge `h i`, ids are distinct, "hi!" encodes to `[hi, !]`, and `encode` over the lossless
pieces "hi" | "!" gives offsets `[0, 2, 3]` (piece starts + text length). -/
def demoCheck : Bool :=
  match Bpe.new demoVocab [([104], [105])] none false [] with
  | .ok t =>
    encodePiece t [104, 105, 33] true == [256, 33] &&
    encode t 3 [104, 105, 33] none [(0, 2), (2, 3)] == some ([256, 33], [0, 2, 3]) &&
    decodeIds t [256, 33] == .ok [104, 105, 33] &&
    tokenTexts [104, 105, 33] [0, 2, 3] == [some [104, 105], some [33]]
  | _ => false

example : demoCheck = true := by decide +kernel
example : (demoVocab.map (·.2)).Nodup := by
  have : demoVocab.map (·.2) = List.range 256 ++ [256] := by
    simp only [demoVocab, List.map_append, List.map_map, List.map_cons, List.map_nil,
      Function.comp_def, List.map_id']
  rw [this, ← List.range_succ]
  exact List.nodup_range
example : Tiles [(0, 2), (2, 3)] 0 3 := ⟨rfl, by omega, rfl, by omega, rfl⟩
example : MapMono (some [0, 0, 2]) := mapMono_some _ (by decide)
/-- `str::get` refuses a range that cuts "ö" = `C3 B6` in the middle (Rust returns `None`). -/
example : tokenTexts [0xC3, 0xB6] [0, 1, 2] = [none, none] ∧
    tokenTexts [0xC3, 0xB6, 0x78] [0, 2, 3] = [some [0xC3, 0xB6], some [0x78]] := by decide
/-- The hypothesis `hadd` of T2/T3 with a non-empty `added_tokens` map: id 50256 is not a
vocabulary id of `demoVocab`. -/
example : ∀ e ∈ demoVocab, ([(50256, [60, 124, 62])] : List (Nat × List Nat)).lookup e.2 = none := by
  decide +kernel

/-- A CLIP-style tokenizer (`end_of_word_suffix = "</w>"`, byte token ids `b`, end-of-word byte
tokens `256 + b`; only the entries for "a" are listed). -/
def eowT : Bpe where
  vocab := [([97], 97), ([97, 60, 47, 119, 62], 353)]
  merges := []
  byteTok := fun b => b
  eow := some fun b => b + 256
  ignoreMerges := false
  added := []

/-- **Witness (outside T2): an end-of-word suffix does not round-trip.**  The piece "a" encodes to
the token `a</w>` and `decode` returns the bytes of "a</w>" — the suffix is not stripped. -/
theorem c27_eow_suffix_decoded_verbatim :
    encodePiece eowT [97] true = [353] ∧ decodeIds eowT [353] = .ok [97, 60, 47, 119, 62] := by
  decide +kernel

/-- Added token `33 ↦ "<e>"` where 33 is also the id of "!". -/
def clashT : Bpe where
  vocab := [([33], 33)]
  merges := []
  byteTok := fun b => b
  eow := none
  ignoreMerges := false
  added := [(33, [60, 101, 62])]

/-- **Witness (hypothesis `hadd` of T2 is needed): an added token that reuses a vocabulary id
shadows it in `decode`**: "!" decodes to "<e>". -/
theorem c27_added_token_clash_shadows :
    encodePiece clashT [33] true = [33] ∧ decodeIds clashT [33] = .ok [60, 101, 62] := by
  decide +kernel

end RtenVerif.ByteBpe
