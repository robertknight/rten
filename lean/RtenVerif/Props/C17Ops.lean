import RtenVerif.Lemmas.QuantGemm
import RtenVerif.Lemmas.NearestInt
import RtenVerif.Model.QuantOps

/-!
# C17 (operator level) — MatMulInteger / ConvInteger / (Dynamic)QuantizeLinear wrappers

Theorems over `RtenVerif.Model.QuantOps`.  Same level as `Props/C17.lean`: proof of the integer
algebra, partial (f32 arithmetic of the quantize operators is exact only on the inputs the harness
uses; the GEMM kernels below the wrappers are covered by `Props/C17.lean`).
-/
namespace RtenVerif.QuantOps
open RtenVerif.QuantGemm

/-- **C17.O1** `ShiftCast` (`x ^ 0x80`) adds/subtracts 128: for every byte pattern `v`, read as
`i8` value `s`, `v xor 0x80` is the `u8` value `s + 128`; read as `u8` value `v`, the pattern
`v xor 0x80` is the `i8` value `v − 128`. -/
theorem c17_shift_cast_is_xor :
    ∀ v : Fin 256,
      ((xor80 v.val : Nat) : Int) = lhsToU8 .i8 (if v.val < 128 then (v.val : Int) else v.val - 256) ∧
      (if xor80 v.val < 128 then ((xor80 v.val : Nat) : Int) else (xor80 v.val : Int) - 256) =
        rhsToI8 .u8 v.val := by decide +kernel

theorem dotZ_shift (sa sb za zb : Int) : ∀ (a b : List Int),
    dotZ (za + sa) (zb + sb) (a.map (· + sa)) (b.map (· + sb)) = dotZ za zb a b
  | [], _ => by simp [dotZ]
  | _ :: _, [] => by simp [dotZ]
  | x :: xs, y :: ys => by
    simp only [List.map_cons, dotZ, dotZ_shift sa sb za zb xs ys]
    grind

/-- **C17.O2** MatMulInteger wrapper (the `ShiftCast` / XOR-0x80 branch, i.e. whenever the LHS is
`u8` or the default kernel cannot saturate) = definition: for every operand type combination
(`u8`/`i8` × `u8`/`i8`), all values, all zero points and lengths, shift casting operands *and* zero
points leaves `Σ_k (a_k − za)(b_k − zb)` unchanged. -/
theorem c17_matmulinteger_wrapper_exact (da db : Dt) (za zb : Int) (a b : List Int) :
    mmiEntry da db za zb a b = dotZ za zb a b := by
  unfold mmiEntry lhsToU8 rhsToI8
  exact dotZ_shift (lhsShift da) (rhsShift db) za zb a b

def inDt : Dt → Int → Prop
  | .u8, x => 0 ≤ x ∧ x ≤ 255
  | .i8, x => -128 ≤ x ∧ x ≤ 127

/-- **C17.O3** The shift casts land in the GEMM operand types, so the GEMM theorems
(`c17_simd_entry_exact`, `c17_no_i32_overflow`, …) apply to what the wrapper passes down. -/
theorem c17_shift_cast_in_range (d : Dt) (x : Int) (h : inDt d x) :
    (0 ≤ lhsToU8 d x ∧ lhsToU8 d x ≤ 255) ∧ (-128 ≤ rhsToI8 d x ∧ rhsToI8 d x ≤ 127) := by
  cases d <;> simp only [inDt] at h <;> simp only [lhsToU8, rhsToI8, lhsShift, rhsShift] <;> omega

example : mmiEntry .i8 .u8 (-128) 255 [-128, 127, 0] [0, 255, 128] =
    dotZ (-128) 255 [-128, 127, 0] [0, 255, 128] ∧
    dotZ (-128) 255 [-128, 127, 0] [0, 255, 128] = -16256 := by decide

/-- **C17.O4 (partial)** The `may_saturate` LHS path (shift by `−min(0, min a)`) is exact provided
the shifted zero point still fits `u8`.  The full statement is false: see the witness below. -/
theorem c17_minshift_exact_partial (t : List Int) (za zb : Int) (a b : List Int)
    (h : 0 ≤ za + minShift t ∧ za + minShift t ≤ 255) :
    mmiEntryMinShift t za zb a b = dotZ za zb a b := by
  unfold mmiEntryMinShift
  have e : (za + minShift t) % 256 = za + minShift t := by omega
  rw [e]
  have := dotZ_shift (minShift t) 0 za zb a b
  simpa using this

/-- **Observation (not a finding: no failing input can be shown on the real code on this host,
whose default int8 kernel is AVX-512 VNNI; this branch is not driven by the harness)**:
`shift_cast_gemm_lhs_to_u8` truncates `zero_point + shift` with `as u8`.  When an `i8` LHS
has a zero point below `min(0, min value)` the truncation wraps: tensor `[1, 2]`, `za = −3` gives
shift 0 and zero point 253, so the wrapper computes `Σ (a − 253)·b` instead of `Σ (a + 3)·b`. -/
theorem c17_minshift_zero_point_wraps :
    mmiEntryMinShift [1, 2] (-3) 0 [1, 2] [1, 1] = -503 ∧ dotZ (-3) 0 [1, 2] [1, 1] = 9 := by decide

theorem convCore (s t wz xz : Int) : ∀ ts : List Tap,
    dotZ (wz + s) (xz + t) (ts.map fun p => p.wt + s)
      (ts.map fun p => if p.valid then p.x + t else xz + t) = convDef wz xz ts
  | [] => by simp [convDef, dotZ]
  | p :: ts => by
    have ih := convCore s t wz xz ts
    simp only [List.map_cons, dotZ, convDef, ih]
    cases p.valid
    · simp only [Bool.false_eq_true, if_false]; grind
    · simp only [if_true]; grind

/-- **C17.O5** im2col + GEMM = definition when out-of-image taps are packed as the (shift cast)
input zero point: each padded tap contributes `(w − wz)·(xz − xz) = 0`.  For every tap list (i.e.
every shape, stride, dilation, padding, group), operand types and zero points. -/
theorem c17_conv_padding_exact (dw dx : Dt) (wz xz : Int) (ts : List Tap) :
    convGemm dw dx (padFixed dx xz) wz xz ts = convDef wz xz ts := by
  unfold convGemm padFixed lhsToU8 rhsToI8
  exact convCore (lhsShift dw) (rhsShift dx) wz xz ts

/-- **Finding (fixed, `findings/C17.json`: `C17-convinteger-padding`)** before the fix
`pack_block_int8` packed out-of-image taps as 0 (`padOld`), so every padded tap contributed
`(w − wz)·(0 − xz')`.  One padded tap, `u8` image with zero point 0, weight 3: the code gave
`3·(0 − (−128)) = 384`, the definition gives 0 (reproduced through `Model::run` on the unchanged
tree; `c17_conv_padding_exact` shows the pad value must be the zero point). -/
theorem c17_conv_padding_zero_was_wrong :
    convGemm .i8 .u8 (padOld .u8 0) 0 0 [{ wt := 3, x := 0, valid := false }] = 384 ∧
    convDef 0 0 [{ wt := 3, x := 0, valid := false }] = 0 := by decide

def exampleConv : Conv :=
  { n := 1, c := 1, h := 2, w := 2, o := 1, kh := 3, kw := 3, groups := 1,
    padT := 1, padL := 1, padB := 1, padR := 1, sy := 1, sx := 1, dy := 1, dx := 1 }

example : exampleConv.outH = 2 ∧ exampleConv.outW = 2 ∧
    ((taps exampleConv [10, 20, 30, 40] [1, 2, 3, 4, 5, 6, 7, 8, 9] 0 0 0 0).filter (!·.valid)).length = 5 ∧
    convInteger .i8 .u8 padFixed exampleConv (.scalar (-2)) 7 [10, 20, 30, 40] [1, 2, 3, 4, 5, 6, 7, 8, 9] =
      [718, 646, 502, 430] := by decide

theorem roundHalfEven_nearest (num den : Int) (hd : 0 < den) :
    2 * (roundHalfEven num den * den - num) ≤ den ∧ -den ≤ 2 * (roundHalfEven num den * den - num) := by
  have h1 := Int.mul_ediv_add_emod num den
  have h2 := Int.emod_nonneg num (Int.ne_of_gt hd)
  have h3 := Int.emod_lt_of_pos num hd
  unfold roundHalfEven
  simp only []
  generalize num / den = q at *
  generalize num % den = r at *
  subst h1
  rw [Int.mul_comm den q]
  -- the result is `q` (error `−r`) when `2r ≤ den` and `q + 1` (error `den − r`) when `2r ≥ den`
  have e : (q + 1) * den = q * den + den := by rw [Int.add_mul, Int.one_mul]
  split
  · omega
  · split
    · rw [e]; omega
    · split
      · omega
      · rw [e]; omega

/-- Quantisation to `Q` steps followed by dequantisation stays within **half** a step, over exact
rational arithmetic.  Inputs are integers in any common unit; `R = max' − min' > 0` is `Q·scale`; `q`
is *any* nearest integer to `x/scale = Q·X/R` and `zq` *any* nearest integer to `−min'/scale`; the
stored value is `y = clamp(q + zq, 0, Q)`.  The clamp loses nothing: the exact value
`zq + x/scale` already lies in `[−½, Q + ½]`, so a sum beyond `[0, Q]` is a whole step beyond it. -/
theorem quantize_within_half_step (Q R mn X q zq : Int) (hQ : 0 ≤ Q) (hR : 0 < R)
    (hx : mn ≤ X ∧ X ≤ mn + R)
    (hq : 2 * (q * R - Q * X) ≤ R ∧ -R ≤ 2 * (q * R - Q * X))
    (hz : 2 * (zq * R + Q * mn) ≤ R ∧ -R ≤ 2 * (zq * R + Q * mn)) :
    -R ≤ 2 * ((max 0 (min Q (q + zq)) - zq) * R - Q * X) ∧
      2 * ((max 0 (min Q (q + zq)) - zq) * R - Q * X) ≤ R := by
  have hs := Int.add_mul q zq R
  rw [Int.sub_mul]
  rcases Int.lt_or_le (q + zq) 0 with hlo | hlo
  · -- clamped to 0: `(q + zq)·R ≤ −R`
    rw [Int.max_eq_left (Int.le_trans (Int.min_le_right _ _) (Int.le_of_lt hlo)), Int.zero_mul]
    have := mul_add_le_of_lt hR hlo
    have := Int.mul_le_mul_of_nonneg_left hx.1 hQ
    omega
  · rcases Int.lt_or_le Q (q + zq) with hhi | hhi
    · -- clamped to `Q`: `(Q + 1)·R ≤ (q + zq)·R`, and `Q·X ≤ Q·mn + Q·R`
      rw [Int.min_eq_left (Int.le_of_lt hhi), Int.max_eq_right hQ]
      have := mul_add_le_of_lt hR hhi
      have := Int.mul_add Q mn R ▸ Int.mul_le_mul_of_nonneg_left hx.2 hQ
      omega
    · rw [Int.min_eq_right hhi, Int.max_eq_right hlo]
      omega

/-- **C17.T4** Dynamic quantization followed by dequantization stays within one quantization step,
over exact rational arithmetic.  Inputs are integers in any common unit; `R = max' − min' > 0` is
255·scale; `q` is *any* nearest integer to `x/scale = 255·X/R` and `zq` *any* nearest
integer to `−min'/scale` (round-half-even is one, see `roundHalfEven_nearest`); the stored value is
`y = clamp(q + zq, 0, 255)`.  Then `|(y − zq)·scale − x| ≤ scale`, stated without division as
`|(y − zq)·R − 255·X| ≤ R`.  (Half a step holds, for any number of steps:
`quantize_within_half_step`.) -/
theorem c17_dynamic_quantize_within_one_step (R mn mx X q zq : Int)
    (hR : 0 < R) (hRdef : R = mx - mn) (hx : mn ≤ X ∧ X ≤ mx)
    (hq : 2 * (q * R - 255 * X) ≤ R ∧ -R ≤ 2 * (q * R - 255 * X))
    (hz : 2 * (zq * R + 255 * mn) ≤ R ∧ -R ≤ 2 * (zq * R + 255 * mn)) :
    -R ≤ (max 0 (min 255 (q + zq)) - zq) * R - 255 * X ∧
      (max 0 (min 255 (q + zq)) - zq) * R - 255 * X ≤ R := by
  have := quantize_within_half_step 255 R mn X q zq (by decide) hR ⟨hx.1, by omega⟩ hq hz
  omega

/-- Non-vacuity of T4 and agreement with the executable model: inputs `[-3, 0, 5, 12]`
(`R = 15`, scale `15/255`): zero point 51, `y = [0, 51, 136, 255]`. -/
example : (dynamicQuantize [-3, 0, 5, 12]).range = 15 ∧ (dynamicQuantize [-3, 0, 5, 12]).zeroPoint = 51 ∧
    (dynamicQuantize [-3, 0, 5, 12]).y = [0, 51, 136, 255] ∧
    roundHalfEven 5 2 = 2 ∧ roundHalfEven 7 2 = 4 ∧ roundHalfEven (-5) 2 = -2 := by decide

theorem foldl_min_le : ∀ (xs : List Int) (init : Int),
    xs.foldl min init ≤ init ∧ ∀ x ∈ xs, xs.foldl min init ≤ x
  | [], init => by simp
  | y :: ys, init => by
    have ih := foldl_min_le ys (min init y)
    simp only [List.foldl_cons, List.mem_cons, forall_eq_or_imp]
    exact ⟨by omega, by omega, ih.2⟩

theorem le_foldl_max : ∀ (xs : List Int) (init : Int),
    init ≤ xs.foldl max init ∧ ∀ x ∈ xs, x ≤ xs.foldl max init
  | [], init => by simp
  | y :: ys, init => by
    have ih := le_foldl_max ys (max init y)
    simp only [List.foldl_cons, List.mem_cons, forall_eq_or_imp]
    exact ⟨by omega, by omega, ih.2⟩

/-- **C17.T4 (model function)** For the executable model `dynamicQuantize` of
DynamicQuantizeLinear (exact rational arithmetic, round-half-even, `u8` saturation) and every input
list: whenever the range is non-zero, every element satisfies
`|(y_i − zero_point)·scale − x_i| ≤ scale` with `scale = range/255`, stated without division.
(For f32 the harness compares the operator with this model on inputs where `range/255` is a power
of two, and checks the same one-step bound directly on random reals.) -/
theorem c17_dynamic_quantize_model_within_one_step (xs : List Int) (x : Int) (hx : x ∈ xs)
    (hR : (dynamicQuantize xs).range ≠ 0) :
    let d := dynamicQuantize xs
    let y := satTo .u8 (roundHalfEven (255 * x) d.range + d.zeroPoint)
    y ∈ d.y ∧ -d.range ≤ (y - d.zeroPoint) * d.range - 255 * x ∧
      (y - d.zeroPoint) * d.range - 255 * x ≤ d.range := by
  have hmn := foldl_min_le xs 0
  have hmx := le_foldl_max xs 0
  unfold dynamicQuantize at hR ⊢
  simp only [] at hR ⊢
  split at hR
  · exact absurd rfl hR
  · rename_i hr
    simp only [hr, if_false]
    generalize xs.foldl min 0 = mn at *
    generalize xs.foldl max 0 = mx at *
    have hrpos : 0 < mx - mn := by omega
    -- `0 ≤ −min' ≤ range`: neither the clamp nor the `u8` saturation of the zero point does anything
    rw [(by omega : max 0 (min (255 * (mx - mn)) (-(255 * mn))) = -(255 * mn))]
    have hz := roundHalfEven_nearest (-(255 * mn)) (mx - mn) hrpos
    have hq := roundHalfEven_nearest (255 * x) (mx - mn) hrpos
    generalize roundHalfEven (-(255 * mn)) (mx - mn) = z0 at *
    have hz0 : 0 ≤ z0 := ge_of_nearest hrpos (by omega) hz.2
    have hz255 : z0 ≤ 255 := le_of_nearest hrpos (by omega) hz.1
    rw [(by simp only [satTo]; omega : satTo .u8 z0 = z0)]
    exact ⟨List.mem_map.mpr ⟨x, hx, rfl⟩,
      c17_dynamic_quantize_within_one_step (mx - mn) mn mx x _ z0 hrpos rfl ⟨hmn.2 x hx, hmx.2 x hx⟩
        hq ⟨by omega, by omega⟩⟩

example : (dynamicQuantize [-3, 0, 5, 12]).range ≠ 0 ∧ (5 : Int) ∈ [-3, 0, 5, 12] := by decide

/-- `QuantizeLinear` saturates and rounds half to even (`scale = 2`, `u8`, zero point 250). -/
example : quantizeLinear .u8 2 1 250 5 = 252 ∧ quantizeLinear .u8 2 1 250 7 = 254 ∧
    quantizeLinear .u8 2 1 250 100 = 255 ∧ quantizeLinear .i8 2 1 (-120) (-100) = -128 := by decide

end RtenVerif.QuantOps
