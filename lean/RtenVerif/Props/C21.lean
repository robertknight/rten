import RtenVerif.Lemmas.ExtData

/-!
# C21 — External tensor data cannot escape the model directory or its file bounds

Property theorems over `RtenVerif.Model.ExtData` (model of `src/model/external_data.rs`
and of the Unix `std::path` functions it calls).  Paths are byte lists (`47 = '/'`,
`46 = '.'`).

* T1 (`c21_allowed_direct_child`, `c21_allowed_shape`): an accepted location denotes a
  direct child of the model directory and carries a data extension.
* T2 (`c21_allowed_iff`, `c21_reject_*`): every other class of location is rejected.
* T3 (`c21_mem_range_sound`, `c21_mmap_range_sound`, `c21_range_complete`,
  `c21_slice_exact`): accepted `(offset, length)` pairs lie inside the file, with no
  wrap-around anywhere, for all `u64` inputs.
* T4 (`c21_file_read_exact`, `c21_file_read_complete`): the file loader returns exactly
  `file[offset .. offset+length]` or an error.
* End to end (`c21_load_end_to_end`): parsing + allow-list + lookup + range check of any of
  the three loaders only ever yields `file[offset .. offset+length]` of an allowed name.
-/
namespace RtenVerif.ExtData

/-- Shape of accepted locations: exactly one `Normal` component and an allowed extension. -/
theorem c21_allowed_iff (p : List Nat) :
    allowed p = true ↔
      ∃ name, components p = [Comp.normal name] ∧ ∃ e, extOfName name = some e ∧ extOk e = true := by
  constructor
  · intro h
    unfold allowed at h
    split at h
    · rename_i n more hc
      cases more with
      | cons x xs => simp at h
      | nil =>
        rw [extension_of_single hc] at h
        cases he : extOfName n with
        | none => simp [he] at h
        | some e => exact ⟨n, hc, e, he, by simpa [he] using h⟩
    · cases h
  · rintro ⟨name, hc, e, he, hok⟩
    simp [allowed, hc, extension_of_single hc, he, hok]

/-- **C21.T1** An accepted location `p` names a direct child of the model directory:
there is a file name `name` — non-empty, not `.`, not `..`, without `/`, with an extension
starting with `data` or `onnx_data` — such that for *every* directory buffer `d`
(`FileLoader`/`MmapLoader` use the canonicalised parent of the model file) the path
`d.push(p)` that is handed to `File::open` has exactly the components of `d` followed by
`name`, and lexical resolution ends in `name` directly below whatever `d` resolves to. -/
theorem c21_allowed_direct_child (p : List Nat) (h : allowed p = true) :
    ∃ name, name ≠ [] ∧ name ≠ [46] ∧ name ≠ [46, 46] ∧ 47 ∉ name ∧
      components p = [Comp.normal name] ∧
      (∃ e, extOfName name = some e ∧ extOk e = true) ∧
      ∀ d, components (push d p) = components d ++ [Comp.normal name] ∧
        lexResolve (components (push d p)) = lexResolve (components d) ++ [Comp.normal name] := by
  obtain ⟨name, hc, hext⟩ := (c21_allowed_iff p).mp h
  obtain ⟨hb, hhead⟩ := components_eq_body_of_head_normal hc
  have hbody : body p = [Comp.normal name] := by rw [← hb, hc]
  have hmem : Comp.normal name ∈ body p := by rw [hbody]; simp
  obtain ⟨h1, h2, h3, h4⟩ := body_normal_props hmem
  refine ⟨name, h1, h2, h3, h4, hc, hext, ?_⟩
  intro d
  have hcomp : components (push d p) = components d ++ [Comp.normal name] := by
    by_cases hd : d = []
    · subst hd; rw [push_nil, hc]; simp [components]
    · rw [components_push_rel d p hd hhead, hbody]
  exact ⟨hcomp, by rw [hcomp, lexResolve_append_normal]⟩

theorem components_push_allowed (p : List Nat) (h : allowed p = true) (d : List Nat) :
    components (push d p) = components d ++ components p := by
  obtain ⟨name, _, _, _, _, hc, _, hpush⟩ := c21_allowed_direct_child p h
  rw [(hpush d).1, hc]

example : allowed [109, 46, 100, 97, 116, 97] = true := by decide          -- "m.data"
example : allowed [109, 46, 100, 97, 116, 97, 47, 46, 47] = true := by decide  -- "m.data/./"
example : components (push [47, 120] [109, 46, 100, 97, 116, 97]) =
    [Comp.root, Comp.normal [120], Comp.normal [109, 46, 100, 97, 116, 97]] := by decide

/-- **C21.T1 (string level)** An accepted location is literally `name ++ tail` where `name`
is the file name of T1 and `tail` is empty or starts with `/` and consists only of empty
and `.` segments (`/`, `/.`, `//./` …): nothing but the name reaches the directory walk. -/
theorem c21_allowed_shape (p : List Nat) (h : allowed p = true) :
    ∃ name tail, p = name ++ tail ∧ components p = [Comp.normal name] ∧ 47 ∉ name ∧
      (tail = [] ∨ tail.head? = some 47) ∧ body tail = [] := by
  obtain ⟨name, hc, _⟩ := (c21_allowed_iff p).mp h
  obtain ⟨hb, hhead⟩ := components_eq_body_of_head_normal hc
  have hbody : body p = [Comp.normal name] := hb ▸ hc
  obtain ⟨seg, hns, hsplit⟩ := splitSlash_head p
  rcases classify_cases seg with ⟨_, hs⟩ | ⟨hp, _⟩ | ⟨hnorm, _⟩
  · -- an empty or `.` first segment means `p` is empty, `.`, or starts with `/` or `./`
    exfalso
    rcases hsplit with ⟨rfl, _⟩ | ⟨p', rfl, _⟩
    · rcases hs with rfl | rfl <;> simp [components] at hc
    · rcases hs with rfl | rfl
      · simp at hhead
      · simp [components] at hc
  · exfalso
    rcases hsplit with ⟨_, hs⟩ | ⟨p', _, hs⟩ <;> simp [body, hs, hp] at hbody
  · rcases hsplit with ⟨rfl, hs⟩ | ⟨p', rfl, hs⟩
    · simp only [body, hs, List.filterMap_cons, hnorm, List.filterMap_nil, List.cons.injEq,
        Comp.normal.injEq, and_true] at hbody
      subst hbody
      exact ⟨p, [], by simp, hc, hns, .inl rfl, body_nil⟩
    · simp only [body, hs, List.filterMap_cons, hnorm, List.cons.injEq, Comp.normal.injEq] at hbody
      obtain ⟨rfl, hb'⟩ := hbody
      exact ⟨seg, 47 :: p', rfl, hc, hns, .inr rfl, by rw [body_slash_cons]; exact hb'⟩

/-- **Backslashes, drive letters, anything without `/`.** On Unix a string without a forward
slash that is not ``, `.`, `..` is one `Normal` component equal to the whole string —
`..\x.data`, `C:\x.data`, `dir\file.data` are plain file names (byte 92 is not a separator). -/
theorem c21_no_slash_single_name (p : List Nat) (h47 : 47 ∉ p)
    (h0 : p ≠ []) (h1 : p ≠ [46]) (h2 : p ≠ [46, 46]) : components p = [Comp.normal p] := by
  have hb : body p = [Comp.normal p] := by
    simp [body, splitSlash_no47 p h47, classify, h0, h1, h2]
  rw [components_eq, hb]
  rcases leadComp_cases p with ⟨hl, _⟩ | ⟨_, hh⟩ | ⟨_, rfl | ⟨r, rfl⟩⟩
  · rw [hl]; rfl
  · exact absurd (List.mem_of_mem_head? hh) h47
  · exact absurd rfl h1
  · exact absurd (by simp) h47

/-- **Trailing `/`, `/.`, `//./` are harmless.** If `p` is accepted then its file name `name`
alone is accepted too, `p` and `name` are equal as `Path`s (same component list, hence the
same loader cache key), and for every directory `d` the path handed to `File::open` has the
same components as `d/name`: the resolved path is the direct child `name` of `d`. -/
theorem c21_trailing_noise_harmless (p : List Nat) (h : allowed p = true) :
    ∃ name tail, p = name ++ tail ∧ body tail = [] ∧ allowed name = true ∧
      components p = components name ∧
      ∀ d, components (push d p) = components (push d name) ∧
        components (push d p) = components d ++ [Comp.normal name] := by
  obtain ⟨name, h1, h2, h3, h4, hc, hext, hpush⟩ := c21_allowed_direct_child p h
  obtain ⟨name', tail, hp, hc', _, _, htail⟩ := c21_allowed_shape p h
  obtain rfl : name' = name := by
    rw [hc] at hc'; injection hc' with e _; injection e with e; exact e.symm
  have hcn : components name' = [Comp.normal name'] := c21_no_slash_single_name name' h4 h1 h2 h3
  have han : allowed name' = true := (c21_allowed_iff name').mpr ⟨name', hcn, hext⟩
  refine ⟨name', tail, hp, htail, han, by rw [hc, hcn], fun d => ⟨?_, (hpush d).1⟩⟩
  rw [components_push_allowed p h, components_push_allowed name' han, hc, hcn]

/-- **What "recognised data extension" means in the code**: a *prefix* rule.  The extension
(text after the last `.`) is `data…` or `onnx_data…` with an arbitrary suffix — so
`x.database`, `m.data_evil`, `w.onnx_data_7` are all recognised.  (T1 applies to all of
them alike: they are direct children of the model directory.) -/
theorem c21_ext_rule_exact (e : List Nat) :
    extOk e = true ↔ ∃ s, e = strData ++ s ∨ e = strOnnxData ++ s := by
  unfold extOk
  rw [Bool.or_eq_true, startsWith_iff, startsWith_iff]
  constructor
  · rintro (⟨s, h⟩ | ⟨s, h⟩)
    · exact ⟨s, Or.inl h⟩
    · exact ⟨s, Or.inr h⟩
  · rintro ⟨s, h | h⟩
    · exact Or.inl ⟨s, h⟩
    · exact Or.inr ⟨s, h⟩

/-- Cache invariant: every entry was produced by opening an accepted location with that key. -/
def CacheInv (openf : List Nat → Option (List Nat)) (c : Cache) : Prop :=
  ∀ k f, cacheFind c k = some f → ∃ q, allowed q = true ∧ components q = k ∧ openf q = some f

theorem cacheInv_nil (openf : List Nat → Option (List Nat)) : CacheInv openf [] := by
  intro k f h; simp [cacheFind] at h

/-- **The `PathBuf`-keyed cache cannot serve a different file.** Whatever `get_or_open_*`
returns for `loc` — freshly opened or from the cache, where `m.data` and `m.data/.` share
one entry — is the result of `File::open` on an accepted location `q` with the same
component list as `loc`; by `c21_trailing_noise_harmless` both denote the same direct child
of the model directory.  The invariant is preserved. -/
theorem c21_cache_sound (openf : List Nat → Option (List Nat)) (cache cache' : Cache)
    (loc file : List Nat) (hinv : CacheInv openf cache)
    (h : getOrOpen cache openf loc = .ok (file, cache')) :
    allowed loc = true ∧
    (∃ q, allowed q = true ∧ components q = components loc ∧ openf q = some file ∧
      ∀ d, components (push d q) = components (push d loc)) ∧
    CacheInv openf cache' := by
  unfold getOrOpen at h
  split at h
  · cases h
  rename_i ha
  have hal : allowed loc = true := by simpa using ha
  refine ⟨hal, ?_⟩
  split at h
  · rename_i f hf
    cases h
    obtain ⟨q, hq, hqc, hqo⟩ := hinv _ _ hf
    refine ⟨⟨q, hq, hqc, hqo, fun d => ?_⟩, hinv⟩
    rw [components_push_allowed q hq, components_push_allowed loc hal, hqc]
  · split at h
    · cases h
    · rename_i f hf
      cases h
      refine ⟨⟨loc, hal, rfl, hf, fun d => rfl⟩, ?_⟩
      intro k f' hk
      simp only [cacheFind] at hk
      split at hk
      · cases hk
        exact ⟨loc, hal, ‹_›, hf⟩
      · exact hinv k f' hk

-- the spellings the property text names
example : allowed [109,46,100,97,116,97,47] = true := by decide                      -- "m.data/"
example : allowed [109,46,100,97,116,97,47,46] = true := by decide                   -- "m.data/."
example : allowed [109,46,100,97,116,97,47,47,46,47] = true := by decide             -- "m.data//./"
example : components [109,46,100,97,116,97,47,47,46,47] = components [109,46,100,97,116,97] := by decide
example : allowed [120,46,100,97,116,97,98,97,115,101] = true := by decide           -- "x.database"
example : allowed [109,46,100,97,116,97,95,101,118,105,108] = true := by decide      -- "m.data_evil"
example : allowed [46,46,92,120,46,100,97,116,97] = true ∧
    components [46,46,92,120,46,100,97,116,97] = [Comp.normal [46,46,92,120,46,100,97,116,97]] := by decide  -- "..\x.data"
example : allowed [67,58,92,120,46,100,97,116,97] = true ∧
    components [67,58,92,120,46,100,97,116,97] = [Comp.normal [67,58,92,120,46,100,97,116,97]] := by decide  -- "C:\x.data"
example : allowed [100,105,114,92,102,105,108,101,46,100,97,116,97] = true ∧
    components (push [47,109] [100,105,114,92,102,105,108,101,46,100,97,116,97]) =
      [Comp.root, Comp.normal [109], Comp.normal [100,105,114,92,102,105,108,101,46,100,97,116,97]] := by decide  -- "dir\file.data"
example : getOrOpen [] (fun l => if l = [109,46,100,97,116,97] then some [1,2] else none) [109,46,100,97,116,97] =
    .ok ([1,2], [([Comp.normal [109,46,100,97,116,97]], [1,2])]) := by decide
-- "m.data/." is served from the entry created by "m.data" although the OS would refuse to open it
example : getOrOpen [([Comp.normal [109,46,100,97,116,97]], [1,2])] (fun _ => none) [109,46,100,97,116,97,47,46] =
    .ok ([1,2], [([Comp.normal [109,46,100,97,116,97]], [1,2])]) := by decide

/-- **C21.T2a** absolute locations are rejected. -/
theorem c21_reject_absolute (p : List Nat) (h : p.head? = some 47) : allowed p = false := by
  cases p with
  | nil => simp at h
  | cons c r =>
    simp at h
    subst h
    simp [allowed, components]

/-- **C21.T2b** a `..` segment anywhere (leading, middle, trailing) is rejected. -/
theorem c21_reject_parent (p : List Nat) (h : [46, 46] ∈ splitSlash p) : allowed p = false := by
  cases ha : allowed p with
  | false => rfl
  | true =>
    obtain ⟨name, hc, _⟩ := (c21_allowed_iff p).mp ha
    have : Comp.parent ∈ components p :=
      components_eq p ▸ List.mem_append_right _ (List.mem_filterMap.mpr ⟨[46, 46], h, by decide⟩)
    rw [hc] at this
    simp at this

/-- **C21.T2c** two or more components of any kind are rejected (this covers
`dir/file`, `./file`, `file/..`, `a/b/c`, …). -/
theorem c21_reject_two_components (p : List Nat) (h : 2 ≤ (components p).length) :
    allowed p = false := by
  cases ha : allowed p with
  | false => rfl
  | true =>
    obtain ⟨name, hc, _⟩ := (c21_allowed_iff p).mp ha
    rw [hc] at h
    simp at h

/-- String-level form of T2c: a separator with a real component on both sides. -/
theorem c21_reject_nested (a b : List Nat) (ha : body a ≠ []) (hb : body b ≠ []) :
    allowed (a ++ 47 :: b) = false := by
  apply c21_reject_two_components
  rw [components_eq, body_append_slash]
  have := List.length_pos_iff.mpr ha
  have := List.length_pos_iff.mpr hb
  simp only [List.length_append]
  omega

/-- **C21.T2d** the empty location, `.`, and anything starting with `./` are rejected. -/
theorem c21_reject_empty_and_dot :
    allowed [] = false ∧ allowed [46] = false ∧ allowed [46, 46] = false ∧
      ∀ r, allowed (46 :: 47 :: r) = false := by
  refine ⟨by decide, by decide, by decide, ?_⟩
  intro r
  simp [allowed, components]

/-- **C21.T2e** a single file name whose extension is missing or not a data extension is
rejected. -/
theorem c21_reject_extension (p name : List Nat) (hc : components p = [Comp.normal name])
    (h : ∀ e, extOfName name = some e → extOk e = false) : allowed p = false := by
  cases ha : allowed p with
  | false => rfl
  | true =>
    obtain ⟨name', hc', e, he, hok⟩ := (c21_allowed_iff p).mp ha
    rw [hc] at hc'
    injection hc' with h1 _
    injection h1 with h1
    subst h1
    rw [h e he] at hok
    cases hok

example : allowed [46, 46, 47, 109, 46, 100, 97, 116, 97] = false := by decide   -- "../m.data"
example : allowed [47, 109, 46, 100, 97, 116, 97] = false := by decide           -- "/m.data"
example : allowed [109, 46, 116, 120, 116] = false := by decide                  -- "m.txt"
example : allowed [46, 100, 97, 116, 97] = false := by decide                    -- ".data" (no extension)
example : allowed [97, 47, 109, 46, 100, 97, 116, 97] = false := by decide       -- "a/m.data"
/-- On Unix `\` is an ordinary byte: `..\m.data` is one file name (accepted, and harmless:
it is a direct child called `..\m.data`). -/
example : allowed [46, 46, 92, 109, 46, 100, 97, 116, 97] = true := by decide

/-- **C21.T3 (MemLoader)** For all `offset`, `length` (any `Nat`, in particular all of
`u64`) and every buffer length below `u64::MAX` (a Rust slice has at most `isize::MAX`
bytes), an accepted request has byte range exactly `offset .. offset+length` over `Nat`
and lies inside the buffer.  No wrap-around: the sum is the unbounded one. -/
theorem c21_mem_range_sound (off len flen s e : Nat) (hf : flen < U64_MAX)
    (h : memRange off len flen = .ok (s, e)) : s = off ∧ e = off + len ∧ off + len ≤ flen := by
  obtain ⟨hle, he⟩ := ite_error_eq_ok.mp h
  cases he
  have := (satAdd_le_iff hf).mp (Nat.not_lt.mp hle)
  exact ⟨rfl, satAdd_eq (by omega), this⟩

/-- **C21.T3 (MmapLoader)** Same statement; the range end is recomputed by the code with
a wrapping `usize` addition, which the theorem shows never wraps. -/
theorem c21_mmap_range_sound (off len flen s e : Nat) (hf : flen < U64_MAX)
    (h : mmapRange off len flen = .ok (s, e)) : s = off ∧ e = off + len ∧ off + len ≤ flen := by
  obtain ⟨hle, he⟩ := ite_error_eq_ok.mp h
  cases he
  have := (satAdd_le_iff hf).mp (Nat.not_lt.mp hle)
  exact ⟨rfl, Nat.mod_eq_of_lt (by omega), this⟩

example : memRange 8 8 32 = .ok (8, 16) := by decide
example : mmapRange 8 8 32 = .ok (8, 16) := by decide
example : mmapRange U64_MAX 8 32 = .error (.tooShort U64_MAX 32) := by decide
example : memRange (U64_MAX - 7) 8 32 = .error (.tooShort U64_MAX 32) := by decide

/-- The hypothesis `flen < u64::MAX` of T3 is necessary for the full statement: with a
(physically impossible) buffer of `u64::MAX` bytes the saturated sum passes the check and
the mmap loader's recomputed end wraps.  Unreachable: slices are ≤ `isize::MAX` bytes. -/
theorem c21_range_sound_without_bound_false :
    ¬ ∀ off len flen s e : Nat, off ≤ U64_MAX → len ≤ U64_MAX → flen ≤ U64_MAX →
      mmapRange off len flen = .ok (s, e) → off + len ≤ flen := by
  intro h
  have := h U64_MAX 1 U64_MAX U64_MAX 0 (by decide) (by decide) (by decide) (by decide)
  exact absurd this (by decide)

/-- Completeness: every in-range request is accepted by both loaders with the exact range. -/
theorem c21_range_complete (off len flen : Nat) (hf : flen ≤ U64_MAX) (h : off + len ≤ flen) :
    memRange off len flen = .ok (off, off + len) ∧ mmapRange off len flen = .ok (off, off + len) := by
  have hs : satAdd off len = off + len := satAdd_eq (by omega)
  have hm : (off + len) % (U64_MAX + 1) = off + len := Nat.mod_eq_of_lt (by omega)
  simp only [memRange, mmapRange, hs, hm, if_neg (Nat.not_lt.mpr h), and_self]

/-- Every out-of-range request (including every overflowing sum) is an error. -/
theorem c21_range_reject (off len flen : Nat) (hf : flen < U64_MAX) (h : flen < off + len) :
    (∃ r a, memRange off len flen = .error (.tooShort r a)) ∧
    (∃ r a, mmapRange off len flen = .error (.tooShort r a)) := by
  have hs : flen < satAdd off len := Nat.not_le.mp (mt (satAdd_le_iff hf).mp (Nat.not_le.mpr h))
  exact ⟨⟨_, _, if_pos hs⟩, ⟨_, _, if_pos hs⟩⟩

/-- The bytes a tensor sees (`DataSlice::data`) for an accepted range are exactly
`data[offset .. offset+length]`; the slice indexing cannot panic. -/
theorem c21_slice_exact (data : List Nat) (off len : Nat) (h : off + len ≤ data.length) :
    sliceOf data (off, off + len) = some ((data.drop off).take len) ∧
      ((data.drop off).take len).length = len := by
  unfold sliceOf
  constructor
  · simp only [Nat.le_add_right, h, and_self, if_true, Nat.add_sub_cancel_left]
  · simp; omega

/-- **C21.T4** `FileLoader::read` (chunked loop with any positive chunk size, after the
file has been opened) either fails or returns exactly `length` bytes, which are
`file[offset .. offset+length]`, and the range lies inside the file. -/
theorem c21_file_read_exact (C : Nat) (hC : 0 < C) (file : List Nat) (off len : Nat) (bytes : List Nat)
    (h : fileReadWith true C file off len = .ok bytes) :
    bytes.length = len ∧ off + len ≤ file.length ∧ bytes = (file.drop off).take len := by
  obtain ⟨h1, h2, h3, h4, rfl⟩ := (fileReadWith_ok_iff hC ..).mp h
  rw [satAdd_eq (by unfold ISIZE_MAX at h1; unfold I64_MAX at h3; unfold U64_MAX; omega)] at h2
  exact ⟨by simp; omega, h2 rfl, rfl⟩

theorem c21_file_read_exact' (file : List Nat) (off len : Nat) (bytes : List Nat)
    (h : fileRead file off len = .ok bytes) :
    bytes.length = len ∧ off + len ≤ file.length ∧ bytes = (file.drop off).take len :=
  c21_file_read_exact TMP_SIZE (by decide) file off len bytes h

/-- Whatever short reads the OS produces, `read_fill` delivers `min k avail` bytes — the
atomic `readFill` of the model (`(readFill file pos k).length = min k (file.length - pos)`). -/
theorem c21_read_fill_short_reads (avail k : Nat) (hint : Nat → Nat) :
    ∀ fuel total, k - total < fuel → total ≤ min k avail →
      readFillCount avail k hint fuel total = min k avail := by
  intro fuel
  induction fuel with
  | zero => intro total h; omega
  | succ fuel ih =>
    intro total hf ht
    rw [readFillCount]
    -- `k = total + w` bytes wanted, `avail = total + a` bytes left: no subtractions remain
    rw [Nat.le_min] at ht
    obtain ⟨w, rfl⟩ := Nat.exists_eq_add_of_le ht.1
    obtain ⟨a, rfl⟩ := Nat.exists_eq_add_of_le ht.2
    rw [Nat.add_sub_cancel_left] at hf
    simp only [Nat.add_sub_cancel_left, Nat.add_min_add_left]
    obtain ⟨hb, hb', hp⟩ := osRead_bounds a w (hint total)
    generalize osRead a w (hint total) = n at hb hb' hp ⊢
    split
    · rw [Nat.min_def]; split <;> omega
    · exact (ih _ (by omega) (Nat.le_min.mpr (by omega))).trans (Nat.add_min_add_left ..)

example : readFillCount 10 4 (fun _ => 1) 5 0 = 4 := by decide   -- four 1-byte reads
example : readFillCount 3 8 (fun t => t) 9 0 = 3 := by decide    -- EOF after 3 bytes

/-- Completeness of the file loader on real files (length ≤ `i64::MAX`). -/
theorem c21_file_read_complete (C : Nat) (hC : 0 < C) (file : List Nat) (off len : Nat)
    (hf : file.length ≤ I64_MAX) (h : off + len ≤ file.length) :
    fileReadWith true C file off len = .ok ((file.drop off).take len) := by
  unfold I64_MAX at hf
  refine (fileReadWith_ok_iff hC ..).mpr
    ⟨by unfold ISIZE_MAX; omega, fun _ => ?_, by unfold I64_MAX; omega, by omega, rfl⟩
  rw [satAdd_eq (by unfold U64_MAX; omega)]
  exact h

/-- Out-of-range requests, oversized lengths and overflowing sums are errors. -/
theorem c21_file_read_reject (C : Nat) (file : List Nat) (off len : Nat)
    (h : file.length < off + len) (hf : file.length < U64_MAX) :
    ∃ e, fileReadWith true C file off len = .error e := by
  have hs : file.length < satAdd off len :=
    Nat.not_le.mp (mt (satAdd_le_iff hf).mp (Nat.not_le.mpr h))
  by_cases h1 : len > ISIZE_MAX
  · exact ⟨_, if_pos h1⟩
  · exact ⟨_, (if_neg h1).trans (if_pos (by simpa using hs))⟩

/-- What held for the code *before* the C21 fix (no comparison with the file size before
allocating and reading): the returned bytes are still exact … -/
theorem c21_file_read_orig_partial (C : Nat) (hC : 0 < C) (file : List Nat) (off len : Nat)
    (bytes : List Nat) (h : fileReadWith false C file off len = .ok bytes) :
    bytes.length = len ∧ bytes = (file.drop off).take len ∧ (len = 0 ∨ off + len ≤ file.length) := by
  obtain ⟨-, -, -, h4, rfl⟩ := (fileReadWith_ok_iff hC ..).mp h
  exact ⟨by simp; omega, rfl, by omega⟩

/-- … but the full statement was false of the original code: an offset past the end of
the file with `length = 0` was accepted (reproduced on the real code: `f 3 0 1 → ok`). -/
theorem c21_file_read_orig_false :
    ¬ ∀ (file : List Nat) (off len : Nat) (bytes : List Nat),
      fileReadWith false TMP_SIZE file off len = .ok bytes → off + len ≤ file.length := by
  intro h
  have := h [7] 3 0 [] (by decide)
  exact absurd this (by decide)

example : fileRead [1, 2, 3, 4, 5] 1 3 = .ok [2, 3, 4] := by decide
example : fileRead [1, 2, 3, 4, 5] 3 3 = .error (.tooShort 6 5) := by decide
example : fileRead [1, 2, 3] 0 (ISIZE_MAX + 1) = .error .invalidLength := by decide
example : fileReadWith true 2 [1, 2, 3, 4, 5] 0 5 = .ok [1, 2, 3, 4, 5] := by decide

/-! ## `external_data_location`: `u64` parsing cannot produce out-of-range numbers -/

theorem parseDigits_le (s : List Nat) : ∀ acc n, acc ≤ U64_MAX → parseDigits s acc = some n → n ≤ U64_MAX := by
  induction s with
  | nil => intro acc n ha h; simp [parseDigits] at h; omega
  | cons c cs ih =>
    intro acc n ha h
    unfold parseDigits at h
    split at h
    · simp only at h
      split at h
      · cases h
      · exact ih _ n (by omega) h
    · cases h

/-- Parsed offsets/lengths are genuine `u64` values (so T3/T4 cover everything the ONNX
loader can pass on). -/
theorem c21_parse_u64_bound (s : List Nat) (n : Nat) (h : parseU64 s = some n) : n ≤ U64_MAX := by
  unfold parseU64 at h
  split at h
  · cases h
  · split at h
    · split at h
      · cases h
      · exact parseDigits_le _ 0 n (by decide) h
    · exact parseDigits_le _ 0 n (by decide) h

/-- **C21 (end to end)** Whatever loader is used, every file of the environment being shorter
than `u64::MAX` (`hfiles`), if the external-data path hands bytes to a tensor then: the location passed the allow-list (hence T1: it is a plain data file name
directly in the model directory), offset and length were well-formed `u64` numbers, the
environment really has an entry for that location, the range lies inside that entry with
no wrap-around, and the bytes are exactly `file[offset .. offset+length]`. -/
theorem c21_load_end_to_end (ld : Loader) (lookup : List Nat → Option (List Nat))
    (hfiles : ∀ l f, lookup l = some f → f.length < U64_MAX)
    (loc offS lenS bytes : List Nat) (h : loadExternal ld lookup loc offS lenS = .ok bytes) :
    allowed loc = true ∧ ∃ off len file, parseU64 offS = some off ∧ parseU64 lenS = some len ∧
      off ≤ U64_MAX ∧ len ≤ U64_MAX ∧
      lookup loc = some file ∧ off + len ≤ file.length ∧ bytes = (file.drop off).take len ∧
      bytes.length = len := by
  unfold loadExternal at h
  split at h
  · cases h
  rename_i off hoff
  split at h
  · cases h
  rename_i len hlen
  split at h
  · cases h
  split at h
  · cases h
  rename_i hallow
  split at h
  · cases h
  rename_i file hfile
  have hfl := hfiles loc file hfile
  refine ⟨by simpa using hallow, off, len, file, hoff, hlen, c21_parse_u64_bound _ _ hoff,
    c21_parse_u64_bound _ _ hlen, hfile, ?_⟩
  -- both range-checking loaders hand `sliceOf` the range `off .. off + len` inside the file
  have slice : ∀ r, r = (off, off + len) → off + len ≤ file.length →
      (match sliceOf file r with
        | some bs => Except.ok bs
        | none => Except.error (ExtErr.load .io)) = .ok bytes →
      off + len ≤ file.length ∧ bytes = (file.drop off).take len ∧ bytes.length = len := by
    rintro _ rfl hle h
    obtain ⟨hsl, hl⟩ := c21_slice_exact file off len hle
    rw [hsl] at h
    cases h
    exact ⟨hle, rfl, hl⟩
  split at h
  · split at h
    · cases h
      obtain ⟨h1, h2, h3⟩ := c21_file_read_exact' file off len _ ‹_›
      exact ⟨h2, h3, h1⟩
    · cases h
  · split at h
    · cases h
    · rename_i r hr
      obtain ⟨hs, he, hle⟩ := c21_mmap_range_sound off len file.length r.1 r.2 hfl hr
      exact slice r (Prod.ext hs he) hle h
  · split at h
    · cases h
    · rename_i r hr
      obtain ⟨hs, he, hle⟩ := c21_mem_range_sound off len file.length r.1 r.2 hfl hr
      exact slice r (Prod.ext hs he) hle h

/-- Non-vacuity: `"w.data"`, offset `"1"`, length `"2"` on a 4-byte file, all loaders. -/
example : ∀ ld, loadExternal ld (fun l => if l = [119, 46, 100, 97, 116, 97] then some [9, 8, 7, 6] else none)
    [119, 46, 100, 97, 116, 97] [49] [50] = .ok [8, 7] := by
  intro ld; cases ld <;> decide
/-- `"../w.data"` is refused by every loader even though the environment would serve it. -/
example : ∀ ld, loadExternal ld (fun _ => some [9, 8, 7, 6])
    [46, 46, 47, 119, 46, 100, 97, 116, 97] [49] [50] = .error (.load .disallowed) := by
  intro ld; cases ld <;> decide

end RtenVerif.ExtData
