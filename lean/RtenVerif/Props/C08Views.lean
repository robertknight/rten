import RtenVerif.Props.C08
import RtenVerif.Model.Layout
import RtenVerif.Lemmas.Perm
import RtenVerif.Lemmas.SliceT1
import RtenVerif.Lemmas.RowMajor

/-!
# C08 — `Derived` is closed under the modelled view operations

`Derived` (`Props/C08.lean`) describes view operations by their effect on `(size, stride)`
pairs.  Here it is tied to C09's executable model of the real layout code
(`Model/Layout.lean`; C09's check diffs that model against `rten-tensor`,
and C08's own harness replays the same chains through it, request `dv`): every modelled view
operation that succeeds on a view with a `Derived` layout returns a view with a `Derived`
layout.  With `c08_derived_accepted` / `c08_derived_injective` this gives: views obtained
from a contiguous tensor by any sequence of the modelled operations are accepted by the
overlap check and alias-free.  Each operation is treated once, for any `ViewClosed` class
(`viewClosed_*`), so the same holds with "accepted by the overlap check" in place of `Derived`.
-/
namespace RtenVerif.Overlap
open RtenVerif.Layout

theorem valid_perm {n : Nat} {p : List Nat} (h : isValidPermutation n p = true) :
    p.Perm (List.range n) := Layout.perm_of_valid n p h

theorem permuteIter_perm {d : Dims} {p : List Nat} (h : p.Perm (List.range d.length)) :
    (permuteIter d p).Perm d := by
  have := h.map (fun i => d.getD i (0, 0))
  rw [map_getD_range] at this
  exact this

theorem derived_viewClosed : ViewClosed Derived :=
  ⟨.perm, .slice, .index, .insertUnit, .merge⟩

section Generic
variable {Q : List (Nat × Nat) → Prop}

theorem ViewClosed.eraseIdx (hQ : ViewClosed Q) {d : List (Nat × Nat)} (h : Q d) {i : Nat}
    (hi : i < d.length) (hs : 1 ≤ (d.getD i (0, 0)).1) : Q (d.eraseIdx i) := by
  rw [getD_eq d i hi] at hs
  rw [list_split d i hi] at h
  rw [List.eraseIdx_eq_take_drop_succ]
  exact hQ.index h hs

theorem ViewClosed.setSize (hQ : ViewClosed Q) {d : List (Nat × Nat)} (h : Q d) {i : Nat}
    (hi : i < d.length) {n : Nat} (hn : n ≤ d[i].1) : Q (d.set i (n, d[i].2)) := by
  rw [List.set_eq_take_append_cons_drop, if_pos hi]
  have h' : Q (d.take i ++ (d[i].1, d[i].2) :: d.drop (i + 1)) := list_split d i hi ▸ h
  simpa using hQ.slice (size' := n) (step := 1) h' (by omega)

theorem ViewClosed.insertIdx (hQ : ViewClosed Q) {d : List (Nat × Nat)} (h : Q d) {i : Nat} (hi : i ≤ d.length)
    (s : Nat) : Q (d.insertIdx i (1, s)) := by
  rw [insertIdx_eq _ d i hi]
  rw [← List.take_append_drop i d] at h
  exact hQ.insertUnit h

theorem ViewClosed.resizeDim (hQ : ViewClosed Q) {d : List (Nat × Nat)} (h : Q d) {i : Nat} (hi : i < d.length)
    {n : Nat} (hn : n ≤ (d.getD i (0, 0)).1) : Q (resizeDim d i n) := by
  unfold Layout.resizeDim
  rw [getD_eq d i hi] at hn
  rw [List.getElem?_eq_getElem hi]
  exact hQ.setSize h hi hn

theorem ViewClosed.filterUnits (hQ : ViewClosed Q) : ∀ (d pre : List (Nat × Nat)), Q (pre ++ d) →
    Q (pre ++ d.filter (fun p => p.1 != 1)) := by
  intro d
  induction d with
  | nil => intro pre h; simpa using h
  | cons a d ih =>
    intro pre h
    by_cases h1 : a.1 = 1
    · have hf : (a :: d).filter (fun p => p.1 != 1) = d.filter (fun p => p.1 != 1) := by
        simp [h1]
      rw [hf]
      exact ih pre (hQ.index (size := a.1) (stride := a.2) h (by omega))
    · have hf : (a :: d).filter (fun p => p.1 != 1) = a :: d.filter (fun p => p.1 != 1) := by
        simp [h1]
      rw [hf]
      have := ih (pre ++ [a]) (by simpa using h)
      simpa using this

theorem viewClosed_permuted (hQ : ViewClosed Q) (v v' : View) (p : List Nat) (h : Q v.dims)
    (hop : permuted v p = .ok v') : Q v'.dims := by
  unfold permuted at hop
  split at hop
  · rename_i hv
    cases hop
    exact hQ.perm h (permuteIter_perm (valid_perm hv)).symm
  · cases hop

theorem viewClosed_transposed (hQ : ViewClosed Q) (v : View) (h : Q v.dims) : Q (transposed v).dims := by
  unfold transposed
  exact hQ.perm h (permuteIter_perm (List.reverse_perm _)).symm

theorem viewClosed_moveAxis (hQ : ViewClosed Q) (v v' : View) (src dst : Nat) (h : Q v.dims)
    (hop : moveAxis v src dst = .ok v') : Q v'.dims := by
  unfold moveAxis at hop
  split at hop
  · rename_i hv
    cases hop
    refine hQ.perm h (List.Perm.symm ?_)
    have hlen : dst ≤ (v.dims.eraseIdx src).length := by
      rw [List.length_eraseIdx_of_lt hv.1]; omega
    refine (List.perm_insertIdx _ _ hlen).trans ?_
    rw [getD_eq _ _ hv.1, List.eraseIdx_eq_take_drop_succ]
    have := list_split v.dims src hv.1
    exact List.perm_middle.symm.trans (by rw [← this])
  · cases hop

theorem indexRange_step {r : SliceRange} {n : Nat} {ir : IndexRange}
    (h : r.indexRange n = .ok ir) : ir.step = r.step := by
  revert h
  fun_cases SliceRange.indexRange r n <;> intro h <;> cases h
  all_goals rfl

/-- What one iteration of the `slice_layout` loop does to a dimension: a projection of C09's
exact description of `sliceDim` (`item_ok` / `item_err`).  Those exclude a range with step 0
(`SliceRange::new` refuses it), so that case is read off the definition: `steps` divides by
zero and the dimension becomes empty. -/
theorem sliceDim_spec {size stride adj : Nat} {it : SliceItem} {keep : Option (Nat × Nat)}
    (h : sliceDim size stride it = .ok (adj, keep)) :
    match keep with
    | none => 1 ≤ size
    | some (size', stride') => ∃ step, stride' = stride * step ∧
        (size' = 0 ∨ (1 ≤ step ∧ (size' - 1) * step < size)) := by
  by_cases h0 : ∃ r, it = .range r ∧ r.step = 0
  · obtain ⟨r, rfl, hr⟩ := h0
    simp only [sliceDim, hr] at h
    split at h
    · cases h
    · simp only [Int.lt_irrefl, if_false, Int.toNat_zero, Nat.zero_ne_one] at h
      split at h
      · cases h
      · next ir hir =>
        cases h
        exact ⟨0, rfl, .inl (by simp [IndexRange.steps, indexRange_step hir, hr])⟩
  · by_cases hok : itemOk size it
    · rw [(item_ok size stride it hok).1] at h
      cases it with
      | index i => cases h; have := hok.1; have := hok.2; show 1 ≤ size; omega
      | range r =>
        cases h
        exact ⟨r.step.toNat, rfl, (range_ref_ok size r hok).2.imp_right fun hfit =>
          ⟨by have := hok.2; omega, by omega⟩⟩
    · rw [(item_err size stride it hok fun r hr hz => h0 ⟨r, hr, hz⟩).1] at h
      cases h

theorem sliceLoop_closed (hQ : ViewClosed Q) : ∀ (d : Dims) (items : List SliceItem)
    (pre : List (Nat × Nat)) (off : Nat) (out : Dims), Q (pre ++ d) →
    sliceLoop d items = .ok (off, out) → Q (pre ++ out)
  | d, [], pre, off, out, h, hop => by rw [sliceLoop_nil] at hop; cases hop; exact h
  | [], _ :: _, pre, off, out, h, hop => by cases hop; exact h
  | (size, stride) :: d, it :: its, pre, off, out, h, hop => by
    obtain ⟨⟨adj, keep⟩, hres, hop⟩ := bind_eq_ok hop
    obtain ⟨⟨off', out'⟩, hres2, hop⟩ := bind_eq_ok hop
    cases hop
    have hspec := sliceDim_spec hres
    cases keep with
    | none => exact sliceLoop_closed hQ d its pre off' out' (hQ.index h hspec) hres2
    | some q =>
      obtain ⟨size', stride'⟩ := q
      obtain ⟨step, rfl, hfit⟩ := hspec
      have := sliceLoop_closed hQ d its (pre ++ [(size', stride * step)]) off' out'
        (by simpa using hQ.slice h hfit) hres2
      simpa using this

theorem window_dims {v v' : View} {a b : Nat} {d : Dims} (h : v.window a b d = .ok v') :
    v'.dims = d := by
  unfold View.window at h
  split at h
  · cases h; rfl
  · cases h

/-- `try_slice` / `slice` with any list of `SliceItem`s (ranges with any step the code
accepts, indices, fewer items than axes). -/
theorem viewClosed_trySlice (hQ : ViewClosed Q) (v v' : View) (items : List SliceItem) (h : Q v.dims)
    (hop : trySlice v items = .ok v') : Q v'.dims := by
  unfold trySlice at hop
  split at hop
  · cases hop
  · split at hop
    · cases hop
    · rename_i off out hsl
      rw [window_dims hop]
      obtain ⟨⟨off', out'⟩, hres, hsl⟩ := bind_eq_ok hsl
      cases hsl
      exact sliceLoop_closed hQ v.dims items [] _ _ (by simpa using h) hres

theorem viewClosed_sliceAxis (hQ : ViewClosed Q) (v v' : View) (axis start stop : Nat) (h : Q v.dims)
    (hop : sliceAxis v axis start stop = .ok v') : Q v'.dims := by
  unfold sliceAxis at hop
  split at hop
  · cases hop
  · rename_i hax
    split at hop
    · cases hop
    · rename_i hrng
      have hd : Q (resizeDim v.dims axis (stop - start)) :=
        hQ.resizeDim h (by omega) (by omega)
      simp only at hop
      split at hop <;> (rw [window_dims hop]; exact hd)

theorem viewClosed_indexAxis (hQ : ViewClosed Q) (v v' : View) (axis index : Nat) (h : Q v.dims)
    (hop : indexAxis v axis index = .ok v') : Q v'.dims := by
  unfold indexAxis at hop
  split at hop
  · rename_i hv
    have hd : Q (v.dims.eraseIdx axis) := hQ.eraseIdx h hv.1 (by have := hv.2; omega)
    simp only at hop
    split at hop <;> (rw [window_dims hop]; exact hd)
  · cases hop

theorem viewClosed_splitAt (hQ : ViewClosed Q) (v v' : View) (axis mid : Nat) (right : Bool) (h : Q v.dims)
    (hop : splitAt v axis mid right = .ok v') : Q v'.dims := by
  revert hop
  -- the right half's storage range `rr` plays no role
  fun_cases splitAt v axis mid right <;> intro hop
  -- `case3`: the right half, `case4`: the left half; the other branches panic
  case case3 hv n _ _ _ _ _ _ _ _ =>
    cases hop; exact hQ.resizeDim h hv.1 (show n - mid ≤ n by omega)
  case case4 hv _ _ _ _ _ _ _ _ _ => cases hop; exact hQ.resizeDim h hv.1 hv.2
  all_goals cases hop

/-- `insert_axis` (whatever stride it picks for the new unit axis). -/
theorem viewClosed_insertAxis (hQ : ViewClosed Q) (v v' : View) (index : Nat) (h : Q v.dims)
    (hop : insertAxis v index = .ok v') : Q v'.dims := by
  unfold insertAxis at hop
  split at hop
  · rename_i hv
    cases hop
    exact hQ.insertIdx h hv _
  · cases hop

theorem viewClosed_removeAxis (hQ : ViewClosed Q) (v v' : View) (index : Nat) (h : Q v.dims)
    (hop : removeAxis v index = .ok v') : Q v'.dims := by
  unfold removeAxis at hop
  split at hop
  · rename_i hv
    cases hop
    exact hQ.eraseIdx h hv.1 (by have := hv.2; omega)
  · cases hop

theorem viewClosed_squeezed (hQ : ViewClosed Q) (v : View) (h : Q v.dims) : Q (squeezed v).dims := by
  have := hQ.filterUnits v.dims [] (by simpa using h)
  simpa [squeezed] using this

theorem mergeStep_closed (hQ : ViewClosed Q) (rest acc : Dims) (o : Nat × Nat)
    (h : Q (rest ++ o :: acc)) : Q (rest ++ mergeStep acc o) := by
  unfold mergeStep
  split
  · exact h
  · rename_i isz ist r
    split
    · rename_i hc
      rcases hc with h1 | h2
      · -- the outer dim has size 1: it is dropped
        have : Q (rest ++ (isz, ist) :: r) :=
          hQ.index (size := o.1) (stride := o.2) h (by omega)
        rw [h1, Nat.mul_one]; exact this
      · have h' : Q (rest ++ (o.1, ist * isz) :: (isz, ist) :: r) := by
          rw [← h2]; exact h
        exact hQ.merge h'
    · exact h

theorem mergeFold_closed (hQ : ViewClosed Q) : ∀ (xs acc : Dims), Q (xs.reverse ++ acc) →
    Q (xs.foldl mergeStep acc) := by
  intro xs
  induction xs with
  | nil => intro acc h; simpa using h
  | cons o xs ih =>
    intro acc h
    simp only [List.foldl_cons]
    apply ih
    apply mergeStep_closed hQ
    simpa using h

theorem viewClosed_mergeAxes (hQ : ViewClosed Q) (v : View) (h : Q v.dims) : Q (mergedAxes v).dims := by
  unfold mergedAxes mergeAxes
  exact mergeFold_closed hQ v.dims.reverse [] (by simpa using h)

end Generic

/-! ### The two instances, per operation

`…_derived` (for C08.T2: ties `Derived` to the modelled code): the result stays in the advertised
class `Derived`.
`…_accepted` (for C08.T5):
**`mayOverlap v.dims = false → op v = .ok v' → mayOverlap v'.dims = false`** — acceptance (hence,
by T1, injectivity on valid indices) survives every modelled view operation, whatever the origin
of the accepted layout (`_mut` views and in-place layout mutators of mutable tensors use the same
layout functions). -/

theorem c08_permuted_derived (v v' : View) (p : List Nat) (h : Derived v.dims)
    (hop : permuted v p = .ok v') : Derived v'.dims :=
  viewClosed_permuted derived_viewClosed v v' p h hop

theorem c08_permuted_accepted (v v' : View) (p : List Nat) (h : mayOverlap v.dims = false)
    (hop : permuted v p = .ok v') : mayOverlap v'.dims = false :=
  viewClosed_permuted accepted_viewClosed v v' p h hop

theorem c08_moveAxis_derived (v v' : View) (src dst : Nat) (h : Derived v.dims)
    (hop : moveAxis v src dst = .ok v') : Derived v'.dims :=
  viewClosed_moveAxis derived_viewClosed v v' src dst h hop

theorem c08_moveAxis_accepted (v v' : View) (src dst : Nat) (h : mayOverlap v.dims = false)
    (hop : moveAxis v src dst = .ok v') : mayOverlap v'.dims = false :=
  viewClosed_moveAxis accepted_viewClosed v v' src dst h hop

theorem c08_trySlice_derived (v v' : View) (items : List SliceItem) (h : Derived v.dims)
    (hop : trySlice v items = .ok v') : Derived v'.dims :=
  viewClosed_trySlice derived_viewClosed v v' items h hop

theorem c08_trySlice_accepted (v v' : View) (items : List SliceItem) (h : mayOverlap v.dims = false)
    (hop : trySlice v items = .ok v') : mayOverlap v'.dims = false :=
  viewClosed_trySlice accepted_viewClosed v v' items h hop

theorem c08_sliceAxis_derived (v v' : View) (axis start stop : Nat) (h : Derived v.dims)
    (hop : sliceAxis v axis start stop = .ok v') : Derived v'.dims :=
  viewClosed_sliceAxis derived_viewClosed v v' axis start stop h hop

theorem c08_sliceAxis_accepted (v v' : View) (axis start stop : Nat) (h : mayOverlap v.dims = false)
    (hop : sliceAxis v axis start stop = .ok v') : mayOverlap v'.dims = false :=
  viewClosed_sliceAxis accepted_viewClosed v v' axis start stop h hop

theorem c08_indexAxis_derived (v v' : View) (axis index : Nat) (h : Derived v.dims)
    (hop : indexAxis v axis index = .ok v') : Derived v'.dims :=
  viewClosed_indexAxis derived_viewClosed v v' axis index h hop

theorem c08_indexAxis_accepted (v v' : View) (axis index : Nat) (h : mayOverlap v.dims = false)
    (hop : indexAxis v axis index = .ok v') : mayOverlap v'.dims = false :=
  viewClosed_indexAxis accepted_viewClosed v v' axis index h hop

theorem c08_splitAt_derived (v v' : View) (axis mid : Nat) (right : Bool) (h : Derived v.dims)
    (hop : splitAt v axis mid right = .ok v') : Derived v'.dims :=
  viewClosed_splitAt derived_viewClosed v v' axis mid right h hop

theorem c08_splitAt_accepted (v v' : View) (axis mid : Nat) (right : Bool) (h : mayOverlap v.dims = false)
    (hop : splitAt v axis mid right = .ok v') : mayOverlap v'.dims = false :=
  viewClosed_splitAt accepted_viewClosed v v' axis mid right h hop

theorem c08_insertAxis_derived (v v' : View) (index : Nat) (h : Derived v.dims)
    (hop : insertAxis v index = .ok v') : Derived v'.dims :=
  viewClosed_insertAxis derived_viewClosed v v' index h hop

theorem c08_insertAxis_accepted (v v' : View) (index : Nat) (h : mayOverlap v.dims = false)
    (hop : insertAxis v index = .ok v') : mayOverlap v'.dims = false :=
  viewClosed_insertAxis accepted_viewClosed v v' index h hop

theorem c08_removeAxis_derived (v v' : View) (index : Nat) (h : Derived v.dims)
    (hop : removeAxis v index = .ok v') : Derived v'.dims :=
  viewClosed_removeAxis derived_viewClosed v v' index h hop

theorem c08_removeAxis_accepted (v v' : View) (index : Nat) (h : mayOverlap v.dims = false)
    (hop : removeAxis v index = .ok v') : mayOverlap v'.dims = false :=
  viewClosed_removeAxis accepted_viewClosed v v' index h hop

theorem c08_transposed_derived (v : View) (h : Derived v.dims) : Derived (transposed v).dims :=
  viewClosed_transposed derived_viewClosed v h

theorem c08_transposed_accepted (v : View) (h : mayOverlap v.dims = false) :
    mayOverlap (transposed v).dims = false :=
  viewClosed_transposed accepted_viewClosed v h

theorem c08_squeezed_derived (v : View) (h : Derived v.dims) : Derived (squeezed v).dims :=
  viewClosed_squeezed derived_viewClosed v h

theorem c08_squeezed_accepted (v : View) (h : mayOverlap v.dims = false) :
    mayOverlap (squeezed v).dims = false :=
  viewClosed_squeezed accepted_viewClosed v h

theorem c08_mergeAxes_derived (v : View) (h : Derived v.dims) : Derived (mergedAxes v).dims :=
  viewClosed_mergeAxes derived_viewClosed v h

theorem c08_mergeAxes_accepted (v : View) (h : mayOverlap v.dims = false) :
    mayOverlap (mergedAxes v).dims = false :=
  viewClosed_mergeAxes accepted_viewClosed v h

/-- The layout `from_shape` / `reshaped` install is contiguous, for every shape. -/
theorem c08_contigDims_contiguous (shape : List Nat) :
    isContiguous (contigDims shape) = true := by
  rw [isContiguous_eq, contigR_contigDims]; rfl

/-- **"Reshaping a contiguous layout is contiguous"**: whenever the modelled `reshaped`
succeeds (equal element count), the result has a contiguous — hence `Derived`, accepted and
alias-free — layout; and when the source is contiguous it is a view of the same storage
(no copy), i.e. genuinely a reshaped layout over the same data. -/
theorem c08_reshaped_contiguous (t t' : TState) (shape : List Nat)
    (hop : reshaped t shape = .ok t') :
    isContiguous t'.view.dims = true ∧ Derived t'.view.dims ∧
    (isContiguous t.view.dims = true → t'.store = t.store ∧ t'.view.base = t.view.base) := by
  unfold reshaped at hop
  split at hop
  · cases hop
  · split at hop
    · cases hop
      exact ⟨c08_contigDims_contiguous shape, .contig (c08_contigDims_contiguous shape),
        fun _ => ⟨rfl, rfl⟩⟩
    · rename_i hnc
      cases hop
      exact ⟨c08_contigDims_contiguous shape, .contig (c08_contigDims_contiguous shape),
        fun hc => absurd hc hnc⟩

/-- Non-vacuity for the closure theorems: a chain of modelled operations on the contiguous
4×5×6 view (slice `[:, ::2, 1:6:3]`, transpose, insert an axis) succeeds, so the hypotheses
`… = .ok v'` are satisfiable with a non-contiguous result. -/
example :
    ((trySlice ⟨0, 120, contigDims [4, 5, 6]⟩
        [.range ⟨0, none, 1⟩, .range ⟨0, none, 2⟩, .range ⟨1, some 6, 3⟩]).bind
      (fun v1 => insertAxis (transposed v1) 1)).toOption.map (·.dims)
      = some [(2, 3), (1, 120), (3, 12), (4, 30)] ∧
    isContiguous [(2, 3), (1, 120), (3, 12), (4, 30)] = false := by
  decide +kernel

end RtenVerif.Overlap
