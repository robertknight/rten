import RtenVerif.Lemmas.PoolInv

/-!
# C23 — The buffer pool hands out each buffer once with adequate capacity

Property theorems over `RtenVerif.Model.Pool` (model of `src/buffer_pool.rs`).

A *schedule* is any list of atomic steps (`Op`), each tagged with the thread that performs it:
the non-critical prefix of `alloc`/`add`, the critical section under the pool mutex, the
fallback allocation after the mutex was released, drops by holders, `PoolRef` drops, the drop of
the pool. `Reachable s` means: `s` is the state after some schedule from an empty pool with some
`min_size`. All theorems below quantify over every reachable state, i.e. over every interleaving
of every number of threads and every history (unbounded).
-/
namespace RtenVerif.Pool

/-- States reachable from `BufferPool::new().with_min_size(m)` by some interleaving. -/
def Reachable (s : State) : Prop := ∃ (m : Nat) (ops : List Op), run (init m) ops = some s

theorem Reachable.inv {s : State} (h : Reachable s) : Inv s := by
  obtain ⟨m, ops, h⟩ := h
  exact run_inv (init_inv m) h

theorem Reachable.step {s s' : State} {op : Op} {ev : Ev} (h : Reachable s)
    (hs : step s op = some (s', ev)) : Reachable s' := by
  obtain ⟨m, ops, h⟩ := h
  exact ⟨m, ops ++ [op], by rw [run_snoc, h]; simp [hs]⟩

/-- Allocation ids in the pool / held by a holder / in transit inside `add` / freed. -/
def poolIds (s : State) : List Nat := s.pool.map (·.id)
def heldIds (s : State) : List Nat := s.held.map (·.v.id)
def transitIds (s : State) : List Nat := (transitBufs s.pend).map (·.id)
def freedIds (s : State) : List Nat := s.freed.map (·.1)

def places (s : State) (i : Nat) : Nat :=
  (poolIds s).count i + (heldIds s).count i + (transitIds s).count i + (freedIds s).count i

/-! ## T1 — every buffer is in exactly one place -/

/-- **C23.T1** In every reachable state of every interleaving, each allocation ever made
(`i < allocs.length`) is in exactly one place — in the pool once, or with exactly one holder, or in
transit in exactly one thread's `add`, or freed once — and ids never allocated are nowhere. -/
theorem c23_unique_place {s : State} (h : Reachable s) (i : Nat) :
    places s i = if i < s.allocs.length then 1 else 0 :=
  h.inv.once i

theorem ids_nodup {s : State} (h : Reachable s) :
    (poolIds s ++ heldIds s ++ transitIds s ++ freedIds s).Nodup := by
  refine List.nodup_iff_count.mpr fun i => ?_
  have := c23_unique_place h i
  simp only [List.count_append]
  unfold places at this
  split at this <;> omega

/-- **C23.T1'** No buffer is handed to two holders at once: the holders' allocation ids are
pairwise distinct, and a held buffer is neither in the pool, nor in transit, nor freed. -/
theorem c23_no_two_holders {s : State} (h : Reachable s) :
    (heldIds s).Nodup ∧
      ∀ i ∈ heldIds s, i ∉ poolIds s ∧ i ∉ transitIds s ∧ i ∉ freedIds s := by
  have := ids_nodup h
  simp only [List.nodup_append, List.mem_append] at this
  obtain ⟨⟨⟨_, hh, hph⟩, _, hpht⟩, _, hphtf⟩ := this
  exact ⟨hh, fun i hi => ⟨fun hc => hph i hc i hi rfl, fun hc => hpht i (.inr hi) i hc rfl,
    fun hc => hphtf i (.inl (.inr hi)) i hc rfl⟩⟩

/-- The pool never contains the same buffer twice (so it cannot be handed out twice later). -/
theorem c23_pool_nodup {s : State} (h : Reachable s) : (poolIds s).Nodup := by
  have := ids_nodup h
  simp only [List.nodup_append] at this
  exact this.1.1.1

/-! ## T2 — adequate capacity and a layout valid for the requested element type -/

/-- **C23.T2** Every vec a holder got from `alloc::<T>(cap)` (by bypass, pool hit or fallback, in
any interleaving) has capacity `≥ cap`, is typed `T`, and `Layout::array::<T>(capacity)` exists and
equals the layout the block was originally allocated with — the condition under which
`Vec::<T>::from_raw_parts(ptr, 0, capacity)` is valid for the allocator. -/
theorem c23_alloc_adequate {s : State} (h : Reachable s) (x : Held) (hx : x ∈ s.held) :
    x.reqCap ≤ x.v.cap ∧ x.v.ty = x.reqTy ∧
      ∃ l, layoutArray x.reqTy x.v.cap = some l ∧ s.allocs[x.v.id]? = some l := by
  obtain ⟨⟨l, h1, h2⟩, hc, hty⟩ := h.inv.heldOk x hx
  exact ⟨hc, hty, l, hty ▸ h1, h2⟩

/-- The first step of `alloc::<ty>(cap)` records the request as made: in the holder's ledger entry
(bypass case), or in the pending entry `wantLock slot ty cap` that a completing step takes it
from; or `Vec::with_capacity` panics (`Layout::array::<ty>(cap)` does not exist) and nothing changes. -/
theorem c23_alloc_records_request {s s' : State} {t slot cap : Nat} {ty : Ty} {ev : Ev}
    (h : step s (.allocStart t slot ty cap) = some (s', ev)) :
    (∃ id c bytes, ev = .bypass id c bytes ∧
        s'.held = s.held ++ [⟨t, slot, ty, cap, ⟨id, c, ty⟩⟩] ∧ s'.pend = s.pend) ∨
    (ev = .pend ∧ s'.held = s.held ∧ s'.pend = s.pend ++ [(t, .wantLock slot ty cap)]) ∨
    (ev = .panic ∧ s' = s ∧ layoutArray ty cap = none) := by
  simp only [step] at h
  split at h
  · cases h
  · split at h
    · cases h
    · split at h
      · split at h
        · next hw =>
          cases h
          refine Or.inr (Or.inr ⟨rfl, rfl, ?_⟩)
          unfold withCapacity at hw
          cases hl : layoutArray ty cap with
          | none => rfl
          | some l => simp [hl] at hw
        · next c l hw =>
          cases h
          exact Or.inl ⟨_, _, _, rfl, rfl, rfl⟩
      · cases h
        exact Or.inr (Or.inl ⟨rfl, rfl, rfl⟩)

/-- `layout_match::<T>` (type-erased reuse) as the code decides it, on a buffer that records the
layout of its own `Layout::array` (`hb`): equal alignment and equal total byte size for the buffer's
capacity; hence equal element size whenever the capacity is non-zero. -/
theorem c23_layout_match_spec {b : Buf} {t : Ty}
    (hb : layoutArray b.dty b.cap = some (b.lsize, b.lalign)) (hm : layoutMatch b t = true) :
    t.align = b.dty.align ∧ b.cap * t.size = b.cap * b.dty.size ∧ (0 < b.cap → t.size = b.dty.size) := by
  have h1 := layoutArray_some (layoutMatch_iff.mp hm)
  have h2 := layoutArray_some hb
  simp only [Prod.mk.injEq] at h1 h2
  refine ⟨by omega, by omega, fun hpos => ?_⟩
  have : b.cap * t.size = b.cap * b.dty.size := by omega
  exact Nat.eq_of_mul_eq_mul_left hpos this

/-- Full-strength reading "the element size always matches" is false of the code: a capacity-0
buffer made from a `Vec<u32>` satisfies `layout_match::<(u32, u32)>` (both layouts are
`size 0, align 4`). Harmless — no memory is involved — but it is why T2 is stated through
`Layout::array` equality and the element-size clause carries `0 < cap`. -/
theorem c23_elem_size_always_equal_false :
    ¬ ∀ (b : Buf) (t : Ty), layoutArray b.dty b.cap = some (b.lsize, b.lalign) →
        layoutMatch b t = true → t.size = b.dty.size := by
  intro h
  have := h ⟨0, 0, 0, 4, ⟨4, 4⟩⟩ ⟨8, 4⟩ (by decide) (by decide)
  simp at this

/-! ## T3 — a returned buffer is reused or freed exactly once -/

/-- **C23.T3** (no double free, frees use the right layout) In every reachable state the free
ledger mentions every allocation at most once, each time with exactly the layout it was allocated
with, and a freed allocation is nowhere else (not in the pool, not held, not in transit). -/
theorem c23_freed_once {s : State} (h : Reachable s) :
    (freedIds s).Nodup ∧ (∀ e ∈ s.freed, s.allocs[e.1]? = some e.2) ∧
      ∀ i ∈ freedIds s, i ∉ poolIds s ∧ i ∉ heldIds s ∧ i ∉ transitIds s := by
  have := ids_nodup h
  simp only [List.nodup_append, List.mem_append] at this
  obtain ⟨_, hf, hphtf⟩ := this
  exact ⟨hf, h.inv.freedOk, fun i hi => ⟨fun hc => hphtf i (.inl (.inl hc)) i hi rfl,
    fun hc => hphtf i (.inl (.inr hc)) i hi rfl, fun hc => hphtf i (.inr hc) i hi rfl⟩⟩

theorem startAdd_freed {s s' : State} {t : Nat} {v : VecH} {rest : List Held} {ev : Ev}
    (h : startAdd s t v rest = (s', ev)) : ∃ l, s'.freed = s.freed ++ l := by
  unfold startAdd at h
  split at h
  · cases h
    exact ⟨_, rfl⟩
  · split at h <;> cases h
    · exact ⟨[], (List.append_nil _).symm⟩
    · exact ⟨_, rfl⟩

/-- Freed is final: no step removes an entry from the free ledger (with T1: a freed buffer never
reappears in the pool or with a holder). -/
theorem c23_freed_stable {s s' : State} {op : Op} {ev : Ev} (h : step s op = some (s', ev)) :
    ∃ l, s'.freed = s.freed ++ l := by
  revert h
  -- a disabled leaf closes; elsewhere `s'` becomes the leaf's state (not where that is `startAdd …`)
  fun_cases step s op <;> intro h <;> try cases h
  case case16 | case23 => exact startAdd_freed (Option.some.inj h)
  -- a buffer is released: failed `into_vec`, `dropVec`, `PoolRef` drop without capacity, `dropPool`
  case case8 | case20 | case24 | case25 => exact ⟨_, rfl⟩
  -- every other leaf leaves `freed` as it is
  all_goals exact ⟨[], (List.append_nil _).symm⟩

/-- **C23.T3** (no leak) When no thread holds a vec and no call is in flight, every allocation
ever made is either in the pool (available for reuse) exactly once or freed exactly once — never
both, never lost. -/
theorem c23_no_leak_at_quiescence {s : State} (h : Reachable s) (hh : s.held = []) (hp : s.pend = [])
    (i : Nat) (hi : i < s.allocs.length) :
    ((poolIds s).count i = 1 ∧ (freedIds s).count i = 0) ∨
      ((poolIds s).count i = 0 ∧ (freedIds s).count i = 1) := by
  have := c23_unique_place h i
  simp only [places, heldIds, transitIds, hh, hp, transitBufs, List.filterMap_nil, List.map_nil,
    List.count_nil, hi, ↓reduceIte] at this
  omega

/-- After the pool itself is dropped at quiescence, every allocation has been freed exactly once. -/
theorem c23_all_freed_after_pool_drop {s s' : State} {ev : Ev} (h : Reachable s) (hh : s.held = [])
    (hs : step s .dropPool = some (s', ev)) (i : Nat) :
    (freedIds s').count i = if i < s'.allocs.length then 1 else 0 := by
  have h' := c23_unique_place (h.step hs) i
  simp only [step] at hs
  split at hs
  · next hp =>
    cases hs
    simpa [places, poolIds, heldIds, transitIds, hh, hp, transitBufs] using h'
  · cases hs

/-! ## T4 — best fit -/

/-- **C23.T4** The search in `alloc` returns `(i, c)` only if `pool[i]` can fit the request
(layout matches `T`, capacity ≥ requested), `c` is its capacity, no fitting buffer in the pool has
a smaller capacity, and every fitting buffer before position `i` is strictly larger (first
minimum); it returns `none` only if nothing in the pool fits. -/
theorem c23_best_fit_minimal (pool : List Buf) (t : Ty) (cap : Nat) :
    match bestFit pool t cap with
    | none => ∀ b ∈ pool, canFit b t cap = false
    | some (i, c) =>
      ∃ b, pool[i]? = some b ∧ canFit b t cap = true ∧ b.cap = c ∧
        (∀ (j : Nat) (b' : Buf), pool[j]? = some b' → canFit b' t cap = true → c ≤ b'.cap) ∧
        (∀ (j : Nat) (b' : Buf), j < i → pool[j]? = some b' → canFit b' t cap = true → c < b'.cap) := by
  have := bestFit_spec pool t cap
  cases h : bestFit pool t cap with
  | none => rw [h] at this; exact this
  | some ic => obtain ⟨i, c⟩ := ic; rw [h] at this; exact this

/-- The critical section of `alloc` hands out exactly the best-fit buffer and removes exactly it
from the pool; it never panics (`remove` index in range, `expect("alignment should match")`
cannot fail), in any state. -/
theorem c23_lock_takes_best_fit {s s' : State} {t : Nat} {ev : Ev}
    (h : step s (.allocLock t) = some (s', ev)) :
    ∃ slot ty cap rest, extractFirst (fun e => e.1 == t) s.pend = some ((t, .wantLock slot ty cap), rest) ∧
      ((bestFit s.pool ty cap = none ∧ ev = .miss ∧ s'.pool = s.pool ∧ s'.held = s.held) ∨
       (∃ i b pool' v, bestFit s.pool ty cap = some (i, b.cap) ∧ removeAt i s.pool = some (b, pool') ∧
          intoVec b ty = some v ∧ ev = .hit b.id v.cap (v.cap * ty.size) ∧ s'.pool = pool' ∧
          s'.held = s.held ++ [⟨t, slot, ty, cap, v⟩])) := by
  obtain ⟨slot, ty, cap, rest, hex, ⟨hbf, h⟩ | ⟨i, b, pool', v, hbf, hrm, hfit, hiv, h⟩⟩ :=
    step_allocLock h <;> cases h
  · exact ⟨slot, ty, cap, rest, hex, .inl ⟨hbf, rfl, rfl, rfl⟩⟩
  · have hid : v.id = b.id := by
      simp only [intoVec, (canFit_iff.mp hfit).1, ↓reduceIte, Option.some.injEq] at hiv
      subst hiv; rfl
    exact ⟨slot, ty, cap, rest, hex, .inr ⟨i, b, pool', v, hbf, hrm, hiv, by rw [hid], rfl, rfl⟩⟩

/-- In reachable states `add` / `PoolRef::drop` never panic (`Layout::array::<T>(capacity).unwrap()`
in `Buffer::from_vec` always succeeds for a vec the pool handed out). -/
theorem c23_add_never_panics {s s' : State} {t slot : Nat} (h : Reachable s) :
    step s (.addStart t slot) ≠ some (s', .panic) ∧ step s (.poolRefDrop t slot) ≠ some (s', .panic) := by
  have key : ∀ {hd : Held} {rest : List Held}, s.held.Perm (hd :: rest) →
      startAdd s t hd.v rest ≠ (s', .panic) := by
    intro hd rest hp hs
    have hh := h.inv.heldOk hd (hp.mem_iff.mpr List.mem_cons_self)
    obtain ⟨b, hfv, _⟩ := fromVec_ok hh.1
    unfold startAdd at hs
    simp only [hfv] at hs
    split at hs <;> cases hs
  constructor
  · intro hs
    obtain ⟨hd, rest, hp, hs⟩ := step_addStart hs
    exact key hp hs
  · intro hs
    obtain ⟨hd, rest, hp, hs | hs⟩ := step_poolRefDrop hs
    · exact key hp hs
    · cases hs

/-! ## No thread gets stuck inside a call -/

/-- A thread that is between two atomic steps of a call can always perform its next step, whatever
the other threads did in between (the model has no state in which a call cannot complete). -/
theorem c23_pending_step_enabled (s : State) (t : Nat) :
    (∀ slot ty cap, pendOf s t = some (.wantLock slot ty cap) → (step s (.allocLock t)).isSome) ∧
    (∀ slot ty cap, pendOf s t = some (.fallback slot ty cap) → (step s (.allocFallback t)).isSome) ∧
    (∀ b, pendOf s t = some (.wantPush b) → (step s (.addPush t)).isSome) := by
  have key : ∀ pd, pendOf s t = some pd →
      ∃ t' rest, extractFirst (fun e => e.1 == t) s.pend = some ((t', pd), rest) := by
    intro pd h
    unfold pendOf at h
    cases hf : s.pend.find? (fun e => e.1 == t) with
    | none => simp [hf] at h
    | some e =>
      simp only [hf, Option.map_some, Option.some.injEq] at h
      obtain ⟨rest, hr⟩ := extractFirst_of_find hf
      exact ⟨e.1, rest, by rw [hr, ← h]⟩
  -- with the entry found, every branch of the step returns `some _`
  refine ⟨fun slot ty cap h => ?_, fun slot ty cap h => ?_, fun b h => ?_⟩ <;>
  · obtain ⟨t', rest, hex⟩ := key _ h
    simp only [step, hex]
    repeat' split
    all_goals rfl

/-! ## Non-vacuity: a concrete three-thread schedule -/

def tF32 : Ty := ⟨4, 4⟩
def tI32 : Ty := ⟨4, 4⟩
def tU8 : Ty := ⟨1, 1⟩
def tU64 : Ty := ⟨8, 8⟩

/-- Threads 0, 1, 2 on a pool with `min_size = 16`; critical sections of different threads are
interleaved with the non-critical steps of the others. -/
def demoOps : List Op :=
  [ .allocStart 0 1 tF32 8,   -- t0: alloc::<f32>(8), 32 bytes ≥ 16: counted, wants the mutex
    .allocStart 1 2 tI32 6,   -- t1: alloc::<i32>(6)
    .allocLock 0,             -- t0: pool empty → miss
    .allocLock 1,             -- t1: miss
    .allocFallback 1,         -- t1: fresh allocation #0, capacity 6
    .allocFallback 0,         -- t0: fresh allocation #1, capacity 8
    .allocStart 2 3 tU8 3,    -- t2: alloc::<u8>(3), 3 bytes < 16 → bypass, allocation #2
    .addStart 0 1,            -- t0: add(vec f32 cap 8): Buffer built, 32 ≥ 16
    .addStart 1 2,            -- t1: add(vec i32 cap 6)
    .addPush 0,               -- t0 pushes: pool = [#1 cap 8]
    .allocStart 2 4 tI32 5,   -- t2: alloc::<i32>(5), 20 bytes ≥ 16
    .addPush 1,               -- t1 pushes: pool = [#1 cap 8, #0 cap 6]
    .allocLock 2,             -- t2: best fit is #0 (capacity 6, index 1), reused as Vec<i32>
    .addStart 2 3,            -- t2: add(vec u8 cap 3): 3 < 16 → rejected, #2 freed
    .allocStart 0 5 tU64 4,   -- t0: alloc::<u64>(4), 32 bytes
    .allocLock 0,             -- t0: #1 has 32 bytes too but align 4 ≠ 8 → miss
    .allocFallback 0,         -- t0: fresh allocation #3
    .dropVec 0 5,             -- t0 drops it: #3 freed
    .poolRefDrop 2 4,         -- t2: PoolRef<Vec<i32>> dropped → extract_buffer, add
    .addPush 2 ]              -- t2 pushes: pool = [#1, #0]

example : (runEv (init 16) demoOps).map (·.2) =
    some [.pend, .pend, .miss, .miss, .fresh 0 6 24, .fresh 1 8 32, .bypass 2 3 3, .pend, .pend,
      .pushed, .pend, .pushed, .hit 0 6 24, .rejected 2 3, .pend, .miss, .fresh 3 4 32,
      .freed 3 32, .pend, .pushed] := by decide

/-- The final state of the schedule is reachable and quiescent (hypotheses of
`c23_no_leak_at_quiescence`), with two buffers pooled and two freed. -/
example : (run (init 16) demoOps).map
      (fun s => (s.held.length, s.pend.length, poolIds s, freedIds s, s.allocs.length)) =
    some (0, 0, [1, 0], [2, 3], 4) := by decide

/-- A reachable state with one holder and two buffers in transit in two threads' `add` (hypotheses
of T1/T2 are met non-trivially): after the first nine steps. -/
example : (run (init 16) (demoOps.take 9)).map
      (fun s => (heldIds s, transitIds s, poolIds s, s.pend.length)) =
    some ([2], [1, 0], [], 2) := by decide

/-- Best fit is not first fit: the later, smaller buffer wins. -/
example : bestFit [⟨1, 8, 32, 4, tF32⟩, ⟨0, 6, 24, 4, tI32⟩] tI32 5 = some (1, 6) := by decide

/-- Ties go to the earliest buffer. -/
example : bestFit [⟨1, 8, 32, 4, tF32⟩, ⟨0, 6, 24, 4, tI32⟩, ⟨2, 6, 24, 4, tF32⟩] tI32 5 = some (1, 6) := by
  decide

/-- Same byte size, different element size or alignment: no match. -/
example : layoutMatch ⟨0, 8, 32, 4, tF32⟩ tU64 = false ∧ layoutMatch ⟨0, 8, 32, 4, tF32⟩ ⟨8, 4⟩ = false ∧
    layoutMatch ⟨0, 12, 12, 1, tU8⟩ ⟨3, 1⟩ = false := by decide

/-- The wrapping bypass test: `alloc::<u64>(2^61 + 2)` has `capacity * 8 ≡ 16 (mod 2^64)`, which
is below `min_size = 128`, so the request goes straight to `Vec::with_capacity`, which panics. -/
example : (step (init 128) (.allocStart 0 1 tU64 (2 ^ 61 + 2))).map (·.2) = some .panic := by decide

end RtenVerif.Pool
