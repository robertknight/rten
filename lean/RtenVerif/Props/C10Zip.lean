import RtenVerif.Props.C10
import RtenVerif.Props.C10On

/-!
# C10 — further T1 theorems for modelled rules

All three zipping modes of `symbolic_binary_op`, the complete value-level binary rule, `Shape`,
`Size`, `Gather` with a scalar index, `Concat` of two valued inputs.
-/
namespace RtenVerif.ShapeInfer

/-- **C10.T1-zip**: whatever mode `symbolic_binary_op` chooses (left cycling, right cycling,
plain zip), if the executed NumPy-style broadcast of the two rank-≤1 operands succeeds, the
inferred elements evaluate to the executed elements. -/
theorem c10_zipCycle_sound (σ : Env) (op) (f) (h : OpHom σ op f) (l r : List Sym) (vl vr : List Int)
    (out : List Sym) (w : List Int)
    (hl : evalList σ l = some vl) (hr : evalList σ r = some vr)
    (hi : zipCycle op l r = some out) (he : czip f vl vr = some w) : evalList σ out = some w :=
  zipCycle_soundOn σ (fun _ => True) op f (h.on _) l r vl vr out w
    (fun _ _ => trivial) (fun _ _ => trivial) hl hr hi he

/-- **C10.T1-binary (complete value level)**: for two value-carrying operands (scalar or vector),
if `symbolic_binary_op` produces a result and the executed element-wise operator succeeds, the
result agrees (rank and every element). -/
theorem c10_symBinary_sound (σ : Env) (op) (f) (h : OpHom σ op f) (a b r : STn) (ca cb cr : CT)
    (ha : Agrees σ a ca) (hb : Agrees σ b cb)
    (hi : symBinary op a b = some r) (he : execBinary f ca cb = some cr) : Agrees σ r cr :=
  c10_symBinary_soundOn σ (fun _ => True) op f (h.on _) a b r ca cb cr ha hb
    (fun _ _ _ _ => trivial) (fun _ _ _ _ => trivial) hi he

theorem dims_agree (σ : Env) (a : STn) (c : CT) (ds : List Sym) (ha : Agrees σ a c)
    (hd : a.dims = some ds) : evalList σ ds = some c.dims := by
  cases a with
  | scalar e => obtain ⟨v, rfl, _⟩ := ha; simp only [STn.dims] at hd; cases hd; rfl
  | vector es =>
    obtain ⟨vs, rfl, hev⟩ := ha
    simp only [STn.dims] at hd; cases hd
    have := evalList_length σ es vs hev
    simp [evalList, mapO, Sym.eval, CT.dims, this]
  | shape ds' => simp only [STn.dims] at hd; cases hd; exact ha
  | unknown => simp [STn.dims] at hd

/-- **C10.T1-shape**: `Shape` of any tensor whose inferred form agrees with the executed one. -/
theorem c10_shape_sound (σ : Env) (start stop : Option Int) (a : STn) (c : CT) (ha : Agrees σ a c) :
    Agrees σ (shapeInfer start stop a) (execShape start stop c) := by
  unfold shapeInfer execShape
  cases hd : a.dims with
  | none => simp [Agrees]
  | some ds =>
    have hev := dims_agree σ a c ds ha hd
    have hlen := evalList_length σ ds c.dims hev
    simp only [hlen]
    exact ⟨_, rfl, evalList_take σ _ _ _ (evalList_drop σ _ _ _ hev)⟩

theorem eval_foldl_mul (σ : Env) : ∀ (ds : List Sym) (vs : List Int) (acc : Sym) (va : Int),
    evalList σ ds = some vs → acc.eval σ = some va →
    (ds.foldl (fun p d => Sym.mul p d) acc).eval σ = some (vs.foldl (fun p d => p * d) va) := by
  intro ds
  induction ds with
  | nil => intro vs acc va h ha; simp only [evalList, mapO] at h; cases h; simpa using ha
  | cons d ds ih =>
    intro vs acc va h ha
    obtain ⟨v, vs', hd, hds, rfl⟩ := evalList_cons σ d ds vs h
    simp only [List.foldl_cons]
    exact ih vs' (.mul acc d) (va * v) hds (by simp [Sym.eval, ha, hd])

/-- **C10.T1-size** (the rule without its final `simplify()`, which is C11's subject): the inferred
scalar evaluates to the product of the executed dimensions. -/
theorem c10_size_sound (σ : Env) (a : STn) (c : CT) (ds : List Sym) (ha : Agrees σ a c) (hd : a.dims = some ds) :
    Agrees σ (sizeInfer a) (.scalar (c.dims.foldl (fun p d => p * d) 1)) := by
  unfold sizeInfer
  simp only [hd]
  exact ⟨_, rfl, eval_foldl_mul σ ds c.dims (.val 1) 1 (dims_agree σ a c ds ha hd) rfl⟩

/-- **C10.T1-gather (scalar index)**: `Gather(axis=0)` of a valued vector with a constant scalar
index infers the element the executed gather selects (`resolve_index` is the ONNX negative-index
rule). -/
theorem c10_gather_scalar_sound (σ : Env) (es : List Sym) (vs : List Int) (i : Int) (r : STn)
    (hev : evalList σ es = some vs) (hi : gatherValues es true [i] = .ok r) :
    ∃ k v, resolveIndex vs.length i = some k ∧ vs[k]? = some v ∧ Agrees σ r (.scalar v) := by
  simp only [gatherValues, if_true] at hi
  split at hi
  · rename_i e he
    cases hi
    obtain ⟨k, hk, hek⟩ := Option.bind_eq_some_iff.mp he
    obtain ⟨v, hv, hee⟩ := evalList_getElem σ es vs k e hev hek
    exact ⟨k, v, evalList_length σ es vs hev ▸ hk, hv, v, rfl, hee⟩
  · cases hi

/-- **C10.T1-concat (two inputs)**: concatenating two valued inputs along axis 0. -/
theorem c10_concat2_sound (σ : Env) (a b r : STn) (ca cb : CT) (va vb : List Int)
    (ha : Agrees σ a ca) (hb : Agrees σ b cb) (hva : ca.values = some va) (hvb : cb.values = some vb)
    (hi : concatValues [a, b] = some r) : Agrees σ r (.vector (va ++ vb)) := by
  simp only [concatValues, Option.map_eq_some_iff] at hi
  obtain ⟨ess, hm, rfl⟩ := hi
  have hc : mapO CT.values [ca, cb] = some [va, vb] := by simp only [mapO, hva, hvb]
  exact ⟨va ++ vb, rfl, by simpa using evalList_flatten_values σ (.cons ha (.cons hb .nil)) hm hc⟩

end RtenVerif.ShapeInfer
