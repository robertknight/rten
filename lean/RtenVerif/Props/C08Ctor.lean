import RtenVerif.Props.C08Views
import RtenVerif.Model.OverlapCtor

/-!
# C08 — every path to a mutable tensor passes the overlap check or a fresh copy

Over `Model/OverlapCtor.lean` (explicit constructors with their overlap policy keyed by the
storage's `MUTABLE`, and the storage-converting methods, as coded).
-/
namespace RtenVerif.OverlapCtor
open RtenVerif.Overlap RtenVerif.Layout

/-- One view operation / in-place layout mutation on a layout, through the functions of
C09's layout model (`Model/Layout.lean`; the `_mut` views `slice_mut`, `permuted_mut`,
`index_axis_mut`, `split_at_mut`, `slice_axis_mut`, … and the in-place mutators `permute`,
`transpose`, `move_axis`, `insert_axis`, `remove_axis`, `merge_axes` run the same layout
functions as the immutable views) and C06's `TensorBounds.clipDim` for `clip_dim`.  `same` is
`view_mut`, `nd_view_mut`, `as_dyn_mut`, `into_dyn`, `into_rank`, `assume_init` (layout
kept).  The view `v` carries an arbitrary storage window. -/
inductive ViewOp : List (Nat × Nat) → List (Nat × Nat) → Prop
  | same (d : List (Nat × Nat)) : ViewOp d d
  | permuted {v v' : View} {p : List Nat} : permuted v p = .ok v' → ViewOp v.dims v'.dims
  | transposed (v : View) : ViewOp v.dims (transposed v).dims
  | moveAxis {v v' : View} {src dst : Nat} : moveAxis v src dst = .ok v' → ViewOp v.dims v'.dims
  | trySlice {v v' : View} {items : List SliceItem} :
      trySlice v items = .ok v' → ViewOp v.dims v'.dims
  | sliceAxis {v v' : View} {axis start stop : Nat} :
      sliceAxis v axis start stop = .ok v' → ViewOp v.dims v'.dims
  | indexAxis {v v' : View} {axis index : Nat} :
      indexAxis v axis index = .ok v' → ViewOp v.dims v'.dims
  | splitAt {v v' : View} {axis mid : Nat} {right : Bool} :
      splitAt v axis mid right = .ok v' → ViewOp v.dims v'.dims
  | insertAxis {v v' : View} {index : Nat} : insertAxis v index = .ok v' → ViewOp v.dims v'.dims
  | removeAxis {v v' : View} {index : Nat} : removeAxis v index = .ok v' → ViewOp v.dims v'.dims
  | squeezed (v : View) : ViewOp v.dims (squeezed v).dims
  | mergeAxes (v : View) : ViewOp v.dims (mergedAxes v).dims
  | clipDim {t t' : TensorBounds.Owned} {dim start stop : Nat} :
      TensorBounds.clipDim t dim start stop = some t' → ViewOp t.dims t'.dims

/-- Tensors reachable by `(construct | fresh contiguous constructor | convert | viewop | grow)*`.
* `fresh` – `from_data`, `zeros`, `from_fn`, …, and the in-place `reshape` / `make_contiguous`
  when they copy (every storage kind, `from_shape` layout);
* `viewop` – any view operation or in-place layout mutation; the result may sit on any storage
  kind that is not "more mutable" than the source (`slice_mut` of a `Vec` tensor is a
  `ViewMutData` view, `slice` of anything is a `ViewData` view, `permute` keeps the kind);
* `grow` – `append` on an owned tensor (C06's `TensorBounds.append`, any storage length and
  capacity). -/
inductive Reach (P : Table) (fixed : Bool) : T → Prop
  | construct {c : Ctor} {k : Kind} {dims : List (Nat × Nat)} {len : Nat} {t : T} :
      construct P c k dims len = some t → Reach P fixed t
  | fresh (k : Kind) (shape : List Nat) : Reach P fixed ⟨k, contigDims shape⟩
  | convert {t t' : T} {cv : Conv} :
      Reach P fixed t → convert fixed cv t = some t' → Reach P fixed t'
  | viewop {t : T} {d' : List (Nat × Nat)} {k' : Kind} :
      Reach P fixed t → ViewOp t.dims d' → (k'.mutable = true → t.kind.mutable = true) →
      Reach P fixed ⟨k', d'⟩
  | grow {d : List (Nat × Nat)} {len cap axis : Nat} {other : List (Nat × Nat)}
      {t' : TensorBounds.Owned} :
      Reach P fixed ⟨.vec, d⟩ → TensorBounds.append ⟨d, len, cap⟩ axis other = .ok t' →
      Reach P fixed ⟨.vec, t'.dims⟩

/-- The table runs the overlap check whenever the storage is mutable (the two constructors
that exist for mutable storage; `from_slice_with_strides` is `ViewData` only). -/
def MutChecked (P : Table) : Prop := P .fdws true = .disallow ∧ P .fsl true = .disallow

theorem codeTable_mutChecked : MutChecked codeTable := ⟨rfl, rfl⟩

theorem fresh_accepted (d : List (Nat × Nat)) : mayOverlap (fresh d) = false :=
  c08_contig_accepted _ (c08_contigDims_contiguous _)

theorem setSize_eq_set : ∀ (dims : List (Nat × Nat)) (axis n : Nat), axis < dims.length →
    TensorBounds.setSize dims axis n = dims.set axis (n, (dims.getD axis (0, 0)).2)
  | [], _, _, h => by simp at h
  | _ :: _, 0, _, _ => rfl
  | d :: ds, a + 1, n, h => congrArg (d :: ·) (setSize_eq_set ds a n (by simpa using h))

theorem clipDim_accepted {t t' : TensorBounds.Owned} {dim start stop : Nat}
    (h : TensorBounds.clipDim t dim start stop = some t') (ha : mayOverlap t.dims = false) :
    mayOverlap t'.dims = false := by
  unfold TensorBounds.clipDim at h
  split at h
  · rename_i hv
    have hd : t'.dims = TensorBounds.setSize t.dims dim (stop - start) := by
      simp only at h
      repeat' split at h
      all_goals first | (cases h; done) | (cases h; rfl)
    have hsz := hv.2.2
    rw [TensorBounds.sizeAt, getD_eq _ _ hv.1] at hsz
    rw [hd, setSize_eq_set _ _ _ hv.1, getD_eq _ _ hv.1]
    exact accepted_viewClosed.setSize ha hv.1 (by omega)
  · cases h

/-- **C08.T5** Every modelled view operation / in-place layout mutation keeps an accepted layout
accepted. -/
theorem c08_viewOp_accepted {d d' : List (Nat × Nat)} (h : ViewOp d d')
    (ha : mayOverlap d = false) : mayOverlap d' = false := by
  cases h with
  | same => exact ha
  | permuted hop => exact c08_permuted_accepted _ _ _ ha hop
  | transposed v => exact c08_transposed_accepted v ha
  | moveAxis hop => exact c08_moveAxis_accepted _ _ _ _ ha hop
  | trySlice hop => exact c08_trySlice_accepted _ _ _ ha hop
  | sliceAxis hop => exact c08_sliceAxis_accepted _ _ _ _ _ ha hop
  | indexAxis hop => exact c08_indexAxis_accepted _ _ _ _ ha hop
  | splitAt hop => exact c08_splitAt_accepted _ _ _ _ _ ha hop
  | insertAxis hop => exact c08_insertAxis_accepted _ _ _ ha hop
  | removeAxis hop => exact c08_removeAxis_accepted _ _ _ ha hop
  | squeezed v => exact c08_squeezed_accepted v ha
  | mergeAxes v => exact c08_mergeAxes_accepted v ha
  | clipDim hop => exact clipDim_accepted hop ha

theorem construct_spec {P : Table} {c : Ctor} {k : Kind} {dims : List (Nat × Nat)} {len : Nat}
    {t : T} (h : construct P c k dims len = some t) :
    t = ⟨k, dims⟩ ∧ (P c k.mutable = .disallow → mayOverlap dims = false) ∧
    minDataLen dims ≤ len ∧ c.applies k = true := by
  obtain ⟨happ, h⟩ := Option.ite_none_left_eq_some.mp h
  obtain ⟨hpol, h⟩ := Option.ite_none_left_eq_some.mp h
  obtain ⟨hlen, ⟨⟩⟩ := Option.ite_none_left_eq_some.mp h
  refine ⟨rfl, fun hd => ?_, by omega, by simpa using happ⟩
  cases hov : mayOverlap dims with
  | false => rfl
  | true => simp [hd, hov] at hpol

/-- A conversion (as coded after the fix) into a mutable kind either produces an accepted
layout — a fresh contiguous one, or one that passed the check in `into_owned` — or starts
from a mutable kind and keeps the layout, up to reversing the axes. -/
theorem convert_mutable {cv : Conv} {t t' : T} (h : convert true cv t = some t')
    (hm : t'.kind.mutable = true) :
    mayOverlap t'.dims = false ∨
      (t.kind.mutable = true ∧ (t'.dims = t.dims ∨ t'.dims = t.dims.reverse)) := by
  unfold convert at h
  split at h
  all_goals try split at h
  all_goals
    cases h <;> first
      | exact .inl (fresh_accepted _)
      | exact .inr ⟨hm, .inl rfl⟩
      | exact .inr ⟨hm, .inr rfl⟩
      | exact absurd hm Bool.false_ne_true
      | exact .inl (by simp_all)

/-- **C08.T5** (invariant over `(construct | convert | viewop | grow)*`, conversions as coded
after fix `f62aa2c`) For every policy table that checks mutable storage — the code's table,
and also the seeded one — every reachable tensor with MUTABLE storage has a layout that
passes `may_have_internal_overlap`: each path into a mutable kind goes through a
`DisallowOverlap` constructor, the check in `into_owned` or `expanded_layout`, a
verdict-preserving view operation / layout mutation from a mutable kind, or a copy into a
fresh contiguous layout. -/
theorem c08_mutable_reachable_accepted (P : Table) (hP : MutChecked P) (t : T)
    (h : Reach P true t) (hm : t.kind.mutable = true) : mayOverlap t.dims = false := by
  induction h with
  | @construct c k dims len t hc =>
    obtain ⟨rfl, hpol, _, happ⟩ := construct_spec hc
    simp only at hm
    cases c with
    | fdws => exact hpol (by rw [hm]; exact hP.1)
    | fsl => exact hpol (by rw [hm]; exact hP.2)
    | fsws =>
      -- `from_slice_with_strides` only builds immutable views
      cases k <;> simp [Ctor.applies] at happ
      simp [Kind.mutable] at hm
  | fresh k shape => exact c08_contig_accepted _ (c08_contigDims_contiguous _)
  | @convert t t' cv _ hc ih =>
    rcases convert_mutable hc hm with h | ⟨hmt, h | h⟩
    · exact h
    · rw [h]; exact ih hmt
    · rw [h, accept_perm (List.reverse_perm _)]; exact ih hmt
  | @viewop t d' k' _ hop hk ih =>
    exact c08_viewOp_accepted hop (ih (hk hm))
  | @grow d len cap axis other t' _ happ _ =>
    exact (c08_append_grown_injective _ _ _ _ happ).2.1

/-- **C08.T5** … hence no two distinct valid indices of a reachable mutable tensor share a
storage offset. -/
theorem c08_mutable_reachable_injective (P : Table) (hP : MutChecked P) (t : T)
    (h : Reach P true t) (hm : t.kind.mutable = true) (i j : List Nat)
    (hi : ValidIdx t.dims i) (hj : ValidIdx t.dims j) (hoff : offset t.dims i = offset t.dims j) :
    i = j :=
  c08_no_overlap_injective t.dims i j (c08_mutable_reachable_accepted P hP t h hm) hi hj hoff

/-- Non-vacuity: a stepped, permuted layout constructed on a `Vec`, sent through
`into_cow → into_owned → into_arc`, is reachable, mutable and not contiguous. -/
example : Reach codeTable true ⟨.arc, [(3, 2), (4, 8)]⟩ ∧ Kind.mutable .arc = true ∧
    isContiguous [(3, 2), (4, 8)] = false := by
  refine ⟨?_, rfl, by decide⟩
  have h0 : Reach codeTable true ⟨.vec, [(3, 2), (4, 8)]⟩ :=
    .construct (c := .fdws) (k := .vec) (dims := [(3, 2), (4, 8)]) (len := 29) (by decide)
  have h1 : Reach codeTable true ⟨.cowO, [(3, 2), (4, 8)]⟩ := .convert (cv := .intoCow) h0 (by decide)
  have h2 : Reach codeTable true ⟨.vec, [(3, 2), (4, 8)]⟩ := .convert (cv := .intoOwned) h1 (by decide)
  exact .convert (cv := .intoArc) h2 (by decide)

/-- Non-vacuity for the `viewop` and `grow` steps: an owned 4×5×6 tensor, transposed in place
(`Vec` storage kept), then `slice_mut(1..;2)` of axis 0 (a `ViewMutData` view with the
non-contiguous layout `[(3,2),(5,6),(4,30)]`); and a `with_capacity([2,4], 0)` tensor grown
by `append`. -/
example : Reach codeTable true ⟨.viewMut, [(3, 2), (5, 6), (4, 30)]⟩ ∧
    Reach codeTable true ⟨.vec, [(2, 4), (4, 1)]⟩ := by
  constructor
  · have h0 : Reach codeTable true ⟨.vec, contigDims [4, 5, 6]⟩ := .fresh .vec [4, 5, 6]
    have h1 : Reach codeTable true ⟨.vec, (transposed ⟨0, 120, contigDims [4, 5, 6]⟩).dims⟩ :=
      .viewop h0 (.transposed ⟨0, 120, contigDims [4, 5, 6]⟩) (fun _ => rfl)
    have hop : trySlice (transposed ⟨0, 120, contigDims [4, 5, 6]⟩) [.range ⟨1, none, 2⟩] =
        .ok ⟨1, 119, [(3, 2), (5, 6), (4, 30)]⟩ := by decide
    exact .viewop (k' := .viewMut) h1 (.trySlice hop) (fun _ => rfl)
  · have h0 : Reach codeTable true ⟨.vec, [(0, 4), (4, 1)]⟩ := .fresh .vec [0, 4]
    have happ : TensorBounds.append ⟨[(0, 4), (4, 1)], 0, 12⟩ 0 [(2, 0), (4, 0)] =
        .ok ⟨[(2, 4), (4, 1)], 8, 12⟩ := by decide
    exact .grow h0 happ

/-- **Finding (fixed, `f62aa2c`)**: with `into_owned` as it was (owned arm moves the layout
unconditionally) the invariant is FALSE for the code's own table:
`from_storage_and_layout(CowData::Owned(vec![a, b]), [2,2]/[0,1])` is allowed (immutable
storage), `into_owned` makes it a mutable `Tensor` in which `[0,0]` and `[1,0]` alias. -/
theorem c08_mutable_reachable_old_false :
    ∃ t, Reach codeTable false t ∧ t.kind.mutable = true ∧ mayOverlap t.dims = true ∧
      offset t.dims [0, 0] = offset t.dims [1, 0] := by
  refine ⟨⟨.vec, [(2, 0), (2, 1)]⟩, ?_, rfl, by decide, by decide⟩
  have h0 : Reach codeTable false ⟨.cowO, [(2, 0), (2, 1)]⟩ :=
    .construct (c := .fsl) (k := .cowO) (dims := [(2, 0), (2, 1)]) (len := 2) (by decide)
  exact .convert (cv := .intoOwned) h0 (by decide)

/-- **C08.T5** (explicit construction) As coded, `from_data_with_strides` accepts a
shape/strides pair only if it passes the overlap check — for EVERY storage kind, mutable or
not — so a pair it accepts never aliases. -/
theorem c08_fdws_accepts_only_nonoverlapping (k : Kind) (dims : List (Nat × Nat)) (len : Nat)
    (t : T) (h : construct codeTable .fdws k dims len = some t) :
    t.dims = dims ∧ mayOverlap dims = false ∧
    ∀ i j, ValidIdx dims i → ValidIdx dims j → offset dims i = offset dims j → i = j := by
  obtain ⟨rfl, hpol, _, _⟩ := construct_spec h
  have hov := hpol rfl
  exact ⟨rfl, hov, fun i j hi hj ho => c08_no_overlap_injective dims i j hov hi hj ho⟩

example : construct codeTable .fdws .cowO [(3, 2), (4, 8)] 29 = some ⟨.cowO, [(3, 2), (4, 8)]⟩ := by
  decide

/-- The seeded table (C08_c: policy of `from_data_with_strides` taken from `S::MUTABLE`)
breaks the explicit-construction clause: an aliasing pair is accepted on owned copy-on-write
storage … -/
theorem c08_seeded_fdws_accepts_overlap :
    construct seededTable .fdws .cowO [(2, 0), (2, 1)] 2 = some ⟨.cowO, [(2, 0), (2, 1)]⟩ ∧
    construct codeTable .fdws .cowO [(2, 0), (2, 1)] 2 = none ∧
    mayOverlap [(2, 0), (2, 1)] = true ∧
    offset [(2, 0), (2, 1)] [0, 0] = offset [(2, 0), (2, 1)] [1, 0] := by decide

/-- … and, with `into_owned` as it was when the change was seeded, the mutable-reachability
invariant fails for the seeded table although it checks all mutable storage
(`CowTensor::from_data_with_strides(Cow::Owned(v), [2,2], [0,1]).into_owned()`). -/
theorem c08_seeded_mutable_reachable_false :
    MutChecked seededTable ∧
    ∃ t, Reach seededTable false t ∧ t.kind.mutable = true ∧ mayOverlap t.dims = true := by
  refine ⟨⟨rfl, rfl⟩, ⟨.vec, [(2, 0), (2, 1)]⟩, ?_, rfl, by decide⟩
  have h0 : Reach seededTable false ⟨.cowO, [(2, 0), (2, 1)]⟩ :=
    .construct (c := .fdws) (k := .cowO) (dims := [(2, 0), (2, 1)]) (len := 2) (by decide)
  exact .convert (cv := .intoOwned) h0 (by decide)

end RtenVerif.OverlapCtor
