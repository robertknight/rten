import RtenVerif.Lemmas.ControlFlowSim
import RtenVerif.Lemmas.ControlFlowSpec

/-!
# C24 — control-flow subgraphs behave like the equivalent inlined graph

Model: `RtenVerif/Model/ControlFlow.lean` (`evalG` the naive semantics; `runPlan` the operational one:
reference counts, in-place execution, by-value captures, the `CaptureEnv` chain).

T1 (operational = naive): `runTop S fuel g args = evalG S false fuel [] g (args.map (·.2))` for every
operator semantics with at most one in-place input per operator, every well-formed program (`wfG`:
valid ONNX naming), every fuel and every owned/borrowed split of the arguments
(`c24_runPlan_eq_evalG`).  `false` is the code's reading of empty scan outputs; against the
ONNX reading (`true`) the equation fails on a zero-iteration loop with scan outputs
(`c24_loop_zero_iter_scan_false`).  The `Loop` fold `loopCore` is shared by both semantics; that it is
the ONNX text is `c24_loopCore_eq_loopSpec`.

T2 (ownership safety): `RcInv` holds initially and is kept by every step of every (nested) `run_plan`;
under it a value moved by value into a subgraph or taken for in-place execution has no remaining use.
`Loop` hands the *same* environment value to every iteration (model of `captures.clone()`), so a take
in iteration k cannot be seen by k+1.

T3 (optimizer guard): `c24_fusion_keeps_captured`.
-/
namespace RtenVerif.ControlFlow

variable {P V : Type}

/-! ## T1 -/

/-- Program `s5` of the harness: `5 = 1*2; (6, 7) = Loop(trip = 3){ carried 5; scan neg(carried) }`. -/
def progZeroScan : Graph Prim Tens :=
  .mk [1, 2, 3] []
    [ .prim .mul [1, 2] 5,
      .loop (some 3) none [5]
        (.mk [80, 81, 82] []
          [.prim .ident [81] 83, .prim .add [82, 5] 84, .prim .neg [82] 85] [83, 84, 85])
        [6, 7] ]
    [6, 7]

def argsZero : List Tens := [⟨[2], [1, 2]⟩, ⟨[2], [3, 4]⟩, ⟨[], [0]⟩]
def argsTwo : List Tens := [⟨[2], [1, 2]⟩, ⟨[2], [3, 4]⟩, ⟨[], [2]⟩]

/-- T1 with the ONNX reading of empty scan outputs (`evalG S true`) is false of the code: a loop
that runs zero times and has a scan output returns too few outputs (`OutputMismatch`) where ONNX
prescribes an empty scan output.  rten's own test
`test_loop_condition_initially_false` expects this behaviour at operator level. -/
theorem c24_loop_zero_iter_scan_false :
    runTop intSem 3 progZeroScan (argsZero.map (fun v => (false, v))) = .error .outputMismatch ∧
    evalG intSem true 3 [] progZeroScan argsZero = .ok [⟨[2], [3, 8]⟩, ⟨[0], []⟩] := by
  decide +kernel

/-- …with two iterations both semantics agree (test; non-vacuity of the model). -/
example :
    runTop intSem 3 progZeroScan (argsTwo.map (fun v => (true, v))) =
      .ok [⟨[2], [9, 24]⟩, ⟨[2, 2], [-3, -8, -6, -16]⟩] ∧
    evalG intSem true 3 [] progZeroScan argsTwo =
      .ok [⟨[2], [9, 24]⟩, ⟨[2, 2], [-3, -8, -6, -16]⟩] := by
  decide +kernel

/-- (Lemma, function extensionality — not a property-level statement.) The `Loop` fold depends on
the body runner only through its results: if the operational body
run and the naive body evaluation agree on every argument list, the whole loops agree. -/
theorem c24_loop_congr (S : Sem P V) (onnx : Bool) (run₁ run₂ : Nat → List V → Except Err (List V))
    (h : ∀ i args, run₁ i args = run₂ i args) (bi bo : Nat) (tv cv : Option V) (cs : List V) :
    loopCore S onnx run₁ bi bo tv cv cs = loopCore S onnx run₂ bi bo tv cv cs := by
  have : run₁ = run₂ := by funext i args; exact h i args
  rw [this]

/-- (Lemma: unfolding of `loopIter`.) Unrolling law of the fold (ONNX `Loop`): one more iteration =
run the body on `(i, cond, carried…)`, read the new condition, keep the first `k` results as carried
values and append the rest to the scan lists. -/
theorem c24_loop_unroll (S : Sem P V) (run : Nat → List V → Except Err (List V)) (k rem i : Nat)
    (c c' : Int) (cs rest : List V) (sc : List (List V)) (co : V) (hc : c ≠ 0)
    (hrun : run i (S.ofInt i :: S.ofInt c :: cs) = .ok (co :: rest)) (hco : S.item co = some c') :
    loopIter S run k (rem + 1) i c cs sc =
      loopIter S run k rem (i + 1) c' (rest.take k) (pushScans sc (rest.drop k)) := by
  simp [loopIter, hc, hrun, hco]

theorem c24_loop_stop (S : Sem P V) (run : Nat → List V → Except Err (List V)) (k rem i : Nat)
    (c : Int) (cs : List V) (sc : List (List V)) (h : rem = 0 ∨ c = 0) :
    loopIter S run k rem i c cs sc = .ok (cs, sc) := by
  cases rem with
  | zero => rfl
  | succ r =>
    rcases h with h | h
    · omega
    · simp [loopIter, h]

/-- Zero iterations (trip count ≤ 0 or condition false at start), no scan outputs: the initial
carried values are returned unchanged, in both readings. -/
theorem c24_loop_zero_iterations (S : Sem P V) (onnx : Bool)
    (run : Nat → List V → Except Err (List V)) (tv cv : Option V) (cs : List V) (m c0 : Int)
    (hm : tripOf S tv = some m) (hc : condOf S cv = some c0)
    (hz : m ≤ 0 ∨ c0 = 0) :
    loopCore S onnx run (2 + cs.length) (1 + cs.length) tv cv cs = .ok cs := by
  have hstop := c24_loop_stop S run cs.length m.toNat 0 c0 cs [] (hz.imp (by omega) id)
  simp [loopCore, hm, hc, replicateNil, hstop, finishScans]

example : loopCore intSem true (fun _ _ => .error .opError) 3 2 (some ⟨[], [0]⟩) none [⟨[1], [7]⟩]
    = .ok [⟨[1], [7]⟩] :=
  c24_loop_zero_iterations intSem true _ (some ⟨[], [0]⟩) none [⟨[1], [7]⟩] 0 1 rfl rfl (Or.inl (by decide))

/-- What a subgraph reads for a node of its parent graph `g`, through the environment `run_plan`
builds *after* by-value extraction: exactly the parent's owned value if it has one (whether it was
left in `temp_values` or moved by value), else the parent's constant / borrowed input. -/
theorem c24_child_sees_parent_locals (g : Graph P V) (views : Env V) (st : St V) (ins ds : List Nat)
    (n : Nat) (hn : n ∈ g.defs) :
    let ex := extractByVal g.caps ins st ds
    getInput ({ locals := g.defs, caps := g.caps, views := views, tempRef := ex.1.temp,
                byVal := ex.2 } :: ex.1.env) n =
      match look st.temp n with
      | some v => some v
      | none => look views n :=
  child_sees_parent_locals g views st ins ds n hn

/-- Instance: the owned value `1` (count 1) is moved by value and still read by the child. -/
example :
    let g : Graph Prim Tens := .mk [1] [] [.prim .neg [1] 2] [2]
    let st : St Tens := ⟨[(1, ⟨[], [4]⟩)], fun _ => 1, []⟩
    let ex := extractByVal g.caps [] st [1]
    ex.2 = [(1, ⟨[], [4]⟩)] ∧ look ex.1.temp 1 = none ∧
    getInput ({ locals := g.defs, caps := g.caps, views := [], tempRef := ex.1.temp,
                byVal := ex.2 } :: ex.1.env) 1 = some ⟨[], [4]⟩ := by
  decide +kernel

/-- For a name the parent graph does not define, the lookup continues in the parent's own
environment. -/
theorem c24_child_sees_outer (g : Graph P V) (views tempRef byVal : Env V) (env : List (Frame V))
    (n : Nat) (hn : n ∉ g.defs) :
    getInput ({ locals := g.defs, caps := g.caps, views := views, tempRef := tempRef,
                byVal := byVal } :: env) n = getInput env n :=
  getInput_frame_outer g views tempRef byVal env n hn

/-- By-value extraction leaves the parent's own environment unchanged for every name that is not
one of the operator's dependencies. -/
theorem c24_extract_keeps_other_captures (gc ins : List Nat) : ∀ (ds : List Nat) (st : St V) (n : Nat),
    n ∉ ds → getInput (extractByVal gc ins st ds).1.env n = getInput st.env n := by
  intro ds st n hn
  exact extractByVal_induct gc ins (fun s => getInput s.env n = getInput st.env n) ds st rfl
    fun s m hs hm _ => (getInput_takeValue_ne gc s fun (h : n = m) => hn (h ▸ hm)).trans hs

/-- Input collection of a primitive step that does not run in place is the shared `lookups` over
`run_plan`'s lookup order.  (That the step then computes the naive result when this order agrees
with the naive environment on the operator's inputs is the non-in-place branch of `step_sim`, not
this statement.) -/
theorem c24_collect_eq_lookups (views : Env V) (st : St V) : ∀ (ins : List Nat) (pos : Nat),
    collect views st [] pos ins = lookups (opLookup views st) ins :=
  collect_nil_eq_lookups views st

theorem c24_lookups_congr (f g : Nat → Option V) : ∀ (ns : List Nat), (∀ n ∈ ns, f n = g n) →
    lookups f ns = lookups g ns :=
  lookups_congr f g

/-- Component-level hole: `CaptureEnv::get_input` skips the local graph for a *capture node*, but
`run_plan` stores a by-value capture taken from the enclosing environment under exactly that node.
Such a value can be taken in place (`can_take_input`) but not read.  On graphs produced by the
loaders this state is unreachable: a graph that passes one of its own capture nodes on to a nested
operator mentions the name twice in `capture_names` (once itself, once through the nested
operator), so its parent's reference count is ≥ 2 and the value is never moved by value into the
graph's environment in the first place (harness scenarios s1/s2 exercise exactly this). -/
theorem c24_getInput_misses_capture_node :
    let env : List (Frame Tens) :=
      [ { locals := [7], caps := [5], views := [], tempRef := [], byVal := [(5, ⟨[], [42]⟩)] },
        { locals := [5], caps := [], views := [], tempRef := [], byVal := [] } ]
    canTake env 5 = true ∧ getInput env 5 = none := by
  decide +kernel

/-! ### `decide`d instances of the full T1 statement (tests, not proofs) -/

/-- Harness scenario s3: a by-value capture (`5`) used by an in-place capable operator in every
iteration of a loop. -/
def progS3 : Graph Prim Tens :=
  .mk [1, 2, 3] []
    [ .prim .mul [1, 2] 5,
      .loop (some 3) none [1]
        (.mk [60, 61, 62] []
          [.prim .neg [5] 63, .prim .add [63, 62] 64, .prim .ident [61] 65] [65, 64, 63])
        [6, 7] ]
    [6, 7]

def argsS3 : List Tens := [⟨[2], [1, 2]⟩, ⟨[2], [3, 4]⟩, ⟨[], [3]⟩]

/-- The value `5` is moved by value into the loop's environment (owned inputs) and negated in place
in iteration 0; iterations 1 and 2 still see it: results equal the naive fold. -/
theorem c24_loop_iterations_independent :
    runTop intSem 3 progS3 (argsS3.map (fun v => (true, v))) = evalG intSem true 3 [] progS3 argsS3 ∧
    runTop intSem 3 progS3 (argsS3.map (fun v => (false, v))) = evalG intSem true 3 [] progS3 argsS3 ∧
    evalG intSem true 3 [] progS3 argsS3 =
      .ok [⟨[2], [-8, -22]⟩, ⟨[3, 2], [-3, -8, -3, -8, -3, -8]⟩] := by
  decide +kernel

/-- Harness scenario s1 (capture of a capture through If → Loop). -/
def progS1 : Graph Prim Tens :=
  .mk [1, 2, 3] []
    [ .prim .mul [1, 2] 5,
      .ifOp 3
        (.mk [] [(10, ⟨[], [2]⟩)]
          [ .prim .add [5, 1] 11,
            .loop (some 10) none [11]
              (.mk [20, 21, 22] [] [.prim .ident [21] 23, .prim .sub [22, 5] 24] [23, 24]) [12] ]
          [12])
        (.mk [] [] [.prim .ident [1] 30] [30])
        [6] ]
    [6]

example :
    runTop intSem 4 progS1 ([⟨[2], [1, 2]⟩, ⟨[2], [3, 4]⟩, ⟨[], [1]⟩].map (fun v => (true, v))) =
      evalG intSem true 4 [] progS1 [⟨[2], [1, 2]⟩, ⟨[2], [3, 4]⟩, ⟨[], [1]⟩] ∧
    evalG intSem true 4 [] progS1 [⟨[2], [1, 2]⟩, ⟨[2], [3, 4]⟩, ⟨[], [1]⟩] = .ok [⟨[2], [-2, -6]⟩] := by
  decide +kernel

/-- **T1, global refinement.** For every operator semantics whose operators declare at most one
in-place input (`hS`; all single-output operators of rten do — only the two multi-output
attention-cache operators declare two), every fuel and every well-formed program `g` of nesting
depth `< fuel` (`wfG`: distinct names per graph, no shadowing of an enclosing graph's names by a
subgraph, outputs distinct and defined by the graph — what ONNX requires of a valid model), for
*every* owned/borrowed split of the arguments, the operational semantics — reference counts,
in-place candidate selection and the `run_in_place` condition, `take_value` from `temp_values` *and*
out of the by-value captures inside a subgraph, by-value capture extraction, the `CaptureEnv` chain,
release of dead values, `Loop` with any number of iterations (zero included), arbitrary nesting of
`If` and `Loop` — returns exactly what the naive semantics returns (same values or same error
class). The naive semantics is taken in its code reading of empty scan outputs (`onnx := false`);
it differs from the ONNX reading only on zero-iteration loops with scan outputs
(`c24_loop_zero_iter_scan_false`).
The operator contract `run_in_place = run` is part of the model (`Sem.run` is used for both).
Graphs that pass one of their own captures on to a nested operator are covered: such a name occurs
twice in `capture_names`, the parent's count is ≥ 2, so the value is never moved by value into the
graph's environment and the hole `c24_getInput_misses_capture_node` is unreachable
(`recapture_count`, `noEnvTake_of_once`, invariant `Inv.byvalonce`). -/
theorem c24_runPlan_eq_evalG (S : Sem P V) (hS : ∀ k, (S.inPlaceIdx k).length ≤ 1)
    (fuel : Nat)
    (g : Graph P V) (args : List (Bool × V)) (hwf : wfG fuel g = true) :
    runTop S fuel g args = evalG S false fuel [] g (args.map (·.2)) :=
  runPlan_refines S hS fuel g args [] [] hwf
    (fun _ _ => ⟨rfl, rfl⟩) trivial (fun _ h => absurd rfl h) (fun _ _ _ => rfl)

/-- The general form: a subgraph run in any capture environment `E` that agrees with the naive
enclosing environment `σ` on the graph's free names (and does not shadow its names); `hhead`, `honce`
are the two facts the simulation invariant keeps about the by-value map of the innermost frame
(`Inv.headok`, `Inv.byvalonce`). -/
theorem c24_runPlan_eq_evalG_env (S : Sem P V) (hS : ∀ k, (S.inPlaceIdx k).length ≤ 1)
    (fuel : Nat) (g : Graph P V) (args : List (Bool × V)) (E : List (Frame V)) (σ : Env V)
    (hwf : wfG fuel g = true)
    (hshadow : ∀ n, n ∈ g.allDefs → getInput E n = none ∧ look σ n = none) (hhead : headOK E)
    (honce : ∀ n, look (headByVal E) n ≠ none → g.capNames.count n ≤ 1)
    (hfree : ∀ n, n ∉ g.defs → Needed g g.ops n → getInput E n = look σ n) :
    runPlan S fuel g args E = evalG S false fuel σ g (args.map (·.2)) :=
  runPlan_refines S hS fuel g args E σ hwf hshadow hhead honce hfree

theorem intSem_one_inplace : ∀ k, (intSem.inPlaceIdx k).length ≤ 1 := by
  intro k; cases k <;> decide

/-- Non-vacuity: scenario s3 (loop with a by-value capture) is well-formed, so the theorem applies
to it with owned arguments (by-value captures). -/
example : wfG 3 progS3 = true := by decide +kernel

example :
    runTop intSem 3 progS3 (argsS3.map (fun v => (true, v))) =
      evalG intSem false 3 [] progS3 argsS3 := by
  have := c24_runPlan_eq_evalG intSem intSem_one_inplace 3 progS3
    (argsS3.map (fun v => (true, v))) (by decide +kernel)
  simpa [List.map_map, Function.comp_def] using this

/-- `progS1` (a branch that uses `5` itself *and* passes it on to its loop — capture of a capture)
is covered too. -/
example :
    runTop intSem 4 progS1 ([⟨[2], [1, 2]⟩, ⟨[2], [3, 4]⟩, ⟨[], [1]⟩].map (fun v => (true, v))) =
      evalG intSem false 4 [] progS1 [⟨[2], [1, 2]⟩, ⟨[2], [3, 4]⟩, ⟨[], [1]⟩] := by
  have := c24_runPlan_eq_evalG intSem intSem_one_inplace 4 progS1
    ([⟨[2], [1, 2]⟩, ⟨[2], [3, 4]⟩, ⟨[], [1]⟩].map (fun v => (true, v))) (by decide +kernel)
  simpa [List.map_map, Function.comp_def] using this

/-- **The model of `Loop::run_subgraph` (`loopCore`: countdown recursion, `trip_count.unwrap_or(
i32::MAX)`, `cond.unwrap_or(1)`, `(step as i32) < trip_count && cond != 0`, scan lists) computes the
ONNX `Loop` as the operator text states it** (`loopSpec`: left fold over the iteration numbers
`List.range M`, keep-going value in the state; of `loopCore`'s definitions it uses only `pushScans`),
for every body,
trip count (absent, zero, negative, any size), condition (absent, false at start, false after k) and
both readings of empty scan outputs. -/
theorem c24_loopCore_eq_loopSpec (S : Sem P V) (onnx : Bool)
    (run : Nat → List V → Except Err (List V)) (bodyIn bodyOut : Nat) (tripV condV : Option V)
    (cs : List V) :
    loopCore S onnx run bodyIn bodyOut tripV condV cs =
      loopSpec S onnx run bodyIn bodyOut tripV condV cs :=
  loopCore_eq_loopSpec S onnx run bodyIn bodyOut tripV condV cs

/-- **T1 against the independent semantics**: `run_plan` = the naive graph semantics whose `Loop` is
the ONNX-text fold (`evalGSpec`). -/
theorem c24_runPlan_eq_evalGSpec (S : Sem P V) (hS : ∀ k, (S.inPlaceIdx k).length ≤ 1) (fuel : Nat)
    (g : Graph P V) (args : List (Bool × V)) (hwf : wfG fuel g = true) :
    runTop S fuel g args = evalGSpec S false fuel [] g (args.map (·.2)) := by
  rw [← evalG_eq_spec]; exact c24_runPlan_eq_evalG S hS fuel g args hwf

/-- A body for the edge-case instances below: inputs `(i, keepgoing, x)`, outputs
`(i < 2, x + 1, scan i)`. -/
def edgeBody : Nat → List Tens → Except Err (List Tens)
  | i, [it, _, x] => .ok [⟨[], [if i < 2 then 1 else 0]⟩, ⟨x.shape, x.data.map (· + 1)⟩, it]
  | _, _ => .error .arity

/-- Edge instances of the ONNX-text fold (tests of the *specification*; `decide`): trip 5 with the
condition turning false after iteration 2 (three iterations run); trip 0; negative trip; condition
false at start; trip 2 cuts the loop before the condition does; a non-scalar trip count is an
error. -/
example : loopSpec intSem true edgeBody 3 3 (some ⟨[], [5]⟩) none [⟨[], [10]⟩] =
    .ok [⟨[], [13]⟩, ⟨[3], [0, 1, 2]⟩] := by decide +kernel
example : loopSpec intSem true edgeBody 3 3 (some ⟨[], [0]⟩) none [⟨[], [10]⟩] =
    .ok [⟨[], [10]⟩, ⟨[0], []⟩] := by decide +kernel
example : loopSpec intSem false edgeBody 3 3 (some ⟨[], [-1]⟩) none [⟨[], [10]⟩] =
    .ok [⟨[], [10]⟩] := by decide +kernel
example : loopSpec intSem true edgeBody 3 3 (some ⟨[], [5]⟩) (some ⟨[], [0]⟩) [⟨[], [10]⟩] =
    .ok [⟨[], [10]⟩, ⟨[0], []⟩] := by decide +kernel
example : loopSpec intSem true edgeBody 3 3 (some ⟨[], [2]⟩) (some ⟨[], [7]⟩) [⟨[], [10]⟩] =
    .ok [⟨[], [12]⟩, ⟨[2], [0, 1]⟩] := by decide +kernel
example : loopSpec intSem true edgeBody 3 3 (some ⟨[2], [1, 2]⟩) none [⟨[], [10]⟩] =
    .error .badCond := by decide +kernel

/-! ## T2 -/

theorem c24_rc_invariant_init (g : Graph P V) (temp : Env V) (env : List (Frame V)) :
    RcInv g g.ops { temp := temp, rc := rcInit g, env := env } := rcInv_init g temp env

theorem c24_rc_invariant_step (S : Sem P V) (rec : Runner P V) (g : Graph P V) (views : Env V)
    (st st' : St V) (op : Op P V) (rest : List (Op P V))
    (hinv : RcInv g (op :: rest) st) (h : stepOp S rec g views st op = .ok st') :
    RcInv g rest st' := rcInv_step S rec g views st st' op rest hinv h

theorem c24_rc_invariant_steps (S : Sem P V) (rec : Runner P V) (g : Graph P V) (views : Env V)
    (ops rest : List (Op P V)) (st st' : St V) (hinv : RcInv g (ops ++ rest) st)
    (h : stepOps S rec g views st ops = .ok st') : RcInv g rest st' :=
  rcInv_steps S rec g views ops rest st st' hinv h

/-- A parent value moved by value into a subgraph's environment is a dependency of that operator
only: no later step (input or nested capture), no requested output, and not a second occurrence in
the same operator (e.g. both branches of an `If`) needs it. -/
theorem c24_byvalue_capture_has_no_later_use (g : Graph P V) (op : Op P V) (rest : List (Op P V))
    (st : St V) (hinv : RcInv g (op :: rest) st) (p : Nat × V)
    (hp : p ∈ (extractByVal g.caps op.directInputs st (deps g op)).2)
    (hval : isValueNode g p.1 = true) :
    (deps g op).count p.1 = 1 ∧ p.1 ∉ rest.flatMap (deps g) ∧ p.1 ∉ g.outputs ∧
      p.1 ∉ op.directInputs := by
  obtain ⟨hmem, hnin, hrc⟩ := extractByVal_keys g.caps op.directInputs (deps g op) st p hp
  obtain ⟨h1, h2, h3⟩ := rc_one_no_remaining_use hinv hval hmem hrc
  exact ⟨h1, h2, h3, by simpa using hnin⟩

/-- The same for values taken for in-place execution of a primitive operator (inside a subgraph
these may come from the by-value captures). -/
theorem c24_inplace_take_has_no_later_use (g : Graph P V) (k : P) (ins : List Nat) (out : Nat)
    (rest : List (Op P V)) (st st' : St V) (hinv : RcInv g (.prim k ins out :: rest) st)
    (cs : List (Nat × Nat)) (vs : List (Nat × V)) (htk : takeAll g.caps st cs = .ok (st', vs))
    (c : Nat × Nat) (hc : c ∈ cs) (hin : c.2 ∈ ins) (hval : isValueNode g c.2 = true) :
    ins.count c.2 = 1 ∧ c.2 ∉ rest.flatMap (deps g) ∧ c.2 ∉ g.outputs := by
  have hrc := (takeAll_rc g.caps cs st st' vs htk).2 c hc
  have := rc_one_no_remaining_use hinv hval
    (by rw [deps_prim]; exact hin) hrc
  rw [deps_prim] at this
  exact this

/-- Non-vacuity: in scenario s3, `5` (count 1: only the loop captures it) is extracted by value at
the loop step. -/
example :
    (extractByVal (progS3.caps) [3, 1]
      { temp := [(5, (⟨[2], [3, 8]⟩ : Tens))], rc := fun n => if n = 5 then 1 else 2, env := [] }
      [3, 1, 5]).2 = [(5, ⟨[2], [3, 8]⟩)] := by
  decide +kernel

/-- `rc ≠ 1` (another step, a requested output or a second capture still needs the value): the
value is not moved — it can only be captured by reference. -/
theorem c24_shared_value_never_moved (gc : List Nat) (st : St V) (n : Nat) (h : st.rc n ≠ 1) :
    takeValue gc st n = (none, st) := takeValue_none_of_rc_ne_one gc st n h

/-- `take_input` never changes by-reference captures, constants, inputs or any outer
environment. -/
theorem c24_byref_never_taken (env : List (Frame V)) (n : Nat) :
    ((takeInput env n).2).map (fun f => (f.locals, f.caps, f.views, f.tempRef)) =
      env.map (fun f => (f.locals, f.caps, f.views, f.tempRef)) ∧
    (takeInput env n).2.tail = env.tail := by
  cases env with
  | nil => exact ⟨rfl, rfl⟩
  | cons f ps =>
    simp only [takeInput]
    split <;> exact ⟨rfl, rfl⟩

theorem c24_can_take_only_by_value (env : List (Frame V)) (n : Nat) :
    canTake env n = true ↔
      ∃ f ps, env = f :: ps ∧ (f.locals.contains n || f.caps.contains n) = true ∧
        (look f.byVal n).isSome = true := canTake_iff env n

/-! ## T3 -/

/-- The optimizer's guard `find_operator_output_captured_by_subgraph` (T3): first output of an unfused
operator that is captured by a subgraph and is not among the outputs the fused operator preserves
(`Fusion::Op` ↦ its `output_ids`; `Fusion::Identity` / `Fusion::Constant` ↦ none). -/
def guardFind (captured unfusedOutputs preserved : List Nat) : Option Nat :=
  if captured.isEmpty then none
  else unfusedOutputs.find? (fun o => captured.contains o && !preserved.contains o)

theorem guardFind_none (captured outs preserved : List Nat)
    (h : guardFind captured outs preserved = none) :
    ∀ v ∈ outs, v ∈ captured → v ∈ preserved := by
  intro v hv hc
  unfold guardFind at h
  split at h
  · rename_i he
    simp at he; subst he; simp at hc
  · have := List.find?_eq_none.mp h v hv
    simpa [hc] using this

/-- A flat view of a graph for the fusion step: each operator = its id and its outputs. -/
def producedBy (ops : List (Nat × List Nat)) (v : Nat) : Prop := ∃ o ∈ ops, v ∈ o.2

/-- `apply_fusion`: remove the unfused operators, add the fused one (id `newId`) producing
`preserved`. -/
def applyFusion (ops : List (Nat × List Nat)) (unfused : List Nat) (newId : Nat)
    (preserved : List Nat) : List (Nat × List Nat) :=
  ops.filter (fun o => !unfused.contains o.1) ++ [(newId, preserved)]

def unfusedOutputs (ops : List (Nat × List Nat)) (unfused : List Nat) : List Nat :=
  (ops.filter (fun o => unfused.contains o.1)).flatMap (·.2)

/-- If the guard lets a fusion through, every captured value that had a producer still has one
afterwards (the fused operator). -/
theorem c24_fusion_keeps_captured (ops : List (Nat × List Nat)) (unfused : List Nat) (newId : Nat)
    (preserved captured : List Nat)
    (hguard : guardFind captured (unfusedOutputs ops unfused) preserved = none)
    (v : Nat) (hcap : v ∈ captured) (hprod : producedBy ops v) :
    producedBy (applyFusion ops unfused newId preserved) v := by
  obtain ⟨o, ho, hv⟩ := hprod
  by_cases hu : unfused.contains o.1 = true
  · have hout : v ∈ unfusedOutputs ops unfused := by
      unfold unfusedOutputs
      exact List.mem_flatMap.mpr ⟨o, List.mem_filter.mpr ⟨ho, hu⟩, hv⟩
    have := guardFind_none captured _ preserved hguard v hout hcap
    exact ⟨(newId, preserved), by simp [applyFusion], this⟩
  · refine ⟨o, ?_, hv⟩
    simp only [applyFusion, List.mem_append, List.mem_filter]
    left
    exact ⟨ho, by simpa using hu⟩

/-- Without the guard the statement fails: an `Identity` fusion (`preserved = []`) of the operator
producing a captured value leaves it without a producer. -/
theorem c24_fusion_without_guard_false :
    guardFind [5] (unfusedOutputs [(0, [5])] [0]) [] = some 5 ∧
    ¬ producedBy (applyFusion [(0, [5])] [0] 9 []) 5 := by
  refine ⟨by decide, ?_⟩
  rintro ⟨o, ho, hv⟩
  simp [applyFusion] at ho
  subst ho
  simp at hv

example : guardFind [5] (unfusedOutputs [(0, [4]), (1, [5])] [0, 1]) [5] = none := by decide +kernel

end RtenVerif.ControlFlow
