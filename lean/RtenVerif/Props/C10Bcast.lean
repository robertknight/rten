import RtenVerif.Props.C10Where

/-! # C10 — the `BinaryOp` broadcasting shape rule -/
namespace RtenVerif.ShapeInfer

theorem cb_self (n : Int) : cb n n = some n := if_pos rfl

theorem cb_one_left (n : Int) : cb 1 n = some n := by
  unfold cb; split
  · rename_i h; rw [h]
  · rfl

theorem cb_one_right (n : Int) : cb n 1 = some n := by
  unfold cb; split
  · rfl
  · exact if_pos rfl

theorem cb_eq_some {x y z : Int} (h : cb x y = some z) :
    (x = y ∧ z = x) ∨ (x = 1 ∧ z = y) ∨ (y = 1 ∧ z = x) := by
  unfold cb at h
  split at h
  · exact .inl ⟨‹_›, (Option.some.inj h).symm⟩
  · split at h
    · exact .inr (.inl ⟨‹_›, (Option.some.inj h).symm⟩)
    · split at h
      · exact .inr (.inr ⟨‹_›, (Option.some.inj h).symm⟩)
      · cases h

theorem bcastI_of_cb {x y z : Int} (h : cb x y = some z) : bcastI x y = z := by
  rcases cb_eq_some h with ⟨rfl, rfl⟩ | ⟨rfl, rfl⟩ | ⟨rfl, rfl⟩
  · exact Sym.bcastI_self _
  · exact Sym.bcastI_one_left _
  · exact Sym.bcastI_one_right _

theorem isOne_eval (σ : Env) (a : Sym) (h : a.isOne = true) : a.eval σ = some 1 := by
  cases a <;> simp_all [Sym.isOne, Sym.eval]

/-- **C10.T1-broadcast (one dimension)**: for ALL sizes (zero-sized dimensions included, since fix
a4a397a of `eval`), if NumPy broadcasting of the instantiated sizes succeeds with `z`, the inferred
dimension evaluates to `z` — in every arm: structurally equal, literal 1 on either side, symbol
against a fixed size (where the rule *assumes* compatibility and returns the fixed size), and the
`Broadcast(a, b)` fallback when compatibility is unknown. -/
theorem c10_bdim_sound (σ : Env) (a b d : Sym) (x y z : Int)
    (ha : a.eval σ = some x) (hb : b.eval σ = some y)
    (hi : bdim a b = .ok d) (he : cb x y = some z) : d.eval σ = some z := by
  revert hi
  fun_cases bdim a b <;> intro hi <;> cases hi
  -- the arms of `bdim` in source order; the `.val, .val` arm is an error and went with `cases hi`
  · cases Option.some.inj (ha ▸ hb ▸ eval_beq σ a b ‹_›)
    rw [cb_self] at he; cases he
    exact ha
  · cases ha.symm.trans (isOne_eval σ a ‹_›)
    rw [cb_one_left] at he; cases he
    exact hb
  · cases hb.symm.trans (isOne_eval σ b ‹_›)
    rw [cb_one_right] at he; cases he
    exact ha
  next h2 _ =>
    -- a symbol against a fixed size other than 1: the rule assumes compatibility
    cases hb
    rcases cb_eq_some he with ⟨rfl, rfl⟩ | ⟨_, rfl⟩ | ⟨rfl, _⟩
    · rfl
    · rfl
    · exact absurd rfl h2
  next h1 _ _ =>
    cases ha
    rcases cb_eq_some he with ⟨_, rfl⟩ | ⟨rfl, _⟩ | ⟨_, rfl⟩
    · rfl
    · exact absurd rfl h1
    · rfl
  · rw [Sym.eval, ha, hb]
    exact congrArg some (bcastI_of_cb he)

/-- **C10.T1-broadcast (padded shapes)**. -/
theorem c10_bdims_sound (σ : Env) : ∀ (as bs out : List Sym) (xs ys zs : List Int),
    evalList σ as = some xs → evalList σ bs = some ys →
    bdims as bs = .ok out → cbs xs ys = some zs → evalList σ out = some zs
  | [], _, _, _, _, _, ha, _, hi, he => by cases ha; cases hi; cases he; rfl
  | a :: as, [], _, _, _, _, ha, hb, hi, he => by
    obtain ⟨_, _, _, _, rfl⟩ := evalList_cons σ a as _ ha
    cases hb; cases hi; cases he; rfl
  | a :: as, b :: bs, _, _, _, _, ha, hb, hi, he => by
    obtain ⟨x, xs, hax, has, rfl⟩ := evalList_cons σ a as _ ha
    obtain ⟨y, ys, hby, hbs, rfl⟩ := evalList_cons σ b bs _ hb
    simp only [bdims] at hi
    simp only [cbs] at he
    split at hi
    · cases hi
    split at hi <;> cases hi
    split at he
    · cases he
    split at he <;> cases he
    exact evalList_cons_intro σ _ _ _ _ (c10_bdim_sound σ a b _ x y _ hax hby ‹_› ‹_›)
      (c10_bdims_sound σ as bs _ xs ys _ has hbs ‹_› ‹_›)

theorem evalList_padLeft (σ : Env) (n : Nat) (ds : List Sym) (vs : List Int) (h : evalList σ ds = some vs) :
    evalList σ (padLeft n ds) = some (padC n vs) := by
  rw [padLeft, padC, ← mapO_length h]
  exact evalList_append σ _ ds _ vs (evalList_replicate_val σ 1 _) h

/-- **C10.T1-broadcast (shape rule)**: for two tensors whose inferred forms agree with the executed
ones (empty dimensions included), if `BinaryOp` infers a shape and NumPy broadcasting
of the executed shapes succeeds, every inferred dimension evaluates to the broadcast dimension. -/
theorem c10_binaryShape_sound (σ : Env) (a b : STn) (ca cb' : CT) (ad bd out : List Sym) (zs : List Int)
    (ha : Agrees σ a ca) (hb : Agrees σ b cb') (had : a.dims = some ad) (hbd : b.dims = some bd)
    (hi : binaryShape a b = .ok (.shape out)) (he : cbroadcast ca.dims cb'.dims = some zs) :
    Agrees σ (.shape out) (.shaped zs) := by
  have ea := dims_agree σ a ca ad ha had
  have eb := dims_agree σ b cb' bd hb hbd
  unfold binaryShape at hi
  simp only [had, hbd] at hi
  unfold cbroadcast at he
  rw [← evalList_length σ ad _ ea, ← evalList_length σ bd _ eb] at he
  simp only [Except.map] at hi
  split at hi <;> cases hi
  exact c10_bdims_sound σ _ _ _ _ _ zs (evalList_padLeft σ _ ad _ ea) (evalList_padLeft σ _ bd _ eb)
    ‹_› he

end RtenVerif.ShapeInfer
