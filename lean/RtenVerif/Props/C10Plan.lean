import RtenVerif.Props.C10List
import RtenVerif.Props.C10On

/-!
# C10.T2 — graph-level theorem over operator kinds

`Kind` enumerates the rules with a proved T1 that the plan theorem covers (plus `other` for everything
else; `Expand`, `binaryInfer`, `Neg`, `Identity`, the pool output size and the shape rules of `C10Layout`
have stand-alone T1 theorems and are not kinds); `Kind.proved` is the decidable predicate naming the kinds.
`c10_plan_sound_kinds`: in a plan whose nodes all have a proved kind, every executed value agrees with
its inferred tensor.
-/
namespace RtenVerif.ShapeInfer

inductive Kind
  | add | sub | mul | div | equal
  | whereK
  | shape (start stop : Option Int)
  | size
  | concat
  | gatherS (i : Int)
  | gatherV (idxs : List Int)
  | unsqueeze0
  | squeeze0
  | bshape
  /-- Any other rule: inference and execution are arbitrary functions; nothing is proved. -/
  | other (inf : List STn → Option STn) (ex : List CT → Option CT)

def Kind.proved : Kind → Bool
  | .other _ _ => false
  | _ => true

/-- `Where` as a kind: the value path of `whereInfer` alone — the test on `whereVals` leaves out its
fallback to the `BinaryOp` shape rule. -/
def whereT : STn → STn → STn → Option STn
  | c, x, y =>
    match c.values, x.values, y.values with
    | some cv, some xv, some yv =>
      (whereVals (fun v => v != 0) cv xv yv).bind fun _ => (whereInfer (fun v => v != 0) true c x y).toOption
    | _, _, _ => none

/-- What the rule infers; `none` = the rule makes no claim (error / not applicable). -/
def Kind.infer : Kind → List STn → Option STn
  | .add, [a, b] => symBinary addOp a b
  | .sub, [a, b] => symBinary subOp a b
  | .mul, [a, b] => symBinary mulOp a b
  | .div, [a, b] => symBinary divOp a b
  | .equal, [a, b] => symBinary eqOp a b
  | .whereK, [c, x, y] => whereT c x y
  | .shape s e, [a] => some (shapeInfer s e a)
  | .size, [a] => (a.dims).map fun _ => sizeInfer a
  | .concat, ts => concatValues ts
  | .gatherS i, [.vector es] => (gatherValues es true [i]).toOption
  | .gatherV idxs, [.vector es] => (gatherValues es false idxs).toOption
  | .unsqueeze0, [a] => unsqueezeScalar a
  | .squeeze0, [a] => squeezeVector a
  | .bshape, [a, b] =>
    match a.dims, b.dims, binaryShape a b with
    | some _, some _, .ok (.shape out) => some (.shape out)
    | _, _, _ => none
  | .other inf _, ts => inf ts
  | _, _ => none

/-- Reference execution (`none` = fails, or outside the reference's domain). -/
def Kind.exec : Kind → List CT → Option CT
  | .add, [a, b] => execBinary (fun x y => some (x + y)) a b
  | .sub, [a, b] => execBinary (fun x y => some (x - y)) a b
  | .mul, [a, b] => execBinary (fun x y => some (x * y)) a b
  | .div, [a, b] => execBinary (fun x y => if y = 0 then none else some (tdiv x y)) a b
  | .equal, [a, b] => execBinary (fun x y => some (if x = y then 1 else 0)) a b
  | .whereK, [c, x, y] => cwhereT c x y
  | .shape s e, [a] => some (execShape s e a)
  | .size, [a] => some (.scalar (a.dims.foldl (fun p d => p * d) 1))
  | .concat, cs => cconcat cs
  | .gatherS i, [.vector vs] => (resolveIndex vs.length i).bind fun k => (vs[k]?).map CT.scalar
  | .gatherV idxs, [.vector vs] => (cgather vs idxs).map CT.vector
  | .unsqueeze0, [.scalar v] => some (.vector [v])
  | .squeeze0, [.vector [v]] => some (.scalar v)
  | .bshape, [a, b] => (cbroadcast a.dims b.dims).map CT.shaped
  | .other _ ex, cs => ex cs
  | _, _ => none

def goodInputs (σ : Env) (ts : List STn) : Bool :=
  ts.all fun t => match t.values with
    | some es => es.all (good σ)
    | none => true

/-- What a kind needs from its symbolic operands: only `equal` inspects `range()`. -/
def Kind.needs (σ : Env) (k : Kind) (ts : List STn) : Bool :=
  match k with
  | .equal => goodInputs σ ts
  | _ => true

theorem elemsOn_of_good (σ : Env) (ts : List STn) (h : goodInputs σ ts = true) :
    ∀ t ∈ ts, ElemsOn (fun e => good σ e = true) t := by
  intro t ht es hes e he
  have := (List.all_eq_true.mp h) t ht
  simp only [hes, List.all_eq_true] at this
  exact this e he

/-- `Where` at tensor level: agreeing operands have the same rank, and `out` evaluates to
`cwhere …`, so inference and execution squeeze a single element to a scalar together. -/
theorem whereT_agrees (σ : Env) (c x y : STn) (cc cx cy : CT) (r : STn) (cr : CT)
    (hc : Agrees σ c cc) (hx : Agrees σ x cx) (hy : Agrees σ y cy)
    (hi : whereT c x y = some r) (he : cwhereT cc cx cy = some cr) : Agrees σ r cr := by
  simp only [whereT] at hi
  split at hi
  · rename_i cv xv yv hcv hxv hyv
    obtain ⟨out, hw, hi⟩ := Option.bind_eq_some_iff.mp hi
    obtain ⟨vc, hvc, ec, s1⟩ := agrees_values σ c cc cv hc hcv
    obtain ⟨vx, hvx, ex, s2⟩ := agrees_values σ x cx xv hx hxv
    obtain ⟨vy, hvy, ey, s3⟩ := agrees_values σ y cy yv hy hyv
    have hs := c10_whereVals_sound σ cv xv yv vc vx vy out ec ex ey hw
    simp only [cwhereT, hvc, hvx, hvy] at he
    simp only [whereInfer, hcv, hxv, hyv, hw, Bool.true_and, s1, s2, s3] at hi
    generalize cwhere vc vx vy = w at hs he
    split at he
    · rw [if_pos ‹_›] at hi
      match out, w, hs, hi, he with
      | [v], _, hs, hi, he =>
        obtain ⟨w, _, hv, hnil, rfl⟩ := evalList_cons σ v [] _ hs
        cases hnil; cases hi; cases he
        exact ⟨w, rfl, hv⟩
      | [], _, hs, hi, he => cases hs; cases hi; cases he; exact ⟨[], rfl, rfl⟩
      | a :: b :: t, _, hs, hi, he =>
        obtain ⟨_, _, _, hs', rfl⟩ := evalList_cons σ a _ _ hs
        obtain ⟨_, _, _, _, rfl⟩ := evalList_cons σ b _ _ hs'
        cases hi; cases he
        exact ⟨_, rfl, hs⟩
    · rw [if_neg ‹_›] at hi
      cases hi; cases he
      exact ⟨_, rfl, hs⟩
  · cases hi

/-- **T1 for every proved kind**, in one statement. The only side condition is local: the
operands an `equal` node inspects stay inside `i32` (`Kind.needs`), which makes `range()` sound for
them (`rangeSound_of_good`). -/
theorem c10_kind_sound (σ : Env) (k : Kind) (hk : k.proved = true)
    (ts : List STn) (cs : List CT) (r : STn) (cr : CT) (hn : k.needs σ ts = true)
    (hag : AgreesL σ ts cs) (hi : k.infer ts = some r) (he : k.exec cs = some cr) : Agrees σ r cr := by
  unfold Kind.infer at hi
  split at hi
  · obtain _ | ⟨ha, _ | ⟨hb, _ | _⟩⟩ := hag
    exact c10_symBinary_sound σ addOp _ (c10_add_hom σ) _ _ r _ _ cr ha hb hi he
  · obtain _ | ⟨ha, _ | ⟨hb, _ | _⟩⟩ := hag
    exact c10_symBinary_sound σ subOp _ (c10_sub_hom σ) _ _ r _ _ cr ha hb hi he
  · obtain _ | ⟨ha, _ | ⟨hb, _ | _⟩⟩ := hag
    exact c10_symBinary_sound σ mulOp _ (c10_mul_hom σ) _ _ r _ _ cr ha hb hi he
  · obtain _ | ⟨ha, _ | ⟨hb, _ | _⟩⟩ := hag
    exact c10_symBinary_sound σ divOp _ (c10_div_hom σ) _ _ r _ _ cr ha hb hi he
  · have hel := elemsOn_of_good σ _ hn
    obtain _ | ⟨ha, _ | ⟨hb, _ | _⟩⟩ := hag
    exact c10_symBinary_soundOn σ _ eqOp _ (c10_equal_hom_good σ) _ _ r _ _ cr ha hb
      (hel _ (List.mem_cons_self ..)) (hel _ (List.mem_cons_of_mem _ (List.mem_cons_self ..))) hi he
  · obtain _ | ⟨hc, _ | ⟨hx, _ | ⟨hy, _ | _⟩⟩⟩ := hag
    exact whereT_agrees σ _ _ _ _ _ _ r cr hc hx hy hi he
  · obtain _ | ⟨ha, _ | _⟩ := hag
    cases hi; cases he
    exact c10_shape_sound σ _ _ _ _ ha
  · obtain _ | ⟨ha, _ | _⟩ := hag
    obtain ⟨ds, hd, rfl⟩ := Option.map_eq_some_iff.mp hi
    cases he
    exact c10_size_sound σ _ _ ds ha hd
  · exact c10_concat_sound σ _ cs r cr hag hi he
  · obtain _ | ⟨⟨vs, rfl, hev⟩, _ | _⟩ := hag
    unfold Except.toOption at hi
    split at hi <;> cases hi
    obtain ⟨k, v, hk, hv, hagr⟩ := c10_gather_scalar_sound σ _ vs _ r hev ‹_›
    simp only [Kind.exec, hk, Option.bind_some, hv, Option.map_some] at he
    cases he
    exact hagr
  · obtain _ | ⟨⟨vs, rfl, hev⟩, _ | _⟩ := hag
    unfold Except.toOption at hi
    split at hi <;> cases hi
    obtain ⟨w, hc, rfl⟩ := Option.map_eq_some_iff.mp he
    exact c10_gather_vector_sound σ _ vs _ r w hev ‹_› hc
  · obtain _ | @⟨_, ca, _, _, ha, _ | _⟩ := hag
    cases ca <;> simp only [Kind.exec, reduceCtorEq, Option.some.injEq] at he
    cases he
    exact c10_unsqueeze_sound σ _ r _ ha hi
  · obtain _ | @⟨_, ca, _, _, ha, _ | _⟩ := hag
    rcases ca with _ | (_ | ⟨v, _ | _⟩) | _ <;> simp only [Kind.exec, reduceCtorEq, Option.some.injEq] at he
    cases he
    exact c10_squeeze_sound σ _ r v ha hi
  · obtain _ | ⟨ha, _ | ⟨hb, _ | _⟩⟩ := hag
    split at hi <;> cases hi
    obtain ⟨zs, hz, rfl⟩ := Option.map_eq_some_iff.mp he
    exact c10_binaryShape_sound σ _ _ _ _ _ _ _ zs ha hb ‹_› ‹_› ‹_› hz
  · cases hk
  · cases hi

structure KNode where
  out : Nat
  kind : Kind
  ins : List Nat

def KNode.toPNode (n : KNode) : PNode :=
  { out := n.out,
    infer := fun s => (n.kind.infer (n.ins.map s)).getD .unknown,
    exec := fun c => (mapO c n.ins).bind n.kind.exec }

theorem agreesL_of_all (σ : Env) (s : Nat → STn) (c : Nat → Option CT) (h : AllAgree σ s c) :
    ∀ (ins : List Nat) (cs : List CT), mapO c ins = some cs → AgreesL σ (ins.map s) cs
  | [], _, h1 => by cases h1; exact .nil
  | i :: is, _, h1 => by
    obtain ⟨ct, cts, hi, hr, rfl⟩ := mapO_cons_eq_some.mp h1
    exact .cons (h i ct hi) (agreesL_of_all σ s c h is cts hr)

def KNode.stepS (n : KNode) (s : Nat → STn) : Nat → STn := upd s n.out ((n.kind.infer (n.ins.map s)).getD .unknown)
def KNode.stepC (n : KNode) (c : Nat → Option CT) : Nat → Option CT := upd c n.out ((mapO c n.ins).bind n.kind.exec)

def runK : List KNode → (Nat → STn) → (Nat → Option CT) → (Nat → STn) × (Nat → Option CT)
  | [], s, c => (s, c)
  | n :: ns, s, c => runK ns (n.stepS s) (n.stepC c)

/-- The local side condition along the inference run: whenever an `equal` node is reached, the
operand elements it inspects are `good` (decidable; nothing is required of any other kind). -/
def needsAlong (σ : Env) : List KNode → (Nat → STn) → Bool
  | [], _ => true
  | n :: ns, s => n.kind.needs σ (n.ins.map s) && needsAlong σ ns (n.stepS s)

/-- **C10.T2 (one node)**. -/
theorem c10_knode_sound (σ : Env) (n : KNode) (hk : n.kind.proved = true) (s : Nat → STn) (c : Nat → Option CT)
    (hn : n.kind.needs σ (n.ins.map s) = true) (hall : AllAgree σ s c) : AllAgree σ (n.stepS s) (n.stepC c) := by
  refine hall.upd n.out fun ct hc => ?_
  obtain ⟨cs, hm, hc⟩ := Option.bind_eq_some_iff.mp hc
  cases hinf : n.kind.infer (n.ins.map s) with
  | none => trivial
  | some r => exact c10_kind_sound σ n.kind hk _ cs r ct hn (agreesL_of_all σ s c hall n.ins cs hm) hinf hc

/-- **C10.T2 (kinds)**: over any plan whose nodes all have a proved kind (`Kind.proved`, decidable;
everything else is `Kind.other`), and along which the operands of `equal` nodes stay inside `i32`
(`needsAlong`, decidable), every executed value agrees with its inferred tensor. No global
hypothesis about `range()` is needed. -/
theorem c10_plan_sound_kinds (σ : Env) : ∀ (plan : List KNode) (s : Nat → STn) (c : Nat → Option CT),
    (∀ n ∈ plan, n.kind.proved = true) → needsAlong σ plan s = true → AllAgree σ s c →
    AllAgree σ (runK plan s c).1 (runK plan s c).2 := by
  intro plan
  induction plan with
  | nil => intro s c _ _ h; exact h
  | cons n ns ih =>
    intro s c hp hn h
    simp only [needsAlong, Bool.and_eq_true] at hn
    simp only [runK]
    exact ih _ _ (fun m hm => hp m (by simp [hm])) hn.2
      (c10_knode_sound σ n (hp n (by simp)) s c hn.1 h)

/-- Non-vacuity (closed instance of every hypothesis of `c10_plan_sound_kinds`): `x : [n, 4]`
executed as `[3, 4]`; `Shape(x)`, `Gather(·, 0)`, `Mul(·, ·)`, `Unsqueeze`, `Concat`, an `Equal` of the gathered
dimension with itself (fold to 1) and `Equal(n + 10, 3)`, whose fold to 0 really uses `range()`.  Every kind is proved,
the operands of `Equal` are `good`, inference yields `[n * n, n, 4]` and `[1]`-style values and
execution the numbers. -/
def demoKPlan : List KNode :=
  [ ⟨1, .shape none none, [0]⟩, ⟨2, .gatherS 0, [1]⟩, ⟨3, .mul, [2, 2]⟩, ⟨4, .unsqueeze0, [3]⟩,
    ⟨5, .concat, [4, 1]⟩, ⟨6, .equal, [2, 2]⟩, ⟨8, .add, [2, 9]⟩, ⟨10, .equal, [8, 11]⟩ ]

def demoσ : Env := fun x => if x = "n" then some 3 else none
def demoS : Nat → STn := fun i =>
  if i = 0 then .shape [.var "n" true, .val 4] else if i = 9 then .scalar (.val 10)
  else if i = 11 then .scalar (.val 3) else .unknown
def demoC : Nat → Option CT := fun i =>
  if i = 0 then some (.shaped [3, 4]) else if i = 9 then some (.scalar 10)
  else if i = 11 then some (.scalar 3) else none

theorem demo_hyps : (∀ n ∈ demoKPlan, n.kind.proved = true) ∧ needsAlong demoσ demoKPlan demoS = true := by
  constructor
  · decide
  · decide

theorem demo_inputs_agree : AllAgree demoσ demoS demoC := by
  intro id ct h
  unfold demoC at h
  by_cases h0 : id = 0
  · subst h0; simp at h; subst h; simp [demoS, Agrees, evalList, mapO, Sym.eval, demoσ, CT.dims]
  · by_cases h9 : id = 9
    · subst h9; simp at h; subst h; exact ⟨10, rfl, rfl⟩
    · by_cases h11 : id = 11
      · subst h11; simp at h; subst h; exact ⟨3, rfl, rfl⟩
      · simp [h0, h9, h11] at h

example : (runK demoKPlan demoS demoC).1 5 = .vector [.mul (.var "n" true) (.var "n" true), .var "n" true, .val 4] ∧
    (runK demoKPlan demoS demoC).2 5 = some (.vector [9, 3, 4]) ∧
    (runK demoKPlan demoS demoC).1 6 = .scalar (.val 1) ∧ (runK demoKPlan demoS demoC).2 6 = some (.scalar 1) ∧
    -- node 10 really goes through `range()`: `n + 10` has range (10, i32::MAX), disjoint from (3, 3)
    (runK demoKPlan demoS demoC).1 8 = .scalar (.add (.var "n" true) (.val 10)) ∧
    (runK demoKPlan demoS demoC).1 10 = .scalar (.val 0) ∧ (runK demoKPlan demoS demoC).2 10 = some (.scalar 0) := by
  decide

example : AllAgree demoσ (runK demoKPlan demoS demoC).1 (runK demoKPlan demoS demoC).2 :=
  c10_plan_sound_kinds demoσ demoKPlan demoS demoC demo_hyps.1 demo_hyps.2 demo_inputs_agree

/-- Closed instance of `c10_kind_sound` for `equal` where the fold to 0 really uses `range()`:
`Equal(min(n, 5) + 10, 3)` with `n = 3`: ranges `(10, i32::MAX)` (`range` of `min` takes the larger upper
bound) and `(3, 3)` are disjoint, executed 0. -/
example : Kind.equal.needs demoσ [.scalar (.add (.min (.var "n" true) (.val 5)) (.val 10)), .scalar (.val 3)] = true ∧
    Kind.equal.infer [.scalar (.add (.min (.var "n" true) (.val 5)) (.val 10)), .scalar (.val 3)] = some (.scalar (.val 0)) ∧
    Kind.equal.exec [.scalar 13, .scalar 3] = some (.scalar 0) := by decide

end RtenVerif.ShapeInfer
