import RtenVerif.Lemmas.LoaderConstGuards
import RtenVerif.Props.C20
import RtenVerif.Props.C21

/-!
# C05 — Loading untrusted model bytes is safe, bounded and well-formed

Theorems over `RtenVerif/Model/LoaderConst.lean` (machine-integer model of the constant
construction of `src/model/onnx_loader.rs` and `src/model/rten_loader.rs`), composed with
C06 (`try_from_data` soundness, machine = ideal arithmetic), C20 (`.rten` header), C21 (external
data ranges) and, outside this file, C38 (protobuf reader).

* **T1** the `.rten` header: every accepted header is in bounds (`c20_header_accept_bounds`),
  hence the model-segment slice `&file_data[offset..offset + len]` cannot panic, in release and
  in overflow-checking builds.
* **T2** constant well-formedness: every constant either loader ACCEPTS has
  `ideal product of dims = number of elements backing it ≤ isize::MAX`, the bytes of those
  elements lie inside the data source (`len * size ≤ |raw_data|`, resp.
  `tensor_data_offset + data_offset + len * size ≤ |file|` over `Nat`), and every in-bounds
  index maps below the data length.
* **T3** every rejection is an `Err`, never a panic, under the hypotheses that stand for facts
  outside the model (`ExtFits`, `InFile`, `AttrLensFit`; `ItemFits` collects those of an ONNX
  graph; for each of the three a `decide`d example reaches `.panic` without it) — for the code
  after the three C05 `fix:` commits (19947b6, b1f97f0, e977171).  For the code before them T3 is
  FALSE (`c05_T3_old_*_false`, `decide`d witnesses that were replayed through `Model::load`),
  while T2 already held (`c05_T2_rten_old`) thanks to the
  C06 fix; with the tensor constructor from before the C06 fix T2 was false as well
  (`c05_T2_before_c06_fix_false`).
-/
namespace RtenVerif.LoaderConst
open RtenVerif.TensorBounds RtenVerif.Overlap

open RtenVerif.RtenHeader in
/-- **C05.T1** an accepted header of a file shorter than `2^63` bytes (every Rust slice is)
describes a model segment inside the file, and the slice expression
`&file_data[offset..offset + len]` of `rten_loader::load` evaluates without overflow or
out-of-range panic in both build modes. -/
theorem c05_T1_model_slice_safe (buf : List Nat) (h : Header) (hb : ∀ b ∈ buf, b < 256)
    (hsz : buf.length < 2 ^ 63) (hok : fromBuf buf = .ok h) (ovf : Bool) :
    h.modelOffset + h.modelLen ≤ buf.length ∧ h.tensorDataOffset ≤ buf.length ∧
    modelSlice ovf (UInt64.ofNat h.modelOffset) (UInt64.ofNat h.modelLen)
      (UInt64.ofNat buf.length) = some (h.modelOffset, h.modelOffset + h.modelLen) := by
  obtain ⟨_, _, h3, _, h5, _⟩ := c20_header_accept_bounds buf h hb hsz hok
  refine ⟨h3, h5, ?_⟩
  have e (x : Nat) (hx : x ≤ buf.length) : (UInt64.ofNat x).toNat = x :=
    UInt64.toNat_ofNat_of_lt' (by show _ < 2 ^ 64; omega)
  have e1 := e h.modelOffset (by omega)
  have e2 := e h.modelLen (by omega)
  have e3 := e buf.length (Nat.le_refl _)
  have hW : wordSize = 2 ^ 64 := by decide
  have hfit : (UInt64.ofNat h.modelOffset).toNat + (UInt64.ofNat h.modelLen).toNat < wordSize := by
    rw [e1, e2]; omega
  have e4 := M.add_toNat_of_lt hfit
  rw [e1, e2] at e4
  unfold modelSlice
  rw [addMode_of_lt ovf hfit]
  have c1 : UInt64.ofNat h.modelOffset ≤ UInt64.ofNat h.modelOffset + UInt64.ofNat h.modelLen := by
    rw [UInt64.le_iff_toNat_le, e4, e1]; omega
  have c2 : UInt64.ofNat h.modelOffset + UInt64.ofNat h.modelLen ≤ UInt64.ofNat buf.length := by
    rw [UInt64.le_iff_toNat_le, e4, e3]; exact h3
  simp only [c1, c2, and_self, if_true, e4, e1]

/-- Non-vacuity: a 40-byte file with an 8-byte model segment. -/
example : RtenHeader.fromBuf (RtenHeader.toBuf ⟨2, 32, 8, 40⟩ ++ List.replicate 8 0) =
    .ok ⟨2, 32, 8, 40⟩ := by decide

theorem finish_ok {ovf : Bool} {shape : List U} {cnt : Cnt} {s : List Nat} {n : Nat}
    (h : finish ovf shape cnt = .ok s n) :
    ∃ k, cnt = .n k ∧ s = M.toNs shape ∧ n = k.toNat ∧ WellFormed s n := by
  cases cnt with
  | n k =>
    simp only [finish, tryFromDataG_eq] at h
    exact ⟨k, rfl, tryFromData_ok h⟩
  | err e => cases h
  | panic => cases h

theorem finish_ne_panic {ovf : Bool} {shape : List U} {cnt : Cnt} (h : cnt ≠ .panic) :
    finish ovf shape cnt ≠ .panic := by
  cases cnt with
  | n k => simp only [finish, tryFromDataG_eq]; exact tryFromData_ne_panic _ _
  | err e => simp [finish]
  | panic => exact absurd rfl h

theorem finish_mode (ovf : Bool) (shape : List U) (cnt : Cnt) :
    finish ovf shape cnt = finish false shape cnt := by
  cases cnt <;> simp [finish, tryFromDataG_eq]

theorem loadConstant_ok {ovf : Bool} {c : OnnxInit} {s : List Nat} {n : Nat}
    (h : loadConstant ovf c = .ok s n) :
    ∃ shape ext k, onnxShape c.dims = some shape ∧ loadExt c.ext = .ok ext ∧
      onnxCount c ext = .n k ∧ s = M.toNs shape ∧ n = k.toNat ∧ WellFormed s n := by
  unfold loadConstant at h
  split at h
  · cases h
  · next shape hs =>
    split at h
    · cases h
    · next ext hext =>
      split at h
      · cases h
      · obtain ⟨k, hk, hwf⟩ := finish_ok h
        exact ⟨shape, ext, k, hs, hext, hk, hwf⟩

theorem onnxCount_spec (c : OnnxInit) (ext : Option ExtSlice) (hv : ∀ d, ext = some d → d.Valid) :
    onnxCount c ext ≠ .panic ∧
    ∀ k, onnxCount c ext = .n k →
      CntBacked (srcElemSize c.dtype) c.raw ext (typedLen c.typed c.dtype) k.toNat := by
  unfold onnxCount
  cases hdt : c.dtype with
  | float | int32 => exact makeCount_spec 4 _ _ _ hv
  | uint8 | int8 => exact makeCount_spec 1 _ _ _ hv
  | int64 | double => exact convCount_spec 8 _ _ _ hv
  | bool => exact convCount_spec 1 _ _ _ hv
  | float16 => exact f16Count_spec _ _ _ hv
  | unsupported | missing => exact Cnt.err_spec

/-- Bytes / elements that actually back an accepted ONNX initializer: the data loader returned
`ext` (for external data: a valid slice of the registered buffer, C21), and `len` elements of the
source element size are present in `raw_data` / inside that slice / in the typed field. -/
def Backed (c : OnnxInit) (len : Nat) : Prop :=
  ∃ ext, loadExt c.ext = .ok ext ∧ (∀ d, ext = some d → d.Valid) ∧
    CntBacked (srcElemSize c.dtype) c.raw ext (typedLen c.typed c.dtype) len

/-- **C05.T2 (ONNX)** every initializer (dims are `i64`; external data under `ExtFits`)
`load_constant` accepts in either build mode: no dimension is negative, the tensor's shape is
the initializer's `dims`, the ideal product of the dims equals the number of elements built from
the data source, that number fits `isize`, those elements are present in the data source, and
(C06) every valid index is in bounds. -/
theorem c05_T2_onnx (ovf : Bool) (c : OnnxInit) (hi : ∀ d ∈ c.dims, d < 2 ^ 63)
    (hx : ExtFits c.ext) {shape : List Nat} {len : Nat} (h : loadConstant ovf c = .ok shape len) :
    (∀ d ∈ c.dims, 0 ≤ d) ∧ shape = c.dims.map Int.toNat ∧ WellFormed shape len ∧
    Backed c len ∧
    ∀ idx, ValidIdx (contigDims shape) idx → offset (contigDims shape) idx < len := by
  obtain ⟨s, ext, k, hs, hext, hk, e1, e2, wf⟩ := loadConstant_ok h
  obtain ⟨hnn, hsm⟩ := onnxShape_some hs hi
  have hv : ∀ d, ext = some d → d.Valid := fun d hd => (loadExt_valid hx (hd ▸ hext)).1
  refine ⟨hnn, by rw [e1, hsm], wf, ⟨ext, hext, hv, ?_⟩, fun idx hv' => wf.in_bounds hv'⟩
  rw [e2]
  exact (onnxCount_spec c ext hv).2 k hk

/-- **C05.T2 (ONNX, external data)** the elements of an accepted initializer without `raw_data`
whose data is external — whichever loader resolved it (`MemLoader`, `MmapLoader`, `FileLoader`;
under `ExtFits`) — lie inside the external file / registered buffer at the offset the model file
names, and take no more bytes than the length it names (C21). -/
theorem c05_T2_onnx_external (c : OnnxInit) (hx : ExtFits c.ext) {len : Nat} (hb : Backed c len)
    {k : LoaderKind} {l o b : U} (hraw : c.raw = none) (he : c.ext = .ref k l o b) :
    o.toNat + len * srcElemSize c.dtype ≤ b.toNat ∧ len * srcElemSize c.dtype ≤ l.toNat := by
  obtain ⟨ext, hext, hv, hc⟩ := hb
  cases ext with
  | none =>
    rw [he] at hext
    cases k <;> simp only [loadExt] at hext <;> split at hext <;> cases hext
  | some d =>
    obtain ⟨hval, k', l', o', b', heq, hlen, hin, _⟩ := loadExt_valid hx hext
    rw [he] at heq
    cases heq
    unfold CntBacked at hc
    rw [hraw] at hc
    simp only at hc
    have := hval.le
    omega

/-- C21's own soundness theorem applies to the range the model uses. -/
example (off len flen s e : Nat) (hf : flen < ExtData.U64_MAX)
    (h : ExtData.memRange off len flen = .ok (s, e)) : s = off ∧ e = off + len ∧ off + len ≤ flen :=
  ExtData.c21_mem_range_sound off len flen s e hf h

/-- Non-vacuity of T2 (ONNX): a 2×3 float initializer with 24 bytes of `raw_data`, and an
int64 initializer read from external data (32 bytes at offset 8 of a 48-byte buffer). -/
example : loadConstant false ⟨[2, 3], .float, some 24, .none, ⟨0, 0, 0, 0⟩⟩ = .ok [2, 3] 6 := by
  decide
example : loadConstant true ⟨[4], .int64, none, .ref .mem 32 8 48, ⟨0, 0, 0, 0⟩⟩ = .ok [4] 4 ∧
    loadConstant true ⟨[4], .int64, none, .ref .mmap 32 8 48, ⟨0, 0, 0, 0⟩⟩ = .ok [4] 4 ∧
    loadConstant false ⟨[4], .int64, none, .ref .file 32 8 48, ⟨0, 0, 0, 0⟩⟩ = .ok [4] 4 := by decide

/-- Where the bytes of an accepted `.rten` constant live. -/
def RBacked (f : RtenFile) (c : RtenConst) (len : Nat) : Prop :=
  match c.data with
  | .inline n _ => len = n.toNat
  | .stored off => ∃ tdo, f.tensorDataOffset = some tdo ∧
      tdo.toNat + off.toNat + len * c.ty.size.toNat ≤ f.storageLen.toNat

/-- **C05.T2 (.rten)** every constant `add_graph_constant` accepts: the shape is the file's
dims, the ideal product of the dims equals the element count of the data, which fits `isize`;
inline data has exactly that many elements; stored data occupies
`[tensor_data_offset + data_offset, … + len * size)` INSIDE the file — over `Nat`, no wrap —
and (C06) every valid index is in bounds. -/
theorem c05_T2_rten (ovf : Bool) (f : RtenFile) (c : RtenConst) {shape : List Nat} {len : Nat}
    (h : addGraphConstant ovf f c = .ok shape len) :
    shape = M.toNs c.dims ∧ WellFormed shape len ∧ RBacked f c len ∧
    ∀ idx, ValidIdx (contigDims shape) idx → offset (contigDims shape) idx < len := by
  revert h
  unfold RBacked
  fun_cases addGraphConstant ovf f c
  -- stored, `tensor_data_offset + data_offset` fits, supported type: `fromStorageOffset`
  case case4 dataOffset hd tdo htdo off hoff _ =>
    rw [fromStorageOffset_eq ovf RType.size_cases, hd]
    intro h
    split at h
    · cases h
    split at h
    · next hfit =>
      obtain ⟨e1, e2, wf⟩ := tryFromData_ok h
      have := checkedAdd_some hoff
      exact ⟨e1, wf, ⟨tdo, htdo, by show _ + len * c.ty.size.toNat ≤ _; rw [e2]; omega⟩,
        fun idx hv => wf.in_bounds hv⟩
    · cases h
  -- inline, supported type
  case case6 n start hd _ =>
    rw [hd]
    intro h
    obtain ⟨k, hk, e1, e2, wf⟩ := finish_ok h
    obtain rfl := inlineCount_n hk
    exact ⟨e1, wf, e2, fun idx hv => wf.in_bounds hv⟩
  all_goals exact nofun

/-- **C05.T2 (.rten, stored)** a constant `constant_data_from_storage_offset` accepts (element
size 1 or 4: those of `RType`) has `product(dims)` elements — the ideal product, not a truncation
of it — and its `product(dims) * size` bytes from `offset` lie inside the storage. -/
theorem c05_T2_rten_stored_exact {ovf : Bool} {size : U} {shape : List U} {offset slen : U}
    {s : List Nat} {len : Nat} (hs : size = 1 ∨ size = 4)
    (h : fromStorageOffset ovf size shape offset slen = .ok s len) :
    len = prod (M.toNs shape) ∧ offset.toNat + prod (M.toNs shape) * size.toNat ≤ slen.toNat := by
  rw [fromStorageOffset_eq ovf hs] at h
  split at h
  · cases h
  · next n hn =>
    split at h
    · next hfit =>
      obtain ⟨_, e2, _⟩ := tryFromData_ok h
      rw [← (checkedProd_one_eq hn).2, e2]
      exact ⟨rfl, hfit⟩
    · cases h

/-- Non-vacuity of T2 (.rten): a stored 2×2 f32 constant at offset 36 of a 100-byte file, an
inline constant, and an empty stored constant with a zero dimension. -/
example : addGraphConstant true ⟨some 32, 100⟩ ⟨[2, 2], .f32, .stored 4⟩ = .ok [2, 2] 4 := by decide
example : addGraphConstant false ⟨none, 100⟩ ⟨[3], .i8, .inline 3 40⟩ = .ok [3] 3 := by decide
example : addGraphConstant true ⟨some 32, 100⟩ ⟨[0, 7], .u8, .stored 68⟩ = .ok [0, 7] 0 := by decide

/-- **C05.T3 (ONNX)** under `ExtFits` (a memory-mapped external file is shorter than `u64::MAX`
bytes) `load_constant` never panics, whatever the initializer says and in either build mode:
`DataSlice::data()`, both `ArcSlice` unwraps, `spare_capacity[..n]`, the unchecked
`offset + length` of `MmapLoader` and the arithmetic inside `try_from_data` are all
unreachable-panic sites. -/
theorem c05_T3_onnx_no_panic (ovf : Bool) (c : OnnxInit) (hx : ExtFits c.ext) :
    loadConstant ovf c ≠ .panic := by
  unfold loadConstant
  split
  · simp
  · split
    · simp
    · next ext hext =>
      have hv : ∀ d, ext = some d → d.Valid := fun d hd => (loadExt_valid hx (hd ▸ hext)).1
      rw [extAddPanics_false hx hext]
      simp only [Bool.false_eq_true, if_false]
      exact finish_ne_panic (onnxCount_spec c _ hv).1

/-- The panic guards are live: a `DataSlice` whose range is not inside its storage makes
`DataSlice::data()` panic, and `MmapLoader` on a (physically impossible) file of `u64::MAX` bytes
— the case `ExtFits` excludes — wraps its range end and panics the same way; with overflow
checks the unchecked `offset + length` itself panics. -/
example : makeCount 4 none (some ⟨8, 4, 16⟩) 0 = .panic ∧
    loadConstant false ⟨[1], .uint8, none,
      .ref .mmap 18446744073709551615 1 18446744073709551615, ⟨0, 0, 0, 0⟩⟩ = .panic ∧
    loadConstant true ⟨[1], .uint8, none,
      .ref .mmap 18446744073709551615 1 18446744073709551615, ⟨0, 0, 0, 0⟩⟩ = .panic := by decide

/-- **C05.T3 (ONNX, build modes)** under `ExtFits`, `load_constant` answers the same in release
and overflow-checking builds. -/
theorem c05_onnx_mode_independent (ovf : Bool) (c : OnnxInit) (hx : ExtFits c.ext) :
    loadConstant ovf c = loadConstant false c := by
  unfold loadConstant
  split
  · rfl
  · split
    · rfl
    · next ext hext =>
      rw [extAddPanics_false hx hext, extAddPanics_false hx hext]
      exact finish_mode _ _ _

/-- The flatbuffers verifier's guarantee the inline path relies on: the vector's bytes lie inside
the file buffer.  (Stored constants need no assumption.) -/
def InFile (f : RtenFile) (c : RtenConst) : Prop :=
  match c.data with
  | .inline n start => start.toNat + (n * c.ty.size).toNat ≤ f.storageLen.toNat
  | .stored _ => True

/-- **C05.T3 (.rten)** on a constant whose inline vector lies inside the file (`InFile`)
`add_graph_constant` (after the fixes) never panics in either build mode:
both `.expect("storage does not contain data")`, `chunk.try_into().unwrap()` and the arithmetic
inside `try_from_data` are unreachable-panic sites. -/
theorem c05_T3_rten_no_panic (ovf : Bool) (f : RtenFile) (c : RtenConst) (hfb : InFile f c) :
    addGraphConstant ovf f c ≠ .panic := by
  fun_cases addGraphConstant ovf f c
  case case4 =>
    rw [fromStorageOffset_eq ovf RType.size_cases]
    split
    · nofun
    split
    · exact tryFromData_ne_panic _ _
    · nofun
  case case6 n start hd _ =>
    unfold InFile at hfb
    rw [hd] at hfb
    rw [inlineCount_spec _ _ _ _ hfb]
    exact finish_ne_panic nofun
  all_goals nofun

/-- Without the verifier's guarantee the `expect` IS reachable: a non-empty vector that is not
inside the storage. -/
example : addGraphConstant false ⟨none, 10⟩ ⟨[3], .i8, .inline 3 9⟩ = .panic := by decide

/-- **C05.T3 (.rten, build modes)** `add_graph_constant` answers the same in release and
overflow-checking builds. -/
theorem c05_rten_mode_independent (ovf : Bool) (f : RtenFile) (c : RtenConst) :
    addGraphConstant ovf f c = addGraphConstant false f c := by
  unfold addGraphConstant
  simp only [fromStorageOffset_eq _ RType.size_cases, finish_mode ovf]

/-- **C05.T3 (whole graph) first failure aborts** (`load_graph`'s `?`): if building the
constants of a graph in order fails, the failure is the outcome of the FIRST constant that is not
accepted, and every constant before it was accepted. -/
theorem c05_loadAll_first_error {α : Type} (build : α → Outcome) (cs : List α) {o : Outcome}
    (h : loadAll build cs = .error o) :
    ∃ pre c post, cs = pre ++ c :: post ∧ (∀ a ∈ pre, ∃ s n, build a = .ok s n) ∧
      build c = o ∧ ∀ s n, o ≠ .ok s n := by
  revert h
  fun_induction loadAll build cs
  case case3 c cs s n hb e he ih =>
    rintro ⟨⟩
    obtain ⟨pre, c', post, hcs, hpre, hc', hno⟩ := ih he
    refine ⟨c :: pre, c', post, by rw [hcs]; rfl, ?_, hc', hno⟩
    intro a ha
    rcases List.mem_cons.mp ha with rfl | ha
    · exact ⟨s, n, hb⟩
    · exact hpre a ha
  case case4 c cs hne =>
    rintro ⟨⟩
    exact ⟨[], c, cs, rfl, by simp, rfl, fun s n hsn => hne s n hsn⟩
  all_goals exact nofun

/-- **C05.T3 (whole graph)** if no constant of the graph panics, a failing load fails with a
`LoadError`. -/
theorem c05_loadAll_error_is_err {α : Type} (build : α → Outcome) (cs : List α)
    (hnp : ∀ a ∈ cs, build a ≠ .panic) {o : Outcome} (h : loadAll build cs = .error o) :
    ∃ e, o = .err e := by
  obtain ⟨pre, c, post, hcs, _, hc, hno⟩ := c05_loadAll_first_error build cs h
  have hmem : c ∈ cs := by rw [hcs]; simp
  cases ho : o with
  | ok s n => exact absurd ho (hno s n)
  | err e => exact ⟨e, rfl⟩
  | panic => exact absurd (hc.trans ho) (hnp c hmem)

/-- **C05.T2 (whole graph)** a successful load yields one constant per node, each of them
accepted by `build`. -/
theorem c05_loadAll_ok {α : Type} (build : α → Outcome) (cs : List α)
    {rs : List (List Nat × Nat)} (h : loadAll build cs = .ok rs) :
    rs.length = cs.length ∧ ∀ r ∈ rs, ∃ a ∈ cs, build a = .ok r.1 r.2 := by
  revert rs
  fun_induction loadAll build cs
  case case1 => rintro _ ⟨⟩; exact ⟨rfl, nofun⟩
  case case2 c cs s n hb rest hrest ih =>
    rintro _ ⟨⟩
    obtain ⟨hl, hall⟩ := ih hrest
    refine ⟨by simp [hl], fun r hr => ?_⟩
    rcases List.mem_cons.mp hr with rfl | hr
    · exact ⟨c, List.mem_cons_self .., hb⟩
    · obtain ⟨a, ha, hba⟩ := hall r hr
      exact ⟨a, List.mem_cons_of_mem _ ha, hba⟩
  all_goals exact nofun

/-- **C05.T2 (.rten, whole graph)** every constant of a graph whose constants all loaded is
`WellFormed`: product of its dims = element count of its data ≤ `isize::MAX`, every valid index
in bounds. -/
theorem c05_rten_graph (ovf : Bool) (f : RtenFile) (cs : List RtenConst)
    {rs : List (List Nat × Nat)} (h : loadAll (addGraphConstant ovf f) cs = .ok rs) :
    ∀ r ∈ rs, WellFormed r.1 r.2 := by
  intro r hr
  obtain ⟨a, _, ha⟩ := (c05_loadAll_ok _ cs h).2 r hr
  exact (c05_T2_rten ovf f a ha).2.1

/-- **C05.T3 (.rten, whole graph)** a `.rten` graph whose inline vectors lie inside the file
(`InFile`) never panics while its constants are built: a load that fails fails with a
`LoadError`. -/
theorem c05_rten_graph_no_panic (ovf : Bool) (f : RtenFile) (cs : List RtenConst)
    (hfb : ∀ c ∈ cs, InFile f c) {o : Outcome}
    (h : loadAll (addGraphConstant ovf f) cs = .error o) : ∃ e, o = .err e :=
  c05_loadAll_error_is_err _ cs (fun a ha => c05_T3_rten_no_panic ovf f a (hfb a ha)) h

/-- A constant-producing item of an ONNX graph. -/
inductive OnnxItem where
  | init (t : OnnxInit)                              -- `graph.initializer`
  | constNode (outputs : Nat) (attrs : List ConstAttr) -- a `Constant` operator node
  | attrInput (n : Option U)                         -- attribute promoted to an operator input
  deriving DecidableEq, Repr

def buildItem (ovf : Bool) : OnnxItem → Outcome
  | .init t => loadConstant ovf t
  | .constNode o attrs => constOp ovf o attrs
  | .attrInput n => attrConstant ovf n

/-- The element counts of the `Constant` node's list attributes are lengths of `Vec`s (at most
`isize::MAX`); a `value` tensor goes through `load_constant`, hence `ExtFits`. -/
def AttrLensFit : ConstAttr → Prop
  | .valueInts n | .valueFloats n => n.toNat ≤ isizeMax
  | .value t => ExtFits t.ext
  | _ => True

theorem constAttr_spec (ovf : Bool) (a : ConstAttr) (ha : AttrLensFit a) :
    constAttr ovf a ≠ .panic ∧ ∀ s n, constAttr ovf a = .ok s n → WellFormed s n := by
  cases a with
  | value t =>
    exact ⟨c05_T3_onnx_no_panic ovf t ha, fun s n h =>
      let ⟨_, _, _, _, _, _, _, _, wf⟩ := loadConstant_ok (ovf := ovf) (c := t) h; wf⟩
  | valueInt | valueFloat =>
    simp only [constAttr, fromDataG_scalar]
    exact Outcome.ok_spec wf_scalar
  | valueInts k | valueFloats k =>
    have hk : k.toNat ≤ isizeMax := ha
    simp only [constAttr, fromDataG_vec ovf k hk]
    exact Outcome.ok_spec (wf_vec k hk)
  | valueNoTensor | unnamed | other => exact Outcome.err_spec

theorem constOpGo_spec (ovf : Bool) (attrs : List ConstAttr) (cur : Option (List Nat × Nat))
    (ha : ∀ a ∈ attrs, AttrLensFit a) (hcur : ∀ s n, cur = some (s, n) → WellFormed s n) :
    constOpGo ovf attrs cur ≠ .panic ∧
    ∀ s n, constOpGo ovf attrs cur = .ok s n → WellFormed s n := by
  fun_induction constOpGo ovf attrs cur
  case case2 => exact Outcome.ok_spec (hcur _ _ rfl)
  case case3 as cur ih => exact ih (fun x hx => ha x (List.mem_cons_of_mem _ hx)) hcur
  -- the first value attribute that builds a constant: the loop goes on with it as `cur`
  case case5 a as cur _ s n hc _ ih =>
    exact ih (fun x hx => ha x (List.mem_cons_of_mem _ hx)) fun s' n' h => by
      cases h; exact (constAttr_spec ovf a (ha a (List.mem_cons_self ..))).2 s n hc
  -- an attribute whose outcome is not `.ok`: that outcome is the node's
  case case6 a as cur _ _ => exact constAttr_spec ovf a (ha a (List.mem_cons_self ..))
  all_goals exact Outcome.err_spec

/-- **C05.T2/T3 (`Constant` node)** a `Constant` node whose attributes satisfy `AttrLensFit` —
`value` (→ `load_constant`), `value_int(s)` / `value_float(s)` (infallible `Tensor::from_data`,
shape taken from the data itself), several / no / unsupported value attributes — never panics,
and the constant it yields is well formed. -/
theorem c05_constop (ovf : Bool) (outputs : Nat) (attrs : List ConstAttr)
    (ha : ∀ a ∈ attrs, AttrLensFit a) :
    constOp ovf outputs attrs ≠ .panic ∧
    ∀ s n, constOp ovf outputs attrs = .ok s n → WellFormed s n := by
  unfold constOp
  split
  · exact Outcome.err_spec
  · exact constOpGo_spec ovf attrs none ha (fun s n h => by cases h)

/-- **C05.T2/T3 (promoted attribute)** an attribute promoted to an operator input
(`constant_from_attr_value`) builds a scalar or, from a `Vec` (length at most `isize::MAX`), a
vector whose shape is its own length: it cannot panic, and is well formed. -/
theorem c05_attr_constant (ovf : Bool) (n : Option U) (hn : ∀ k, n = some k → k.toNat ≤ isizeMax) :
    attrConstant ovf n ≠ .panic ∧ ∀ s m, attrConstant ovf n = .ok s m →
      WellFormed s m ∧ s = (match n with | none => [] | some k => [k.toNat]) := by
  cases n with
  | none =>
    simp only [attrConstant, fromDataG_scalar]
    exact Outcome.ok_spec ⟨wf_scalar, rfl⟩
  | some k =>
    simp only [attrConstant, fromDataG_vec ovf k (hn k rfl)]
    exact Outcome.ok_spec ⟨wf_vec k (hn k rfl), rfl⟩

/-- The `Vec`-length hypothesis is what keeps `from_data(&[n], data)` from panicking: a
(physically impossible) vector of `2^63` elements would exceed the tensor size limit. -/
example : fromDataG false [9223372036854775808] 9223372036854775808 = .panic := by decide
example : constOp false 1 [.valueInts 3] = .ok [3] 3 ∧ constOp true 1 [.valueFloat] = .ok [] 1 ∧
    constOp false 1 [.valueInts 0, .valueFloat] = .err .opinvalid ∧
    constOp false 1 [] = .err .opinvalid ∧ constOp false 2 [.valueInt] = .err .opinvalid ∧
    constOp false 1 [.unnamed, .value ⟨[-1], .float, none, .none, ⟨0, 0, 0, 0⟩⟩] = .err .shape := by
  decide

def ItemFits : OnnxItem → Prop
  | .init t => (∀ d ∈ t.dims, d < 2 ^ 63) ∧ ExtFits t.ext
  | .constNode _ attrs => ∀ a ∈ attrs, AttrLensFit a
  | .attrInput n => ∀ k, n = some k → k.toNat ≤ isizeMax

theorem buildItem_spec (ovf : Bool) (it : OnnxItem) (hf : ItemFits it) :
    buildItem ovf it ≠ .panic ∧ ∀ s n, buildItem ovf it = .ok s n → WellFormed s n := by
  cases it with
  | init t =>
    exact ⟨c05_T3_onnx_no_panic ovf t hf.2, fun s n h => (c05_T2_onnx ovf t hf.1 hf.2 h).2.2.1⟩
  | constNode o attrs => exact c05_constop ovf o attrs hf
  | attrInput k =>
    obtain ⟨h1, h2⟩ := c05_attr_constant ovf k hf
    exact ⟨h1, fun s n h => (h2 s n h).1⟩

/-- **C05.T2/T3 (ONNX, whole graph)** the constants of an ONNX graph — initializers, `Constant`
nodes of every flavour and attributes promoted to inputs, each under `ItemFits` (`i64` dims,
`ExtFits`, `Vec` lengths): building them in order never panics (a load that fails fails with a
`LoadError`), and on success every constant is well formed. -/
theorem c05_onnx_graph (ovf : Bool) (items : List OnnxItem) (hf : ∀ it ∈ items, ItemFits it) :
    (∀ o, loadAll (buildItem ovf) items = .error o → ∃ e, o = .err e) ∧
    (∀ rs, loadAll (buildItem ovf) items = .ok rs → ∀ r ∈ rs, WellFormed r.1 r.2) := by
  refine ⟨fun o h => c05_loadAll_error_is_err _ items
      (fun a ha => (buildItem_spec ovf a (hf a ha)).1) h, fun rs h r hr => ?_⟩
  obtain ⟨a, ha, hba⟩ := (c05_loadAll_ok _ items h).2 r hr
  exact (buildItem_spec ovf a (hf a ha)).2 _ _ hba

/-- **C05.T3 (ONNX) negative dims** are always rejected with the "invalid shape" error, before
any data is looked at. -/
theorem c05_onnx_negative_dim_rejected (ovf : Bool) (c : OnnxInit) (h : ∃ d ∈ c.dims, d < 0) :
    loadConstant ovf c = .err .shape := by
  unfold loadConstant
  rw [onnxShape_none_iff_neg.mpr h]

/-- **C05.T2 (.rten), converse: the range check is complete**: a stored constant of a supported
element type (in a file with a tensor data segment) whose bytes would end past the
end of the file — in particular whenever `tensor_data_offset + data_offset + size *
product(dims)` does not fit in 64 bits — is rejected with "invalid tensor data offset" by
`add_graph_constant`; nothing wraps into range. -/
theorem c05_rten_out_of_file_rejected (ovf : Bool) (f : RtenFile) (dims : List U) (ty : RType)
    (dataOffset tdo : U) (hty : ty ≠ .other) (htdo : f.tensorDataOffset = some tdo)
    (h : f.storageLen.toNat <
      tdo.toNat + dataOffset.toNat + prod (M.toNs dims) * ty.size.toNat) :
    addGraphConstant ovf f ⟨dims, ty, .stored dataOffset⟩ = .err .offset := by
  unfold addGraphConstant
  simp only [htdo, hty, if_false]
  split
  · rfl
  · next offset hoff =>
    have := checkedAdd_some hoff
    rw [fromStorageOffset_eq ovf RType.size_cases]
    split
    · rfl
    · next n hn =>
      rw [← (checkedProd_one_eq hn).2] at h
      rw [if_neg (by omega)]

/-- Non-vacuity: `2^64` one-byte elements at offset 400 + 5 of a 408-byte file. -/
example : addGraphConstant false ⟨some 400, 408⟩ ⟨[65536, 65536, 65536, 65536], .u8, .stored 5⟩ =
    .err .offset := by decide

/-- **C05.T3 was false (1)** before rten's fix 19947b6: an inline f32 constant with shape `[3]`
and two elements made `ArcTensorView::from_data` panic inside `Model::load` (harness request
`rtenold rel inline f32 3 n=2`). -/
theorem c05_T3_old_inline_false :
    Old.addGraphConstant false ⟨none, 0⟩ ⟨[3], .f32, .inline 2 0⟩ = .panic ∧
    Old.addGraphConstant true ⟨none, 0⟩ ⟨[3], .f32, .inline 2 0⟩ = .panic := by decide

/-- **C05.T3 was false (2)** before rten's fix b1f97f0: stored constants whose dims multiply past
the address space.
`[65536, 65536, 65536, 65536]` (u8): the element count wraps to 0, the empty byte range is in
bounds, `from_data` rejects the shape → panic (release); with overflow checks
`iter().product()` panics.  `[2^31, 2^31]` (i32): the element count `2^62` is fine but
`* size_of::<i32>()` wraps to 0 → `from_data` panics on `0 ≠ 2^62`.
`[2^32-1, 2^32-1, 2^32-1, 0]` (i8): empty, but the non-zero dims multiply past `isize::MAX`,
which `from_data` rejects → panic. -/
theorem c05_T3_old_stored_false :
    Old.addGraphConstant false ⟨some 400, 408⟩ ⟨[65536, 65536, 65536, 65536], .u8, .stored 5⟩ = .panic ∧
    Old.addGraphConstant true ⟨some 400, 408⟩ ⟨[65536, 65536, 65536, 65536], .u8, .stored 5⟩ = .panic ∧
    Old.addGraphConstant false ⟨some 392, 420⟩ ⟨[2147483648, 2147483648], .i32, .stored 0⟩ = .panic ∧
    Old.addGraphConstant false ⟨some 400, 401⟩
      ⟨[4294967295, 4294967295, 4294967295, 0], .i8, .stored 0⟩ = .panic := by decide

/-- **C05.T3 was false (3)** before rten's fix b1f97f0: with overflow checks `offset + byte_len`
itself panicked. -/
theorem c05_T3_old_offset_add_false :
    Old.fromStorageOffset true 1 [4294967295, 4294967295] 18446744073709551615 100 = .panic ∧
    Old.fromStorageOffset false 1 [4294967295, 4294967295] 18446744073709551615 100 = .err .offset := by
  decide

/-- **C05.T3** the fixed code answers the constants of the three witnesses above with a
`LoadError` (the inline one in a 100-byte file: the old model does not look at the file length,
the fixed one needs `InFile`). -/
theorem c05_T3_fixed_rejects_witnesses :
    addGraphConstant true ⟨none, 100⟩ ⟨[3], .f32, .inline 2 0⟩ = .err .mismatch ∧
    addGraphConstant true ⟨some 400, 408⟩ ⟨[65536, 65536, 65536, 65536], .u8, .stored 5⟩ = .err .offset ∧
    addGraphConstant false ⟨some 392, 420⟩ ⟨[2147483648, 2147483648], .i32, .stored 0⟩ = .err .offset ∧
    addGraphConstant true ⟨some 400, 401⟩
      ⟨[4294967295, 4294967295, 4294967295, 0], .i8, .stored 0⟩ = .err .offset ∧
    addGraphConstant true ⟨some 400, 401⟩
      ⟨[0, 4294967295, 4294967295, 4294967295], .i8, .stored 0⟩ = .err .mismatch ∧
    fromStorageOffset true 1 [4294967295, 4294967295] 18446744073709551615 100 = .err .offset := by
  decide

/-- **C05.T2 already held before the C05 fixes** (partial statement: T2 without T3): whatever the
old code accepted was well formed and inside the file, because `from_data` (after the C06 fix)
compares the ideal element count with the slice that `get(offset..end)` really returned. -/
theorem c05_T2_rten_old (ovf : Bool) (f : RtenFile) (c : RtenConst) {shape : List Nat} {len : Nat}
    (h : Old.addGraphConstant ovf f c = .ok shape len) :
    shape = M.toNs c.dims ∧ WellFormed shape len ∧ RBacked f c len := by
  revert h
  unfold RBacked
  fun_cases Old.addGraphConstant ovf f c
  case case4 dataOffset hd tdo htdo off hoff _ =>
    rw [hd]
    fun_cases Old.fromStorageOffset ovf c.ty.size c.dims off f.storageLen
    case case4 n _ byteLen _ stop _ hle =>
      -- the element count is derived from the slice `get(offset..stop)` really returned
      intro h
      obtain ⟨e1, e2, wf⟩ := fromData_ok h
      refine ⟨e1, wf, ⟨tdo, htdo, ?_⟩⟩
      have a3 := div_mul_le_toNat (stop - off) c.ty.size
      have a4 := UInt64.toNat_sub_of_le stop off hle.1
      have h1 := hle.1
      have h2 := hle.2
      rw [UInt64.le_iff_toNat_le] at h1 h2
      have := checkedAdd_some hoff
      show _ + len * c.ty.size.toNat ≤ _
      rw [e2]
      omega
    all_goals exact nofun
  case case6 n start hd _ =>
    rw [hd]
    intro h
    obtain ⟨e1, e2, wf⟩ := fromData_ok h
    exact ⟨e1, wf, e2⟩
  all_goals exact nofun

/-- **C05: the fix is conservative (stored constants)**: wherever the old release-build
`constant_data_from_storage_offset` did not panic, the fixed one returns exactly the same outcome
in either build mode — the same constant or the same error. -/
theorem c05_fix_conservative_stored (size : U) (shape : List U) (offset slen : U)
    (hs : size = 1 ∨ size = 4)
    (h : Old.fromStorageOffset false size shape offset slen ≠ .panic) (ovf : Bool) :
    fromStorageOffset ovf size shape offset slen =
      Old.fromStorageOffset false size shape offset slen := by
  have hI : isizeMax = 9223372036854775807 := rfl
  have hpos : 0 < size.toNat := by rcases hs with rfl | rfl <;> decide
  have addN : ∀ a b : U, (a + b).toNat = (a.toNat + b.toNat) % 18446744073709551616 := M.add_toNat
  have mulN : ∀ a b : U, (a * b).toNat = a.toNat * b.toNat % 18446744073709551616 := M.mul_toNat
  have ltN : ∀ a : U, a.toNat < 18446744073709551616 := M.toNat_lt_W
  unfold Old.fromStorageOffset at h ⊢
  rw [prodMode_false] at h ⊢
  simp only [mulMode, addMode, Bool.false_eq_true, false_and, if_false, UInt64.one_mul] at h ⊢
  generalize hn : M.prod shape = n at h ⊢
  -- the old range test, over `Nat`
  have hrange : (offset ≤ offset + n * size ∧ offset + n * size ≤ slen) ↔
      (offset.toNat + (n * size).toNat ≤ slen.toNat) := by
    have := ltN offset; have := ltN (n * size); have := ltN slen
    rw [UInt64.le_iff_toNat_le, UInt64.le_iff_toNat_le, addN]
    omega
  by_cases hr : offset ≤ offset + n * size ∧ offset + n * size ≤ slen
  · -- old is in range: `from_data` did not panic, so the shape is accepted and its ideal
    -- element count is `n`; then `n * size` cannot have wrapped
    simp only [hr, and_self, if_true] at h ⊢
    rw [UInt64.add_comm, UInt64.add_sub_cancel] at h ⊢
    unfold fromData at h ⊢
    cases hm : M.tryFromData shape (n * size / size) with
    | error e => rw [hm] at h; exact absurd rfl h
    | ok l =>
      have wf := M_tryFromData_ok hm
      have hfit : prodNZ (M.toNs shape) ≤ isizeMax := by
        have := wf.accepted.shape_fits
        rwa [shapeOf_contigDims] at this
      have hle := prod_le_prodNZ (M.toNs shape)
      obtain ⟨n', hn'⟩ := checkedProd_of_prodNZ shape 1 (by
        rw [show (1 : U).toNat = 1 from rfl, Nat.one_mul]; show _ < 18446744073709551616; omega)
      obtain ⟨e1, e2⟩ := checkedProd_one_eq hn'
      rw [hn] at e1
      subst e1
      have hP : prod (M.toNs shape) = (n' * size / size).toNat := wf.len_eq
      rw [UInt64.toNat_div, mulN, ← e2] at hP
      have hmul : n'.toNat * size.toNat < 18446744073709551616 := by
        rcases hs with rfl | rfl
        · rw [show (1 : U).toNat = 1 from rfl] at hP ⊢; omega
        · rw [show (4 : U).toNat = 4 from rfl] at hP ⊢; omega
      have hadd := hrange.mp hr
      rw [M.mul_toNat_of_lt hmul] at hadd
      rw [fromStorageOffset_eq ovf hs, hn', mul_div_cancel_of_lt hmul hpos] at *
      simp only [hadd, if_true, tryFromData, hm]
  · -- old: "invalid tensor data offset"; a successful checked chain would be in range
    simp only [hr, if_false] at h ⊢
    rw [fromStorageOffset_eq ovf hs]
    split
    · rfl
    · next n' hn' =>
      split
      · next hfit =>
        obtain ⟨e1, _⟩ := checkedProd_one_eq hn'
        rw [hn] at e1
        subst e1
        have := ltN slen
        exact absurd (hrange.mpr (by rw [mulN, Nat.mod_eq_of_lt (by omega)]; exact hfit)) hr
      · rfl

/-- **C05: the fix is conservative (whole `add_graph_constant`)**: on every constant whose inline
vector lies inside the file (`InFile`: the old model has no `expect` branch to compare with) and
for which the old release-build loader did not panic, the fixed loader answers identically in
either build mode. -/
theorem c05_fix_conservative (ovf : Bool) (f : RtenFile) (c : RtenConst) (hfb : InFile f c)
    (h : Old.addGraphConstant false f c ≠ .panic) :
    addGraphConstant ovf f c = Old.addGraphConstant false f c := by
  revert h
  unfold InFile at hfb
  -- the fixes left everything in front of the two builders as it was
  fun_cases Old.addGraphConstant false f c
  case case4 off hd tdo htdo o hoff hty =>
    intro h
    simp only [addGraphConstant, hd, htdo, hoff, hty, if_false]
    exact c05_fix_conservative_stored _ _ _ _ RType.size_cases h ovf
  case case6 n start hd hty =>
    intro h
    rw [hd] at hfb
    simp only [addGraphConstant, hd, hty, if_false, inlineCount_spec _ _ _ _ hfb, finish,
      tryFromDataG_eq]
    exact tryFromData_eq_fromData h
  case case1 off hd htdo =>
    intro _
    simp only [addGraphConstant, hd, htdo]
  case case2 off hd tdo htdo hoff =>
    intro _
    simp only [addGraphConstant, hd, htdo, hoff]
  case case3 off hd tdo htdo o hoff hty =>
    intro _
    simp only [addGraphConstant, hd, htdo, hoff, hty, if_true]
  case case5 n start hd hty =>
    intro _
    simp only [addGraphConstant, hd, hty, if_true]

/-- **C05: the fix keeps empty constants** an empty stored f32 constant with shape
`[2^31, 2^31, 0]` (non-zero dims multiply to `2^62 ≤ isize::MAX`, times 4 would overflow) loads
with the old and with the fixed code; a fold that starts from the element size — rten's b1f97f0,
corrected by e977171 — rejects it. -/
theorem c05_fix_keeps_empty_constants :
    addGraphConstant true ⟨some 400, 408⟩ ⟨[2147483648, 2147483648, 0], .f32, .stored 8⟩ =
      .ok [2147483648, 2147483648, 0] 0 ∧
    Old.addGraphConstant false ⟨some 400, 408⟩ ⟨[2147483648, 2147483648, 0], .f32, .stored 8⟩ =
      .ok [2147483648, 2147483648, 0] 0 ∧
    checkedProd [2147483648, 2147483648, 0] 4 = none := by decide

/-- The stored-constant path of the old loader composed with the tensor constructor from
BEFORE the C06 fix (`M.Old.tryFromData`, wrapping `min_data_len`). -/
def Old.fromStorageOffsetBeforeC06 (size : U) (shape : List U) (offset storageLen : U) : Outcome :=
  let n := M.prod shape
  let byteLen := n * size
  let stop := offset + byteLen
  if offset ≤ stop ∧ stop ≤ storageLen then
    match M.Old.tryFromData shape ((stop - offset) / size) with
    | .ok _ => .ok (M.toNs shape) ((stop - offset) / size).toNat
    | .error _ => .panic
  else .err .offset

/-- **C05.T2 was false before the C06 fix** (DESIGN.md §6, row C06/C05): dims
`[65536, 65536, 65536, 65536]` with no data were ACCEPTED — ideal element count `2^64`, zero
elements present — so index `[1, 0, 0, 0]` mapped `2^48` elements past the end of the data. -/
theorem c05_T2_before_c06_fix_false :
    Old.fromStorageOffsetBeforeC06 1 [65536, 65536, 65536, 65536] 400 400 =
      .ok [65536, 65536, 65536, 65536] 0 ∧
    prod [65536, 65536, 65536, 65536] = 18446744073709551616 ∧
    M.offsetOf (M.contigDims [65536, 65536, 65536, 65536]) [1, 0, 0, 0] = some 281474976710656 := by
  decide

end RtenVerif.LoaderConst
