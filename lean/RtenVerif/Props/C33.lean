import RtenVerif.Lemmas.Sampler

/-!
# C33 — Samplers choose only valid candidates

Property theorems over `RtenVerif.Model.Sampler` (model of `rten-generate/src/sampler.rs`).
Candidates are `(token id, score)` / `(token id, probability)` pairs in the order of
`Logits::enumerate()`; ids are arbitrary (sparse or dense logits alike).

`Rule.fixed` is the `multinomial` loop after the C33 fix (see `findings/C33.json`),
`Rule.legacy` the loop as found, for which the property is false in two regions
(`c33_T2_legacy_target_zero_false`, `c33_T2_legacy_fallback_false`).
-/
namespace RtenVerif.Sampler

/-- `ArgMax::sample` panics exactly on empty logits. -/
theorem c33_T1_argmax_total (l : List (Nat × Option Int)) : argMax l = none ↔ l = [] := by
  cases l <;> simp [argMax]

/-- **C33.T1 with NaN, exactly.**  If the *first* score is NaN the first candidate is
returned whatever the others are; otherwise NaNs are ignored: the result is a candidate with
a non-NaN score that is `≥` every non-NaN score. -/
theorem c33_T1_argmax_nan_characterised (x : Nat × Option Int) (xs : List (Nat × Option Int)) :
    (x.2 = none → argMax (x :: xs) = some x) ∧
    (∀ a, x.2 = some a → ∃ r m, argMax (x :: xs) = some r ∧ r ∈ x :: xs ∧ r.2 = some m ∧
        ∀ c ∈ x :: xs, ∀ w, c.2 = some w → w ≤ m) := by
  constructor
  · intro h; simp [argMax, foldl_nan_acc xs x h]
  · intro a hx
    obtain ⟨m, h1, h2, h3, h4⟩ := foldl_spec xs x a hx
    refine ⟨_, m, rfl, ?_, h1, ?_⟩
    · rcases h3 with h3 | h3
      · rw [h3]; exact List.mem_cons_self
      · exact List.mem_cons_of_mem _ h3
    · intro c hc w hw
      rcases List.mem_cons.mp hc with rfl | hc
      · rw [hx] at hw; cases hw; exact h2
      · exact h4 c hc w hw

/-- **C33.T1** NaN-free scores: the returned pair is one of the candidates and its score is
`≥` every candidate's score — for all non-empty candidate lists (ties, −∞, singletons,
arbitrary ids included). -/
theorem c33_T1_argmax_maximal (l : List (Nat × Option Int)) (hne : l ≠ [])
    (hnan : ∀ c ∈ l, c.2 ≠ none) :
    ∃ k m, argMax l = some (k, some m) ∧ (k, some m) ∈ l ∧
      ∀ c ∈ l, ∀ w, c.2 = some w → w ≤ m := by
  cases l with
  | nil => exact absurd rfl hne
  | cons x xs =>
    cases hx : x.2 with
    | none => exact absurd hx (hnan x List.mem_cons_self)
    | some a =>
      obtain ⟨r, m, hr, hmem, hrm, hmax⟩ := (c33_T1_argmax_nan_characterised x xs).2 a hx
      exact ⟨r.1, m, by rw [hr, ← hrm], by rw [← hrm]; exact hmem, hmax⟩

/-- With a leading NaN the maximality statement is false: `[NaN, 3]` returns id 0. -/
theorem c33_T1_argmax_nan_false :
    ¬ ∀ (l : List (Nat × Option Int)) (r : Nat × Option Int), argMax l = some r →
        ∀ c ∈ l, ∀ w, c.2 = some w → ∃ m, r.2 = some m ∧ w ≤ m := by
  intro h
  have := h [(0, none), (1, some 3)] (0, none) (by decide) (1, some 3) (by decide) 3 rfl
  obtain ⟨m, hm, _⟩ := this
  cases hm

/-- Non-vacuity / ties: first maximum wins; −∞ (a very small score) never wins over a number;
sparse ids are passed through. -/
example : argMax [(7, some 1), (3, some 5), (9, some 5), (2, some (-1000))] = some (3, some 5) ∧
    argMax [(4, some (-1000)), (8, some (-1000))] = some (4, some (-1000)) ∧
    argMax [(5, some 2)] = some (5, some 2) ∧
    argMax [(0, some 1), (1, none), (2, some 4)] = some (2, some 4) := by decide

/-- **C33.T2 (current code)** For every draw `target ≥ 0`, every list of non-negative
probabilities with at least one positive entry, and every addition used for the running sum
that satisfies `add c 0 = c` (exact addition, IEEE round-to-nearest addition, …):
`Multinomial::sample` returns one of the candidates and its probability is `> 0`. -/
theorem c33_T2_sample_positive (add : Int → Int → Int) (hadd : ∀ c, add c 0 = c)
    (target : Int) (cands : List (Nat × Int)) (ht : 0 ≤ target)
    (hnn : ∀ c ∈ cands, 0 ≤ c.2) (hpos : ∃ c ∈ cands, 0 < c.2) :
    ∃ r, sample .fixed add target cands = some r ∧ r ∈ cands ∧ 0 < r.2 := by
  cases cands with
  | nil => obtain ⟨c, hc, _⟩ := hpos; simp at hc
  | cons c0 cs =>
    simp only [sample, multinomial, mnLoop_fixed_eq]
    cases hf : firstExceed add target 0 (c0 :: cs) with
    | some c =>
      -- found by the walk: not of probability 0, hence positive
      obtain ⟨hmem, hz⟩ := firstExceed_ne_zero add hadd target _ 0 (by omega) c hf
      exact ⟨c, rfl, hmem, by have := hnn c hmem; omega⟩
    | none =>
      rcases lastPosFrom_spec (c0 :: cs) none with ⟨pre, c, post, hs, hc, _, hres⟩ | ⟨hnone, _⟩
      · exact ⟨c, by simp [hres], by rw [hs]; simp, hc⟩
      · obtain ⟨c, hc, h0⟩ := hpos
        exact absurd h0 (hnone c hc)

/-- **C33.T2 for the code as found (partial)**: exact arithmetic and `0 < target ≤ Σ probs`
— the two excluded regions are the negation witnesses below. -/
theorem c33_T2_legacy_partial (target : Int) (cands : List (Nat × Int))
    (ht : 0 < target) (hsum : target ≤ sumProbs cands) (hnn : ∀ c ∈ cands, 0 ≤ c.2) :
    ∃ r, sample .legacy (· + ·) target cands = some r ∧ r ∈ cands ∧ 0 < r.2 := by
  cases cands with
  | nil => simp [sumProbs] at hsum; omega
  | cons c0 cs =>
    simp only [sample, multinomial, mnLoop_legacy_eq]
    cases hf : firstExceed (· + ·) (target - 1) 0 (c0 :: cs) with
    | none =>
      have := firstExceed_none_all hf (List.cons_ne_nil _ _)
      rw [runSum_exact] at this
      omega
    | some c =>
      obtain ⟨hmem, hz⟩ := firstExceed_ne_zero (· + ·) (by simp) _ _ 0 (by omega) c hf
      exact ⟨c, rfl, hmem, by have := hnn c hmem; omega⟩

/-- Code as found, any rounding addition with `add c 0 = c`: a candidate *returned by the
loop* for a draw `> 0` never has probability zero (the fallback is what goes wrong). -/
theorem c33_T2_legacy_loop_partial (add : Int → Int → Int) (hadd : ∀ c, add c 0 = c)
    (target : Int) (cands : List (Nat × Int)) (ht : 0 < target) (r : Nat × Int)
    (hr : multinomial .legacy add target cands = some r) : r ∈ cands ∧ r.2 ≠ 0 := by
  rw [multinomial, mnLoop_legacy_eq] at hr
  exact firstExceed_ne_zero add hadd (target - 1) cands 0 (by omega) r hr

/-- **Excluded region 1 (code as found)**: `target = 0` (`rng.f32()` returns `0.0` with
probability 2⁻²³) and a leading zero-probability candidate (e.g. logits `[-inf, 0]`):
the zero-probability candidate is returned. -/
theorem c33_T2_legacy_target_zero_false :
    ¬ ∀ (target : Int) (cands : List (Nat × Int)), 0 ≤ target → target ≤ sumProbs cands →
        (∀ c ∈ cands, 0 ≤ c.2) → ∀ r, sample .legacy (· + ·) target cands = some r → 0 < r.2 := by
  intro h
  have := h 0 [(0, 0), (1, 1)] (by decide) (by decide) (by decide) (0, 0) (by decide)
  revert this; decide

/-- **Excluded region 2 (code as found)**: the running sum ends below the draw — with exact
addition when `target > Σ probs`, with a rounding addition even when `target ≤ Σ probs`
(`add` below absorbs small terms once the sum has reached 2) — and `unwrap_or(0)` returns
the first candidate although its probability is zero. -/
theorem c33_T2_legacy_fallback_false :
    sample .legacy (· + ·) 2 [(0, 0), (1, 1)] = some (0, 0) ∧
    (let add : Int → Int → Int := fun c p => if 2 ≤ c then c else c + p
     (∀ c, add c 0 = c) ∧ (3 : Int) ≤ sumProbs [(0, 0), (1, 2), (2, 1)] ∧
     sample .legacy add 3 [(0, 0), (1, 2), (2, 1)] = some (0, 0)) := by
  refine ⟨by decide, ?_, by decide, by decide⟩
  intro c; by_cases h : 2 ≤ c <;> simp [h]

/-- The same inputs on the current code. -/
example :
    sample .fixed (· + ·) 0 [(0, 0), (1, 1)] = some (1, 1) ∧
    sample .fixed (· + ·) 2 [(0, 0), (1, 1)] = some (1, 1) ∧
    sample .fixed (fun c p => if 2 ≤ c then c else c + p) 3 [(0, 0), (1, 2), (2, 1)]
      = some (2, 1) := by decide

/-- Non-vacuity of `c33_T2_sample_positive` / `c33_T2_legacy_partial`: a sparse candidate
set with zero-probability entries (probabilities on the scale 1/8). -/
example : (0 : Int) ≤ 5 ∧ (5 : Int) ≤ sumProbs [(10, 0), (42, 3), (7, 0), (99, 5)] ∧
    (∀ c ∈ [((10 : Nat), (0 : Int)), (42, 3), (7, 0), (99, 5)], 0 ≤ c.2) ∧
    sample .fixed (· + ·) 5 [(10, 0), (42, 3), (7, 0), (99, 5)] = some (99, 5) ∧
    sample .legacy (· + ·) 3 [(10, 0), (42, 3), (7, 0), (99, 5)] = some (42, 3) := by decide

/-- **C33.T5a** The walk of the current code, for every draw, probability list and addition:
it returns the first candidate whose cumulative sum exceeds the draw `r`, and — the
off-the-end case, when no cumulative sum exceeds `r` because rounding left the total `≤ r` —
the last candidate with probability `> 0` (`none`, i.e. index 0 after `unwrap_or`, only if
there is no such candidate). -/
theorem c33_T5_walk_characterised (add : Int → Int → Int) (r : Int) (cands : List (Nat × Int)) :
    multinomial .fixed add r cands =
      match firstExceed add r 0 cands with
      | some c => some c
      | none => lastPos cands := by
  simp only [multinomial, lastPos]
  exact mnLoop_fixed_eq add r cands 0 none

/-- **C33.T5b** "First index whose cumulative sum exceeds `r`": the candidate found splits the
list so that the running sum through it exceeds `r` and no shorter non-empty prefix's does;
nothing is found iff no prefix's running sum exceeds `r`. -/
theorem c33_T5_first_exceeding (add : Int → Int → Int) (r : Int) (cands : List (Nat × Int)) :
    (∀ c, firstExceed add r 0 cands = some c →
      ∃ pre post, cands = pre ++ c :: post ∧ r < runSum add 0 (pre ++ [c]) ∧
        ∀ n, 0 < n → n ≤ pre.length → ¬ r < runSum add 0 (pre.take n)) ∧
    (firstExceed add r 0 cands = none →
      ∀ n, 0 < n → n ≤ cands.length → ¬ r < runSum add 0 (cands.take n)) :=
  ⟨fun c h => firstExceed_some add r cands 0 c h, firstExceed_none add r cands 0⟩

/-- **C33.T5c** Off the end: the fallback is the *last* candidate with probability `> 0`
(everything after it has probability `≤ 0`), or nothing when no candidate is positive. -/
theorem c33_T5_off_the_end (cands : List (Nat × Int)) :
    (∃ pre c post, cands = pre ++ c :: post ∧ 0 < c.2 ∧ (∀ d ∈ post, ¬ 0 < d.2) ∧
        lastPos cands = some c) ∨
    ((∀ d ∈ cands, ¬ 0 < d.2) ∧ lastPos cands = none) :=
  lastPosFrom_spec cands none

/-- **C33.T5d** If the running total exceeds the draw (e.g. `r < 1 ≤` total) the walk never
falls off the end. -/
theorem c33_T5_no_fall_through (add : Int → Int → Int) (r : Int) (hr : 0 ≤ r)
    (cands : List (Nat × Int)) (h : r < runSum add 0 cands) :
    (firstExceed add r 0 cands).isSome = true := by
  cases hf : firstExceed add r 0 cands with
  | some c => rfl
  | none =>
    by_cases hne : cands = []
    · subst hne; simp [runSum] at h; omega
    · exact absurd h (firstExceed_none_all hf hne)

/-- The two regions on concrete data (probabilities in 1/8): an interior draw stops at the
first exceeding index; with the absorbing addition of `c33_T2_legacy_fallback_false` the total
stays at 2 < 3 ≤ exact sum and the walk ends on the last positive candidate, skipping the
zero-probability tail. -/
example :
    multinomial .fixed (· + ·) 4 [(10, 0), (42, 3), (7, 0), (99, 5)] = some (99, 5) ∧
    firstExceed (· + ·) 2 0 [(10, 0), (42, 3), (7, 0), (99, 5)] = some (42, 3) ∧
    (let add : Int → Int → Int := fun c p => if 2 ≤ c then c else c + p
     firstExceed add 3 0 [(0, 0), (1, 2), (2, 1), (3, 0)] = none ∧
     lastPos [(0, 0), (1, 2), (2, 1), (3, 0)] = some (2, 1) ∧
     multinomial .fixed add 3 [(0, 0), (1, 2), (2, 1), (3, 0)] = some (2, 1)) := by decide

/-- **C33.T4a** For ANY probability vector satisfying the checked softmax facts that are
needed here — non-negative, probability 0 for excluded (−∞) logits — and with some positive
entry, `Multinomial::sample` (current code, any draw `≥ 0`, any addition with `add c 0 = c`)
returns the id of a candidate whose logit is not excluded. -/
theorem c33_T4_sample_not_excluded (add : Int → Int → Int) (hadd : ∀ c, add c 0 = c)
    (r : Int) (hr : 0 ≤ r) (cs : List (Nat × Option Int × Int)) (one tol : Int)
    (hf : SoftmaxFacts cs one tol) (hpos : ∃ c ∈ cs, 0 < c.2.2) :
    ∃ c ∈ cs, sample .fixed add r (cs.map (fun c => (c.1, c.2.2))) = some (c.1, c.2.2) ∧
      0 < c.2.2 ∧ c.2.1 ≠ none := by
  have hnn : ∀ d ∈ cs.map (fun c => (c.1, c.2.2)), 0 ≤ d.2 := by
    intro d hd
    obtain ⟨c, hc, rfl⟩ := List.mem_map.mp hd
    exact hf.nonneg c hc
  have hp : ∃ d ∈ cs.map (fun c => (c.1, c.2.2)), 0 < d.2 := by
    obtain ⟨c, hc, h0⟩ := hpos
    exact ⟨(c.1, c.2.2), List.mem_map.mpr ⟨c, hc, rfl⟩, h0⟩
  obtain ⟨res, hres, hmem, h0⟩ := c33_T2_sample_positive add hadd r _ hr hnn hp
  obtain ⟨c, hc, rfl⟩ := List.mem_map.mp hmem
  refine ⟨c, hc, hres, h0, ?_⟩
  intro hnone
  have := hf.excluded c hc hnone
  simp only at h0
  omega

/-- **C33.T4b** Monotonicity is what links the two samplers: under the softmax facts, if
anything has positive probability then every candidate with a maximal (non-excluded) logit
has — so ArgMax's choice is always in Multinomial's support. -/
theorem c33_T4_max_logit_positive (cs : List (Nat × Option Int × Int)) (one tol : Int)
    (hf : SoftmaxFacts cs one tol) (hpos : ∃ c ∈ cs, 0 < c.2.2)
    (m : Nat × Option Int × Int) (hm : m ∈ cs) (b : Int) (hb : m.2.1 = some b)
    (hmax : ∀ c ∈ cs, ∀ a, c.2.1 = some a → a ≤ b) : 0 < m.2.2 := by
  obtain ⟨c, hc, h0⟩ := hpos
  cases ha : c.2.1 with
  | none => have := hf.excluded c hc ha; omega
  | some a =>
    have := hf.mono c hc m hm a b ha hb (hmax c hc a ha)
    omega

/-- Non-vacuity: a concrete vector (scale 8 = probability 1, tolerance 1) meeting the facts. -/
example : SoftmaxFacts [(10, none, 0), (42, some 3, 3), (7, some (-5), 0), (99, some 4, 5)] 8 1 :=
  softmaxFactsB_sound _ _ _ (by decide)

/-- **C33.T3** Under the hypothesis that softmax overwrites its destination without reading
it (`hdst`; the harness checks it on the real routine with a poisoned buffer, and poisons the
sampler's own scratch buffer), a sampler is a function of its RNG state only: the sequence of
sampled candidates for a sequence of inputs does not depend on what an earlier use left in
the scratch buffer.  Two samplers created with the same seed (whatever their buffers hold)
therefore produce the same sequence on the same inputs. -/
theorem c33_T3_same_seed_same_sequence {σ L : Type} (r : Rule) (add : Int → Int → Int)
    (next : σ → Int × σ) (probsOf : List Int → L → List (Nat × Int))
    (hdst : ∀ sc l, probsOf sc l = probsOf [] l) (seed : σ) (sc₁ sc₂ : List Int)
    (inputs : List L) :
    sampleSeq r add next probsOf ⟨seed, sc₁⟩ inputs = sampleSeq r add next probsOf ⟨seed, sc₂⟩ inputs := by
  induction inputs generalizing sc₁ sc₂ seed with
  | nil => rfl
  | cons l ls ih =>
    simp only [sampleSeq, sampleStep]
    rw [hdst sc₁ l, hdst sc₂ l]
    cases h : probsOf [] l with
    | nil => simp only [List.cons.injEq, true_and]; exact ih seed sc₁ sc₂
    | cons c cs => rfl

/-- **The hypothesis is needed**: a "softmax" that lets stale destination contents leak
through (here: it reuses the previous probabilities when the buffer is non-empty) makes two
samplers with the same seed disagree. -/
theorem c33_T3_stale_destination_false :
    ¬ ∀ (probsOf : List Int → List (Nat × Int) → List (Nat × Int)) (sc₁ sc₂ : List Int)
        (inputs : List (List (Nat × Int))),
        sampleSeq .fixed (· + ·) (fun (s : Nat) => ((s : Int), s + 1)) probsOf ⟨1, sc₁⟩ inputs =
        sampleSeq .fixed (· + ·) (fun (s : Nat) => ((s : Int), s + 1)) probsOf ⟨1, sc₂⟩ inputs := by
  intro h
  have := h (fun sc l => if sc.isEmpty then l else (l.zip sc).map (fun x => (x.1.1, x.2)))
    [] [4, 0] [[(5, 1), (6, 3)]]
  revert this; decide

/-- The RNG advances once per non-empty input and not at all when the assertion fires. -/
example : sampleSeq .fixed (· + ·) (fun (s : Nat) => ((s : Int) % 4, s + 1))
    (fun _ (l : List (Nat × Int)) => l) ⟨0, []⟩
    [[(5, 1), (6, 3)], [], [(5, 1), (6, 3)], [(5, 1), (6, 3)]] =
    [some (5, 1), none, some (6, 3), some (6, 3)] := by decide

/-- **C33.T5e** With exact addition the walk falls off the end only if the draw is at least
the sum of the probabilities; under the softmax facts that is a draw within `tol` of 1.  (With
f32 addition the gap is the one between the rounded running total and 1.) -/
theorem c33_T5_off_the_end_only_in_gap (r : Int) (cs : List (Nat × Option Int × Int))
    (one tol : Int) (hf : SoftmaxFacts cs one tol) (hne : cs ≠ [])
    (hend : firstExceed (· + ·) r 0 (cs.map (fun c => (c.1, c.2.2))) = none) :
    one - tol ≤ r := by
  have := firstExceed_none_all hend (by simpa using hne)
  rw [runSum_exact] at this
  have h1 := hf.sum.1
  omega

end RtenVerif.Sampler
