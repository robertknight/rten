import RtenVerif.Props.C27
import RtenVerif.Model.PreSplit

/-!
# C27 — when is `Split` lossless?

The round-trip theorems of `Props/C27.lean` assume that the pre-tokenizer's chunks partition the
input (`Tiles chunks 0 len`: every byte covered, in order, no gaps, no overlap).  Here `Split` is
modelled over the regex match list and that hypothesis is characterised:
* `Isolate` always yields a partition;
* `invert = true`, `Remove` (what `Split::gpt2()` / `ByteLevel` use) yields a partition **iff**
  the matches cover the text without gaps (`noGaps`) — so the GPT-2 regex must match every
  character; the harness checks this on the real pre-tokenizers for chars of every category.
-/
namespace RtenVerif.PreSplit
open RtenVerif.ByteBpe (Tiles)

theorem ordered_le : ∀ (ms : List (Nat × Nat)) (last len : Nat), Ordered ms last len → last ≤ len := by
  intro ms
  induction ms with
  | nil => intro last len h; exact h
  | cons m ms ih =>
    intro last len h
    obtain ⟨s, e⟩ := m
    simp only [Ordered] at h
    have := ih e len h.2.2; omega

theorem mem_splitInvert_nil {iso : Bool} {len last : Nat} {c : Nat × Nat}
    (h : c ∈ splitInvert iso len [] last) : c = (last, len) := by
  simp only [splitInvert] at h
  split at h
  · exact List.mem_singleton.mp h
  · cases h

theorem mem_splitInvert_cons {iso : Bool} {len s e last : Nat} {ms : List (Nat × Nat)} {c : Nat × Nat}
    (h : c ∈ splitInvert iso len ((s, e) :: ms) last) :
    c = (last, s) ∨ c = (s, e) ∨ c ∈ splitInvert iso len ms e := by
  simp only [splitInvert, List.mem_append] at h
  rcases h with (h | h) | h
  · split at h
    · exact Or.inl (List.mem_singleton.mp h)
    · cases h
  · split at h
    · exact Or.inr (Or.inl (List.mem_singleton.mp h))
    · cases h
  · exact Or.inr (Or.inr h)

theorem splitInvert_ge (iso : Bool) (len : Nat) : ∀ (ms : List (Nat × Nat)) (last : Nat),
    Ordered ms last len → ∀ c ∈ splitInvert iso len ms last, last ≤ c.1 := by
  intro ms
  induction ms with
  | nil => intro last _ c hc; rw [mem_splitInvert_nil hc]; exact Nat.le_refl _
  | cons m ms ih =>
    intro last h c hc
    obtain ⟨s, e⟩ := m
    rcases mem_splitInvert_cons hc with rfl | rfl | hc
    · exact Nat.le_refl _
    · exact h.1
    · exact Nat.le_trans (Nat.le_trans h.1 h.2.1) (ih e h.2.2 c hc)

theorem split_isolate_tiles (len : Nat) : ∀ (ms : List (Nat × Nat)) (last : Nat),
    Ordered ms last len → Tiles (splitInvert true len ms last) last len := by
  intro ms
  induction ms with
  | nil =>
    intro last h
    simp only [splitInvert, Bool.true_and, decide_eq_true_eq]
    exact ByteBpe.tiles_range h
  | cons m ms ih =>
    intro last h
    obtain ⟨s, e⟩ := m
    simp only [splitInvert, Bool.true_and, decide_eq_true_eq]
    exact ByteBpe.tiles_append _ _ _ _ _
      (ByteBpe.tiles_append _ _ _ _ _ (ByteBpe.tiles_range h.1) (ByteBpe.tiles_range h.2.1))
      (ih e h.2.2)

/-- **`invert = true`, `Remove` (GPT-2 / ByteLevel) is lossless iff the matches cover the text.** -/
theorem split_remove_tiles_iff (len : Nat) : ∀ (ms : List (Nat × Nat)) (last : Nat),
    Ordered ms last len → (Tiles (splitInvert false len ms last) last len ↔ noGaps ms last len = true) := by
  intro ms
  induction ms with
  | nil =>
    intro last _
    simp [splitInvert, Tiles, noGaps]
  | cons m ms ih =>
    intro last h
    obtain ⟨s, e⟩ := m
    simp only [Ordered] at h
    obtain ⟨h1, h2, h3⟩ := h
    have hih := ih e h3
    simp only [splitInvert, Bool.false_and, Bool.false_eq_true, if_false, List.nil_append, noGaps,
      Bool.and_eq_true, beq_iff_eq]
    by_cases hb : s < e
    · simp only [hb, if_true, List.cons_append, List.nil_append, Tiles]
      constructor
      · rintro ⟨rfl, _, ht⟩; exact ⟨rfl, hih.mp ht⟩
      · rintro ⟨rfl, hn⟩; exact ⟨rfl, h2, hih.mpr hn⟩
    · have hse : s = e := by omega
      subst hse
      simp only [hb, if_false, List.nil_append]
      by_cases hl : s = last
      · subst hl
        constructor
        · intro ht; exact ⟨rfl, hih.mp ht⟩
        · rintro ⟨_, hn⟩; exact hih.mpr hn
      · constructor
        · intro ht
          exfalso
          have hlen := ordered_le ms s len h3
          cases hc : splitInvert false len ms s with
          | nil => rw [hc] at ht; simp only [Tiles] at ht; omega
          | cons c cs =>
            rw [hc] at ht
            obtain ⟨c1, c2⟩ := c
            simp only [Tiles] at ht
            have := splitInvert_ge false len ms s h3 (c1, c2) (by rw [hc]; simp)
            simp at this; omega
        · rintro ⟨hs, _⟩; exact absurd hs hl

/-- `regex.split` pieces (`invert = false`): the gaps between ordered matches are ordered too. -/
theorem gaps_ordered (len : Nat) : ∀ (ms : List (Nat × Nat)) (g last : Nat),
    Ordered ms g len → last ≤ g → Ordered (gaps len ms g) last len := by
  intro ms
  induction ms with
  | nil =>
    intro g last h hl
    simp only [Ordered] at h
    simp only [gaps, Ordered]
    exact ⟨hl, h, Nat.le_refl _⟩
  | cons m ms ih =>
    intro g last h hl
    obtain ⟨s, e⟩ := m
    simp only [Ordered] at h
    simp only [gaps, Ordered]
    exact ⟨hl, h.1, ih e s h.2.2 h.2.1⟩

/-- **`Split` with `Isolate` is lossless for both values of `invert`.** -/
theorem split_isolate_lossless (invert : Bool) (len : Nat) (ms : List (Nat × Nat))
    (h : Ordered ms 0 len) : Tiles (split invert true len ms) 0 len := by
  unfold split
  split
  · exact split_isolate_tiles len ms 0 h
  · exact split_isolate_tiles len _ 0 (gaps_ordered len ms 0 0 h (Nat.le_refl _))

/-- **`Split` with `Remove`**: lossless iff the chunk candidates (the matches for
`invert = true`, the text between the matches for `invert = false`) cover the text. -/
theorem split_remove_lossless_iff (invert : Bool) (len : Nat) (ms : List (Nat × Nat))
    (h : Ordered ms 0 len) :
    Tiles (split invert false len ms) 0 len ↔
      noGaps (if invert then ms else gaps len ms 0) 0 len = true := by
  unfold split
  cases invert with
  | true => simpa using split_remove_tiles_iff len ms 0 h
  | false =>
    simpa using split_remove_tiles_iff len _ 0 (gaps_ordered len ms 0 0 h (Nat.le_refl _))

/-- Every chunk starts at a match start, a match end, or 0 — so on a char boundary whenever the
regex matches do (chunks are `&str` slices in the code). -/
theorem splitInvert_starts (iso : Bool) (len : Nat) : ∀ (ms : List (Nat × Nat)) (last : Nat),
    ∀ c ∈ splitInvert iso len ms last, c.1 = last ∨ ∃ m ∈ ms, c.1 = m.1 ∨ c.1 = m.2 := by
  intro ms
  induction ms with
  | nil => intro last c hc; rw [mem_splitInvert_nil hc]; exact Or.inl rfl
  | cons m ms ih =>
    intro last c hc
    obtain ⟨s, e⟩ := m
    rcases mem_splitInvert_cons hc with rfl | rfl | hc
    · exact Or.inl rfl
    · exact Or.inr ⟨(s, e), List.mem_cons_self, Or.inl rfl⟩
    · rcases ih e c hc with h | ⟨m, hm, h⟩
      · exact Or.inr ⟨(s, e), List.mem_cons_self, Or.inr h⟩
      · exact Or.inr ⟨m, List.mem_cons_of_mem _ hm, h⟩

/-- End to end for `Split { invert: true, Remove }` (`Split::gpt2()`): if the regex matches cover
the text, `decode(encode(text))` is the text (with `String::from_utf8` validation) for every
vocabulary / merge list as in T2. -/
theorem c27_split_remove_roundtrip (vocab : List (ByteBpe.Str × Nat))
    (merges : List (ByteBpe.Str × ByteBpe.Str)) (ign : Bool)
    (added : List (Nat × List Nat)) (t : ByteBpe.Bpe)
    (hnew : ByteBpe.Bpe.new vocab merges none ign added = .ok t)
    (hnd : (vocab.map (·.2)).Nodup)
    (hadd : ∀ id s, ByteBpe.strOf vocab id = some s → added.lookup id = none)
    (cps : List Nat) (hs : ∀ c ∈ cps, Utf8.isScalar c = true) (ms : List (Nat × Nat))
    (hord : Ordered ms 0 (Utf8.encode cps).length)
    (hcov : noGaps ms 0 (Utf8.encode cps).length = true) (ids offs : List Nat)
    (h : ByteBpe.encode t (Utf8.encode cps).length (Utf8.encode cps) none
      (split true false (Utf8.encode cps).length ms) = some (ids, offs)) :
    ByteBpe.decode t ids = .ok (Utf8.encode cps) := by
  refine ByteBpe.c27_roundtrip_utf8 vocab merges ign added t hnew hnd hadd cps hs _ ?_ ids offs h
  simp only [split, if_true]
  exact (split_remove_tiles_iff _ ms 0 hord).mpr hcov

/-- Non-vacuity and the failure mode: on "x²" (bytes `78 C2 B2`) a regex
that matches both chars covers the text and `Remove` partitions it; a regex that skips "²"
leaves a gap and the chunks no longer partition the input, while `Isolate` still does. -/
example : noGaps [(0, 1), (1, 3)] 0 3 = true ∧ split true false 3 [(0, 1), (1, 3)] = [(0, 1), (1, 3)] ∧
    noGaps [(0, 1)] 0 3 = false ∧ split true false 3 [(0, 1)] = [(0, 1)] ∧
    split true true 3 [(0, 1)] = [(0, 1), (1, 3)] ∧ split false false 3 [(1, 1)] = [(0, 1), (1, 3)] := by
  decide
example : Ordered [(0, 1), (1, 3)] 0 3 := by simp [Ordered]

end RtenVerif.PreSplit
