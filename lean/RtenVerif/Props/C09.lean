import RtenVerif.Lemmas.Layout
import RtenVerif.Lemmas.ListBasics
import RtenVerif.Lemmas.Slice
import RtenVerif.Lemmas.Perm
import RtenVerif.Lemmas.Gather
import RtenVerif.Lemmas.SliceT1
import RtenVerif.Lemmas.AxisSel
import RtenVerif.Lemmas.Broadcast
import RtenVerif.Lemmas.RowMajor
import RtenVerif.Lemmas.LayoutSeq
import RtenVerif.Lemmas.SliceCopy
import RtenVerif.Lemmas.Append
import RtenVerif.Props.C08
import RtenVerif.Lemmas.WFOwned
import RtenVerif.Lemmas.Copy
import RtenVerif.Lemmas.CopyRange

/-!
# C09 — Layout transformations match a reference array model

`denote v s` is the array a view `v = (base, len, dims)` denotes over storage `s`:
shape `sizes dims`, element `idx` = `s (base + Σ idx_k * stride_k)`.
For every operation `op` the T1 theorem has the form
`(op_layout v).map (denote · s) = op_ref (denote v s)`:
either both sides are the same array, or both report the same error class.
-/
namespace RtenVerif.Layout
open RtenVerif.Arr RtenVerif.Overlap

variable {α : Type} [Inhabited α]

/-- How every T1 theorem with an invariant concludes from a successful run of the layout side. -/
theorem step_ok {x : Except Err View} {v' : View} {A : NArr α} {s : Nat → α} (hx : x = .ok v')
    (hden : denote v' s = A) (hwf : WF v') :
    x.map (fun v' => denote v' s) = .ok A ∧ ∀ v'', x = .ok v'' → WF v'' := by
  subst hx hden
  exact ⟨rfl, fun v'' h => by injection h with h; exact h ▸ hwf⟩

theorem step_err {x : Except Err View} {e : Err} {s : Nat → α} (hx : x = .error e) :
    x.map (fun v' => denote v' s) = .error e ∧ ∀ v'', x = .ok v'' → WF v'' := by
  subst hx
  exact ⟨rfl, fun v'' h => by cases h⟩

/-! ## T1, operation by operation

Each operation is unfolded once, in a `*_step` lemma (or directly in the `c09_*` theorem where that already
carries the invariant): its dims are a `Reindex` of the source's, which gives the denoted array and `WF`. -/

theorem transpose_step (v : View) (s : Nat → α) :
    denote (transposed v) s = (denote v s).transpose ∧ (WF v → WF (transposed v)) := by
  have R := Reindex.reverse v.dims
  rw [← transposed_dims] at R
  exact ⟨(R.denote s fun _ => rfl).trans
    (by rw [transposed_dims]; exact congrArg (NArr.ofFn · _) List.map_reverse),
    Nat.le_trans R.minDataLen_le⟩

/-- **C09.T1 transpose.** -/
theorem c09_transpose (v : View) (s : Nat → α) :
    denote (transposed v) s = (denote v s).transpose := (transpose_step v s).1

theorem isPerm_eq (n : Nat) (p : List Nat) : NArr.isPerm n p = isValidPermutation n p := by
  simp only [NArr.isPerm, isValidPermutation, List.count_eq_length_filter]

theorem permute_step (v : View) (p : List Nat) (s : Nat → α) :
    (permuted v p).map (fun v' => denote v' s) = (denote v s).permute p ∧
    (WF v → ∀ v', permuted v p = .ok v' → WF v') := by
  unfold permuted NArr.permute
  rw [rank_denote, shape_denote, isPerm_eq]
  exact Reindex.step_same v s (fun _ => sizes_permuteIter v.dims p)
    fun hc => permuteIter_reindex (perm_of_valid _ _ hc)

/-- **C09.T1 permute**: same array, or both panic (invalid permutation). -/
theorem c09_permute (v : View) (p : List Nat) (s : Nat → α) :
    (permuted v p).map (fun v' => denote v' s) = (denote v s).permute p := (permute_step v p s).1

theorem move_axis_step (v : View) (src dst : Nat) (s : Nat → α) :
    (moveAxis v src dst).map (fun v' => denote v' s) = (denote v s).moveAxis src dst ∧
    (WF v → ∀ v', moveAxis v src dst = .ok v' → WF v') := by
  unfold moveAxis NArr.moveAxis
  rw [rank_denote]
  refine Reindex.step_same v s
    (fun _ => by simp only [shape_denote, sizes_insertIdx, sizes_eraseIdx, sizes_getD])
    fun hc => .of_eq fun idx h => ?_
  -- split off component `dst`, re-insert it at `src`
  obtain ⟨hx, hr, ho⟩ := valid_insertIdx dst _
    (by rw [List.length_eraseIdx_of_lt hc.1]; omega) h
  obtain ⟨hv, ho'⟩ := eraseIdx_valid (idx.getD dst 0) hc.1 hr
  exact ⟨hv.trans (decide_eq_true hx), ho.trans ho'.symm⟩

/-- **C09.T1 move_axis**: same array, or both panic (axis out of range). -/
theorem c09_move_axis (v : View) (src dst : Nat) (s : Nat → α) :
    (moveAxis v src dst).map (fun v' => denote v' s) = (denote v s).moveAxis src dst :=
  (move_axis_step v src dst s).1

theorem insert_axis_step (v : View) (k : Nat) (s : Nat → α) :
    (insertAxis v k).map (fun v' => denote v' s) = (denote v s).insertAxis k ∧
    (WF v → ∀ v', insertAxis v k = .ok v' → WF v') := by
  unfold insertAxis NArr.insertAxis
  rw [rank_denote]
  -- the stride chosen for the new axis is irrelevant: its only valid index is 0
  generalize (maxByStride v.dims).getD (1, 1) = m
  exact Reindex.step_same v s (fun _ => sizes_insertIdx _ _ _) fun hc => .insertIdx _ hc

/-- **C09.T1 insert_axis**: same array, or both panic (`index > ndim`). -/
theorem c09_insert_axis (v : View) (k : Nat) (s : Nat → α) :
    (insertAxis v k).map (fun v' => denote v' s) = (denote v s).insertAxis k := (insert_axis_step v k s).1

theorem remove_axis_step (v : View) (k : Nat) (s : Nat → α) :
    (removeAxis v k).map (fun v' => denote v' s) = (denote v s).removeAxis k ∧
    (WF v → ∀ v', removeAxis v k = .ok v' → WF v') := by
  unfold removeAxis NArr.removeAxis
  rw [rank_denote, shape_denote, sizes_getD]
  refine Reindex.step_same v s (fun _ => sizes_eraseIdx _ _) fun hc => ?_
  have := Reindex.eraseIdx (x := 0) hc.1 (by omega)
  rwa [Nat.mul_zero] at this

/-- **C09.T1 remove_axis**: same array, or both panic (no such axis / size ≠ 1). -/
theorem c09_remove_axis (v : View) (k : Nat) (s : Nat → α) :
    (removeAxis v k).map (fun v' => denote v' s) = (denote v s).removeAxis k := (remove_axis_step v k s).1

theorem broadcast_step (v : View) (t : List Nat) (s : Nat → α) :
    (broadcast v t).map (fun v' => denote v' s) = (denote v s).broadcastTo t ∧
    (WF v → ∀ v', broadcast v t = .ok v' → WF v') := by
  unfold broadcast NArr.broadcastTo
  rw [shape_denote, canBroadcast_eq, sizes_length]
  exact Reindex.step_same v s (broadcast_shape v.dims t) broadcast_reindex

/-- **C09.T1 broadcast** (`try_broadcast`, stride-0 axes): `numpy.broadcast_to(a, target)`, or both
report an error (incompatible shapes). -/
theorem c09_broadcast (v : View) (t : List Nat) (s : Nat → α) :
    (broadcast v t).map (fun v' => denote v' s) = (denote v s).broadcastTo t :=
  (broadcast_step v t s).1

theorem squeeze_step (v : View) (s : Nat → α) :
    denote (squeezed v) s = (denote v s).squeeze ∧ (WF v → WF (squeezed v)) :=
  ⟨((squeeze_reindex v.dims).denote (v' := squeezed v) s fun _ => rfl).trans
    (congrArg (NArr.ofFn · _) (sizes_filter_one v.dims)),
    Nat.le_trans (squeeze_reindex v.dims).minDataLen_le⟩

/-- **C09.T1 squeezed**: `numpy.squeeze(a)` (never fails). -/
theorem c09_squeeze (v : View) (s : Nat → α) : denote (squeezed v) s = (denote v s).squeeze :=
  (squeeze_step v s).1

/-- **C09.T1 index_axis**: on a view whose storage window covers its layout, `index_axis` yields
exactly the reference sub-array (never a storage-range panic), or both panic (axis / index out of
range); the resulting view again covers its layout. -/
theorem c09_index_axis (v : View) (axis index : Nat) (s : Nat → α) (hwf : WF v) :
    (indexAxis v axis index).map (fun v' => denote v' s) = (denote v s).indexAxis axis index ∧
    ∀ v', indexAxis v axis index = .ok v' → WF v' := by
  unfold indexAxis NArr.indexAxis
  rw [rank_denote, shape_denote, sizes_getD]
  by_cases hc : axis < v.dims.length ∧ index < (v.dims.getD axis (0, 0)).1
  · rw [if_pos hc, if_pos hc]
    obtain ⟨v', hw, hden, hwf'⟩ := (Reindex.eraseIdx hc.1 hc.2).step_sub v s hwf
    exact step_ok hw (hden.trans (congrArg (NArr.ofFn · _) (sizes_eraseIdx _ _))) hwf'
  · rw [if_neg hc, if_neg hc]
    exact step_err rfl

/-- **C09.T1 slice_axis**: the reference range on one axis, or both panic (no such axis,
`end < start`, `end > size`); storage-window invariant preserved, no storage-range panic. -/
theorem c09_slice_axis (v : View) (axis start stop : Nat) (s : Nat → α) (hwf : WF v) :
    (sliceAxis v axis start stop).map (fun v' => denote v' s) =
      (denote v s).sliceAxis axis start stop ∧
    ∀ v', sliceAxis v axis start stop = .ok v' → WF v' := by
  unfold sliceAxis NArr.sliceAxis
  rw [rank_denote, shape_denote, sizes_getD]
  by_cases hc : axis < v.dims.length ∧ start ≤ stop ∧ stop ≤ (v.dims.getD axis (0, 0)).1
  · rw [if_neg (by omega), if_neg (by omega), if_pos hc]
    obtain ⟨v', hw, hden, hwf'⟩ :=
      (axis_reindex (a := start) (c := stop - start) hc.1 (by omega)).step_sub v s hwf
    simp only []
    rw [resizeDim_stride, Nat.mul_comm start]
    exact step_ok hw
      (hden.trans (congrArg (NArr.ofFn · _) (axis_shape v.dims axis start _ hc.1 (by omega)))) hwf'
  · rw [if_neg hc]
    by_cases hk : axis ≥ v.dims.length
    · rw [if_pos hk]; exact step_err rfl
    · rw [if_neg hk, if_pos (by omega)]; exact step_err rfl

/-- **C09.T1 split_at** (left or right part): `numpy.split(a, [mid], axis)`, or both panic (no
such axis, `mid > size`); no storage-range panic on a view that covers its layout, and both parts
cover theirs. -/
theorem c09_split_at (v : View) (axis mid : Nat) (right : Bool) (s : Nat → α) (hwf : WF v) :
    (splitAt v axis mid right).map (fun v' => denote v' s) =
      (denote v s).splitAt axis mid right ∧
    ∀ v', splitAt v axis mid right = .ok v' → WF v' := by
  unfold splitAt NArr.splitAt NArr.sliceAxis
  rw [rank_denote, shape_denote, sizes_getD]
  by_cases hc : axis < v.dims.length ∧ mid ≤ (v.dims.getD axis (0, 0)).1
  · rw [if_pos hc, if_pos hc]
    obtain ⟨hk, hm⟩ := hc
    have hwf0 : minDataLen v.dims ≤ v.len := hwf
    have hl := (axis_reindex (a := 0) (c := mid) hk (by omega)).minDataLen_le
    have Rr := axis_reindex (a := mid) (c := (v.dims.getD axis (0, 0)).1 - mid) hk (by omega)
    simp only []
    rw [if_neg (by omega)]
    -- the storage range of the right part: inside the window, long enough, and at `mid` strides
    -- unless the right part is empty
    generalize hrr : (if numelD (resizeDim v.dims axis ((v.dims.getD axis (0, 0)).1 - mid)) = 0 then _
      else _ : Nat × Nat) = rr
    have hfacts : rr.1 ≤ v.len ∧ rr.2 ≤ v.len ∧
        minDataLen (resizeDim v.dims axis ((v.dims.getD axis (0, 0)).1 - mid)) ≤ rr.2 - rr.1 ∧
        (numelD (resizeDim v.dims axis ((v.dims.getD axis (0, 0)).1 - mid)) ≠ 0 →
          rr.1 = (v.dims.getD axis (0, 0)).2 * mid) := by
      subst hrr
      split
      · rename_i her
        rw [minDataLen_empty _ her]
        exact ⟨hwf0, hwf0, Nat.zero_le _, fun h => absurd her h⟩
      · rename_i her
        have := Rr.fits her
        rw [Nat.mul_comm] at this
        exact ⟨by show mid * _ ≤ _; omega, hwf0, by show _ ≤ minDataLen v.dims - mid * _; omega,
          fun _ => Nat.mul_comm _ _⟩
    rw [if_neg (by omega)]
    cases right with
    | true =>
      rw [if_pos rfl, if_pos rfl, if_pos ⟨hk, hm, Nat.le_refl _⟩]
      exact step_ok rfl (axis_denote v _ axis mid _ s hk (by omega) rfl
        fun h => congrArg (v.base + ·) (hfacts.2.2.2 h)) hfacts.2.2.1
    | false =>
      simp only [Bool.false_eq_true, if_false]
      rw [if_pos ⟨hk, Nat.zero_le _, hm⟩]
      exact step_ok rfl (axis_denote v _ axis 0 _ s hk (by omega) rfl fun _ => rfl) (Nat.le_refl _)
  · rw [if_neg hc, if_neg hc]
    exact step_err rfl

theorem sliceSels_too_long (items : List NArr.Item) (shape : List Nat)
    (h : shape.length < items.length) : NArr.sliceSels items shape = .error .err := by
  fun_induction NArr.sliceSels items shape
  -- `case1`: no items; `case3`, `case5`: an accepted index / range item (the recursive branches)
  case case1 => cases h
  case case3 ih | case5 ih => rw [ih (by simpa using h)]; rfl
  all_goals rfl

/-- **C09.T1 slice** (`try_slice` / `slice_dyn` / `slice_layout`, any mix of index items and
ranges with negative bounds and steps > 1).  On a view whose storage window covers its layout,
the sliced view denotes exactly NumPy's `a[items]` (elements selected per axis by the CPython
slice definition), or both sides report an error (`Result::Err`: too many items, index out of
range, a bound that would need clamping, a negative step) — never a panic.  The result again
covers its layout.  (`hsteps`: `SliceRange::new` rejects a zero step at construction.) -/
theorem c09_slice (v : View) (items : List SliceItem) (s : Nat → α) (hwf : WF v)
    (hsteps : ∀ r, SliceItem.range r ∈ items → r.step ≠ 0) :
    (trySlice v items).map (fun v' => denote v' s) = (denote v s).slice (items.map toRefItem) ∧
    ∀ v', trySlice v items = .ok v' → WF v' := by
  unfold trySlice NArr.slice
  rw [shape_denote]
  by_cases hlen : v.dims.length < items.length
  · rw [if_pos hlen, sliceSels_too_long _ _ (by simpa using hlen)]
    exact step_err rfl
  · rw [if_neg hlen]
    rcases sliceLoop_spec v.dims items (by omega) hsteps with ⟨ss, haok, hloop, hsel⟩ | ⟨hloop, hsel⟩
    · obtain ⟨v', hw, hden, hwf'⟩ := (select_reindex _ _ haok).step_sub v s hwf
      rw [sizes_aDims v.dims ss haok] at hden
      simp only [sliceLayout, hloop, hsel, bind, Except.bind, pure, Except.pure]
      by_cases he : numelD (aDims v.dims ss) = 0
      · rw [if_pos he] at hw
        rw [if_pos ((numel_eq_zero_iff _).mp he), minDataLen_empty _ he]
        exact step_ok hw hden hwf'
      · rw [if_neg he] at hw
        rw [if_neg (fun h => he ((numel_eq_zero_iff _).mpr h))]
        exact step_ok hw hden hwf'
    · simp only [sliceLayout, hloop, hsel, bind, Except.bind]
      exact step_err rfl

/-- Non-vacuity: a stepped slice with negative bounds and an index item on a transposed view. -/
example : (trySlice ⟨0, 12, [(4, 1), (3, 4)]⟩ [.range ⟨-3, none, 2⟩, .index (-1)]).map
      (fun v' => denote v' (fun i => i)) = .ok (⟨[2], [9, 11]⟩ : NArr Nat) ∧
    NArr.slice [.range (-3) none 2, .index (-1)] (⟨[4, 3], [0, 4, 8, 1, 5, 9, 2, 6, 10, 3, 7, 11]⟩ : NArr Nat) =
      .ok ⟨[2], [9, 11]⟩ := ⟨by rfl, by rfl⟩

/-- **C09.T1 merge_axes**: merging axes is a C-order reshape to the (layout dependent) shape the
code chose — same elements in the same row-major order, same element count.
(Built on C07's `mergeAxes_rowMajor`.) -/
theorem c09_merge_axes (v : View) (s : Nat → α) :
    (denote v s).reshape (sizes (mergedAxes v).dims) = some (denote (mergedAxes v) s) := by
  have hrm : Iter.rowMajor (mergedAxes v).dims = Iter.rowMajor v.dims := rowMajor_mergeAxes v.dims
  have hn : numel (sizes (mergedAxes v).dims) = numel (sizes v.dims) := by
    rw [← rowMajor_length', ← rowMajor_length', hrm]
  unfold NArr.reshape
  rw [shape_denote, if_pos hn, denote_eq_mk v, denote_eq_mk (mergedAxes v), hrm]
  rfl

/-- `merge_axes` as one step: reference reshape (previous theorem) and the storage-window invariant
is kept, so it can be followed by any other covered operation.  (It is not an op of the chain
theorems because its reference needs the shape the layout chose.) -/
theorem c09_merge_axes_step (v : View) (s : Nat → α) (hwf : WF v) :
    (denote v s).reshape (sizes (mergedAxes v).dims) = some (denote (mergedAxes v) s) ∧
    WF (mergedAxes v) :=
  ⟨c09_merge_axes v s, WF_mergedAxes v hwf⟩

/-- A freshly allocated contiguous copy holds exactly the array it was made from, if that has as
many elements as its shape says (`to_vec` + `from_shape`; used by `to_contiguous`, `reshaped`,
`slice_copy`). -/
theorem c09_copy_roundtrip (A : NArr Nat) (hlen : A.data.length = numel A.shape) :
    (TState.ofArr A).arr = A :=
  Seq.ofArr_arr A hlen

/-- **C09.T1 to_contiguous**: the same array, whether the data is borrowed (already contiguous)
or copied. -/
theorem c09_to_contiguous (t : TState) : (toContiguous t).arr = t.arr := by
  unfold toContiguous
  split
  · rfl
  · exact c09_copy_roundtrip _ (Seq.denote_data_length _ _)

/-- **C09.T1 reshaped** (view when contiguous, copy otherwise): `a.reshape(shape)` in C order, or
both fail (element count differs: panic). -/
theorem c09_reshaped (t : TState) (shape : List Nat) :
    (reshaped t shape).map TState.arr =
      match t.arr.reshape shape with
      | some B => .ok B
      | none => .error .panic := by
  unfold reshaped NArr.reshape
  have hsh : t.arr.shape = sizes t.view.dims := rfl
  rw [hsh]
  by_cases hn : numel shape = numelD t.view.dims
  · rw [if_neg (by omega)]
    have hn' : numel shape = numel (sizes t.view.dims) := hn
    rw [if_pos hn']
    simp only []
    by_cases hc : isContiguous t.view.dims = true
    · rw [if_pos hc]
      refine congrArg Except.ok ?_
      -- both layouts enumerate offsets 0..n
      show denote ⟨t.view.base, t.view.len, contigDims shape⟩ _ = ⟨shape, (denote t.view _).data⟩
      rw [denote_eq_mk, sizes_contigDims, rowMajor_contigDims, hn', denote_data,
        Seq.rowMajor_of_isContiguous _ hc]
    · rw [if_neg hc]
      exact congrArg Except.ok (c09_copy_roundtrip ⟨shape, t.arr.data⟩
        ((Seq.denote_data_length t.view fun i => t.store.getD i 0).trans hn'.symm))
  · rw [if_pos hn]
    have hn' : ¬ numel shape = numel (sizes t.view.dims) := hn
    rw [if_neg hn']
    rfl

theorem materialize_owned (t : TState) (hb : t.view.base = 0) (hl : t.view.len = t.store.length)
    (hno : mayOverlap t.view.dims = false) (hwf : WF t.view) :
    materialize t = .ok ⟨t.store, ⟨0, t.store.length, t.view.dims⟩⟩ := by
  unfold materialize
  unfold WF at hwf
  have hw : (t.store.drop t.view.base).take t.view.len = t.store := by
    rw [hb, hl, List.drop_zero, List.take_length]
  simp only [hw, hno, Bool.false_eq_true, if_false]
  rw [if_neg (by omega)]

/-- An owned tensor as `from_data_with_strides` builds it: data starts at 0, the window is the
whole `Vec`, the layout has no internal overlap and fits the storage. -/
def Owned (m : TState) : Prop :=
  m.view.base = 0 ∧ m.view.len = m.store.length ∧ mayOverlap m.view.dims = false ∧ WF m.view

/-- `materialize` (how the driver and the harness apply `append` / `clip_dim` to an arbitrary
view) succeeds only on a layout without overlap that fits the window, and returns the window as
a tensor of its own; that tensor is owned and denotes the same array (`materialize_arr`). -/
theorem materialize_ok (t m : TState) (h : materialize t = .ok m) :
    mayOverlap t.view.dims = false ∧
    minDataLen t.view.dims ≤ ((t.store.drop t.view.base).take t.view.len).length ∧
    m = ⟨(t.store.drop t.view.base).take t.view.len,
      ⟨0, ((t.store.drop t.view.base).take t.view.len).length, t.view.dims⟩⟩ := by
  revert h
  fun_cases materialize t <;> intro h
  -- `case3`: the one successful branch
  case case3 win hov hlen =>
    injection h with h
    exact ⟨Bool.eq_false_iff.mpr hov, Nat.le_of_not_gt hlen, h.symm⟩
  all_goals cases h

theorem materialize_arr (t m : TState) (h : materialize t = .ok m) : m.arr = t.arr ∧ Owned m := by
  obtain ⟨hno, hlen, hm⟩ := materialize_ok t m h
  subst hm
  have hwin : ((t.store.drop t.view.base).take t.view.len).length ≤ t.view.len := by
    rw [List.length_take]; omega
  refine ⟨?_, rfl, rfl, hno, ?_⟩
  · exact denote_take_drop t.store t.view.base t.view.len _ t.view.len t.view.dims (by omega)
  · unfold WF; simp only []; omega

theorem materialize_twice (t m : TState) (hm : materialize t = .ok m) : materialize m = .ok m := by
  obtain ⟨hno, hlen, rfl⟩ := materialize_ok t m hm
  exact materialize_owned _ rfl rfl hno hlen

/-- **C09.T4 clip_dim** (owned tensor: data starts at 0, window = whole `Vec`, no internal
overlap, storage covers the layout): when `clip_dim` returns, the tensor holds exactly the
reference range of the axis — every retained element is preserved, in place order.
(`copy_within(range, 0)` + `truncate` is modelled as `drop`/`take` of the `Vec`.) -/
theorem c09_clip_dim (t t' : TState) (axis start stop : Nat)
    (hb : t.view.base = 0) (hl : t.view.len = t.store.length)
    (hno : mayOverlap t.view.dims = false) (hwf : WF t.view)
    (h : clipDim t axis start stop = .ok t') :
    t.arr.sliceAxis axis start stop = .ok t'.arr := by
  unfold clipDim at h
  rw [materialize_owned t hb hl hno hwf] at h
  simp only [bind, Except.bind, ite_error_eq_ok] at h
  obtain ⟨hk, hbad, h⟩ := h
  rw [sizes_getD] at hbad
  have hk' : axis < t.view.dims.length := by omega
  have hb' : stop - start = 0 ∨
      start + (stop - start - 1) < (t.view.dims.getD axis (0, 0)).1 := by omega
  unfold NArr.sliceAxis
  rw [show t.arr.rank = t.view.dims.length from rank_denote _ _,
    show t.arr.shape = sizes t.view.dims from rfl, sizes_getD,
    if_pos ⟨hk', by omega, by omega⟩]
  refine congrArg Except.ok ?_
  rw [strides_getD, resizeDim_stride] at h
  by_cases he : numelD (resizeDim t.view.dims axis (stop - start)) = 0
  · simp only [he, if_true] at h
    injection h.2 with h
    subst h
    exact ((denote_take_drop _ _ _ _ 0 _ (by rw [minDataLen_empty _ he]; exact Nat.zero_le _)).trans
      (axis_denote t.view ⟨_, 0, resizeDim t.view.dims axis (stop - start)⟩ axis start _ _ hk' hb'
        rfl fun h => absurd he h)).symm
  · simp only [he, if_false] at h
    injection h.2 with h
    subst h
    exact ((denote_take_drop _ _ _ _ 0 _ (Nat.le_of_eq (Nat.add_sub_cancel_left ..).symm)).trans
      (axis_denote t.view ⟨_, 0, resizeDim t.view.dims axis (stop - start)⟩ axis start _ _ hk' hb'
        rfl fun _ => by rw [hb, Nat.zero_add, Nat.mul_comm])).symm

/-- Whatever the view-slice reference accepts, the copying-slice reference (full NumPy
semantics) accepts with the same selection. -/
theorem copySels_of_sliceSels (items : List NArr.Item) (shape : List Nat) (sels : List Sel)
    (h : NArr.sliceSels items shape = .ok sels) : NArr.copySels items shape = .ok sels := by
  fun_induction NArr.sliceSels items shape generalizing sels
  -- `case1`: no items; `case3`, `case5`: an accepted index / range item; the others are errors
  case case1 => exact h
  case case3 p hp ih =>
    obtain ⟨ss, hr, rfl⟩ := map_eq_ok h
    simp only [NArr.copySels, hp, ih ss hr]; rfl
  case case5 hc ih =>
    -- an accepted range has a positive step
    simp only [Bool.and_eq_true, decide_eq_true_eq] at hc
    obtain ⟨ss, hr, rfl⟩ := map_eq_ok h
    simp only [NArr.copySels, ih ss hr]
    rw [if_neg (by omega)]; rfl
  all_goals cases h

/-- **C09.T1 slice_copy, fast path** (fixed code): whenever `try_slice` accepts the items
(in-range indices, bounds that need no clamping, steps ≥ 1), `slice_copy` returns a fresh
contiguous tensor holding exactly NumPy's `a[items].copy()`. -/
theorem c09_slice_copy_fast (t : TState) (items : List SliceItem) (v : View) (hwf : WF t.view)
    (hsteps : ∀ r, SliceItem.range r ∈ items → r.step ≠ 0)
    (hv : trySlice t.view items = .ok v) :
    ∃ t', sliceCopy t items = .ok t' ∧
      NArr.sliceCopy (items.map toRefItem) t.arr = .ok t'.arr ∧ WF t'.view := by
  refine ⟨TState.ofArr (denote v (fun i => t.store.getD i 0)), ?_, ?_,
    WF_ofArr _ (Seq.denote_data_length _ _)⟩
  · unfold sliceCopy; rw [hv]
  · rw [c09_copy_roundtrip _ (Seq.denote_data_length _ _)]
    have hs := (c09_slice t.view items (fun i => t.store.getD i 0) hwf hsteps).1
    rw [hv] at hs
    obtain ⟨sels, hsel, hg⟩ := map_eq_ok hs.symm
    unfold NArr.sliceCopy
    rw [show t.arr.shape = (denote t.view fun i => t.store.getD i 0).shape from rfl,
      copySels_of_sliceSels _ _ _ hsel]
    exact congrArg Except.ok hg

/-- **C09.T1 slice_copy, range items** (fixed code; any non-zero steps — negative steps,
clamped bounds — and fewer items than axes): `slice_copy` never fails and returns a fresh
contiguous tensor holding exactly NumPy's `a[items].copy()`, on the view path and on the
copying path alike.  (This is the statement the pre-fix code violated, see
`c09_slice_copy_old_full_false`.) -/
theorem c09_slice_copy_ranges (t : TState) (items : List SliceItem)
    (hlen : items.length ≤ t.view.dims.length) (hr : rangesOnly items) (hwf : WF t.view) :
    ∃ t', sliceCopy t items = .ok t' ∧
      NArr.sliceCopy (items.map toRefItem) t.arr = .ok t'.arr ∧ WF t'.view := by
  have hsteps : ∀ r, SliceItem.range r ∈ items → r.step ≠ 0 := fun r hmem => by
    obtain ⟨r', h1, h2⟩ := hr _ hmem
    cases h1
    exact h2
  cases hv : trySlice t.view items with
  | ok v => exact c09_slice_copy_fast t items v hwf hsteps hv
  | error e =>
    obtain ⟨h1, h2, h3, h4⟩ := copy_path_spec t.view.dims items hlen hr
    have hsh : t.arr.shape = sizes t.view.dims := rfl
    -- the buffer the loop fills is the data of the reference gather
    have hg : (⟨selShape (rsels t.view.dims items) (sizes t.view.dims),
        (NArr.gather ((rlists t.view.dims items).map Sel.take) t.arr).data⟩ : NArr Nat) =
        NArr.gather (rsels t.view.dims items) t.arr := by
      rw [CopyRange.gather_data _ _ ((rlists_length _ _).trans (sizes_length _).symm),
        cart_rlists _ _ hlen hr, List.map_map]
      rfl
    refine ⟨TState.ofArr (NArr.gather (rsels t.view.dims items) t.arr), ?_, ?_,
      WF_ofArr _ (by simp [NArr.gather, NArr.ofFn, length_idxs])⟩
    · unfold sliceCopy
      rw [hv]
      simp only [h1, h2, bind, Except.bind]
      rw [if_neg (by rw [h4]; simp)]
      simp only [pure, Except.pure, hg]
    · rw [c09_copy_roundtrip _ (by simp [NArr.gather, NArr.ofFn, length_idxs])]
      unfold NArr.sliceCopy
      rw [hsh, h3]
      rfl

theorem sizes_append_block (d : Dims) (o : List Nat) (axis n : Nat) (hl : d.length = o.length)
    (hall : ∀ k, k < d.length → k = axis ∨ (sizes d).getD k 0 = o.getD k 0) :
    sizes (resizeDim (resizeDim d axis n) axis (o.getD axis 0)) = o := by
  rw [sizes_resizeDim, sizes_resizeDim, List.set_set]
  apply List.ext_getElem
  · simp [hl]
  · intro k h1 h2
    have hk : k < d.length := by simpa using h1
    rw [List.getElem_set]
    split
    · rename_i he
      subst he
      simp [List.getD_eq_getElem?_getD, List.getElem?_eq_getElem h2]
    · rename_i hne
      rcases hall k hk with h | h
      · exact absurd h.symm hne
      · simpa [List.getD_eq_getElem?_getD, List.getElem?_eq_getElem h2,
          List.getElem?_eq_getElem (show k < (sizes d).length by simpa using hk)] using h

/-- **C09.T4 for any appended array** `other = ofFn oshape g`: the tensor built by the element-wise
write loop of `append` (`slice_axis_mut(axis, old..new).copy_from(other)` after `resize`) reads the old
elements at the old indices and `g` at the shifted ones, i.e. it is `concatenate([a, other], axis)`. -/
theorem append_write_concat (t : TState) (axis : Nat) (oshape : List Nat)
    (g : List Nat → Nat) (fill : Nat) (hb : t.view.base = 0) (hk : axis < t.view.dims.length)
    (hno : mayOverlap (resizeDim t.view.dims axis
      ((t.view.dims.getD axis (0, 0)).1 + oshape.getD axis 0)) = false)
    (hwf : minDataLen t.view.dims ≤ t.store.length) (hlen : t.view.dims.length = oshape.length)
    (hall : ∀ k, k < t.view.dims.length → k = axis ∨ (sizes t.view.dims).getD k 0 = oshape.getD k 0) :
    let old := (t.view.dims.getD axis (0, 0)).1
    let nd := resizeDim t.view.dims axis (old + oshape.getD axis 0)
    let sd := resizeDim nd axis (oshape.getD axis 0)
    let st1 := if t.store.length < minDataLen nd then
      t.store ++ List.replicate (minDataLen nd - t.store.length) fill else t.store
    let start := if numelD sd = 0 then 0 else old * (strides nd).getD axis 0
    let t' : TState := ⟨writeAll st1 start sd oshape g, ⟨0, (writeAll st1 start sd oshape g).length, nd⟩⟩
    (∀ idx, validIdx (sizes t.view.dims) idx = true → t'.arr.get idx = t.arr.get idx) ∧
    (∀ idx', validIdx oshape idx' = true → t'.arr.get (shiftIdx axis old idx') = g idx') ∧
    t'.arr = NArr.concat axis t.arr (NArr.ofFn oshape g) := by
  intro old nd sd st1 start t'
  have hosh : sizes sd = oshape := sizes_append_block t.view.dims oshape axis _ hlen hall
  obtain ⟨G1, G2, G3, G4⟩ := append_geometry t.view.dims axis (oshape.getD axis 0) hk
  have hst1 : minDataLen nd ≤ st1.length ∧ t.store.length ≤ st1.length := by
    simp only [st1]
    split
    · rw [List.length_append, List.length_replicate]; omega
    · omega
  have hstride : (strides nd).getD axis 0 = (t.view.dims.getD axis (0, 0)).2 := by
    rw [strides_getD]; exact resizeDim_stride t.view.dims axis _
  have hsd : ∀ {a}, validIdx oshape a = true → validIdx (sizes sd) a = true :=
    fun h => by rw [hosh]; exact h
  have hpos : ∀ idx', validIdx oshape idx' = true →
      start + offset sd idx' = offset nd (shiftIdx axis old idx') ∧
      validIdx (sizes nd) (shiftIdx axis old idx') = true := by
    intro idx' hv
    have hv' := hsd hv
    have hne : numelD sd ≠ 0 := Nat.ne_of_gt (numel_pos_of_valid hv')
    obtain ⟨g1, g2, _⟩ := G1 idx' hv'
    refine ⟨?_, g1⟩
    show (if numelD sd = 0 then 0 else old * (strides nd).getD axis 0) + _ = _
    rw [if_neg hne, hstride]
    exact g2
  have hinjnd : ∀ a b, validIdx (sizes nd) a = true → validIdx (sizes nd) b = true →
      offset nd a = offset nd b → a = b := fun a b ha hb hab =>
    c08_no_overlap_injective nd a b hno ((validIdx_iff_ValidIdx nd a).mp ha) ((validIdx_iff_ValidIdx nd b).mp hb) hab
  obtain ⟨hwritten, hkept⟩ := writeAll_spec st1 start sd oshape g fun a b ha hb h =>
    G3 a b (hsd ha) (hsd hb) (hinjnd _ _ (hpos a ha).2 (hpos b hb).2
      ((hpos a ha).1.symm.trans (h.trans (hpos b hb).1)))
  have hst : (∀ idx, validIdx (sizes t.view.dims) idx = true →
      t'.store.getD (offset nd idx) 0 = t.store.getD (offset t.view.dims idx) 0) ∧
      ∀ idx', validIdx oshape idx' = true → t'.store.getD (offset nd (shiftIdx axis old idx')) 0 = g idx' := by
    refine ⟨fun idx hv => ?_, fun idx' hv => ?_⟩
    · obtain ⟨g1, g2, g3⟩ := G2 idx hv
      rw [hkept _ fun idx' hv' heq => ?_, g2]
      · have hlt : offset t.view.dims idx < t.store.length := by
          have := offset_lt_minDataLen t.view.dims idx hv; omega
        simp only [st1]
        split
        · simp only [List.getD_eq_getElem?_getD, List.getElem?_append_left hlt]
        · rfl
      · -- a write lands on an index of `nd` that is at least `old` along `axis`
        obtain ⟨p1, p2⟩ := hpos idx' hv'
        have hge := (G1 idx' (hsd hv')).2.2
        rw [hinjnd _ _ p2 g1 (p1.symm.trans heq)] at hge
        omega
    · obtain ⟨p1, p2⟩ := hpos idx' hv
      rw [← p1]
      refine hwritten idx' hv ?_
      rw [p1]
      have := offset_lt_minDataLen nd _ p2
      omega
  -- the same facts read through the two layouts
  have hold : ∀ idx, validIdx (sizes t.view.dims) idx = true → t'.arr.get idx = t.arr.get idx :=
    fun idx hv => by
      unfold TState.arr denote
      rw [NArr.get_ofFn _ _ _ (G2 idx hv).1, NArr.get_ofFn _ _ _ hv, hb]
      simp only [Nat.zero_add]
      exact (congrArg (t'.store.getD · 0) (Nat.zero_add _)).trans (hst.1 idx hv)
  have hnew : ∀ idx', validIdx oshape idx' = true → t'.arr.get (shiftIdx axis old idx') = g idx' :=
    fun idx' hv => by
      unfold TState.arr denote
      rw [NArr.get_ofFn _ _ _ (G1 idx' (hsd hv)).1]
      exact (congrArg (t'.store.getD · 0) (Nat.zero_add _)).trans (hst.2 idx' hv)
  refine ⟨hold, hnew, ?_⟩
  rw [hosh] at G4
  unfold NArr.concat
  rw [show t'.arr = _ from denote_ofFn_get _ _, show t.arr.shape = sizes t.view.dims from rfl,
    sizes_getD]
  show NArr.ofFn (sizes nd) _ = _
  rw [sizes_resizeDim]
  refine NArr.ofFn_congr _ _ _ fun idx hidx => ?_
  rw [← sizes_resizeDim] at hidx
  -- an index of the grown tensor below the old size is an old index, one above is a shifted
  -- index of `other`
  rcases G4 idx hidx with ⟨hi, hv⟩ | ⟨hi, hv, hshift⟩
  · rw [if_pos hi]; exact hold idx hv
  · rw [if_neg hi, NArr.get_ofFn _ _ _ hv, ← hnew _ hv, hshift]; rfl

/-- `append` through the element-wise write path. -/
theorem append_slow_run (t t' : TState) (axis cap : Nat) (oshape : List Nat)
    (hb : t.view.base = 0) (hl : t.view.len = t.store.length)
    (hno : mayOverlap t.view.dims = false) (hwf : WF t.view)
    (hslow : ¬ (isContiguous (resizeDim t.view.dims axis
        ((sizes t.view.dims).getD axis 0 + oshape.getD axis 0)) = true ∧
      t.store.length + numel oshape = minDataLen (resizeDim t.view.dims axis
        ((sizes t.view.dims).getD axis 0 + oshape.getD axis 0))))
    (h : appendOp t axis cap oshape = .ok t') :
    (axis < t.view.dims.length ∧ t.view.dims.length = oshape.length ∧
      ∀ k, k < t.view.dims.length → k = axis ∨ (sizes t.view.dims).getD k 0 = oshape.getD k 0) ∧
    t'.arr = NArr.concat axis t.arr (NArr.ofFn oshape fun idx => 1000 + (idxs oshape).idxOf idx) ∧
    t'.view.dims = resizeDim t.view.dims axis ((sizes t.view.dims).getD axis 0 + oshape.getD axis 0) ∧
    (∀ idx, validIdx (sizes t.view.dims) idx = true → t'.arr.get idx = t.arr.get idx) ∧
    (∀ idx', validIdx oshape idx' = true →
      t'.arr.get (shiftIdx axis ((sizes t.view.dims).getD axis 0) idx') =
        1000 + (idxs oshape).idxOf idx') := by
  unfold appendOp at h
  rw [materialize_owned t hb hl hno hwf] at h
  simp only [bind, Except.bind, ite_error_eq_ok] at h
  obtain ⟨hsm, hax, hcap, h⟩ := h
  have hk : axis < t.view.dims.length := by omega
  simp only [pure, Except.pure] at h
  rw [if_neg hslow] at h
  injection h with h
  subst h
  have hno' : mayOverlap (resizeDim t.view.dims axis
      ((sizes t.view.dims).getD axis 0 + oshape.getD axis 0)) = false :=
    Bool.eq_false_iff.mpr fun hm => hcap (Or.inr hm)
  -- shapes agree off-axis
  simp only [Bool.not_eq_true', Bool.not_eq_false, Bool.and_eq_true, beq_iff_eq,
    List.all_eq_true, List.mem_range, Bool.or_eq_true] at hsm
  rw [sizes_getD] at hno' ⊢
  -- the model spells the size of the written block `new - old`
  simp only [Nat.add_sub_cancel_left]
  obtain ⟨c1, c2, c3⟩ := append_write_concat t axis oshape
    (fun idx => 1000 + (idxs oshape).idxOf idx)
    (1000 + (idxs oshape).idxOf ((idxs oshape).headD [])) hb hk hno' (by unfold WF at hwf; omega)
    hsm.1 hsm.2
  exact ⟨⟨hk, hsm.1, hsm.2⟩, c3, trivial, c1, c2⟩

/-- **C09.T4 append (partial: element-wise write path)**.  Owned tensor (data starts at 0, window
= whole `Vec`, no internal overlap, storage covers the layout).  When `append(axis, other)`
succeeds through the resize + `slice_axis_mut(..).copy_from(other)` path, the layout is the old
one grown along `axis`, every previously valid index still reads the same element, and index
`idx'` of `other` is read at `idx'` shifted by the old size along `axis`.
Missing for the full statement: the contiguous fast path (`copy_into_slice` into the spare
capacity when the grown layout is contiguous), which is tied by the correspondence check only. -/
theorem c09_append_partial (t t' : TState) (axis cap : Nat) (oshape : List Nat)
    (hb : t.view.base = 0) (hl : t.view.len = t.store.length)
    (hno : mayOverlap t.view.dims = false) (hwf : WF t.view)
    (hslow : ¬ (isContiguous (resizeDim t.view.dims axis
        ((sizes t.view.dims).getD axis 0 + oshape.getD axis 0)) = true ∧
      t.store.length + numel oshape = minDataLen (resizeDim t.view.dims axis
        ((sizes t.view.dims).getD axis 0 + oshape.getD axis 0))))
    (h : appendOp t axis cap oshape = .ok t') :
    t'.view.dims = resizeDim t.view.dims axis ((sizes t.view.dims).getD axis 0 + oshape.getD axis 0) ∧
    (∀ idx, validIdx (sizes t.view.dims) idx = true → t'.arr.get idx = t.arr.get idx) ∧
    (∀ idx', validIdx oshape idx' = true →
      t'.arr.get (shiftIdx axis ((sizes t.view.dims).getD axis 0) idx') =
        1000 + (idxs oshape).idxOf idx') :=
  (append_slow_run t t' axis cap oshape hb hl hno hwf hslow h).2.2

/-- **C09.T4 append = `numpy.concatenate` (partial: element-wise write path).**  Under the
hypotheses of `c09_append_partial`, the tensor after `append(axis, other)` denotes exactly
`concatenate([a, other], axis)` — the reference the driver evaluates (`NArr.concat`), with
`other` the array whose element at `idx'` is `1000 + position of idx'`. -/
theorem c09_append_concat_partial (t t' : TState) (axis cap : Nat) (oshape : List Nat)
    (hb : t.view.base = 0) (hl : t.view.len = t.store.length)
    (hno : mayOverlap t.view.dims = false) (hwf : WF t.view)
    (hslow : ¬ (isContiguous (resizeDim t.view.dims axis
        ((sizes t.view.dims).getD axis 0 + oshape.getD axis 0)) = true ∧
      t.store.length + numel oshape = minDataLen (resizeDim t.view.dims axis
        ((sizes t.view.dims).getD axis 0 + oshape.getD axis 0))))
    (h : appendOp t axis cap oshape = .ok t') :
    NArr.concatOk axis t.arr.shape oshape = true ∧
    t'.arr = NArr.concat axis t.arr
      (NArr.ofFn oshape (fun idx => 1000 + (idxs oshape).idxOf idx)) := by
  obtain ⟨⟨-, hlen, hall⟩, hc, -⟩ := append_slow_run t t' axis cap oshape hb hl hno hwf hslow h
  refine ⟨?_, hc⟩
  unfold NArr.concatOk
  rw [show t.arr.shape = sizes t.view.dims from rfl]
  simp only [Bool.and_eq_true, beq_iff_eq, List.all_eq_true, List.mem_range, Bool.or_eq_true,
    sizes_length]
  exact ⟨hlen, fun k hk' => hall k hk'⟩

/-- Non-vacuity: an owned 2×3 tensor with row stride 4 (room for one more column) takes the
element-wise write path; evaluated result. -/
example : (appendOp ⟨[0, 1, 2, 3, 4, 5, 6, 7], ⟨0, 8, [(2, 4), (3, 1)]⟩⟩ 1 8 [2, 1]).map TState.arr =
      .ok ⟨[2, 4], [0, 1, 2, 1000, 4, 5, 6, 1001]⟩ ∧
    mayOverlap [(2, 4), (3, 1)] = false ∧ WF ⟨0, 8, [(2, 4), (3, 1)]⟩ ∧
    ¬ (isContiguous (resizeDim [(2, 4), (3, 1)] 1 (3 + 1)) = true ∧ 8 + numel [2, 1] =
      minDataLen (resizeDim [(2, 4), (3, 1)] 1 (3 + 1))) :=
  ⟨by rfl, by decide, by unfold WF; decide, by decide⟩

/-- Non-vacuity of `c09_clip_dim`: an owned 2×4 tensor clipped to columns 1..3 (evaluated), both
sides; and a rejected request (`end > size`) panics on both sides. -/
example : (clipDim ⟨[0, 1, 2, 3, 4, 5, 6, 7], ⟨0, 8, [(2, 4), (4, 1)]⟩⟩ 1 1 3).map TState.arr =
      .ok ⟨[2, 2], [1, 2, 5, 6]⟩ ∧
    NArr.sliceAxis 1 1 3 (⟨[2, 4], [0, 1, 2, 3, 4, 5, 6, 7]⟩ : NArr Nat) = .ok ⟨[2, 2], [1, 2, 5, 6]⟩ ∧
    (clipDim ⟨[0, 1, 2, 3, 4, 5, 6, 7], ⟨0, 8, [(2, 4), (4, 1)]⟩⟩ 1 1 5).map TState.arr = .error .panic ∧
    NArr.sliceAxis 1 1 5 (⟨[2, 4], [0, 1, 2, 3, 4, 5, 6, 7]⟩ : NArr Nat) = .error .panic :=
  ⟨by rfl, by rfl, by rfl, by rfl⟩

/-- The view operations covered by a T1 theorem above. -/
inductive VOp
  | tr
  | perm (p : List Nat)
  | mv (src dst : Nat)
  | ia (k : Nat)
  | ra (k : Nat)
  | ix (axis index : Nat)
  | sl (items : List SliceItem)
  | sa (axis start stop : Nat)
  | split (axis mid : Nat) (right : Bool)
  | bc (target : List Nat)
  | sq

def VOp.applyL : VOp → View → Except Err View
  | .tr, v => .ok (transposed v)
  | .perm p, v => permuted v p
  | .mv a b, v => moveAxis v a b
  | .ia k, v => insertAxis v k
  | .ra k, v => removeAxis v k
  | .ix a i, v => indexAxis v a i
  | .sl items, v => trySlice v items
  | .sa a b c, v => sliceAxis v a b c
  | .split a m r, v => splitAt v a m r
  | .bc t, v => broadcast v t
  | .sq, v => .ok (squeezed v)

def VOp.applyR : VOp → NArr α → Except Err (NArr α)
  | .tr, A => .ok A.transpose
  | .perm p, A => A.permute p
  | .mv a b, A => A.moveAxis a b
  | .ia k, A => A.insertAxis k
  | .ra k, A => A.removeAxis k
  | .ix a i, A => A.indexAxis a i
  | .sl items, A => A.slice (items.map toRefItem)
  | .sa a b c, A => A.sliceAxis a b c
  | .split a m r, A => A.splitAt a m r
  | .bc t, A => A.broadcastTo t
  | .sq, A => .ok A.squeeze

/-- Slice ranges are built by `SliceRange::new`, which rejects a zero step. -/
def VOp.stepsOk : VOp → Prop
  | .sl items => ∀ r, SliceItem.range r ∈ items → r.step ≠ 0
  | _ => True

/-- **C09.T1 (all covered operations at once)**: on a view whose storage window covers its
layout, the operation denotes the reference operation or fails with the same error class, and
the result covers its layout again. -/
theorem c09_step (op : VOp) (v : View) (s : Nat → α) (hwf : WF v) (hs : op.stepsOk) :
    (op.applyL v).map (fun v' => denote v' s) = op.applyR (denote v s) ∧
    ∀ v', op.applyL v = .ok v' → WF v' := by
  cases op with
  | tr => exact step_ok rfl (transpose_step v s).1 ((transpose_step v s).2 hwf)
  | perm p => exact (permute_step v p s).imp_right (· hwf)
  | mv a b => exact (move_axis_step v a b s).imp_right (· hwf)
  | ia k => exact (insert_axis_step v k s).imp_right (· hwf)
  | ra k => exact (remove_axis_step v k s).imp_right (· hwf)
  | ix a i => exact c09_index_axis v a i s hwf
  | sl items => exact c09_slice v items s hwf hs
  | sa a b c => exact c09_slice_axis v a b c s hwf
  | split a m r => exact c09_split_at v a m r s hwf
  | bc t => exact (broadcast_step v t s).imp_right (· hwf)
  | sq => exact step_ok rfl (squeeze_step v s).1 ((squeeze_step v s).2 hwf)

def chainL : List VOp → View → Except Err View
  | [], v => .ok v
  | op :: ops, v => match op.applyL v with
    | .ok v' => chainL ops v'
    | .error e => .error e

def chainR : List VOp → NArr α → Except Err (NArr α)
  | [], A => .ok A
  | op :: ops, A => match op.applyR A with
    | .ok A' => chainR ops A'
    | .error e => .error e

/-- **C09.T2** Any chain of the operations above, applied to the layout of a view that covers its
storage needs, denotes what the same chain of reference operations yields on the denoted array;
a failing step fails on both sides with the same error class, and no step can hit the storage
range assertion (by induction over the chain from the T1 theorems and the invariant). -/
theorem c09_chain (ops : List VOp) (v : View) (s : Nat → α) (hwf : WF v)
    (hs : ∀ op ∈ ops, op.stepsOk) :
    (chainL ops v).map (fun v' => denote v' s) = chainR ops (denote v s) := by
  induction ops generalizing v with
  | nil => rfl
  | cons op ops ih =>
    obtain ⟨hstep, hwf'⟩ := c09_step op v s hwf (hs op List.mem_cons_self)
    simp only [chainL, chainR]
    cases hL : op.applyL v with
    | error e =>
      rw [hL] at hstep
      rw [← hstep]
      rfl
    | ok v' =>
      rw [hL] at hstep
      rw [← hstep]
      exact ih v' (hwf' v' hL) (fun op' h => hs op' (List.mem_cons_of_mem _ h))

/-- Non-vacuity: a chain that runs to completion on a non-contiguous source, evaluated. -/
example : (chainL [.tr, .ia 1, .mv 0 2, .ra 0, .sl [.range ⟨-2, none, 1⟩, .range ⟨0, none, 2⟩],
      .split 1 1 true] ⟨1, 12, [(2, 4), (3, 1)]⟩).map (fun v' => denote v' (fun i => i)) =
    .ok (⟨[2, 1], [3, 7]⟩ : NArr Nat) ∧ WF ⟨1, 12, [(2, 4), (3, 1)]⟩ := ⟨by rfl, by unfold WF; decide⟩

/-- … and one that fails in the middle on both sides. -/
example : (chainL [.tr, .ra 0] ⟨0, 6, [(2, 3), (3, 1)]⟩).map (fun v' => denote v' (fun i => i)) =
    (.error .panic : Except Err (NArr Nat)) ∧
    chainR [.tr, .ra 0] (⟨[2, 3], [0, 1, 2, 3, 4, 5]⟩ : NArr Nat) = .error .panic := ⟨by rfl, by rfl⟩

/-- **C09.T4 clip_dim on any view** (through `materialize`, as driven): when it returns, the
result is the reference range of the axis of the *original* view's array. -/
theorem c09_clip_dim_any (t t' : TState) (axis start stop : Nat)
    (h : clipDim t axis start stop = .ok t') :
    t.arr.sliceAxis axis start stop = .ok t'.arr := by
  cases hm : materialize t with
  | error e => unfold clipDim at h; rw [hm] at h; cases h
  | ok m =>
    obtain ⟨harr, hown⟩ := materialize_arr t m hm
    rw [← harr]
    refine c09_clip_dim m t' axis start stop hown.1 hown.2.1 hown.2.2.1 hown.2.2.2 ?_
    unfold clipDim at h ⊢
    rw [hm] at h
    rw [materialize_twice t m hm]
    exact h

/-- **C09.T4 append on any view** (through `materialize`; element-wise write path): the result
is `numpy.concatenate([a, other], axis)` of the *original* view's array. -/
theorem c09_append_any_partial (t t' m : TState) (axis cap : Nat) (oshape : List Nat)
    (hm : materialize t = .ok m)
    (hslow : ¬ (isContiguous (resizeDim m.view.dims axis
        ((sizes m.view.dims).getD axis 0 + oshape.getD axis 0)) = true ∧
      m.store.length + numel oshape = minDataLen (resizeDim m.view.dims axis
        ((sizes m.view.dims).getD axis 0 + oshape.getD axis 0))))
    (h : appendOp t axis cap oshape = .ok t') :
    t'.arr = NArr.concat axis t.arr (NArr.ofFn oshape (fun idx => 1000 + (idxs oshape).idxOf idx)) := by
  obtain ⟨harr, hown⟩ := materialize_arr t m hm
  rw [← harr]
  refine (c09_append_concat_partial m t' axis cap oshape hown.1 hown.2.1 hown.2.2.1 hown.2.2.2
    hslow ?_).2
  unfold appendOp at h ⊢
  rw [hm] at h
  rw [materialize_twice t m hm]
  exact h

theorem slicedShape_too_many (d : Dims) (items : List SliceItem)
    (hlen : d.length < items.length) : slicedShape d items = .error .panic := by
  fun_induction slicedShape d items
  case case1 => cases hlen
  case case2 => rfl
  case case3 ih => rw [ih (by simpa using hlen)]; rfl

theorem copySels_too_many (items : List NArr.Item) (shape : List Nat)
    (hlen : shape.length < items.length) : NArr.copySels items shape = .error .panic := by
  fun_induction NArr.copySels items shape
  -- `case1`: no items; `case3`, `case6`: an in-range index / a range with non-zero step (recursive)
  case case1 => cases hlen
  case case3 ih | case6 ih => rw [ih (by simpa using hlen)]; rfl
  all_goals rfl

/-- `slice_copy` with range items, as one step: reference result or the same panic (too many
items), and the result — a fresh contiguous tensor — covers its layout. -/
theorem c09_slice_copy_step (t : TState) (items : List SliceItem) (hr : rangesOnly items)
    (hwf : WF t.view) :
    (sliceCopy t items).map TState.arr = NArr.sliceCopy (items.map toRefItem) t.arr ∧
    ∀ t', sliceCopy t items = .ok t' → WF t'.view := by
  by_cases hlen : items.length ≤ t.view.dims.length
  · obtain ⟨t1, h1, h2, h3⟩ := c09_slice_copy_ranges t items hlen hr hwf
    rw [h1, h2]
    exact ⟨rfl, fun t' h => by injection h with h; exact h ▸ h3⟩
  · have hl : t.view.dims.length < items.length := by omega
    have hL : sliceCopy t items = .error .panic := by
      unfold sliceCopy trySlice
      rw [if_pos hl]
      simp only [slicedShape_too_many _ _ hl, bind, Except.bind]
    have hR : NArr.sliceCopy (items.map toRefItem) t.arr = .error .panic := by
      unfold NArr.sliceCopy
      rw [copySels_too_many _ _ (by simpa [TState.arr, denote] using hl)]
      rfl
    rw [hL, hR]
    exact ⟨rfl, fun t' h => by cases h⟩

/-- **C09 copy_range_into_slice, loop level** (code after fix `2a7721f`).  For every number of
axes and every list of resolved index ranges (reversed, stepped, empty, …), writing into an
output buffer of exactly `∏ steps` elements, the loop nest — the four-deep `dest_offset` loop
and, for more axes, the recursion that splits the buffer by the *sliced* sub-tensor length —
(a) returns exactly the elements at the Cartesian product of the ranges in row-major order,
which is the data of the reference `NArr.gather`, and (b) passes every length assertion on the
way (`assert_eq!(dest.len(), sliced_len)`, `split_at_mut`, `assert!(dest.is_empty())`). -/
theorem c09_copy_range_loop (A : NArr Nat) (ranges : List (List Nat)) (dest : List Nat)
    (hrank : ranges.length = A.shape.length) (hd : dest.length = CopyRange.prodLen ranges) :
    CopyRange.copyRangeIntoSlice A.get dest ranges =
      .ok (NArr.gather (ranges.map Sel.take) A).data := by
  rw [CopyRange.copyRangeIntoSlice_spec ranges A.get dest hd, CopyRange.gather_data A ranges hrank]

theorem copyRanges_length (d : Dims) (items : List SliceItem) (lists : List (List Nat))
    (h : copyRanges d items = .ok lists) : lists.length = d.length := by
  fun_induction copyRanges d items generalizing lists
  case case1 => cases h; rfl
  case case2 => cases h
  case case3 ih =>
    obtain ⟨rest, hr, h⟩ := bind_eq_ok h
    cases h
    simp [ih rest hr]
  case case4 ih =>
    obtain ⟨ir, -, h⟩ := bind_eq_ok h
    obtain ⟨rest, hr, h⟩ := bind_eq_ok h
    cases h
    simp [ih rest hr]

/-- The loop-level model and the gather-level model of `slice_copy`'s copying path agree: with
the index lists and the buffer length `slice_copy_in` computes (`∏ sliced_shape`, checked equal
to `∏ steps`), the loop fills the buffer with exactly the data `sliceCopy` installs. -/
theorem c09_slice_copy_loop (t : TState) (items : List SliceItem) (shp : List Nat)
    (lists : List (List Nat)) (dest : List Nat)
    (hl : copyRanges t.view.dims items = .ok lists)
    (hn : numel shp = numel (lists.map List.length)) (hd : dest.length = numel shp) :
    CopyRange.copyRangeIntoSlice t.arr.get dest lists =
      .ok (NArr.gather (lists.map Sel.take) t.arr).data := by
  apply c09_copy_range_loop
  · rw [copyRanges_length _ _ _ hl]; simp [TState.arr, denote]
  · rw [hd, hn]; rfl

/-- **The pre-fix loop is wrong** (witnesses for finding `C09-slice-copy-rank5-split`): on a
`[2,2,2,2,3]` source with the last axis sliced `-1::-2` (indices `[2, 0]`) the old code, which
split the buffer by the full sub-tensor length (24 instead of 16), fails the inner
`assert_eq!` — a panic — where the fixed loop returns the 32 selected elements; and with an
outer range that selects nothing the old code returned the buffer untouched (uninitialised
memory, here the marker 7) where the fixed loop panics on `assert!(dest.is_empty())`. -/
theorem c09_copy_range_old_false :
    let src : List Nat → Nat := fun idx => idx.foldl (fun a i => 3 * a + i) 0
    CopyRange.copyInnerOld src (List.replicate 32 7) [2, 2, 2, 2, 3]
        [[0, 1], [0, 1], [0, 1], [0, 1], [2, 0]] = .error .panic ∧
    CopyRange.copyInner src (List.replicate 32 7) [[0, 1], [0, 1], [0, 1], [0, 1], [2, 0]] =
        .ok ((CopyRange.cart [[0, 1], [0, 1], [0, 1], [0, 1], [2, 0]]).map src) ∧
    CopyRange.copyInnerOld src [7, 7] [2, 1, 1, 1, 1] [[], [0], [0], [0], [0]] = .ok [7, 7] ∧
    CopyRange.copyInner src [7, 7] [[], [0], [0], [0], [0]] = .error .panic := by
  refine ⟨by rfl, by rfl, by rfl, by rfl⟩

theorem WF_toContiguous (t : TState) : WF (toContiguous t).view := by
  unfold toContiguous
  split
  · unfold WF; exact Nat.le_refl _
  · exact WF_ofArr _ (Seq.denote_data_length _ _)

theorem WF_reshaped (t t' : TState) (shape : List Nat) (hwf : WF t.view)
    (h : reshaped t shape = .ok t') : WF t'.view := by
  unfold reshaped at h
  split at h
  · cases h
  · rename_i hn
    have hn' : numel shape = numelD t.view.dims := by omega
    split at h
    · rename_i hc
      injection h with h
      subst h
      show minDataLen (contigDims shape) ≤ t.view.len
      rw [minDataLen_contigDims, hn']
      exact Nat.le_trans (Nat.le_of_eq (minDataLen_contiguous _ hc).symm) hwf
    · injection h with h
      subst h
      show minDataLen (contigDims shape) ≤ t.arr.data.length
      rw [minDataLen_contigDims, hn']
      exact Nat.le_of_eq (Seq.denote_data_length _ _).symm

/-- Operations on a tensor state (buffer + view). -/
inductive TOp
  | view (op : VOp)
  | tc
  | rs (shape : List Nat)
  | slc (items : List SliceItem)

def TOp.applyL : TOp → TState → Except Err TState
  | .view op, t => (op.applyL t.view).map (fun v => { t with view := v })
  | .tc, t => .ok (toContiguous t)
  | .rs shape, t => reshaped t shape
  | .slc items, t => sliceCopy t items

def TOp.applyR : TOp → NArr Nat → Except Err (NArr Nat)
  | .view op, A => op.applyR A
  | .tc, A => .ok A
  | .rs shape, A => match A.reshape shape with
    | some B => .ok B
    | none => .error .panic
  | .slc items, A => A.sliceCopy (items.map toRefItem)

def TOp.stepsOk : TOp → Prop
  | .view op => op.stepsOk
  | .slc items => rangesOnly items
  | _ => True

theorem c09_state_step (op : TOp) (t : TState) (hwf : WF t.view) (hs : op.stepsOk) :
    (op.applyL t).map TState.arr = op.applyR t.arr ∧
    ∀ t', op.applyL t = .ok t' → WF t'.view := by
  cases op with
  | view op =>
    obtain ⟨h1, h2⟩ := c09_step op t.view (fun i => t.store.getD i 0) hwf hs
    simp only [TOp.applyL, TOp.applyR]
    cases hL : op.applyL t.view with
    | error e =>
      rw [hL] at h1
      exact ⟨h1, fun t' h => by cases h⟩
    | ok v' =>
      rw [hL] at h1
      exact ⟨h1, fun t' h => by cases h; exact h2 v' hL⟩
  | tc =>
    exact ⟨congrArg Except.ok (c09_to_contiguous t), fun t' h => by cases h; exact WF_toContiguous t⟩
  | rs shape =>
    exact ⟨c09_reshaped t shape, fun t' h => WF_reshaped t t' shape hwf h⟩
  | slc items => exact c09_slice_copy_step t items hs hwf

def chainTL : List TOp → TState → Except Err TState
  | [], t => .ok t
  | op :: ops, t => match op.applyL t with
    | .ok t' => chainTL ops t'
    | .error e => .error e

def chainTR : List TOp → NArr Nat → Except Err (NArr Nat)
  | [], A => .ok A
  | op :: ops, A => match op.applyR A with
    | .ok A' => chainTR ops A'
    | .error e => .error e

/-- **C09.T2 (tensor states)**: chains mixing the view operations with `to_contiguous`,
`reshaped` (view or copy) and `slice_copy` (range items) denote the reference chain; the
storage-window invariant is kept across copies, so later view operations stay covered. -/
theorem c09_state_chain (ops : List TOp) (t : TState) (hwf : WF t.view)
    (hs : ∀ op ∈ ops, op.stepsOk) :
    (chainTL ops t).map TState.arr = chainTR ops t.arr := by
  induction ops generalizing t with
  | nil => rfl
  | cons op ops ih =>
    obtain ⟨hstep, hwf'⟩ := c09_state_step op t hwf (hs op List.mem_cons_self)
    simp only [chainTL, chainTR]
    cases hL : op.applyL t with
    | error e =>
      rw [hL] at hstep
      rw [← hstep]
      rfl
    | ok t' =>
      rw [hL] at hstep
      rw [← hstep]
      exact ih t' (hwf' t' hL) (fun op' h => hs op' (List.mem_cons_of_mem _ h))

/-- Non-vacuity: transpose, copy, reshape, slice on a 2×3 tensor. -/
example : (chainTL [.view .tr, .tc, .rs [6], .view (.sl [.range ⟨1, none, 2⟩]),
      .slc [.range ⟨-1, none, -1⟩]]
      ⟨[0, 1, 2, 3, 4, 5], ⟨0, 6, [(2, 3), (3, 1)]⟩⟩).map TState.arr =
    .ok ⟨[3], [5, 4, 3]⟩ := by rfl

/-- **C09 copy_blocked**: the write-by-write model of the 64×64-block / 4×4-tile loop nest
(including the transposing kernel, used when the row stride is 1, and the narrow / short edge
tiles) fills a `rows × cols` row-major buffer with `dest[r][c] = src[r·row_stride + c·col_stride]`
for every `r < rows`, `c < cols` — every element written, none wrongly — and every write of the
loop nest targets a position inside the matrix (so the model's `List.set` never swallows an
out-of-range write).  Tie to the code: the harness compares the real `to_vec` *output* with the
model's output (`CB` requests); the order of the writes and which kernel ran are not observed. -/
theorem c09_copy_blocked (rows cols rs cs : Nat) (src : Nat → Nat) :
    (∀ w ∈ Copy.blockedWrites rows cols, w.r < rows ∧ w.c < cols) ∧
    (Copy.copyBlocked rows cols rs cs src).length = rows * cols ∧
    ∀ r c, r < rows → c < cols →
      (Copy.copyBlocked rows cols rs cs src).getD (r * cols + c) 0 = src (r * rs + c * cs) :=
  ⟨fun w hw => Copy.writes_valid rows cols w hw, Copy.copyBlocked_correct rows cols rs cs src⟩

/-! T3: slice arithmetic against the NumPy / CPython definition, over unbounded `Int` (no
machine-integer bound enters), for every `start`, optional `stop` and axis length `n`. -/

/-- **C09.T3a** `resolve` (positive step, used by the view-returning `slice`): succeeds exactly
when no bound needs clamping and then returns CPython's adjusted bounds. -/
theorem c09_resolve_matches_numpy (r : SliceRange) (n : Nat) (ht : r.step > 0) :
    r.resolve n =
      if NArr.inBounds r.start n && r.stop.all (NArr.inBounds · n) then
        some ((pyBounds r.start r.stop r.step n).1.toNat,
          (max (pyBounds r.start r.stop r.step n).2 (pyBounds r.start r.stop r.step n).1).toNat)
      else none :=
  resolve_pos r n ht

/-- **C09.T3a'** `SliceRange::steps` is CPython's element count, both step signs. -/
theorem c09_steps_matches_numpy (r : SliceRange) (n : Nat) (h0 : r.step ≠ 0) :
    r.steps n = pyCount r.start r.stop r.step n :=
  steps_eq_pyCount r n h0

/-- **C09.T3b** `index_range` / `IndexRange::steps` / the index iterator, positive step: never
fails; the indices are exactly `a[start:stop:step]`'s and `steps` is their number. -/
theorem c09_index_range_pos_matches_numpy (r : SliceRange) (n : Nat) (ht : r.step > 0) :
    ∃ ir, r.indexRange n = .ok ir ∧ ir.toList = pyIndices r.start r.stop r.step n ∧
      ir.steps = pyCount r.start r.stop r.step n :=
  indexRange_spec r n (by omega)

/-- **C09.T3c** negative step (code after fix `6e0e117`): `index_range` never fails and returns
exactly NumPy's indices — full strength, every `(start, stop, step < 0, n)`. -/
theorem c09_index_range_neg_matches_numpy (r : SliceRange) (n : Nat) (ht : r.step < 0) :
    ∃ ir, r.indexRange n = .ok ir ∧ ir.toList = pyIndices r.start r.stop r.step n ∧
      ir.steps = pyCount r.start r.stop r.step n :=
  indexRange_spec r n (by omega)

/-- **C09.T3** both signs: for every `step ≠ 0` the index iterator of `index_range` is
`a[start:stop:step]`. -/
theorem c09_index_range_matches_numpy (r : SliceRange) (n : Nat) (h0 : r.step ≠ 0) :
    ∃ ir, r.indexRange n = .ok ir ∧ ir.toList = pyIndices r.start r.stop r.step n ∧
      ir.steps = pyCount r.start r.stop r.step n :=
  indexRange_spec r n h0

/-- The same full statement was **false** of the code before fix `6e0e117` (`indexRangeOld`):
reversing an empty axis, or starting below `-n`, panicked (`dim_size - 1 - resolved.start`
underflows) where NumPy yields `[]` (finding `C09-index-range-neg-start-underflow`, fixed). -/
theorem c09_index_range_old_neg_full_false :
    ¬ ∀ (r : SliceRange) (n : Nat), r.step < 0 →
      ∃ ir, r.indexRangeOld n = .ok ir ∧ ir.toList = pyIndices r.start r.stop r.step n := by
  intro h
  obtain ⟨ir, h1, _⟩ := h ⟨-1, none, -1⟩ 0 (by decide)
  have e : (SliceRange.mk (-1) none (-1)).indexRangeOld 0 = .error .panic := by rfl
  rw [e] at h1
  cases h1

/-- What did hold of the pre-fix code: it either panicked — exactly when NumPy's adjusted start
is `-1`, i.e. `start < -n` or `n = 0`, where NumPy's answer is the empty list — or returned
exactly NumPy's indices. -/
theorem c09_index_range_old_neg_partial (r : SliceRange) (n : Nat) (ht : r.step < 0) :
    (r.indexRangeOld n = .error .panic ∧ (r.start < -(n : Int) ∨ n = 0) ∧
        pyIndices r.start r.stop r.step n = []) ∨
    (∃ ir, r.indexRangeOld n = .ok ir ∧ ir.toList = pyIndices r.start r.stop r.step n ∧
      ir.steps = pyCount r.start r.stop r.step n ∧ ¬ (r.start < -(n : Int) ∨ n = 0)) := by
  have hb : (pyBounds r.start r.stop r.step n).1 = pyAdjust r.start r.step n := rfl
  rw [← neg_start_before _ _ _ ht, ← hb]
  rcases indexRangeOld_neg r n ht with ⟨h1, h2⟩ | ⟨ir, h1, h2, h3, h4⟩
  · refine Or.inl ⟨h1, h2, ?_⟩
    rcases hp : pyBounds r.start r.stop r.step n with ⟨S, E⟩
    have hR := pyBounds_neg ht hp
    rw [hp] at h2
    simp only at h2
    have hc : pyCount r.start r.stop r.step n = 0 := by
      rw [pyCount_of_bounds hp, if_pos ht, if_neg (by omega)]
    simp only [pyIndices, hc, List.range_zero, List.map_nil]
  · exact Or.inr ⟨ir, h1, h3, h4, h2⟩

/-- Non-vacuity: a reversed stepped range, and the formerly panicking input on old and new code. -/
example : (SliceRange.mk (-1) (some (-6)) (-2)).indexRange 5 = .ok ⟨4, -1, -2⟩ ∧
    (IndexRange.mk 4 (-1) (-2)).toList = [4, 2, 0] ∧ pyIndices (-1) (some (-6)) (-2) 5 = [4, 2, 0] ∧
    (SliceRange.mk (-4) none (-1)).indexRangeOld 3 = .error .panic ∧
    (SliceRange.mk (-4) none (-1)).indexRange 3 = .ok ⟨0, 0, -1⟩ ∧
    (IndexRange.mk 0 0 (-1)).toList = [] ∧ pyIndices (-4) none (-1) 3 = [] := by
  refine ⟨by rfl, by rfl, by rfl, by rfl, by rfl, by rfl, by rfl⟩

/-- Full statement "`slice_copy` yields what NumPy's `a[items].copy()` yields, or panics" was
**false** of the code before fix `64c556f` (`sliceCopyOld`): on the slow path (negative step or
clamped bound) the axes that have no slice item were dropped from the result shape.  Witness: a
contiguous 3×1 tensor sliced with `[::-2]` came back with shape `[2]` instead of `[2, 1]`
(finding `C09-slice-copy-drops-unsliced-axes`, fixed). -/
theorem c09_slice_copy_old_full_false :
    ¬ ∀ (t : TState) (items : List SliceItem) (A : NArr Nat),
      sliceCopyOld t items = .ok (TState.ofArr A) →
      NArr.sliceCopy (items.map toRefItem) t.arr = .ok A := by
  intro h
  have e1 : sliceCopyOld ⟨[0, 1, 2], ⟨0, 3, [(3, 1), (1, 1)]⟩⟩ [.range ⟨-1, none, -2⟩] =
      .ok (TState.ofArr ⟨[2], [2, 0]⟩) := by rfl
  have e2 : NArr.sliceCopy ([SliceItem.range ⟨-1, none, -2⟩].map toRefItem)
      (TState.arr ⟨[0, 1, 2], ⟨0, 3, [(3, 1), (1, 1)]⟩⟩) = .ok ⟨[2, 1], [2, 0]⟩ := by rfl
  have h1 := h _ _ _ e1
  rw [e2] at h1
  injection h1 with h2
  injection h2 with h3 _
  revert h3
  decide

/-- Second pre-fix witness (finding `C09-slice-copy-accepts-bad-index-when-empty`, fixed by
`bb4fae9`): on a 2×0 tensor `slice_copy((2, 0..))` returned an empty tensor although index 2 is
out of range (the reference, like NumPy, rejects it). -/
theorem c09_slice_copy_old_accepts_bad_index :
    sliceCopyOld ⟨[], ⟨0, 0, [(2, 1), (0, 2)]⟩⟩ [.index 2, .range ⟨0, none, 1⟩] =
      .ok (TState.ofArr ⟨[0], []⟩) ∧
    NArr.sliceCopy ([SliceItem.index 2, SliceItem.range ⟨0, none, 1⟩].map toRefItem)
      (TState.arr ⟨[], ⟨0, 0, [(2, 1), (0, 2)]⟩⟩) = .error .panic :=
  ⟨by rfl, by rfl⟩

/-- The fixed code on the same two inputs (evaluated examples, i.e. tests; the general statements
for the fixed model are `c09_slice_copy_fast` and `c09_slice_copy_ranges`). -/
theorem c09_slice_copy_fixed_witnesses :
    sliceCopy ⟨[0, 1, 2], ⟨0, 3, [(3, 1), (1, 1)]⟩⟩ [.range ⟨-1, none, -2⟩] =
      .ok (TState.ofArr ⟨[2, 1], [2, 0]⟩) ∧
    sliceCopy ⟨[], ⟨0, 0, [(2, 1), (0, 2)]⟩⟩ [.index 2, .range ⟨0, none, 1⟩] = .error .panic :=
  ⟨by rfl, by rfl⟩

end RtenVerif.Layout
