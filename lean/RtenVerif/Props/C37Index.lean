import RtenVerif.Props.C37

/-!
# C37 — index arithmetic of the block-quantized kernels

For every SIMD width of the code (`epv` = 32 generic, 64 AVX2, 128 AVX-512), every power-of-two
block size `bs ≥ 16`, every block count `nb` and every element position `k < nb·bs`, the scale
index computed by the Float kernel (`scaleIdxFloat`: main loop with `SCALES_PER_VBLOCK` arithmetic
and shift, scalar tail with `tail_scales[i / elements_per_scale]`) and by the Int8 kernel
(`scaleIdxInt8`: per-lane `select` masks, whole-block tail) is `k / bs` — the index the
reference (`expandScales`, `c37_scale_of_element`) uses.  The two seeded slips are refuted.

The transcription of the Rust loops into `Model/BlockQuantIndex.lean` is tied to the real kernels
by the `sidx` lines of the harness (one-hot LHS × all-ones weights with a distinct power-of-two
scale per block, every `k`, per ISA).
-/
namespace RtenVerif.BlockQuantIndex

/-! ### Blocks smaller than a vblock: `epv = S·bs` with `S ∈ {2, 4, 8}` scales per vblock -/

theorem scalesPerVblock_small {S bs : Nat} (hS : 0 < S) (hbs : 0 < bs) :
    scalesPerVblock (S * bs) bs = S := by
  rw [scalesPerVblock, Nat.mul_div_cancel _ hbs, Nat.max_eq_left hS]

theorem blocksPerVec_small {S bs : Nat} (hbs : 0 < bs) : blocksPerVec (S * bs) bs = S := by
  rw [blocksPerVec, Nat.add_sub_assoc hbs, (mul_add_div_mod S (Nat.sub_lt hbs Nat.one_pos)).1]

theorem mainLen_small (S bs nb : Nat) (hbs : 0 < bs) :
    mainLen (S * bs) bs nb = nb / S * S * bs := by
  rw [mainLen, Nat.mul_div_mul_right _ _ hbs, Nat.mul_assoc]

/-- Both tails index whole left-over blocks from `nb − nb % S` on. -/
theorem tail_idx (S bs nb k : Nat) (hbs : 0 < bs) (hk : nb / S * S * bs ≤ k) :
    nb - nb % S + (k - nb / S * S * bs) / bs = k / bs := by
  have hnb := Nat.div_add_mod' nb S
  conv => rhs; rw [← Nat.sub_add_cancel hk, Nat.add_mul_div_right _ _ hbs]
  omega

/-- Float main loop: sub-vector `x / (epv/8)` of the vblock lies in block `x / bs` of it; the block
size is written `4·m` so that `epv/8` and the arms' `i / 4`, `i / 2`, `i` compose to `x / bs`. -/
theorem floatMainIdx_small {S : Nat} (hS : S = 2 ∨ S = 4 ∨ S = 8) (m v x : Nat) (hm : 0 < m) :
    floatMainIdx (S * (4 * m)) (4 * m) v (x / (S * (4 * m) / 8)) = v * S + x / (4 * m) := by
  unfold floatMainIdx
  rw [scalesPerVblock_small (by omega) (by omega)]
  rcases hS with rfl | rfl | rfl <;> simp only []
  · rw [Nat.div_div_eq_div_mul, (by omega : 2 * (4 * m) / 8 * 4 = 4 * m)]
  · rw [Nat.div_div_eq_div_mul, (by omega : 4 * (4 * m) / 8 * 2 = 4 * m)]
  · rw [(by omega : 8 * (4 * m) / 8 = 4 * m)]

theorem float_small {S bs : Nat} (hS : S = 2 ∨ S = 4 ∨ S = 8) (h4 : 4 ∣ bs) (nb k : Nat)
    (h : k < nb * bs) : scaleIdxFloat (S * bs) bs nb k = k / bs := by
  obtain ⟨m, rfl⟩ := h4
  have hm : 0 < m := Nat.pos_of_ne_zero (by rintro rfl; simp at h)
  have hbs : 0 < 4 * m := by omega
  unfold scaleIdxFloat
  rw [mainLen_small S _ nb hbs]
  split
  · rw [floatMainIdx_small hS m _ _ hm, div_split]
  · unfold floatTailIdx
    rw [scalesPerVblock_small (by omega) hbs, mainLen_small S _ nb hbs]
    simp only []
    -- the remainder is `nb % S` whole blocks, so each tail scale covers `bs / 2` pairs
    have hrem : nb * (4 * m) - nb / S * S * (4 * m) = nb % S * (2 * m) * 2 := by
      have hnb := Nat.div_add_mod' nb S
      rw [← Nat.sub_mul, (by omega : nb - nb / S * S = nb % S), Nat.mul_assoc,
        (by omega : 2 * m * 2 = 4 * m)]
    have ht : 0 < nb % S := Nat.pos_of_ne_zero fun h0 => by
      rw [h0] at hrem
      omega
    rw [hrem, Nat.mul_div_cancel _ (by decide), Nat.mul_div_cancel_left _ ht, Nat.div_div_eq_div_mul,
      (by omega : 2 * (2 * m) = 4 * m)]
    exact tail_idx S _ nb k hbs (by omega)

/-- The `select` masks of the Int8 kernel pick, for lane `l`, the block `l / m` of the accumulator:
`first_n_mask(m)` over `2·m` lanes, the quarter masks over `4·m` lanes. -/
theorem selectLane_eq_div (m l : Nat) (hm : 0 < m) (h : l < 2 * m) : selectLane m l 0 1 = l / m := by
  rw [eq_comm, Nat.div_eq_iff hm, selectLane]
  split <;> omega

theorem quadLane_eq_div (m l : Nat) (hm : 0 < m) (h : l < 4 * m) : quadLane (4 * m) l = l / m := by
  rw [eq_comm, Nat.div_eq_iff hm, quadLane, selectLane, selectLane, selectLane]
  split <;> split <;> omega

/-- Int8 main loop: element `x` of the vblock (half `x / (epv/2)`, lane `x % (epv/2) / 4`) gets the
scale of block `x / bs` of it: `div_split` over the halves, the lane masks inside a half. -/
theorem int8MainIdx_small {S : Nat} (hS : S = 2 ∨ S = 4 ∨ S = 8) (m v x : Nat) (hm : 0 < m) :
    int8MainIdx (S * (4 * m)) (4 * m) v (x / (S * (4 * m) / 2)) (x % (S * (4 * m) / 2) / 4) =
      v * S + x / (4 * m) := by
  unfold int8MainIdx
  rw [scalesPerVblock_small (by omega) (by omega)]
  rcases hS with rfl | rfl | rfl <;> simp only []
  · rw [(by omega : 2 * (4 * m) / 2 = 4 * m)]
  · rw [(by omega : 4 * (4 * m) / 2 = 2 * (4 * m)), (by omega : 4 * (4 * m) / 8 / 2 = m),
      selectLane_eq_div m _ hm (by have := Nat.mod_lt x (by omega : 0 < 2 * (4 * m)); omega),
      Nat.div_div_eq_div_mul, ← div_split 2 (4 * m) x]
    omega
  · rw [(by omega : 8 * (4 * m) / 2 = 4 * (4 * m)), (by omega : 8 * (4 * m) / 8 = 4 * m),
      quadLane_eq_div m _ hm (by have := Nat.mod_lt x (by omega : 0 < 4 * (4 * m)); omega),
      Nat.div_div_eq_div_mul, ← div_split 4 (4 * m) x]
    omega

theorem int8_small {S bs : Nat} (hS : S = 2 ∨ S = 4 ∨ S = 8) (h4 : 4 ∣ bs) (nb k : Nat)
    (h : k < nb * bs) : scaleIdxInt8 (S * bs) bs nb k = k / bs := by
  obtain ⟨m, rfl⟩ := h4
  have hm : 0 < m := Nat.pos_of_ne_zero (by rintro rfl; simp at h)
  have hbs : 0 < 4 * m := by omega
  unfold scaleIdxInt8
  rw [mainLen_small S _ nb hbs, blocksPerVec_small hbs]
  split
  · rw [int8MainIdx_small hS m _ _ hm, div_split]
  · exact tail_idx S _ nb k hbs (by omega)

/-! ### Blocks at least as large as a vblock: `bs = epv·2^j`

One scale per vblock, selected with the shift `v >> log2(bs / epv)`; there is no tail. -/

theorem scalesPerVblock_big (epv j : Nat) : scalesPerVblock epv (epv * 2 ^ j) = 1 := by
  unfold scalesPerVblock
  have hpos : 0 < 2 ^ j := Nat.pow_pos (by decide)
  have : epv / (epv * 2 ^ j) ≤ 1 := by
    apply Nat.div_le_of_le_mul
    have := Nat.mul_le_mul_left epv hpos
    omega
  omega

theorem mainLen_big (epv j nb : Nat) : mainLen epv (epv * 2 ^ j) nb = nb * (epv * 2 ^ j) :=
  Nat.div_mul_cancel ⟨nb * 2 ^ j, by rw [← Nat.mul_assoc, ← Nat.mul_assoc, Nat.mul_comm nb epv]⟩

theorem shift_big (epv j v : Nat) (hepv : 0 < epv) :
    v >>> vecsPerBlockLog2 epv (epv * 2 ^ j) = v / 2 ^ j := by
  unfold vecsPerBlockLog2
  have hpos : 0 < 2 ^ j := Nat.pow_pos (by decide)
  rw [Nat.mul_div_cancel_left _ hepv, if_pos (by omega), Nat.log2_two_pow, Nat.shiftRight_eq_div_pow]

theorem float_big (epv j nb k : Nat) (hepv : 0 < epv) (h : k < nb * (epv * 2 ^ j)) :
    scaleIdxFloat epv (epv * 2 ^ j) nb k = k / (epv * 2 ^ j) := by
  unfold scaleIdxFloat
  rw [mainLen_big, if_pos h]
  unfold floatMainIdx
  rw [scalesPerVblock_big epv j]
  simp only []
  rw [shift_big epv j _ hepv, Nat.div_div_eq_div_mul]

theorem int8_big (epv j nb k : Nat) (hepv : 0 < epv) (h : k < nb * (epv * 2 ^ j)) :
    scaleIdxInt8 epv (epv * 2 ^ j) nb k = k / (epv * 2 ^ j) := by
  unfold scaleIdxInt8
  rw [mainLen_big, if_pos h]
  unfold int8MainIdx
  rw [scalesPerVblock_big epv j]
  simp only []
  rw [shift_big epv j _ hepv, Nat.div_div_eq_div_mul]

/-- The SIMD widths of the code: generic (128-bit), AVX2, AVX-512. -/
def IsEpv (epv : Nat) : Prop := epv = 32 ∨ epv = 64 ∨ epv = 128

theorem IsEpv.small_or_big {epv : Nat} (hepv : IsEpv epv) (j : Nat) :
    (∃ S, (S = 2 ∨ S = 4 ∨ S = 8) ∧ epv = S * (16 * 2 ^ j)) ∨
      (0 < epv ∧ ∃ i, 16 * 2 ^ j = epv * 2 ^ i) := by
  rcases hepv with rfl | rfl | rfl
  · match j with
    | 0 => exact .inl ⟨2, by simp⟩
    | j + 1 => exact .inr ⟨by decide, j, by omega⟩
  · match j with
    | 0 => exact .inl ⟨4, by simp⟩
    | 1 => exact .inl ⟨2, by simp⟩
    | j + 2 => exact .inr ⟨by decide, j, by rw [Nat.pow_add]; omega⟩
  · match j with
    | 0 => exact .inl ⟨8, by simp⟩
    | 1 => exact .inl ⟨4, by simp⟩
    | 2 => exact .inl ⟨2, by simp⟩
    | j + 3 => exact .inr ⟨by decide, j, by rw [Nat.pow_add]; omega⟩

/-- **C37.I1** Float kernel (`VecDotMatrix::eval_impl`): for every SIMD width, every power-of-two
block size `bs = 16·2^j`, every block count and every element position, the scale index used by
the main loop / the scalar tail is `k / bs`. -/
theorem c37_scale_index_float (epv j nb k : Nat) (hepv : IsEpv epv) (h : k < nb * (16 * 2 ^ j)) :
    scaleIdxFloat epv (16 * 2 ^ j) nb k = k / (16 * 2 ^ j) := by
  rcases hepv.small_or_big j with ⟨S, hS, rfl⟩ | ⟨hpos, i, hi⟩
  · exact float_small hS ⟨4 * 2 ^ j, by omega⟩ nb k h
  · rw [hi] at h ⊢
    exact float_big epv i nb k hpos h

/-- **C37.I2** Int8 kernel (`VecDotMatrixQuant::eval_impl`): the block whose `col_scale·row_scale`
multiplies i32 lane `l` of the low/high accumulator (via the `select` masks for 4 and 8 scales per
vblock), and the block of each tail chunk, is `k / bs` for every element the lane/chunk covers. -/
theorem c37_scale_index_int8 (epv j nb k : Nat) (hepv : IsEpv epv) (h : k < nb * (16 * 2 ^ j)) :
    scaleIdxInt8 epv (16 * 2 ^ j) nb k = k / (16 * 2 ^ j) := by
  rcases hepv.small_or_big j with ⟨S, hS, rfl⟩ | ⟨hpos, i, hi⟩
  · exact int8_small hS ⟨4 * 2 ^ j, by omega⟩ nb k h
  · rw [hi] at h ⊢
    exact int8_big epv i nb k hpos h

/-- Non-vacuity: AVX-512 width, block size 16, 15 blocks (one full vblock + 7 tail blocks):
position 239 is in the scalar tail and uses scale 14. -/
example : IsEpv 128 ∧ 239 < 15 * (16 * 2 ^ 0) ∧ ¬ (239 < mainLen 128 16 15) ∧
    scaleIdxFloat 128 16 15 239 = 14 ∧ scaleIdxInt8 128 16 15 239 = 14 ∧
    scaleIdxInt8 128 16 15 100 = 6 ∧ quadLane 16 9 = 2 := by
  refine ⟨Or.inr (Or.inr rfl), by decide, by decide, by decide, by decide, by decide, by decide⟩

/-- **C37.I3** The seeded slip C37_a (`block_idx = vblock_idx * 4` in the 8-scales arm) is wrong
from the second vblock on: AVX-512 width, `bs = 16`, element 128 belongs to block 8 but gets the
scale of block 4. -/
theorem c37_seed_a_refuted :
    scaleIdxFloatSeedA 128 16 16 128 = 4 ∧ scaleIdxFloat 128 16 16 128 = 8 ∧ 128 / 16 = 8 := by decide

/-- **C37.I4** The seeded slip C37_b (`pairs >> tail_scales.len().ilog2()`) is wrong when the number
of tail blocks is not a power of two: AVX-512 width, `bs = 16`, 11 blocks (3 tail blocks): element
160 belongs to block 10 but gets the scale of block 9; with 10 blocks (2 tail blocks) it is right. -/
theorem c37_seed_b_refuted :
    scaleIdxFloatSeedB 128 16 11 160 = 9 ∧ scaleIdxFloat 128 16 11 160 = 10 ∧
    (∀ k : Fin 160, scaleIdxFloatSeedB 128 16 10 k.val = k.val / 16) := by decide +kernel

section Compose
open RtenVerif.BlockQuant Lean.Grind
variable {R : Type} [CommRing R]

/-- **C37.I5** Float kernel = dequantize-then-multiply: summing, for every element, `a_k` times the
weight dequantised with the scale *the kernel's own index arithmetic* selects equals the reference
`refDot`, for every SIMD width of the code, every power-of-two block size `≥ 16`, every block
count and every LHS of length `≤ nb·bs` (both sums stop at the shorter of LHS and weights). -/
theorem c37_float_kernel_eq_reference (epv j nb : Nat) (hepv : IsEpv epv) (scales a q : List R)
    (hlen : a.length ≤ nb * (16 * 2 ^ j)) :
    floatKernelDot epv (16 * 2 ^ j) nb scales a q = refDot (16 * 2 ^ j) scales a q := by
  have hbs : 0 < 16 * 2 ^ j := Nat.mul_pos (by decide) (Nat.pow_pos (by decide))
  unfold floatKernelDot refDot
  apply idxDot_eq_dot3
  intro i hi
  rw [Nat.zero_add, c37_scale_index_float epv j nb i hepv (by omega), expandScales_getD _ hbs]

/-- **C37.I6** Int8 kernel = dequantize-then-multiply applied to the de-quantised LHS, and = the
per-block model `int8Blocks` (both dot-product flavours): each integer product scaled by the
`col_scale·row_scale` that the kernel's lane/tail index arithmetic selects.  Same scope as I5, for
quantised LHS and weights of equal length `≤ nb·bs`. -/
theorem c37_int8_kernel_eq_reference (epv j nb : Nat) (hepv : IsEpv epv) (u : Bool)
    (cs rs l q : List R) (hl : l.length = q.length) (hc : cs.length = rs.length)
    (hlen : l.length ≤ nb * (16 * 2 ^ j)) :
    int8KernelDot epv (16 * 2 ^ j) nb cs rs l q = refDot (16 * 2 ^ j) cs (scaleLhs (16 * 2 ^ j) rs l) q ∧
    int8KernelDot epv (16 * 2 ^ j) nb cs rs l q = int8Blocks u (16 * 2 ^ j) cs rs l q := by
  have hbs : 0 < 16 * 2 ^ j := Nat.mul_pos (by decide) (Nat.pow_pos (by decide))
  have key : int8KernelDot epv (16 * 2 ^ j) nb cs rs l q =
      refDot (16 * 2 ^ j) cs (scaleLhs (16 * 2 ^ j) rs l) q := by
    -- the Float kernel's argument (I5) at the scales `col_scale·row_scale`
    rw [refDot_scaleLhs, int8KernelDot, idxDot2_eq_idxDot, refDot]
    apply idxDot_eq_dot3
    intro i hi
    rw [Nat.zero_add, c37_scale_index_int8 epv j nb i hepv (by omega), expandScales_zipWith,
      getD_zipWith_mul, expandScales_getD _ hbs, expandScales_getD _ hbs]
  exact ⟨key, by rw [key, c37_int8_mode_eq_dequantize u _ cs rs l q hl]⟩

end Compose

def exA : List Int := (List.range 48).map fun k => Int.ofNat k - 20
def exQ : List Int := (List.range 48).map fun k => Int.ofNat (k * 7 % 16)

/-- Non-vacuity over `Int`: generic width (32), block size 16, 3 blocks (one vblock + one tail
block), distinct scales: the kernel sums equal the reference / the per-block Int8 model. -/
example : RtenVerif.BlockQuant.floatKernelDot 32 16 3 [1, 2, 4] exA exQ =
      RtenVerif.BlockQuant.refDot 16 [1, 2, 4] exA exQ ∧
    RtenVerif.BlockQuant.int8KernelDot 32 16 3 [1, 2, 4] [3, 1, 2] exA exQ =
      RtenVerif.BlockQuant.int8Blocks true 16 [1, 2, 4] [3, 1, 2] exA exQ := by decide +kernel

end RtenVerif.BlockQuantIndex
