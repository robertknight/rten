import RtenVerif.Lemmas.ContoursFollow
import RtenVerif.Lemmas.Bresenham
import RtenVerif.Model.FillIter

/-!
# C36 — Contour tracing and drawing stay on the image

Property text: *for any binary mask, every traced contour point is a foreground pixel adjacent
to the background or image edge, and every foreground connected component has an outer
contour; drawing and filling primitives only modify pixels inside the image and inside the
shape's bounds, for any shape coordinates, including ones outside the image.*

Model: `RtenVerif.Model.Contours`.

Proved for all inputs (unbounded image sizes and coordinates):
* **T1/S5** for every mask size, mask and retrieval mode `find_contours` returns, within the fuel
  `8·padded pixels + 8` per border and without the model's `panic`, which stands for
  `next_point.unwrap()` in the border-following loop (the other panic sites of the code,
  `position(..).unwrap()` and the indexing `mask[p.coord()]`, yield values in the model: `nbIndex`,
  `getM`); every contour is non-empty and every contour point is a foreground pixel of the input
  inside the image with a background pixel or the image edge in its 8-neighbourhood
  (`findContours_spec` in `Lemmas/ContoursFollow`; as the oracle `contoursOk`: `contoursOk_all`
  in `Props/C36Bounded`).  The working mask keeps the zero cells of the padded input; the state
  of border following — the pixel it stands on and the one it came from — keeps a zero in a 2×2
  block at those two, and one iteration is injective on states, so it is back at its start
  within `8·cells` iterations.  `c36_contour_points_foreground` is the foreground clause.
* **S5a** scan-loop clause of "every component has an outer contour": an unlabelled foreground
  pixel with background to its left starts a contour whose first point it is
  (`c36_visit_starts_contour`); the component-level statement is not proved (see the comment
  at the end of this file) and is covered by the correspondence/oracle runs only.
* **T4** checked writes: whatever pixel list a primitive produces, only in-image pixels are
  written and a pixel outside the image turns into a panic (`writeAll_spec`; a checked write
  sequence is `takeWhile`, `writeAll_eq`; `draw_polygon` of width 1 is one such sequence,
  `drawPolygon1_eq`, and the loop of wide `draw_line` a `takeWhile` followed by a `filter`,
  `writeClipped_eq`); `fill_rect` writes only pixels of the rect (`c36_fillRect_spec`);
  `stroke_rect` (with the width clamp of the fix) writes only pixels of the rect
  (`c36_strokeRect_spec`); `draw_line` of width 1 writes only in-image pixels and emits exactly
  `max(|dx|, |dy|)` points of the clamped line (`c36_drawLine1_in_image`, `c36_bresenham_length`).
* **T2** every point `BreshamPoints` yields lies in the bounding box of the endpoints, for all
  endpoints; `draw_line` and `draw_polygon` of width 1 never panic on a non-empty image
  (`Props/C36Line`: `c36_bresenham_bbox`, `c36_drawLine1_no_panic`, `c36_drawPolygon1_no_panic`).
* **T3** `FillIter` stays inside the polygon's bounding rect and terminates within the area of
  that rect plus one iteration; wide `draw_line` (`Props/C36Fill`).
Stated over complete finite scopes, each an instance of the general theorem:
* **T2b** Bresenham points lie in the bounding box of the endpoints — all lines with endpoints
  in `[0,4]²` (`c36_bresenham_bbox_bounded`, in `Props/C36Bounded`).
* **T1/S5** `contoursOk` — all masks with `rows, cols ≤ 3`, `rows·cols ≤ 6` in both modes
  (`c36_contours_bounded_small`) and all 3×3 masks (`c36_contours_bounded_3x3_a … _d`), in `Props/C36Bounded`.
-/
namespace RtenVerif.Contours

/-- A checked write sequence is `takeWhile`: the pixels before the first one outside the image
are written, and the call panics iff there is such a pixel. -/
theorem writeAll_eq (h w : Int) (ps : List Pt) :
    writeAll h w ps = (ps.takeWhile (inImage h w), !ps.all (inImage h w)) := by
  induction ps with
  | nil => rfl
  | cons q qs ih =>
    simp only [writeAll, ih, List.takeWhile_cons, List.all_cons]
    cases inImage h w q <;> simp

theorem writeAll_append (h w : Int) (a b : List Pt) :
    writeAll h w (a ++ b) =
      if (writeAll h w a).2 then writeAll h w a
      else ((writeAll h w a).1 ++ (writeAll h w b).1, (writeAll h w b).2) := by
  induction a with
  | nil => simp [writeAll]
  | cons q qs ih =>
    simp only [List.cons_append, writeAll, ih]
    split <;> split <;> simp_all

theorem drawPolygon1_eq (h w : Int) (es : List (Pt × Pt)) :
    drawPolygon1 h w es =
      writeAll h w (es.flatMap fun e => bresenham (clampToBounds e.1 h w) (clampToBounds e.2 h w)) := by
  induction es with
  | nil => rfl
  | cons e es ih =>
    rw [drawPolygon1, List.flatMap_cons, writeAll_append, ← ih, ← drawLine1]
    split <;> simp_all [Prod.ext_iff]

theorem writeClipped_eq (h w : Int) (ps : List Pt) :
    writeClipped h w ps =
      ((ps.takeWhile fun p => !decide (p.1 < 0 ∨ p.2 < 0)).filter (inImage h w),
        ps.any fun p => decide (p.1 < 0 ∨ p.2 < 0)) := by
  induction ps with
  | nil => rfl
  | cons q qs ih =>
    simp only [writeClipped, ih, List.takeWhile_cons, List.any_cons]
    by_cases hq : q.1 < 0 ∨ q.2 < 0
    · simp [hq]
    · simp only [hq, if_false, decide_false, Bool.not_false, if_true, Bool.false_or,
        List.filter_cons]

/-- **C36.T4a** Only in-image pixels of the requested list are written, in order; the call
panics iff some requested pixel is outside the image. -/
theorem writeAll_spec (h w : Int) (ps : List Pt) :
    (∀ p ∈ (writeAll h w ps).1, inImage h w p = true ∧ p ∈ ps) ∧
    ((writeAll h w ps).2 = false ↔ ∀ p ∈ ps, inImage h w p = true) ∧
    ((writeAll h w ps).2 = false → (writeAll h w ps).1 = ps) := by
  rw [writeAll_eq]
  refine ⟨fun p hp => ⟨List.all_eq_true.mp List.all_takeWhile p hp, (List.takeWhile_sublist _).mem hp⟩,
    ?_, ?_⟩
  · rw [Bool.not_eq_false', List.all_eq_true]
  · intro hf
    rw [Bool.not_eq_false', List.all_eq_true] at hf
    simpa using List.takeWhile_append_of_pos (l₂ := []) hf

theorem mem_rectPixels {t l b r : Int} {p : Pt} (hp : p ∈ rectPixels t l b r) :
    t ≤ p.1 ∧ p.1 < b ∧ l ≤ p.2 ∧ p.2 < r := by
  simp only [rectPixels, List.mem_flatMap, List.mem_map, List.mem_range] at hp
  obtain ⟨dy, hdy, dx, hdx, rfl⟩ := hp
  simp only [Int.ofNat_eq_natCast]
  omega

/-- **C36.T4b** `fill_rect`: every modified pixel is inside the image and inside the rect; a
rect that is not contained in the image makes the call panic (never an out-of-image write). -/
theorem c36_fillRect_spec (h w t l b r : Int) :
    (∀ p ∈ (fillRect h w t l b r).1,
      inImage h w p = true ∧ t ≤ p.1 ∧ p.1 < b ∧ l ≤ p.2 ∧ p.2 < r) ∧
    ((fillRect h w t l b r).2 = false ↔ ∀ p ∈ rectPixels t l b r, inImage h w p = true) := by
  obtain ⟨h1, h2, _⟩ := writeAll_spec h w (rectPixels t l b r)
  exact ⟨fun p hp => ⟨(h1 p hp).1, mem_rectPixels (h1 p hp).2⟩, h2⟩

theorem strokeWidth_bounds (t l b r sw : Int) :
    0 ≤ strokeWidth t l b r sw ∧
    (strokeWidth t l b r sw > 0 → strokeWidth t l b r sw ≤ r - l ∧ strokeWidth t l b r sw ≤ b - t) := by
  simp only [strokeWidth]
  omega

/-- **C36.T4c** `stroke_rect`: every modified pixel is inside the image and inside the rect,
for every stroke width (this needs the width clamp of the fix; see the negation witness for
the unclamped version below). -/
theorem c36_strokeRect_spec (h w t l b r sw : Int) :
    ∀ p ∈ (strokeRect h w t l b r sw).1,
      inImage h w p = true ∧ t ≤ p.1 ∧ p.1 < b ∧ l ≤ p.2 ∧ p.2 < r := by
  intro p hp
  simp only [strokeRect] at hp
  obtain ⟨h1, _, _⟩ := writeAll_spec h w _
  obtain ⟨him, hmem⟩ := h1 p hp
  refine ⟨him, ?_⟩
  obtain ⟨hs0, hs1⟩ := strokeWidth_bounds t l b r sw
  simp only [List.mem_append] at hmem
  rcases hmem with ((hm | hm) | hm) | hm <;> have := mem_rectPixels hm <;> omega

/-- The unclamped `stroke_rect` (the code before the fix) writes outside the rect: 1×5 rect
`tlbr (0,1,5,2)`, width 2, on a 5×3 image paints pixel `(0,0)`. -/
theorem c36_strokeRect_unclamped_false :
    ¬ (∀ p ∈ (writeAll 5 3 (rectPixels 0 1 5 (1 + 2) ++ rectPixels 0 (1 + 2) (0 + 2) (2 - 2) ++
        rectPixels 0 (2 - 2) 5 2 ++ rectPixels (5 - 2) (1 + 2) 5 (2 - 2))).1, (1 : Int) ≤ p.2 ∧ p.2 < 2) := by
  decide

theorem Bres.run_length (n : Nat) (b : Bres) : (Bres.run n b).length = n := by
  induction n generalizing b with
  | zero => rfl
  | succ n ih => simp [Bres.run, ih]

theorem Bres.new_remaining (s e : Pt) :
    ((Bres.new s e).remaining : Int) =
      if iabs (e.2 - s.2) ≥ iabs (e.1 - s.1) then iabs (e.2 - s.2) else iabs (e.1 - s.1) := by
  refine Int.toNat_of_nonneg ?_
  split <;> exact iabs_nonneg _

/-- **C36.T2a** The iterator yields exactly `max(|dx|, |dy|)` points, as the code has it: one
fewer than a line with both of its ends would have, and none for a zero-length line. -/
theorem c36_bresenham_length (s e : Pt) :
    ((bresenham s e).length : Int) =
      if iabs (e.2 - s.2) ≥ iabs (e.1 - s.1) then iabs (e.2 - s.2) else iabs (e.1 - s.1) := by
  rw [bresenham, Bres.run_length]
  exact Bres.new_remaining s e

/-- **C36.T2c** `draw_line` with width 1 writes only in-image pixels, for any endpoints. -/
theorem c36_drawLine1_in_image (h w : Int) (s e : Pt) :
    ∀ p ∈ (drawLine1 h w s e).1, inImage h w p = true := fun p hp =>
  ((writeAll_spec h w _).1 p hp).1

theorem clampI_mem {v lo hi : Int} (h : lo ≤ hi) : lo ≤ clampI v lo hi ∧ clampI v lo hi ≤ hi := by
  unfold clampI; omega

/-- The clamp puts both endpoints inside a non-empty image. -/
theorem c36_clamp_in_image (h w : Int) (p : Pt) (hh : 0 < h) (hw : 0 < w) :
    inImage h w (clampToBounds p h w) = true := by
  have hy := clampI_mem (v := p.1) (lo := 0) (hi := if h - 1 > 0 then h - 1 else 0) (by omega)
  have hx := clampI_mem (v := p.2) (lo := 0) (hi := if w - 1 > 0 then w - 1 else 0) (by omega)
  refine decide_eq_true ⟨hy.1, ?_, hx.1, ?_⟩
  · show clampI p.1 0 _ < h; omega
  · show clampI p.2 0 _ < w; omega

/-- **C36.T1** For every mask of every size and both retrieval modes: if `find_contours`
returns, every point of every contour is a foreground pixel of the input inside the image. -/
theorem c36_contour_points_foreground (rows cols : Nat) (mask : List Bool) (outerOnly : Bool)
    (cs : List (List Pt)) (h : findContours rows cols mask outerOnly = .ok cs) :
    ∀ c ∈ cs, ∀ p ∈ c, maskAt rows cols mask p = true := by
  obtain ⟨cs', h', hc⟩ := findContours_spec rows cols mask outerOnly
  cases h'.symm.trans h
  exact fun c hcm p hp => ((hc c hcm).2 p hp).1

/-- Non-vacuity: the hypothesis is met by a mask with two components (and the conclusion is
not trivial: the mask has background pixels). -/
example : findContours 1 4 [true, false, true, true] false = .ok [[(0, 0)], [(0, 2), (0, 3)]] := by
  decide +kernel

/-- Wherever `start_neighbor` is set at a non-zero pixel `p` (outer or hole border), `p` is the
first point of the one contour added: either `p` is isolated, or border following starts at `p`
and its first marking step pushes `p` (`startNeighbor_some`). -/
theorem visit_starts_contour (W fuel : Nat) (outerOnly : Bool) (s s' : ScanState) (p sn : Pt)
    (hcur : getM s.m W p ≠ 0)
    (hsn : startNeighbor s.m W outerOnly s.lastNonzero p = some sn)
    (h : visit W fuel outerOnly s p = .ok s') :
    ∃ c, s'.contours = c :: s.contours ∧ c.head? = some (p.1 - 1, p.2 - 1) := by
  unfold visit at h
  simp only at h
  rw [if_neg hcur, hsn] at h
  simp only at h
  split at h
  · cases h; exact ⟨_, rfl, rfl⟩
  · rename_i q hq
    rcases follow_result p q fuel [] (.refl W s.m)
      (fstate_start (.refl W s.m) hcur hsn hq) with h1 | ⟨_, l, h1, -, -, hlast⟩
    · rw [h1] at h; cases h
    · rw [h1] at h; cases h
      refine ⟨_, rfl, ?_⟩
      rw [List.head?_map, List.append_nil, List.head?_reverse, hlast (startNeighbor_some hsn).1]
      rfl

/-- **C36.S5a** (scan-loop clause of "every component has an outer contour") In List mode, when
the raster scan reaches an unlabelled foreground pixel `p` (working value 1) whose left
neighbour is background, `visit` starts a border there: if it returns, exactly one contour is
added and its first point is `p` (in image coordinates). -/
theorem c36_visit_starts_contour (W fuel : Nat) (s s' : ScanState) (p : Pt)
    (hcur : getM s.m W p = 1) (hleft : getM s.m W (p.1, p.2 - 1) = 0)
    (h : visit W fuel false s p = .ok s') :
    ∃ c, s'.contours = c :: s.contours ∧ c.head? = some (p.1 - 1, p.2 - 1) :=
  visit_starts_contour W fuel false s s' p (p.1, p.2 - 1) (by omega)
    (by simp [startNeighbor, hleft, hcur]) h

/-- **C36.S5b** The same in External mode, where a border only starts if the last non-zero pixel
seen on the row is not inside an outer border (`last_nonzero_pixel <= 0`). -/
theorem c36_visit_starts_contour_external (W fuel : Nat) (s s' : ScanState) (p : Pt)
    (hcur : getM s.m W p = 1) (hleft : getM s.m W (p.1, p.2 - 1) = 0) (hlast : s.lastNonzero ≤ 0)
    (h : visit W fuel true s p = .ok s') :
    ∃ c, s'.contours = c :: s.contours ∧ c.head? = some (p.1 - 1, p.2 - 1) :=
  visit_starts_contour W fuel true s s' p (p.1, p.2 - 1) (by omega)
    (by simp [startNeighbor, hleft, hcur, hlast]) h

/-- External mode on a mask with more than one pixel per component: `visit` at the raster-first
pixel of the L-shaped component goes through `follow` (hypotheses of
`c36_visit_starts_contour_external`: value 1, background to the left, `last_nonzero = 0`). -/
example : findContours 2 3 [false, true, true, false, true, false] true =
    .ok [[(0, 1), (1, 1), (0, 2)]] := by decide +kernel

/-- A run that goes through `follow`: the two-pixel component of a 1×3 mask `0 1 1` is traced
from its raster-first pixel. -/
example : (visit 5 200 false { m := padMask 1 3 [false, true, true], contours := [], lastNonzero := 0 }
    (1, 2)) matches .ok s' := by decide +kernel
example : findContours 1 3 [false, true, true] false = .ok [[(0, 1), (0, 2)]] := by decide +kernel

/-- The hypotheses are satisfiable: the single foreground pixel of a 1×1 mask. -/
example : getM (padMask 1 1 [true]) 3 (1, 1) = 1 ∧ getM (padMask 1 1 [true]) 3 (1, 0) = 0 := by
  decide

/-
Not proved — what is missing for the component-level statement
"in List mode every 8-connected foreground component has a contour starting at its first pixel
in raster order": (a) when the scan reaches that pixel it is still unlabelled (working value 1):
border following only relabels pixels 8-connected to its start pixel, and earlier starts belong
to other components — needs a connectivity argument over the border-following path; (b) its
left neighbour is background (else the left neighbour would be an earlier pixel of the same
component) — immediate from the definition of "first in raster order"; (c) `follow` returns —
proved (`findContours_spec`).  (a) is exercised by the harness oracle
`component … has no outer contour` on every List-mode case (exhaustive ≤ 4×4 / 4×5).
-/

end RtenVerif.Contours
