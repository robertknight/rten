import RtenVerif.Lemmas.ExecutorRun
import RtenVerif.Lemmas.ExecutorOrderMain
import RtenVerif.Lemmas.ExecutorCaps
import RtenVerif.Lemmas.ExecutorDemoOps
import RtenVerif.Lemmas.PlannerSpec
/-!
# C02 — Run results are independent of execution strategy

Model: `Model/Executor.lean` (`run_plan` as a state machine over abstract values, abstract
operators).  T3 and its corollaries are about **top-level runs** (`Model::run`, `Graph::run`,
`partial_run`: no capture environment, `Graph::captures()` empty).  For runs of subgraph bodies
with a capture environment, T1/T2/T4 hold for every environment and T3 when nothing is takeable
by value; by-value captures are tied to the code by the trace correspondence only.

Hypotheses used throughout
* `WF r`: the request is what `create_plan`'s argument checks accept (an id is not supplied
  twice, supplied ids are value or constant nodes) on a graph whose operator outputs are
  value nodes, and `r.fixed` (the code as it stands, see `c02_prefix_*` below);
* `Contract ops g`: the per-operator contract — `run_in_place` on the taken inputs equals
  `run` on the re-assembled input list, for the declared in-place positions and, for
  commutative operators, for any position; `in_place_inputs()` has no duplicates; operators
  with subgraphs do not run in place.  Discharged per operator by C13's differential check.
* the plan consists of operator nodes and the requested outputs are distinct (C03:
  `PlanOK.valid`, `ArgsOK`) — see `c02_of_planOK`.

Proved: T1 (counters, with the exact `u8` behaviour), T2 (nothing that still has a use leaves
`temp_values`), T3 (outcome = naive evaluation: same outputs, or the same error class at
the same operator, or the same panic), T4 (borrowed inputs and constants are never in
`temp_values`, in-place operands come from `temp_values`), independence of pool / reference
mode / owned-vs-borrowed split, independence of the plan order for graphs with unique
producers (`c02_plan_independent`), and T1/T2/T4 for runs with any capture environment
(`c02_caps_*`), and T3 for runs whose captures are all by reference
(`c02_T3_refinement_caps_partial`).  Not proved: T3 with by-value (takeable) captures; thread
count and prepacking (outside the model: operator kernels).
-/
namespace RtenVerif.Executor
open RtenVerif.Graph RtenVerif.Planner

theorem c02_reachable {V : Type} {ops : Ops V} {r : Run V} {pre rest outs : List Nat}
    {rc : Nat → Nat} {st : St V} (hwf : WF r) (hcap : r.g.captures = []) (hct : Contract ops r.g)
    (hrc : initRc r.g (pre ++ rest) outs = some rc)
    (hrun : (runSteps ops r { temps := initTemps r, rc := rc, caps := nocap } pre).1 = .ok st) :
    ∃ E, naiveSteps ops r nocap (fun _ => none) pre = .ok E ∧
      Sim r nocap (uses r.g (pre ++ rest) outs) rest outs st E := by
  have hs := Sim.init nocap hwf hrc
  have := runSteps_refines_prefix hwf (capsWF_nocap r hcap) hct rest pre _ _ hs
  rw [hrun] at this
  exact this

/-- **T1 (counting phase).** `rc v = min(255, uses of v)` where a use is an occurrence among
`operator_dependencies` of a plan entry (value nodes only) or among the requested outputs. -/
theorem c02_T1_init {g : Graph} {plan outs : List Nat} {rc : Nat → Nat}
    (h : initRc g plan outs = some rc) (v : Nat) : rc v = min (uses g plan outs v) 255 :=
  initRc_eq h v

/-- **T1 (invariant).** At every step, for every value node: the counter is the number of
remaining uses — unless the id has 255 or more uses in total, in which case the counter is
stuck at 255 for the whole run (such a value is never taken in place and never released
before the end of the run: conservative, never unsafe). -/
theorem c02_T1_refcount {V : Type} {ops : Ops V} {r : Run V} {pre rest outs : List Nat}
    {rc : Nat → Nat} {st : St V} (hwf : WF r) (hcap : r.g.captures = []) (hct : Contract ops r.g)
    (hrc : initRc r.g (pre ++ rest) outs = some rc)
    (hrun : (runSteps ops r { temps := initTemps r, rc := rc, caps := nocap } pre).1 = .ok st)
    (v : Nat) (hv : isValue r.g v = true) :
    st.rc v = if 255 ≤ uses r.g (pre ++ rest) outs v then 255 else uses r.g rest outs v := by
  obtain ⟨E, _, hs⟩ := c02_reachable hwf hcap hct hrc hrun
  exact (hs.rc v hv).1

/-- **T2 (no use-after-take).** A value that a later step or a requested output still needs
(and that exists at all: the naive evaluation has a value for it) is still in
`temp_values` — whatever was taken in place, moved into a subgraph by value or released to
the pool had no remaining use. -/
theorem c02_T2_no_use_after_take {V : Type} {ops : Ops V} {r : Run V} {pre rest outs : List Nat}
    {rc : Nat → Nat} {st : St V} (hwf : WF r) (hcap : r.g.captures = []) (hct : Contract ops r.g)
    (hrc : initRc r.g (pre ++ rest) outs = some rc)
    (hrun : (runSteps ops r { temps := initTemps r, rc := rc, caps := nocap } pre).1 = .ok st) :
    ∃ E, naiveSteps ops r nocap (fun _ => none) pre = .ok E ∧
      ∀ v, isValue r.g v = true → r.borrowed v = none → 0 < uses r.g rest outs v →
        ∀ x, val r E v = some x → st.temps v = some x := by
  obtain ⟨E, hE, hs⟩ := c02_reachable hwf hcap hct hrc hrun
  refine ⟨E, hE, ?_⟩
  intro v hv hb hu x hx
  rw [hs.temps_eq_val hv hb hu, hx]

/-- Step form of T2: an id removed from `temp_values` by the take phase of a step (in place
or by value) had count 1 and is a dependency of that step, so it has no later use. -/
theorem c02_T2_taken_dead {V : Type} {ops : Ops V} {r : Run V} {caps0 : Nat → Option (V × Bool)}
    {total : Nat → Nat} {i : Nat}
    {rest outs : List Nat} {st st' : St V} {E : Nat → Option V} {tr : StepTrace}
    (hcw : CapsWF r caps0)
    (hs : Sim r caps0 total (i :: rest) outs st E) (P : StepParts ops r st st' i tr) (x : Nat)
    (hx : P.st2.temps x ≠ st.temps x) : uses r.g rest outs x = 0 := by
  have T := takeFacts P (hs.noTake hcw)
  rcases T.htemps x with h | ⟨_, hr1, hmem, hne⟩
  · exact absurd h hx
  · cases ht : st.temps x with
    | none => exact absurd ht hne
    | some y => exact (hs.rc.last_use P.hop (hs.agree x y ht).1 hr1 hmem).2

/-- **T4.** Borrowed inputs and constants never enter `temp_values`: every id in
`temp_values` is a value node that was not supplied as a view. -/
theorem c02_T4_temps {V : Type} {ops : Ops V} {r : Run V} {pre rest outs : List Nat}
    {rc : Nat → Nat} {st : St V} (hwf : WF r) (hcap : r.g.captures = []) (hct : Contract ops r.g)
    (hrc : initRc r.g (pre ++ rest) outs = some rc)
    (hrun : (runSteps ops r { temps := initTemps r, rc := rc, caps := nocap } pre).1 = .ok st)
    (v : Nat) (x : V) (hx : st.temps v = some x) :
    isValue r.g v = true ∧ isConstant r.g v = false ∧ r.borrowed v = none := by
  obtain ⟨E, _, hs⟩ := c02_reachable hwf hcap hct hrc hrun
  obtain ⟨h1, h2, _⟩ := hs.agree v x hx
  exact ⟨h1, isValue_not_const h1, h2⟩

/-- **T4 (in-place operands).** Every value passed to `run_in_place` was taken out of
`temp_values`: it belongs to a value node that is neither a constant nor a borrowed input,
had reference count 1, and sits at a declared in-place position (or the operator is
commutative).  Feeds C25. -/
theorem c02_T4_inplace_operands {V : Type} {ops : Ops V} {r : Run V}
    {caps0 : Nat → Option (V × Bool)} {total : Nat → Nat} {i : Nat}
    {rest outs : List Nat} {st st' : St V} {E : Nat → Option V} {tr : StepTrace}
    (hcw : CapsWF r caps0)
    (hs : Sim r caps0 total (i :: rest) outs st E) (P : StepParts ops r st st' i tr)
    (p : Nat) (v : V) (hpv : (p, v) ∈ P.taken) :
    ∃ id, P.op.inputs[p]? = some (some id) ∧ st.temps id = some v ∧ st.rc id = 1 ∧
      isValue r.g id = true ∧ isConstant r.g id = false ∧ r.borrowed id = none ∧
      (p ∈ ops.inPlaceIdx i ∨ P.op.commutative = true) := by
  obtain ⟨id, h1, h2, h3, h4⟩ := (takeFacts P (hs.noTake hcw)).htaken p v hpv
  obtain ⟨h5, h6, _⟩ := hs.agree id v h4
  exact ⟨id, h1, h4, h3, h5, isValue_not_const h5, h6, h2⟩

/-- `0:x 1:y  2: y = F(x, x, …, x)` with 255 copies of `x`. -/
def satG : Graph :=
  { nodes := [.value, .value,
      .operator { inputs := List.replicate 255 (some 0), outputs := [some 1] }] }

def satOps : Ops Nat :=
  { len := fun _ => 1, inPlaceIdx := fun _ => [], isSubgraph := fun _ => false
    run := fun _ _ _ => some [5], runInPlace := fun _ _ _ => none }

def satRun : Run Nat :=
  { g := satG, consts := fun _ => 0, borrowed := fun _ => none
    owned := fun v => if v = 0 then some 9 else none }

/-- The state after the only step: counter of `x`, remaining uses of `x`, `temp_values[x]`. -/
def satAfter : Option (Nat × Nat × Option Nat) :=
  match initRc satG [2] [1] with
  | some rc =>
    match (runSteps satOps satRun { temps := initTemps satRun, rc := rc, caps := nocap } [2]).1 with
    | .ok st => some (st.rc 0, uses satG [] [1] 0, st.temps 0)
    | .error _ => none
  | none => none

/-- The `min(255, remaining uses)` form of T1 is false: after the only step nothing uses `x`
any more, yet its counter is still 255 and `x` is still in `temp_values` (never released —
safe, but it stays alive until the end of the run). -/
theorem c02_T1_min_form_false : satAfter = some (255, 0, some 9) := by
  decide +kernel

/-- **T3.** For every graph, every plan made of operator nodes, every owned/borrowed split of
the inputs, pool on or off, reference mode on or off: what `run_plan` returns — the outputs,
or an operator error at some operator, or a panic — is what the naive evaluation (every
operator run with `Operator::run` on the values looked up by id, inputs taking precedence,
nothing ever modified or removed) returns.  For a top-level run (`hcap`) with distinct requested
outputs (`hnd`), under `WF r` and the operator contract. -/
theorem c02_T3_refinement {V : Type} {ops : Ops V} {r : Run V} {plan outs : List Nat} (hwf : WF r)
    (hcap : r.g.captures = []) (hct : Contract ops r.g)
    (hplan : ∀ i ∈ plan, (getOp r.g i).isSome = true) (hnd : outs.Nodup) :
    (runPlan ops r nocap plan outs).outcome = evalNaive ops r nocap plan outs :=
  runPlan_refines hwf hcap hct hplan hnd

/-- **T3 for runs with a capture environment — partial.**  `run_plan` executed as the body of
an `If`/`Loop` with the capture environment `caps0` returns what the naive evaluation returns
when capture placeholders (`Graph::captures()`: value nodes without producer, not supplied as
inputs) are read from `caps0` — i.e. from the enclosing scope, which is how
`Model/ControlFlow.lean` (C24) gives meaning to a body: its `evalG` looks a captured name up
in the environment of the enclosing graph, exactly the `caps0` lookup of `naiveLook` here.
Proved for every capture environment in which **nothing is takeable by value**
(`CapsWF.notake`: all captures by reference — the situation whenever the enclosing run still
needs the captured values, and always for `Loop` bodies after the first iteration's
environment is shared).  For takeable (by-value) captures the value-level statement is not
proved; what is proved for them is `c02_caps_T2` (a capture is taken only when it has no
remaining use) and `c02_caps_invariants`, and the trace/differential correspondence covers
them (340+ by-value captures per quick run). -/
theorem c02_T3_refinement_caps_partial {V : Type} {ops : Ops V} {r : Run V}
    {caps0 : Nat → Option (V × Bool)} {plan outs : List Nat} (hwf : WF r) (hcw : CapsWF r caps0)
    (hct : Contract ops r.g) (hplan : ∀ i ∈ plan, (getOp r.g i).isSome = true) (hnd : outs.Nodup) :
    (runPlan ops r caps0 plan outs).outcome = evalNaive ops r caps0 plan outs :=
  runPlan_refines_caps hwf hcw hct hplan hnd

/-- A body graph: `0` is a capture placeholder, `2: v1 = U(v0)` can run in place. -/
def capG : Graph :=
  { nodes := [.value, .value, .operator { inputs := [some 0], outputs := [some 1], inPlace := true }]
    captures := [0] }

/-- `Add`-like, value-dependent operators (`Lemmas/ExecutorDemoOps.lean`). -/
def capOps : Ops Nat := sumOps (fun i => if i = 2 then [0] else [])

theorem capOps_contract : Contract capOps capG :=
  sumOps_contract _ _ _ (fun i => by split <;> simp) (fun _ _ => rfl)

def capRun : Run Nat :=
  { g := capG, consts := fun _ => 0, borrowed := fun _ => none, owned := fun _ => none }

/-- The enclosing scope's value for the placeholder, by reference or by value. -/
def capEnv (takeable : Bool) : Nat → Option (Nat × Bool) :=
  fun v => if v = 0 then some (8, takeable) else none

theorem capRun_wf : WF capRun :=
  ⟨rfl, fun v hv => absurd rfl hv, fun v hv => absurd rfl hv, outsValue_of_allOps (g := capG) (by decide)⟩

theorem capEnv_wf : CapsWF capRun (capEnv false) := by
  refine ⟨?_, ?_, ?_⟩
  · intro v hv
    by_cases h : v = 0
    · subst h; rfl
    · simp [capEnv, h] at hv
  · intro v hv
    have hv0 : v = 0 := by simpa [capRun, capG] using hv
    subst hv0
    refine ⟨rfl, rfl, fun i op hop => ?_⟩
    have := allOps_spec (g := capG) (p := fun _ op => !(opOutputs op).contains 0) (by decide) hop
    simpa using this
  · intro v x b hv
    by_cases h : v = 0
    · simp [capEnv, h] at hv; exact hv.2
    · simp [capEnv, h] at hv

/-- Instance of `c02_T3_refinement_caps_partial` (by-reference capture: read, never taken). -/
example : (runPlan capOps capRun (capEnv false) [2] [1]).outcome =
    evalNaive capOps capRun (capEnv false) [2] [1] :=
  c02_T3_refinement_caps_partial capRun_wf capEnv_wf capOps_contract (by decide +kernel) (by decide +kernel)

/-- The same body with the capture passed **by value** (a test by `decide`, not covered by the
theorem): the executor takes the capture in place (`taken = [(0, 0)]`) and still returns what
the naive evaluation returns. -/
example : (runPlan capOps capRun (capEnv true) [2] [1]).steps.map (fun t => (t.rip, t.taken)) =
      [(true, [(0, 0)])] ∧
    (runPlan capOps capRun (capEnv true) [2] [1]).outcome =
      evalNaive capOps capRun (capEnv true) [2] [1] := by decide +kernel

/-- The naive evaluation does not distinguish owned from borrowed inputs and ignores the
pool and reference-mode switches. -/
theorem naiveLook_congr {V : Type} {r1 r2 : Run V} (hg : r1.g = r2.g) (hc : r1.consts = r2.consts)
    (hin : ∀ v, (match r1.borrowed v with | some x => some x | none => r1.owned v) =
      (match r2.borrowed v with | some x => some x | none => r2.owned v))
    (c : Nat → Option (V × Bool)) (E : Nat → Option V) (v : Nat) :
    naiveLook r1 c E v = naiveLook r2 c E v := by
  rw [naiveLook_eq, naiveLook_eq, hg, hc]
  have := hin v
  cases h1 : r1.borrowed v <;> cases h2 : r2.borrowed v <;> rw [h1, h2] at this <;>
    simp only at this ⊢
  · rw [this]
  · rw [this]
  · rw [← this]
  · rw [this]

theorem evalNaive_congr {V : Type} (ops : Ops V) {r1 r2 : Run V} (hg : r1.g = r2.g)
    (hc : r1.consts = r2.consts)
    (hin : ∀ v, (match r1.borrowed v with | some x => some x | none => r1.owned v) =
      (match r2.borrowed v with | some x => some x | none => r2.owned v))
    (c : Nat → Option (V × Bool)) (plan outs : List Nat) :
    evalNaive ops r1 c plan outs = evalNaive ops r2 c plan outs := by
  have hl := naiveLook_congr hg hc hin c
  have hsteps : ∀ E, naiveSteps ops r1 c E plan = naiveSteps ops r2 c E plan := by
    induction plan with
    | nil => intro E; rfl
    | cons i is ih =>
      intro E
      have hstep : naiveStep ops r1 c E i = naiveStep ops r2 c E i := by
        unfold naiveStep
        rw [hg]
        cases getOp r2.g i with
        | none => rfl
        | some op =>
          simp only
          rw [naiveInputs_congr_mem op.inputs (fun id _ => hl E id)]
          have : (capDeps r2.g op).map (naiveLook r1 c E) = (capDeps r2.g op).map (naiveLook r2 c E) :=
            List.map_congr_left (fun d _ => hl E d)
          rw [this]
      simp only [naiveSteps, hstep]
      cases naiveStep ops r2 c E i with
      | error e => rfl
      | ok E1 => exact ih E1
  unfold evalNaive
  rw [hsteps]
  cases naiveSteps ops r2 c (fun _ => none) plan with
  | error e => rfl
  | ok E => exact naiveOutputs_congr (hl E) outs

/-- **Corollary (strategy independence).** Two runs of the same plan on the same graph with
the same input *values* return the same thing, however the inputs are split into owned and
borrowed, with the pool on or off, with in-place execution allowed or forbidden. -/
theorem c02_strategy_independent {V : Type} {ops : Ops V} {r1 r2 : Run V} {plan outs : List Nat}
    (hwf1 : WF r1) (hwf2 : WF r2) (hg : r1.g = r2.g) (hc : r1.consts = r2.consts)
    (hin : ∀ v, (match r1.borrowed v with | some x => some x | none => r1.owned v) =
      (match r2.borrowed v with | some x => some x | none => r2.owned v))
    (hcap : r1.g.captures = []) (hct : Contract ops r1.g)
    (hplan : ∀ i ∈ plan, (getOp r1.g i).isSome = true) (hnd : outs.Nodup) :
    (runPlan ops r1 nocap plan outs).outcome = (runPlan ops r2 nocap plan outs).outcome := by
  rw [c02_T3_refinement hwf1 hcap hct hplan hnd,
    c02_T3_refinement hwf2 (hg ▸ hcap) (hg ▸ hct) (hg ▸ hplan) hnd]
  exact evalNaive_congr ops hg hc hin nocap plan outs

/-- Link to C03: a plan accepted by the planner's validity predicate consists of operator
nodes (the `hplan` hypothesis of T3). -/
theorem c02_of_planOK {g : Graph} {am : Bool} {r0 outs plan : List Nat}
    (h : RtenVerif.Planner.PlanOK g am r0 outs plan) : ∀ i ∈ plan, (getOp g i).isSome = true :=
  validIds_ops h.valid

/-- `0:x  1:w(const)  2:a  3:b  4:y   5: a = U(x) in place [0]   6: b = C(a, w) commutative
7: y = N(b, b)` -/
def demoG : Graph :=
  { nodes := [.value, .constant, .value, .value, .value,
      .operator { inputs := [some 0], outputs := [some 2], inPlace := true },
      .operator { inputs := [some 1, some 2], outputs := [some 3], inPlace := true, commutative := true },
      .operator { inputs := [some 3, some 3], outputs := [some 4] }] }

/-- `Add`-like operators (`sumOps`: the result is the sum of the operands plus the node id, so
every operator reads every operand, and `run_in_place` really uses the taken value) with
in-place declarations for operators 5 and 6; values are their own length. -/
def demoOps : Ops Nat := sumOps (fun i => if i = 5 ∨ i = 6 then [0] else [])

def demoRun (ownedX : Bool) (pool nip : Bool) : Run Nat :=
  { g := demoG, consts := fun _ => 3
    borrowed := fun v => if v = 0 ∧ !ownedX then some 8 else none
    owned := fun v => if v = 0 ∧ ownedX then some 8 else none
    usePool := pool, neverInPlace := nip }

theorem demo_wf (o p n : Bool) : WF (demoRun o p n) := by
  refine ⟨rfl, ?_, ?_, outsValue_of_allOps (g := demoG) (by decide)⟩
  · intro v hv
    simp only [demoRun] at hv ⊢
    by_cases h : v = 0 ∧ o = true
    · simp [h.2]
    · simp [h] at hv
  · intro v hv
    simp only [demoRun] at hv
    by_cases h : v = 0 ∧ o = true
    · rw [h.1]; rfl
    · simp [h] at hv

theorem demo_contract : Contract demoOps demoG :=
  sumOps_contract _ _ _ (fun i => by split <;> simp) (fun _ _ => rfl)

/-- The demo run takes `x` in place at step 5 (owned input, count 1), takes `a` in place at
step 6 (commutative operator, candidate at position 1), releases `b` after step 7, and —
an instance of T3 — returns what the naive evaluation returns. -/
example : (runPlan demoOps (demoRun true true false) nocap [5, 6, 7] [4]).steps =
    [ { op := 5, rip := true, taken := [(0, 0)], byVal := [], stored := [2], released := [] },
      { op := 6, rip := true, taken := [(1, 2)], byVal := [], stored := [3], released := [] },
      { op := 7, rip := false, taken := [], byVal := [], stored := [4], released := [3] } ] := by
  decide +kernel

example : (runPlan demoOps (demoRun true true false) nocap [5, 6, 7] [4]).outcome = .ok [51] ∧
    evalNaive demoOps (demoRun true true false) nocap [5, 6, 7] [4] = .ok [51] := by decide +kernel

/-- Instance of the corollary: owned + pool + in place vs borrowed + no pool + reference mode. -/
example : (runPlan demoOps (demoRun true true false) nocap [5, 6, 7] [4]).outcome =
    (runPlan demoOps (demoRun false false true) nocap [5, 6, 7] [4]).outcome :=
  c02_strategy_independent (demo_wf _ _ _) (demo_wf _ _ _) rfl rfl
    (by intro v; simp only [demoRun]; by_cases h : v = 0 <;> simp [h])
    rfl demo_contract (by decide +kernel) (by decide +kernel)

/-! ## The code before the fix (`fixed := false`) — negation witnesses

Before the `fix:` commit `run_plan` went wrong when a planned operator output had the id of a
supplied input (the harness reproduced it on the real code), and T3 held only with that case
excluded.  The witnesses below are the `decide`d counterexamples on the model of the old code. -/

/-- `0:x 1:a 2:b 3:c   4: (a, b) = S(x)   5: c = R(a)`; request: inputs `x` and an override
for `a`, outputs `b, c`. -/
def splitG : Graph :=
  { nodes := [.value, .value, .value, .value,
      .operator { inputs := [some 0], outputs := [some 1, some 2] },
      .operator { inputs := [some 1], outputs := [some 3] }] }

/-- `S(x) = (x+1, x+2)`, `R(a) = 2a`. -/
def splitOps : Ops Nat :=
  { len := fun _ => 1
    inPlaceIdx := fun _ => []
    isSubgraph := fun _ => false
    run := fun i ins _ =>
      match i, ins with
      | 4, [some x] => some [x + 1, x + 2]
      | 5, [some a] => some [2 * a]
      | _, _ => none
    runInPlace := fun _ _ _ => none }

def splitRun (fixed ownedA : Bool) : Run Nat :=
  { g := splitG, consts := fun _ => 0
    borrowed := fun v => if v = 0 then some 10 else if v = 1 ∧ !ownedA then some 77 else none
    owned := fun v => if v = 1 ∧ ownedA then some 77 else none
    fixed := fixed }

/-- Old code: with the override of `a` passed as an **owned** value, the operator's own
output replaces it and `c = 2·11`; passed as a **view** it wins and `c = 2·77`.  The naive
evaluation (inputs take precedence) says 154 in both cases. -/
theorem c02_prefix_owned_vs_borrowed_false :
    (runPlan splitOps (splitRun false true) nocap [4, 5] [2, 3]).outcome = .ok [12, 22] ∧
    (runPlan splitOps (splitRun false false) nocap [4, 5] [2, 3]).outcome = .ok [12, 154] ∧
    evalNaive splitOps (splitRun false true) nocap [4, 5] [2, 3] = .ok [12, 154] := by decide +kernel

/-- The code as it stands agrees with the naive evaluation on the same requests. -/
theorem c02_fixed_owned_vs_borrowed :
    (runPlan splitOps (splitRun true true) nocap [4, 5] [2, 3]).outcome = .ok [12, 154] ∧
    (runPlan splitOps (splitRun true false) nocap [4, 5] [2, 3]).outcome = .ok [12, 154] := by decide +kernel

/-! ## Plan order

The naive evaluation of a plan that runs without error does not depend on the order of the
plan, provided distinct entries write disjoint ids (single assignment: every graph with unique
producers) and both orders respect the dependencies (C03's `ValidIds`).  With T3 this carries
over to `run_plan`. -/

/-- **Order independence, `ValidIds` form.** Two dependency-respecting plans with the same
entries: if `run_plan` succeeds on one, it succeeds on the other with the same outputs. -/
theorem c02_order_independent {V : Type} {ops : Ops V} {r : Run V} {ins outs p p' : List Nat}
    {vals : List V} (hwf : WF r) (hcap : r.g.captures = []) (hct : Contract ops r.g)
    (hin : ∀ d ∈ ins, r.isInput d = true) (hnd : outs.Nodup)
    (hpnd : p.Nodup) (hdisj : Disj r.g p)
    (hv : RtenVerif.Planner.ValidIds r.g false ins p)
    (hv' : RtenVerif.Planner.ValidIds r.g false ins p') (hsame : ∀ i, i ∈ p ↔ i ∈ p')
    (h : (runPlan ops r nocap p outs).outcome = .ok vals) :
    (runPlan ops r nocap p' outs).outcome = .ok vals := by
  rw [c02_T3_refinement hwf hcap hct (validIds_ops hv) hnd] at h
  rw [c02_T3_refinement hwf hcap hct (validIds_ops hv') hnd]
  exact evalNaive_order hpnd hdisj hv hv' hin hsame h

/-- **Plan independence** (what C22's `c22_values_sequential` and C25's `cacheTransparent_exec`
rest on, in the `iff` form below).
On a graph with unique producers, any two plans that satisfy C03's `PlanOK` for the same
request — e.g. the plans `create_plan` returns for the same id sets before and after the
cached plan was replaced — are interchangeable: if `run_plan` returns outputs with one, it
returns the same outputs with the other.  (When an operator fails, both runs fail, but
possibly at different operators: `c02_error_depends_on_order`.) -/
theorem c02_plan_independent {V : Type} {ops : Ops V} {r : Run V} {ins outs p p' : List Nat}
    {vals : List V} (hwf : WF r) (hcap : r.g.captures = []) (hct : Contract ops r.g)
    (hu : UniqueProducer r.g) (hin : ∀ d ∈ ins, r.isInput d = true) (hnd : outs.Nodup)
    (hp : RtenVerif.Planner.PlanOK r.g false (RtenVerif.Planner.resolvedNew r.g ins false) outs p)
    (hp' : RtenVerif.Planner.PlanOK r.g false (RtenVerif.Planner.resolvedNew r.g ins false) outs p')
    (h : (runPlan ops r nocap p outs).outcome = .ok vals) :
    (runPlan ops r nocap p' outs).outcome = .ok vals := by
  have e : RtenVerif.Planner.resolvedNew r.g ins false = ins := by
    simp [RtenVerif.Planner.resolvedNew]
  rw [e] at hp hp'
  exact c02_order_independent hwf hcap hct hin hnd hp.nodup (disj_of_uniqueProducer hu p)
    hp.valid hp'.valid
    (fun i => (planOK_mem_iff_needed hu hp i).trans (planOK_mem_iff_needed hu hp' i).symm) h

/-- Symmetric form: the two runs succeed together, with equal outputs. -/
theorem c02_plan_independent_iff {V : Type} {ops : Ops V} {r : Run V} {ins outs p p' : List Nat}
    (hwf : WF r) (hcap : r.g.captures = []) (hct : Contract ops r.g)
    (hu : UniqueProducer r.g) (hin : ∀ d ∈ ins, r.isInput d = true) (hnd : outs.Nodup)
    (hp : RtenVerif.Planner.PlanOK r.g false (RtenVerif.Planner.resolvedNew r.g ins false) outs p)
    (hp' : RtenVerif.Planner.PlanOK r.g false (RtenVerif.Planner.resolvedNew r.g ins false) outs p')
    (vals : List V) :
    (runPlan ops r nocap p outs).outcome = .ok vals ↔
      (runPlan ops r nocap p' outs).outcome = .ok vals :=
  ⟨c02_plan_independent hwf hcap hct hu hin hnd hp hp',
   c02_plan_independent hwf hcap hct hu hin hnd hp' hp⟩

/-! The graph `twoFailing` (`0:x 1:a 2:b  3: a = F(x)  4: b = G(x)`), its operator tables and runs are
in `Lemmas/ExecutorDemoOps.lean`. -/

/-- Full equality of outcomes across plan orders is false when operators fail: the run stops
at the first failing operator, and which one is first depends on the order. -/
theorem c02_error_depends_on_order :
    let ops : Ops Nat :=
      { len := fun _ => 1, inPlaceIdx := fun _ => [], isSubgraph := fun _ => false
        run := fun _ _ _ => none, runInPlace := fun _ _ _ => none }
    let r : Run Nat := { g := twoFailing, consts := fun _ => 0
                         borrowed := fun v => if v = 0 then some 10 else none, owned := fun _ => none }
    (runPlan ops r nocap [3, 4] [1, 2]).outcome = .error (.opErr 3) ∧
    (runPlan ops r nocap [4, 3] [1, 2]).outcome = .error (.opErr 4) := by
  decide +kernel

/-- Non-vacuity of `c02_order_independent`: both orders of two independent operators. -/
example : (runPlan okOps twoRun nocap [4, 3] [1, 2]).outcome = .ok [13, 14] :=
  c02_order_independent (ins := [0]) twoRun_wf rfl okOps_contract
    (by intro d hd; simp at hd; subst hd; rfl) (by decide +kernel) (by decide +kernel) twoFailing_disj
    (twoFailing_valid (Or.inl rfl)) (twoFailing_valid (Or.inr rfl)) (by intro i; simp; omega) (by decide +kernel)

/-- All hypotheses of `c02_plan_independent` hold together on a closed instance with
value-dependent operators: the two `PlanOK` plans `[3,4]` and `[4,3]` of one request. -/
example : (runPlan okOps twoRun nocap [4, 3] [1, 2]).outcome = .ok [13, 14] :=
  c02_plan_independent (ins := [0]) twoRun_wf rfl okOps_contract twoFailing_unique
    (by intro d hd; simp at hd; subst hd; rfl) (by decide +kernel) twoFailing_planOK34 twoFailing_planOK43
    (by decide +kernel)

/-! ### The same joint witness with an in-place table and an owned `x`

Operators 3 and 4 may both run in place on position 0 and `x` is passed as an owned value: under
the order `[3,4]` operator 4 takes `x` in place (operator 3 cannot: `x` still has a use), under
`[4,3]` it is operator 3 — different in-place decisions, same outputs. -/

example : ((runPlan ipOps twoRunOwned nocap [3, 4] [1, 2]).steps.map (fun t => (t.op, t.rip))) =
      [(3, false), (4, true)] ∧
    ((runPlan ipOps twoRunOwned nocap [4, 3] [1, 2]).steps.map (fun t => (t.op, t.rip))) =
      [(4, false), (3, true)] := by decide +kernel

example : (runPlan ipOps twoRunOwned nocap [4, 3] [1, 2]).outcome = .ok [13, 14] :=
  c02_plan_independent (ins := [0]) twoRunOwned_wf rfl ipOps_contract twoFailing_unique
    (by intro d hd; simp at hd; subst hd; rfl) (by decide +kernel) twoFailing_planOK34 twoFailing_planOK43
    (by decide +kernel)

/-! Without single assignment the naive result (and the executor's) does depend on the order: -/

/-- `0:x 1:y 2:z  3: y = A(x)  4: y = B(x)  5: z = R(y)`: two producers of `y`. -/
def twoProducers : Graph :=
  { nodes := [.value, .value, .value,
      .operator { inputs := [some 0], outputs := [some 1] },
      .operator { inputs := [some 0], outputs := [some 1] },
      .operator { inputs := [some 1], outputs := [some 2] }] }

theorem c02_order_needs_single_assignment :
    let ops : Ops Nat :=
      { len := fun _ => 1, inPlaceIdx := fun _ => [], isSubgraph := fun _ => false
        run := fun i ins _ => match i, ins with
          | 3, [some x] => some [x + 1]
          | 4, [some x] => some [x + 2]
          | 5, [some y] => some [y]
          | _, _ => none
        runInPlace := fun _ _ _ => none }
    let r : Run Nat := { g := twoProducers, consts := fun _ => 0
                         borrowed := fun v => if v = 0 then some 10 else none, owned := fun _ => none }
    evalNaive ops r nocap [3, 4, 5] [2] = .ok [12] ∧ evalNaive ops r nocap [4, 3, 5] [2] = .ok [11] := by
  decide +kernel

/-! ## Runs with a capture environment (bodies of `If` / `Loop`)

T3 above needs a capture environment with nothing takeable by value.  The bookkeeping invariants
hold for **every** capture environment `caps0` (values of the enclosing scope, some of them takeable): -/

/-- **T1 / T4 with captures.** After any prefix of the plan, whatever the capture environment:
counters fit a `u8`, every value node's counter is its number of remaining uses (or 255
forever), and `temp_values` holds only value nodes that are neither constants nor borrowed
inputs. -/
theorem c02_caps_invariants {V : Type} {ops : Ops V} {r : Run V} {pre rest outs : List Nat}
    {rc : Nat → Nat} {st : St V} (caps0 : Nat → Option (V × Bool)) (hwf : WF r)
    (hrc : initRc r.g (pre ++ rest) outs = some rc)
    (hrun : (runSteps ops r { temps := initTemps r, rc := rc, caps := caps0 } pre).1 = .ok st) :
    RcBounded st.rc ∧
      (∀ v, isValue r.g v = true →
        st.rc v = if 255 ≤ uses r.g (pre ++ rest) outs v then 255 else uses r.g rest outs v) ∧
      TempsKind r st := by
  have hk : TempsKind r { temps := initTemps r, rc := rc, caps := caps0 } := by
    intro x hx
    cases hv : initTemps r x with
    | none => exact absurd hv hx
    | some y => exact (initTemps_some hwf hv).2
  obtain ⟨h1, h2, h3⟩ := runSteps_caps_inv hwf rest pre _ st (initRc_bounded hrc) (RcInv.init hrc) hk
    hrun
  exact ⟨h1, fun v hv => (h2 v hv).1, h3⟩

/-- **T2 with captures.** A completed step removes a value node's entry from `temp_values`,
or takes it out of the capture environment, only if nothing in the rest of the plan and no
requested output uses it. -/
theorem c02_caps_T2 {V : Type} {ops : Ops V} {r : Run V} {st st' : St V} {i : Nat}
    {tr : StepTrace} {total : Nat → Nat} {rest outs : List Nat} (hwf : WF r)
    (h : step ops r st i = .ok (st', tr)) (hb : RcBounded st.rc)
    (hinv : RcInv r.g total (i :: rest) outs st.rc) (x : Nat) (hx : isValue r.g x = true)
    (hrem : (st.temps x ≠ none ∧ st'.temps x = none) ∨ (st.caps x ≠ none ∧ st'.caps x = none)) :
    uses r.g rest outs x = 0 :=
  step_removes_only_dead hwf h hb hinv x hx hrem

end RtenVerif.Executor
