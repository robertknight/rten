import RtenVerif.Lemmas.OptimizeRewrite

/-!
# C01 — graph optimization preserves model semantics: the rewriting framework (T1)

`c01_rewrite_sound`: for the graph IR of `Model/Optimize.lean` (plan-ordered operator list, abstract
values and operator semantics, reads = inputs ++ subgraph captures), replacing the operators
`sub` by one fused operator `F` with `fuse` — exactly what `GraphMutator::apply_fusion` does for a
`Fusion::Op` — preserves the denotation (value **or failure**) of every graph output, provided

* the two guards of `apply_fusion`, *as coded* (`guardsOk` = `find_operator_output_used_outside_subgraph`
  and `find_operator_output_captured_by_subgraph` both return `None`), pass,
* the fused operator's semantics equals the composition of the replaced operators' semantics, and
* the operator list is well formed and its outputs are unset in the initial environment (`hwf`, `hfresh`),
  `L` is the last operator of `sub` in plan order and no other operator has its id (`hpre`, `hpost`, `hL`),
  and `F` reads no output of a removed operator (`hFreads`).

Graph input / output ids are preserved trivially: `fuse` does not touch them, and `F.outs = L.outs`.
`c01_guards_sound` is the part "the coded guards imply the abstract guards"; the witnesses at the
end show each guard is necessary (dropping it changes a graph output).
-/
namespace RtenVerif.Optimize

variable {K V : Type} (sem : Sem K V)

/-- The guards as coded imply the abstract guards: an output of a removed operator that is not a
declared output of the fusion is read by no operator outside the subgraph — neither as an input
(guard 1) nor through a capture of a nested subgraph (guard 2) — and is not a graph output. -/
theorem c01_guards_sound (g : List (Op K)) (graphOuts : List Id) (sub : List Nat) (outIds : List Id)
    (h : guardsOk g graphOuts sub outIds = true) :
    (∀ o ∈ g, sub.contains o.oid = false → ∀ i ∈ o.reads,
        i ∈ outsAll (g.filter fun o => sub.contains o.oid) → i ∈ outIds) ∧
    (∀ i ∈ graphOuts, i ∈ outsAll (g.filter fun o => sub.contains o.oid) → i ∈ outIds) := by
  simp only [guardsOk, Bool.and_eq_true, Option.isNone_iff_eq_none, usedOutside, capturedRemoved,
    List.find?_eq_none, ← outsAll_eq_flatMap] at h
  obtain ⟨h1, h2⟩ := h
  refine ⟨fun o ho hsub i hi hmem => Decidable.by_contra fun hout => ?_,
    fun i hi hmem => Decidable.by_contra fun hout => h1 i hmem (by simp [hout, hi])⟩
  rcases List.mem_append.mp hi with hi | hi
  · -- read as an input: `o` is a consumer outside the subgraph
    have hc : o.oid ∈ consumers g i :=
      List.mem_map.mpr ⟨o, List.mem_filter.mpr ⟨ho, List.contains_iff_mem.mpr hi⟩, rfl⟩
    refine h1 i hmem ?_
    simp only [List.any_eq_true, Bool.or_eq_true]
    exact ⟨by simp [hout], .inr ⟨o.oid, hc, by rw [hsub]; rfl⟩⟩
  · -- read through a capture
    have hc : i ∈ capturedValues g := List.mem_flatMap.mpr ⟨o, ho, hi⟩
    exact h2 i hmem (by simp [hout, hc])

theorem fuse_eq (pre post : List (Op K)) (L F : Op K) (sub : List Nat)
    (hpre : ∀ o ∈ pre, o.oid ≠ L.oid)
    (hpost : ∀ o ∈ post, o.oid ≠ L.oid ∧ sub.contains o.oid = false) :
    fuse (pre ++ L :: post) sub L.oid F
      = pre.filter (fun o => !(sub.contains o.oid)) ++ F :: post := by
  have e1 : ∀ l : List (Op K), (∀ o ∈ l, o.oid ≠ L.oid) →
      fuse l sub L.oid F = l.filter fun o => !(sub.contains o.oid) := by
    intro l h
    induction l with
    | nil => rfl
    | cons o os ih =>
      rw [fuse, List.flatMap_cons, if_neg (h o List.mem_cons_self), List.filter_cons,
        ← ih fun o' ho' => h o' (List.mem_cons_of_mem _ ho')]
      cases sub.contains o.oid <;> rfl
  have e2 : fuse post sub L.oid F = post := by
    rw [e1 post fun o ho => (hpost o ho).1]
    exact List.filter_eq_self.mpr fun o ho => by rw [(hpost o ho).2]; rfl
  rw [← e1 pre hpre, fuse, List.flatMap_append, List.flatMap_cons, if_pos rfl]
  show fuse pre sub L.oid F ++ ([F] ++ fuse post sub L.oid F) = _
  rw [e2]; rfl

/-- **T1 `rewrite_sound`.** `g = pre ++ L :: post` in plan order, `sub` = node ids of the unfused
operators (all in `pre`, plus `L`, which produces the subgraph's declared outputs). If the guards
of `apply_fusion` pass and the fused operator computes what the subgraph computes, every graph
output has the same denotation after `fuse` — for a well-formed list whose outputs are unset in
`env` (`hwf`, `hfresh`) and an `F` that reads no output of a removed operator (`hFreads`). -/
theorem c01_rewrite_sound
    (pre post : List (Op K)) (L F : Op K) (sub : List Nat) (graphOuts : List Id) (env : Env V)
    (hwf : WF (pre ++ L :: post))
    (hfresh : ∀ i ∈ outsAll (pre ++ L :: post), env i = none)
    (hpre : ∀ o ∈ pre, o.oid ≠ L.oid)
    (hpost : ∀ o ∈ post, o.oid ≠ L.oid ∧ sub.contains o.oid = false)
    (hL : sub.contains L.oid = true)
    (houts : F.outs = L.outs)
    (hFreads : ∀ i ∈ F.reads, i ∉ outsAll (pre.filter fun o => sub.contains o.oid))
    (hguards : guardsOk (pre ++ L :: post) graphOuts sub L.outs = true)
    (hsem : ∀ E : Env V, (∀ i, i ∉ outsAll (pre ++ L :: post) → E i = env i) →
        (∀ i ∈ outsAll (pre.filter (fun o => sub.contains o.oid) ++ [L]), E i = none) →
        ∀ j ∈ L.outs, run sem (pre.filter (fun o => sub.contains o.oid) ++ [L]) E j = step sem E F j) :
    ∀ o ∈ graphOuts,
      run sem (pre ++ L :: post) env o = run sem (fuse (pre ++ L :: post) sub L.oid F) env o := by
  intro o ho
  rw [fuse_eq pre post L F sub hpre hpost]
  obtain ⟨g1, g2⟩ := c01_guards_sound (pre ++ L :: post) graphOuts sub L.outs hguards
  -- a removed intermediate is an output of `pre`, hence not one of the declared outputs `L.outs`
  have hnot : ∀ k, k ∈ outsAll (pre.filter fun o => sub.contains o.oid) →
      k ∈ outsAll ((pre ++ L :: post).filter fun o => sub.contains o.oid) ∧ k ∉ L.outs := fun k hk =>
    ⟨by rw [List.filter_append]; exact mem_outsAll_append.mpr (.inl hk), fun hkL =>
      WF_append_disjoint hwf k (outsAll_sublist List.filter_sublist hk) (mem_outsAll_cons.mpr (.inl hkL))⟩
  refine rewrite_core sem pre post L F (fun o => sub.contains o.oid) env hwf hfresh houts hFreads
    (fun o' ho' hs i hi hm => ?_) (fun o' ho' i hi hm => ?_) hsem o fun hm => ?_
  · exact (hnot i hm).2 (g1 o' (List.mem_append_left _ ho') hs i hi (hnot i hm).1)
  · exact (hnot i hm).2 (g1 o' (List.mem_append_right _ (List.mem_cons_of_mem _ ho')) (hpost o' ho').2 i hi (hnot i hm).1)
  · exact (hnot o hm).2 (g2 o ho (hnot o hm).1)

inductive XK | sig | mul | silu | neg | cap
deriving DecidableEq, Repr

def xsem : Sem XK Nat where
  app
    | .sig, [x] => some [x + 1]            -- stands for Sigmoid
    | .mul, [x, y] => some [x * y]
    | .silu, [x] => some [x * (x + 1)]     -- x * Sigmoid(x)
    | .neg, [x] => some [x + 100]
    | .cap, [c, v] => some [c + v]         -- `If`-like: one input, one captured value
    | _, _ => none

/-- value ids: 0 = x, 9 = cond; 1 = Sigmoid(x); 2 = Mul(x, 1); 3 = Neg(2). -/
def xSig : Op XK := { oid := 10, kind := .sig, ins := [0], caps := [], outs := [1] }
def xMul : Op XK := { oid := 11, kind := .mul, ins := [0, 1], caps := [], outs := [2] }
def xNeg : Op XK := { oid := 12, kind := .neg, ins := [2], caps := [], outs := [3] }
def xSilu : Op XK := { oid := 13, kind := .silu, ins := [0], caps := [], outs := [2] }
/-- reads the intermediate 1 as an ordinary input -/
def xUse : Op XK := { oid := 14, kind := .neg, ins := [1], caps := [], outs := [4] }
/-- captures the intermediate 1 in a nested subgraph -/
def xCap : Op XK := { oid := 15, kind := .cap, ins := [9], caps := [1], outs := [5] }

def xenv : Env Nat := fun i => if i = 0 then some 3 else if i = 9 then some 1 else none

/-- The plain pattern: guards pass, and the outputs agree (instance of the theorem's conclusion). -/
example : guardsOk [xSig, xMul, xNeg] [3] [10, 11] [2] = true := by decide
example : run xsem [xSig, xMul, xNeg] xenv 3 = run xsem (fuse [xSig, xMul, xNeg] [10, 11] 11 xSilu) xenv 3 := by decide
example : fuse [xSig, xMul, xNeg] [10, 11] 11 xSilu = [xSilu, xNeg] := by decide

/-- Guard 1 (intermediate consumed outside / graph output) rejects, and is necessary. -/
example : guardsOk [xSig, xMul, xUse] [2, 4] [10, 11] [2] = false := by decide
example : guardsOk [xSig, xMul, xNeg] [3, 1] [10, 11] [2] = false := by decide
theorem c01_guard1_necessary :
    run xsem [xSig, xMul, xUse] xenv 4 ≠ run xsem (fuse [xSig, xMul, xUse] [10, 11] 11 xSilu) xenv 4 := by decide

/-- Guard 2 (removed value captured by a nested subgraph): `get_consumers` does not see the
capture, so guard 1 alone passes; guard 2 rejects; without it the `If`-like operator fails. -/
example : (usedOutside [xSig, xMul, xCap] [2, 5] [10, 11] [2]).isNone = true := by decide
example : guardsOk [xSig, xMul, xCap] [2, 5] [10, 11] [2] = false := by decide
theorem c01_guard2_necessary :
    run xsem [xSig, xMul, xCap] xenv 5 ≠ run xsem (fuse [xSig, xMul, xCap] [10, 11] 11 xSilu) xenv 5 := by decide

/-- A captured *declared output* is preserved (`preserved = fusion.output_ids`): still fusable. -/
def xCap2 : Op XK := { oid := 15, kind := .cap, ins := [9], caps := [2], outs := [5] }
example : guardsOk [xSig, xMul, xCap2] [5] [10, 11] [2] = true := by decide
example : run xsem [xSig, xMul, xCap2] xenv 5 = run xsem (fuse [xSig, xMul, xCap2] [10, 11] 11 xSilu) xenv 5 := by decide

end RtenVerif.Optimize
