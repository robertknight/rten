import RtenVerif.Lemmas.Poly
import RtenVerif.Lemmas.PolyHull
import RtenVerif.Lemmas.ListBasics

/-!
# C35 — Polygon algorithms return geometrically valid results

Property text: *for any point set, the convex hull is convex, contains every input point and
uses only input points; the minimum-area rectangle contains every point; polygon
simplification keeps the first point, returns a subsequence of the input, and every removed
point lies within epsilon of the simplified outline.*

Model: `RtenVerif.Model.Poly` (of `rten-imageproc/src/poly_algos.rs`).

What is proved here
* **T1** (Douglas–Peucker, full strength, arbitrary distance function and NaN-tolerant
  comparisons): termination, first/last point kept, subsequence, every removed point within
  `epsilon` of the kept segment spanning it — for polylines and polygons.
* **T2** (convex hull, for *every* sort comparator, i.e. also for the rounded `f32` keys):
  hull ⊆ input; consecutive triples turn strictly left (exact cross product), hence adjacent
  hull points are distinct; the hull starts with the first sorted point, which is the
  `min_by` point whenever that point's key sorts first (for `exactLe` always:
  `c35_hullExact_starts_min`).  The code's key order `keyLe` and its orientation form `exactLe`
  give the same hull (`hullKey_eq_hullExact`, `Props/C35Order`).
* **T4** (`min_area_rect`, exact arithmetic, un-normalised axes): the projection fold bounds
  every hull point, `min_par ≤ par(p) ≤ max_par`, `perp(p) ≤ max_perp` (`c35_edgeBounds_spec`);
  the missing lower bound `0 ≤ perp(p)` is literally the containment statement S3
  (`c35_perpProj_eq_cross`).  That the rect built from such bounds contains the folded points is
  `Props/C35Rect` (exact field arithmetic); the f32 rectangle itself is checked by the harness oracle.
* **T2i** the hull never repeats a point; the sort really sorts by angle
  (`Props/C35Order`: `c35_hullExact_nodup`, `c35_sorted_by_angle`).
* **S3** containment / global convexity, stated as the decidable check `hullContainsCheck` below,
  holds for every input: `hullContainsCheck_all` (`Props/C35Contains`, from the scan invariant of
  `Lemmas/PolyScan`).  `Props/C35Bounded` holds its instances on three
  finite scopes; the exact-arithmetic oracle of the harness checks the same on every run of the
  real code.
-/
namespace RtenVerif.Poly

variable {P D : Type}

theorem natCmp_ge_iff {a b : Option Nat} :
    natCmp.ge a b = true ↔ ∃ x y, a = some x ∧ b = some y ∧ y ≤ x := by
  unfold natCmp
  cases a <;> cases b <;> simp

theorem natCmp_gt_iff {a b : Option Nat} :
    natCmp.gt a b = true ↔ ∃ x y, a = some x ∧ b = some y ∧ y < x := by
  unfold natCmp
  cases a <;> cases b <;> simp

/-- The laws hold for the driver's comparison structure (`none` = NaN). -/
theorem natCmp_laws : natCmp.Laws where
  ge_total a b ha hb := by
    obtain ⟨x, _, rfl, _, _⟩ := natCmp_ge_iff.mp ha
    obtain ⟨y, _, rfl, _, _⟩ := natCmp_ge_iff.mp hb
    exact (Nat.le_total y x).imp decide_eq_true decide_eq_true
  ge_trans a b d h1 h2 := by
    obtain ⟨x, y, rfl, rfl, hyx⟩ := natCmp_ge_iff.mp h1
    obtain ⟨_, z, hy, rfl, hzy⟩ := natCmp_ge_iff.mp h2
    cases hy
    exact decide_eq_true (Nat.le_trans hzy hyx)
  ge_left a b h := by
    obtain ⟨x, _, rfl, _, _⟩ := natCmp_ge_iff.mp h
    exact decide_eq_true (Nat.le_refl x)
  gt_num a e h := by
    obtain ⟨x, _, rfl, _, _⟩ := natCmp_gt_iff.mp h
    exact decide_eq_true (Nat.le_refl x)
  gt_mono a b e h1 h2 := by
    obtain ⟨x, z, rfl, rfl, hzx⟩ := natCmp_gt_iff.mp h1
    obtain ⟨y, _, rfl, hx, hxy⟩ := natCmp_ge_iff.mp h2
    cases hx
    exact decide_eq_true (Nat.lt_of_lt_of_le hzx hxy)
  ge_not_gt a e h := by
    obtain ⟨y, x, rfl, rfl, hxy⟩ := natCmp_ge_iff.mp h
    exact decide_eq_false (Nat.not_lt.mpr hxy)
  zero_num := rfl

/-- **C35.T1a** Termination and totality of `simplify_polyline`: it panics exactly when the
assertion `epsilon >= 0.` fails, and otherwise returns (the recursion never runs out of
fuel `len + 1`, i.e. it terminates). -/
theorem c35_polyline_terminates (c : Cmp D) (h : c.Laws) (dist : P → P → P → D) (eps : D)
    (pts : List P) :
    (c.ge eps c.zero = true → ∃ out, simplifyPolyline c dist eps pts = .ok out) ∧
    (c.ge eps c.zero = false → simplifyPolyline c dist eps pts = .panic) := by
  rcases simplifyPolyline_spec c h dist eps pts with ⟨he, hp⟩ | ⟨he, o, ho, _⟩
  · exact ⟨fun h' => absurd (he.symm.trans h') nofun, fun _ => hp⟩
  · exact ⟨fun _ => ⟨o, ho⟩, fun h' => absurd (he.symm.trans h') nofun⟩

/-- **C35.T1b** Specification of `simplify_polyline` on a non-empty polyline: the output
arises from the input by deleting interior runs, every deleted point being within `eps` (the
code's own test `¬ dist > eps`) of the kept segment that spans it. -/
theorem c35_polyline_spans (c : Cmp D) (h : c.Laws) (dist : P → P → P → D) (eps : D)
    (pts out : List P) (hne : pts ≠ [])
    (hrun : simplifyPolyline c dist eps pts = .ok out) :
    Spans (Within c dist eps) pts out :=
  (simplifyPolyline_ok c h dist eps pts out hrun).2.resolve_left fun e => hne e.1

/-- **C35.T1c** Consequences: subsequence of the input, first and last point kept. -/
theorem c35_polyline_subseq (c : Cmp D) (h : c.Laws) (dist : P → P → P → D) (eps : D)
    (pts out : List P) (hrun : simplifyPolyline c dist eps pts = .ok out) :
    out.Sublist pts ∧ out.head? = pts.head? ∧ out.getLast? = pts.getLast? := by
  rcases (simplifyPolyline_ok c h dist eps pts out hrun).2 with ⟨rfl, rfl⟩ | hs
  · exact ⟨.slnil, rfl, rfl⟩
  · refine ⟨hs.sublist, ?_, hs.getLast?⟩
    cases hs <;> rfl

/-- **C35.T1d** `simplify_polygon`: total (panics only on `epsilon < 0`/NaN; the empty
polygon gives the empty polygon — this is the behaviour after the fix, the unfixed code
indexed `points[0]`). -/
theorem c35_polygon_terminates (c : Cmp D) (h : c.Laws) (dist : P → P → P → D) (eps : D)
    (pts : List P) :
    (c.ge eps c.zero = true → ∃ out, simplifyPolygon c dist eps pts = .ok out) ∧
    (c.ge eps c.zero = false → pts ≠ [] → simplifyPolygon c dist eps pts = .panic) ∧
    simplifyPolygon c dist eps ([] : List P) = .ok [] := by
  cases pts with
  | nil => exact ⟨fun _ => ⟨[], rfl⟩, fun _ hne => absurd rfl hne, rfl⟩
  | cons a rest =>
    rcases simplifyPolygon_spec c h dist eps a rest with ⟨he, hp⟩ | ⟨he, o, ho, _⟩
    · exact ⟨fun h' => absurd (he.symm.trans h') nofun, fun _ _ => hp, rfl⟩
    · exact ⟨fun _ => ⟨_, ho⟩, fun h' => absurd (he.symm.trans h') nofun, rfl⟩

/-- **C35.T1e** Specification of `simplify_polygon` on a non-empty polygon `a :: rest`: the
output starts with the first point `a`, is a subsequence of the input, and — closing both
outlines with `a` — every removed point is within `eps` of the kept segment spanning it
(the last segment runs from the last kept point back to `a`). -/
theorem c35_polygon_spec (c : Cmp D) (h : c.Laws) (dist : P → P → P → D) (eps : D)
    (a : P) (rest out : List P)
    (hrun : simplifyPolygon c dist eps (a :: rest) = .ok out) :
    (∃ out', out = a :: out') ∧ out.Sublist (a :: rest) ∧
    Spans (Within c dist eps) (a :: rest ++ [a]) (out ++ [a]) := by
  rcases simplifyPolygon_spec c h dist eps a rest with ⟨_, hp⟩ | ⟨_, o, ho, hsub, hs⟩
  · rw [hp] at hrun; cases hrun
  · rw [ho] at hrun; cases hrun
    exact ⟨⟨o, rfl⟩, hsub.cons_cons a, hs⟩

/-- **C35.T1f** Index form: run on index-tagged points, the kept indices are strictly
increasing (so the result is a subsequence *by position*, also with duplicate points). -/
theorem c35_polyline_indices_increasing (c : Cmp D) (h : c.Laws) (dist : P → P → P → D)
    (eps : D) (pts : List P) (out : List (P × Nat))
    (hrun : simplifyPolyline c (fun a b p => dist a.1 b.1 p.1) eps pts.zipIdx = .ok out) :
    out.Pairwise (fun x y => x.2 < y.2) := by
  have hs := (c35_polyline_subseq c h _ eps _ out hrun).1
  refine List.Pairwise.sublist hs ?_
  have := List.pairwise_lt_range (n := pts.length)
  rw [List.pairwise_iff_getElem]
  intro i j hi hj hij
  simp only [List.getElem_zipIdx]
  omega

/-- **C35.T1g** `Within` is the code's test `¬ (dist > eps)`, which a NaN distance passes.  For
the driver's comparison structure (bit patterns, `none` = NaN) it means: the distance is NaN
**or** numerically `≤ eps`; when the distance function is NaN-free on the polyline, every
removed point is numerically within `eps`. -/
theorem c35_within_natCmp (dist : P → P → P → Option Nat) (eps : Nat) (a b p : P) :
    Within natCmp dist (some eps) a b p ↔ (dist a b p = none ∨ ∃ d, dist a b p = some d ∧ d ≤ eps) := by
  unfold Within
  rw [← Bool.not_eq_true, natCmp_gt_iff]
  cases dist a b p <;> simp

/-- Non-vacuity for T1: a concrete run on indices with a table distance (point 2 is far
from the segment 0–4, the others are close). -/
example :
    simplifyPolyline natCmp (fun a b p => if p = 2 ∧ a = 0 ∧ b = 4 then some 9 else some 1)
      (some 5) [0, 1, 2, 3, 4] = .ok [0, 2, 4] := by decide

/-- Non-vacuity: NaN distances (`none`) are tolerated; negative/NaN epsilon panics. -/
example :
    simplifyPolyline natCmp (fun _ _ (p : Nat) => if p = 1 then none else some 7) (some 5)
      [0, 1, 2, 3] = .ok [0, 2, 3] ∧
    simplifyPolyline natCmp (fun _ _ (_ : Nat) => some 7) none [0, 1, 2] = .panic := by decide

/-- Without the assertion `epsilon >= 0` the recursion would not terminate: with a comparison
structure in which `0 > eps`, a two-point polyline exhausts any fuel (shown for fuel 50). -/
example :
    dpInternal ⟨fun (a b : Int) => decide (a ≥ b), fun a b => decide (a > b), 0⟩
      (fun _ _ (_ : Nat) => 0) (-1) 50 [0, 1] true = none := by decide

variable {α : Type}

/-- **C35.T2a** The hull uses only input points (any comparator). -/
theorem c35_hull_subset (pt : α → Pt) (le : α → α → Bool) (xs : List α) (q : Pt)
    (hq : q ∈ hullWith pt le xs) : ∃ x ∈ xs, pt x = q := by
  unfold hullWith at hq
  rw [List.mem_reverse] at hq
  rcases mem_scan _ _ hq with h | h
  · obtain ⟨x, hx, rfl⟩ := List.mem_map.mp h
    exact ⟨x, (mem_isort le x xs).mp ((dedupKey_sublist pt _).mem hx), rfl⟩
  · simp at h

/-- **C35.T2b** Strict left turns: any three consecutive hull points `a, b, c` satisfy
`cross a b c > 0` (exact integer cross product) — for *any* sort comparator. -/
theorem c35_hull_turns (pt : α → Pt) (le : α → α → Bool) (xs : List α)
    (pre post : List Pt) (a b c : Pt)
    (hh : hullWith pt le xs = pre ++ a :: b :: c :: post) : cross a b c > 0 := by
  unfold hullWith at hh
  have ht := scan_turns ((dedupKey pt (isort le xs)).map pt) [] (by
    intro pre c b a post he; simp at he)
  have hrev := congrArg List.reverse hh
  rw [List.reverse_reverse] at hrev
  refine ht post.reverse c b a pre.reverse ?_
  rw [hrev]; simp

/-- **C35.T2c** Of three consecutive hull points `a, b, c` the third differs from the other two: hull
points at distance 1 and 2 in the list are distinct, the first two of the hull apart. -/
theorem c35_hull_adjacent_distinct (pt : α → Pt) (le : α → α → Bool) (xs : List α)
    (pre post : List Pt) (a b c : Pt)
    (hh : hullWith pt le xs = pre ++ a :: b :: c :: post) : a ≠ c ∧ b ≠ c := by
  have := c35_hull_turns pt le xs pre post a b c hh
  constructor
  · rintro rfl; simp [cross] at this
  · rintro rfl
    simp only [cross] at this
    rw [Int.mul_comm (b.2 - a.2)] at this
    omega

/-- **C35.T2d** The hull has no more points than the input has, counted with multiplicity:
it is a subsequence of the sorted, de-duplicated point list. -/
theorem c35_hull_sublist_sorted (pt : α → Pt) (le : α → α → Bool) (xs : List α) :
    (hullWith pt le xs).Sublist ((dedupKey pt (isort le xs)).map pt) := by
  unfold hullWith
  have := scan_sublist ((dedupKey pt (isort le xs)).map pt) []
  rw [List.append_nil] at this
  have h2 := this.reverse
  rwa [List.reverse_reverse] at h2

/-- **C35.T2e** The hull starts with the first point in sort order. -/
theorem c35_hull_head (pt : α → Pt) (le : α → α → Bool) (xs : List α) :
    (hullWith pt le xs).head? = (isort le xs).head?.map pt := by
  unfold hullWith
  rw [List.head?_reverse, scan_getLast?]
  simp only [if_true, List.head?_map, dedupKey_head?]

/-- **C35.T2f** `min_by` returns an input point that no input point precedes in the code's
order (largest `y`, then smallest `x`). -/
theorem c35_minPoint_spec (pts : List Pt) (m : Pt) (hm : minPoint pts = some m) :
    m ∈ pts ∧ ∀ q ∈ pts, minLt q m = false := by
  cases pts with
  | nil => simp [minPoint] at hm
  | cons p ps =>
    simp only [minPoint, Option.some.injEq] at hm
    subst hm
    refine ⟨foldl_min_mem _ ps p, ?_⟩
    intro q hq
    obtain ⟨h1, h2⟩ := foldl_min_le ps p
    rcases List.mem_cons.mp hq with rfl | hq
    · exact h1
    · exact h2 q hq

/-- **C35.T2g** The hull starts at the `min_by` point, provided the comparator is total on
the input and sorts the entries of that point strictly first (the code gives them the key
`-inf`; `c35_hullExact_starts_min` discharges both hypotheses for the orientation form of the
code's order, `c35_hullKey_spec` in `Props/C35Order` transfers the results to the key order). -/
theorem c35_hull_starts_min (pt : α → Pt) (le : α → α → Bool) (xs : List α) (m : Pt)
    (hm : minPoint (xs.map pt) = some m)
    (htot : ∀ x ∈ xs, ∀ y ∈ xs, le x y = true ∨ le y x = true)
    (hfirst : ∀ x ∈ xs, ∀ y ∈ xs, pt x = m → pt y ≠ m → le y x = false) :
    (hullWith pt le xs).head? = some m := by
  rw [c35_hull_head]
  obtain ⟨hmem, _⟩ := c35_minPoint_spec _ m hm
  obtain ⟨x, hx, hxm⟩ := List.mem_map.mp hmem
  obtain ⟨z, hz, hzm⟩ := isort_head_min pt le m xs htot hfirst ⟨x, hx, hxm⟩
  rw [hz]; simp [hzm]

/-- **C35.T2h** `convex_hull` (orientation form `exactLe` of the sort order; equal to the code's key
order by `hullKey_eq_hullExact`): the hull starts at the `min_by` point, for every input. -/
theorem c35_hullExact_starts_min (pts : List Pt) (m : Pt) (hm : minPoint pts = some m) :
    (hullExact pts).head? = some m := by
  unfold hullExact
  rw [hm]
  refine c35_hull_starts_min id (exactLe m) pts m (by rwa [List.map_id]) ?_ ?_
  · exact fun x _ y _ => exactLe_total m x y
  · intro x _ y _ (hx : x = m) (hy : y ≠ m)
    rw [exactLe, if_neg hy, if_pos hx]

/-- **C35.T2a/b for `hullExact`** (instances of the generic theorems; `hullKey = hullExact`): the hull of
`convex_hull` uses only input points and every three consecutive hull points turn strictly
left. -/
theorem c35_hullExact_subset_turns (pts : List Pt) :
    (∀ q ∈ hullExact pts, q ∈ pts) ∧
    ∀ pre post a b c, hullExact pts = pre ++ a :: b :: c :: post → cross a b c > 0 := by
  unfold hullExact
  cases hm : minPoint pts with
  | none => exact ⟨fun q hq => by simp at hq, fun pre post a b c h => by simp at h⟩
  | some m =>
    refine ⟨fun q hq => ?_, fun pre post a b c h => c35_hull_turns id (exactLe m) pts pre post a b c h⟩
    obtain ⟨x, hx, rfl⟩ := c35_hull_subset id (exactLe m) pts q hq
    exact hx

/-- The hull of a square with an interior point, a duplicate and collinear edge points is the four corners. -/
example :
    hullExact [(0, 0), (2, 0), (4, 0), (4, 4), (0, 4), (2, 2), (4, 4), (2, 4)] =
      [(0, 4), (0, 0), (4, 0), (4, 4)] := by decide

/-- The full S3 statement as a decidable check: all input points lie on or to the left of every
hull edge including the closing edge (`last → first`), and all cyclic triples turn strictly
left.  A 1-point hull must equal every input point; a 2-point hull must have distinct ends and
every input point on the segment between them. -/
def edgesOk (hull pts : List Pt) : Bool :=
  match hull with
  | [] => pts.isEmpty
  | [a] => pts.all fun p => p == a
  | [a, b] => a != b && pts.all fun p =>
      decide (cross a b p = 0) &&
      decide (min a.1 b.1 ≤ p.1 ∧ p.1 ≤ max a.1 b.1 ∧ min a.2 b.2 ≤ p.2 ∧ p.2 ≤ max a.2 b.2)
  | h0 :: h1 :: _ =>
    let closed := hull ++ [h0]
    ((closed.zip (closed.drop 1)).all fun e => pts.all fun p => decide (cross e.1 e.2 p ≥ 0)) &&
    -- strict left turns around the whole cycle, including the two triples through the closing edge
    (let cyc := hull ++ [h0, h1]
     (cyc.zip ((cyc.drop 1).zip (cyc.drop 2))).all fun t => decide (cross t.1 t.2.1 t.2.2 > 0))

/-- Decode `n` into a list of `len` points of the 3×3 grid. -/
def gridPts : Nat → Nat → List Pt
  | 0, _ => []
  | len + 1, n => (Int.ofNat (n % 3), Int.ofNat (n / 3 % 3)) :: gridPts len (n / 9)

/-- Every hull vertex is an extreme point and all inputs are inside/on the hull. -/
def hullContainsCheck (pts : List Pt) : Bool :=
  edgesOk (hullExact pts) pts

theorem optMin_spec (a : Option Int) (b : Int) :
    ∃ x, optMin a b = some x ∧ x ≤ b ∧ ∀ y, a = some y → x ≤ y := by
  cases a with
  | none => exact ⟨b, rfl, Int.le_refl b, fun _ h => nomatch h⟩
  | some v =>
    refine ⟨_, rfl, ?_, fun y h => ?_⟩
    · split <;> omega
    · cases h; split <;> omega

theorem optMax_spec (a : Option Int) (b : Int) :
    ∃ x, optMax a b = some x ∧ b ≤ x ∧ ∀ y, a = some y → y ≤ x := by
  cases a with
  | none => exact ⟨b, rfl, Int.le_refl b, fun _ h => nomatch h⟩
  | some v =>
    refine ⟨_, rfl, ?_, fun y h => ?_⟩
    · split <;> omega
    · cases h; split <;> omega

theorem optMin_le (a : Option Int) (b : Int) :
    (∀ x, optMin a b = some x → x ≤ b) ∧ (∀ y x, a = some y → optMin a b = some x → x ≤ y) := by
  obtain ⟨x, hx, h1, h2⟩ := optMin_spec a b
  rw [hx]
  exact ⟨fun _ h => Option.some.inj h ▸ h1, fun y _ hy h => Option.some.inj h ▸ h2 y hy⟩

theorem optMax_ge (a : Option Int) (b : Int) :
    (∀ x, optMax a b = some x → b ≤ x) ∧ (∀ y x, a = some y → optMax a b = some x → y ≤ x) := by
  obtain ⟨x, hx, h1, h2⟩ := optMax_spec a b
  rw [hx]
  exact ⟨fun _ h => Option.some.inj h ▸ h1, fun y _ hy h => Option.some.inj h ▸ h2 y hy⟩

def Covered (s e : Pt) (acc : Option Int × Option Int × Option Int) (p : Pt) : Prop :=
  ∃ a b c, acc = (some a, some b, some c) ∧ a ≤ parProj s e p ∧ parProj s e p ≤ b ∧
    perpProj s e p ≤ c

def edgeStep (s e : Pt) (acc : Option Int × Option Int × Option Int) (p : Pt) :
    Option Int × Option Int × Option Int :=
  (optMin acc.1 (parProj s e p), optMax acc.2.1 (parProj s e p), optMax acc.2.2 (perpProj s e p))

theorem edgeStep_covered (s e : Pt) (acc) (q p : Pt) (h : p = q ∨ Covered s e acc p) :
    Covered s e (edgeStep s e acc q) p := by
  obtain ⟨x, hx, hxq, hxa⟩ := optMin_spec acc.1 (parProj s e q)
  obtain ⟨y, hy, hyq, hya⟩ := optMax_spec acc.2.1 (parProj s e q)
  obtain ⟨z, hz, hzq, hza⟩ := optMax_spec acc.2.2 (perpProj s e q)
  refine ⟨x, y, z, by rw [edgeStep, hx, hy, hz], ?_⟩
  rcases h with rfl | ⟨a, b, c, rfl, h1, h2, h3⟩
  · exact ⟨hxq, hyq, hzq⟩
  · exact ⟨Int.le_trans (hxa a rfl) h1, Int.le_trans h2 (hya b rfl), Int.le_trans h3 (hza c rfl)⟩

/-- **C35.T4a** The projection fold of `min_area_rect` for the edge `s → e` bounds every hull
point: `min_par ≤ par(p) ≤ max_par` and `perp(p) ≤ max_perp` (exact arithmetic,
un-normalised axes). -/
theorem c35_edgeBounds_spec (s e : Pt) (hull : List Pt) (p : Pt) (hp : p ∈ hull) :
    ∃ minPar maxPar maxPerp, edgeBounds s e hull = (some minPar, some maxPar, some maxPerp) ∧
      minPar ≤ parProj s e p ∧ parProj s e p ≤ maxPar ∧ perpProj s e p ≤ maxPerp :=
  foldl_covers (edgeStep s e) (Covered s e) (edgeStep_covered s e) hull _ p (.inl hp)

/-- **C35.T4b** The perpendicular projection is the orientation test of the hull scan, so the
lower bound `0 ≤ perp(p)` of the rectangle is exactly "p is left of or on the edge". -/
theorem c35_perpProj_eq_cross (s e p : Pt) : perpProj s e p = cross s e p := by
  simp only [perpProj, cross]; grind

end RtenVerif.Poly
