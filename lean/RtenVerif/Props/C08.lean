import RtenVerif.Lemmas.Overlap
import RtenVerif.Lemmas.OverlapCompleteOps
import RtenVerif.Lemmas.OverlapCompleteMerge
import RtenVerif.Model.TensorBounds

/-!
# C08 — The overlap check never admits aliasing layouts

Property theorems over `RtenVerif.Model.Overlap` (model of
`rten-tensor/src/overlap.rs`).  `dims` is the list of `(size, stride)` pairs.
-/
namespace RtenVerif.Overlap

/-- **C08.T1** Soundness: whenever `may_have_internal_overlap` answers `false`, the map
from valid indices to storage offsets is injective — for every rank, every size and
every stride (unbounded `Nat`). -/
theorem c08_no_overlap_injective (dims : List (Nat × Nat)) (i j : List Nat)
    (hcheck : mayOverlap dims = false)
    (hi : ValidIdx dims i) (hj : ValidIdx dims j)
    (hoff : offset dims i = offset dims j) : i = j :=
  accepted_injective hcheck hi hj hoff

/-- Non-vacuity: a transposed, stepped 3×4 layout (strides 2 and 8) is accepted, it is not
contiguous, and it has non-trivial valid indices. -/
example : mayOverlap [(3, 2), (4, 8)] = false ∧ isContiguous [(3, 2), (4, 8)] = false ∧
    ValidIdx [(3, 2), (4, 8)] [2, 3] := by
  refine ⟨by decide, by decide, ?_⟩
  exact .cons (by omega) (.cons (by omega) .nil)

/-- The check is conservative, not complete (documented in the code): `[4,4]` with strides
`[3,4]` is injective but reported as possibly overlapping. -/
example : mayOverlap [(4, 3), (4, 4)] = true ∧ bruteInjective [(4, 3), (4, 4)] = true := by
  decide

example : mayOverlap [(5, 1), (5, 0)] = true := by decide

/-! ## C08.T2 — completeness on the advertised class

"Layouts obtained by slicing, permuting or reshaping a contiguous layout are always
accepted."  Vocabulary (`Lemmas/OverlapComplete*.lean`): `keys dims` are the `(stride, size)`
pairs of the non-unit dims in their original order, `span (stride, size) = (size-1)*stride`,
`Passes m L` = the `stepsOver` loop started at `m` does not report overlap,
`NoZero dims` = no empty dim, `StepsOverSorted dims` = the code's sorted check passes,
`DomChain dims` = *some* ordering of `keys dims` passes. -/

/-- **C08.T2a** (code paths) For a layout with no empty dim, acceptance is exactly: contiguous
fast path or the sorted check passes. -/
theorem c08_accept_iff (dims : List (Nat × Nat)) (hz : NoZero dims) :
    mayOverlap dims = false ↔ isContiguous dims = true ∨ StepsOverSorted dims :=
  mayOverlap_false_iff hz

/-- **C08.T2a** (semantic lemma, exchange argument) The code's *sorted* check passes iff the
non-unit `(stride, size)` pairs can be put in SOME order in which every stride exceeds the
total span `Σ (size_j - 1) * stride_j` of the pairs before it.  (In a passing order the
strides are strictly increasing, so it is the sorted order.) -/
theorem c08_sorted_iff_dominance_chain (dims : List (Nat × Nat)) (hz : NoZero dims) :
    StepsOverSorted dims ↔
      ∃ L, L.Perm (keys dims) ∧ ∀ L1 x L2, L = L1 ++ x :: L2 → spanSum L1 < x.1 := by
  rw [stepsOverSorted_iff_domChain hz]
  unfold DomChain
  constructor
  · rintro ⟨L, hp, h⟩
    refine ⟨L, hp, fun L1 x L2 hL => ?_⟩
    simpa using (passes_iff_dominates L 0).mp h L1 x L2 hL
  · rintro ⟨L, hp, h⟩
    refine ⟨L, hp, (passes_iff_dominates L 0).mpr (fun L1 x L2 hL => ?_)⟩
    simpa using h L1 x L2 hL

/-- **C08.T2a** Acceptance, independent of the sort, the fast path and the dimension order:
a layout is accepted iff it is empty or its non-unit dims form a dominance chain in some
order.  No hypothesis. -/
theorem c08_accept_iff_domChain (dims : List (Nat × Nat)) :
    mayOverlap dims = false ↔ ¬ NoZero dims ∨ DomChain dims :=
  accepted_iff dims

/-- **C08.T2a** The verdict is invariant under any permutation of the dimensions
(`permuted`, `transposed`, `move_axis`).  No hypothesis; note that the contiguous fast path
alone is *not* permutation invariant. -/
theorem c08_accept_perm (dims dims' : List (Nat × Nat)) (h : dims.Perm dims') :
    mayOverlap dims = mayOverlap dims' :=
  accept_perm h

/-- Non-vacuity: the row-major 4×5×6 layout and its axis reversal get the same verdict although
only the first takes the fast path; the sorted check on the second really runs. -/
example : [(6, 1), (5, 6), (4, 30)].Perm [(4, 30), (5, 6), (6, 1)] ∧
    isContiguous [(4, 30), (5, 6), (6, 1)] = true ∧
    isContiguous [(6, 1), (5, 6), (4, 30)] = false ∧
    mayOverlap [(6, 1), (5, 6), (4, 30)] = false ∧
    NoZero [(6, 1), (5, 6), (4, 30)] ∧
    StepsOverSorted [(6, 1), (5, 6), (4, 30)] := by
  refine ⟨?_, by decide, by decide, by decide, by decide, ?_⟩
  · exact List.reverse_perm [(4, 30), (5, 6), (6, 1)]
  · show (stepsOver 0 (sortedStrideShape [(6, 1), (5, 6), (4, 30)])).isSome = true
    decide

/-- Non-vacuity of the permutation theorem on the rejecting side (a broadcast layout stays
rejected in any order). -/
example : mayOverlap [(5, 0), (5, 1)] = true ∧ mayOverlap [(5, 1), (5, 0)] = true := by decide

/-- **C08.T2b** Contiguous layouts are accepted (fast path; empty ones by the first test). -/
theorem c08_contig_accepted (dims : List (Nat × Nat)) (hc : isContiguous dims = true) :
    mayOverlap dims = false := by
  simp [mayOverlap, hc]

/-- **C08.T2b** … and, when no dim is empty (`hz`), they satisfy the dominance chain, innermost
dimension first: every non-unit stride is one more than the total span of the dimensions inside
it, so the operation theorems below apply to contiguous layouts too. -/
theorem c08_contig_dominance (pre post : List (Nat × Nat)) (size stride : Nat)
    (hz : NoZero (pre ++ (size, stride) :: post))
    (hc : isContiguous (pre ++ (size, stride) :: post) = true) (h1 : size ≠ 1) :
    stride = 1 + spanSum (keys post) ∧ DomChain (pre ++ (size, stride) :: post) :=
  ⟨contig_stride_eq hz hc h1, contig_domChain hz hc⟩

example : NoZero ([(4, 30)] ++ (5, 6) :: [(6, 1)]) ∧
    isContiguous ([(4, 30)] ++ (5, 6) :: [(6, 1)]) = true ∧ (5 : Nat) ≠ 1 ∧
    1 + spanSum (keys [(6, 1)]) = 6 := by decide

/-- **C08.T2c** Slicing one dimension with a positive step (`slice`, `slice_axis`; what
`slice_layout` computes: new stride `stride * step`, new size `size'` with the last selected
element `(size' - 1) * step` still inside the old dimension, or an empty result) keeps the
layout accepted.  Hypotheses are exactly `step ≥ 1` and the fit of the new size. -/
theorem c08_slice_accepted (pre post : List (Nat × Nat)) (size stride size' step : Nat)
    (hstep : 1 ≤ step) (hfit : size' = 0 ∨ (size' - 1) * step < size)
    (h : mayOverlap (pre ++ (size, stride) :: post) = false) :
    mayOverlap (pre ++ (size', stride * step) :: post) = false := by
  rw [accept_perm List.perm_middle] at h ⊢
  exact accept_slice_head hstep hfit h

/-- **C08.T2c** `index_axis` / `SliceItem::Index` (drop a dimension that has a valid index,
i.e. is not empty) keeps the layout accepted. -/
theorem c08_index_axis_accepted (pre post : List (Nat × Nat)) (size stride : Nat)
    (hsz : 1 ≤ size) (h : mayOverlap (pre ++ (size, stride) :: post) = false) :
    mayOverlap (pre ++ post) = false := by
  rw [accept_perm List.perm_middle] at h
  exact accept_drop_head hsz h

/-- **C08.T2c** Both halves of `split_at(axis, mid)` (`mid ≤ size`) are accepted. -/
theorem c08_split_at_accepted (pre post : List (Nat × Nat)) (size stride mid : Nat)
    (hmid : mid ≤ size) (h : mayOverlap (pre ++ (size, stride) :: post) = false) :
    mayOverlap (pre ++ (mid, stride) :: post) = false ∧
    mayOverlap (pre ++ (size - mid, stride) :: post) = false := by
  have h1 := c08_slice_accepted pre post size stride mid 1 (Nat.le_refl _)
    (by omega) h
  have h2 := c08_slice_accepted pre post size stride (size - mid) 1 (Nat.le_refl _)
    (by omega) h
  simpa using And.intro h1 h2

/-- **C08.T2c** Inserting or removing a size-1 axis with any stride (`insert_axis`,
`squeezed`, `remove_axis`) does not change the verdict. -/
theorem c08_unit_axis (pre post : List (Nat × Nat)) (s : Nat) :
    mayOverlap (pre ++ (1, s) :: post) = mayOverlap (pre ++ post) := by
  rw [accept_perm List.perm_middle]
  exact accept_unit_head s _

/-- Non-vacuity for the operation theorems: the accepted, non-contiguous layout
`[(6,1),(4,30),(5,6)]` (row-major 4×5×6 with the innermost axis moved to the front), sliced
`1..5 step 2` on the last axis. -/
example : (1 : Nat) ≤ 2 ∧ ((2 : Nat) = 0 ∨ (2 - 1) * 2 < 5) ∧
    mayOverlap ([(6, 1), (4, 30)] ++ (5, 6) :: []) = false ∧
    isContiguous ([(6, 1), (4, 30)] ++ (5, 6) :: []) = false ∧
    mayOverlap ([(6, 1), (4, 30)] ++ (2, 6 * 2) :: []) = false := by decide

/-- **C08.T2c** One `merge_axes` step: an outer dimension `(n, t*m)` directly outside `(m, t)`
(its stride is the inner stride times the inner size) fused into `(m*n, t)` keeps the layout
accepted.  No side condition (any of the sizes may be 0 or 1). -/
theorem c08_merge_accepted (pre post : List (Nat × Nat)) (t m n : Nat)
    (h : mayOverlap (pre ++ (n, t * m) :: (m, t) :: post) = false) :
    mayOverlap (pre ++ (m * n, t) :: post) = false := by
  have h1 : (pre ++ (n, t * m) :: (m, t) :: post).Perm ((n, t * m) :: (m, t) :: (pre ++ post)) :=
    List.perm_middle.trans ((List.Perm.cons _ List.perm_middle))
  rw [accept_perm h1] at h
  rw [accept_perm List.perm_middle]
  exact accept_merge_head h

/-- Non-vacuity: a non-contiguous accepted layout whose two inner dims can be merged. -/
example : mayOverlap ([(2, 1)] ++ (3, 4 * 5) :: (5, 4) :: []) = false ∧
    isContiguous ([(2, 1)] ++ (3, 4 * 5) :: (5, 4) :: []) = false ∧
    mayOverlap ([(2, 1)] ++ (5 * 3, 4) :: []) = false := by decide

/-- Layouts reachable from a contiguous layout by view operations.  `dims` are
`(size, stride)` pairs, outermost first.
* `contig`  – any layout `is_contiguous` accepts (this includes every `reshaped` result of a
  contiguous tensor, and `from_shape` layouts);
* `perm`    – `permuted` / `transposed` / `move_axis` (any reordering of the dims);
* `slice`   – `slice` / `slice_axis` / `split_at` of one axis with step `≥ 1`
  (`SliceItem::Range`; negative steps are rejected by `slice_layout` with `InvalidStep`);
* `index`   – `index_axis` / `SliceItem::Index` / removing a size-1 axis;
* `insertUnit` – `insert_axis` with whatever stride the implementation chooses;
* `merge`   – one step of `merge_axes`: an outer dim whose stride is `inner stride * inner size`
  is fused with the dim directly inside it.
`Props/C08Views.lean` proves that the operations of C09's layout model
(`Model/Layout.lean`: `permuted`, `transposed`, `moveAxis`, `trySlice`, `sliceAxis`,
`indexAxis`, `splitAt`, `insertAxis`, `removeAxis`, `squeezed`, `mergedAxes`, `reshaped`) map
`Derived` layouts to `Derived` layouts, so the abstraction is tied to the modelled code. -/
inductive Derived : List (Nat × Nat) → Prop
  | contig {dims : List (Nat × Nat)} : isContiguous dims = true → Derived dims
  | perm {dims dims' : List (Nat × Nat)} : Derived dims → dims.Perm dims' → Derived dims'
  | slice {pre post : List (Nat × Nat)} {size stride size' step : Nat} :
      Derived (pre ++ (size, stride) :: post) →
      (size' = 0 ∨ (1 ≤ step ∧ (size' - 1) * step < size)) →
      Derived (pre ++ (size', stride * step) :: post)
  | index {pre post : List (Nat × Nat)} {size stride : Nat} :
      Derived (pre ++ (size, stride) :: post) → 1 ≤ size → Derived (pre ++ post)
  | insertUnit {pre post : List (Nat × Nat)} {s : Nat} :
      Derived (pre ++ post) → Derived (pre ++ (1, s) :: post)
  | merge {pre post : List (Nat × Nat)} {t m n : Nat} :
      Derived (pre ++ (n, t * m) :: (m, t) :: post) → Derived (pre ++ (m * n, t) :: post)

/-- A class of layouts closed under the five abstract view steps, i.e. under the non-base
constructors of `Derived`.  Instances: `accepted_viewClosed`, `derived_viewClosed`
(`Props/C08Views.lean`) and C06's `vsafe_viewClosed` (`Props/C06Perm.lean`). -/
structure ViewClosed (Q : List (Nat × Nat) → Prop) : Prop where
  perm {dims dims' : List (Nat × Nat)} : Q dims → dims.Perm dims' → Q dims'
  slice {pre post : List (Nat × Nat)} {size stride size' step : Nat} :
      Q (pre ++ (size, stride) :: post) →
      (size' = 0 ∨ (1 ≤ step ∧ (size' - 1) * step < size)) →
      Q (pre ++ (size', stride * step) :: post)
  index {pre post : List (Nat × Nat)} {size stride : Nat} :
      Q (pre ++ (size, stride) :: post) → 1 ≤ size → Q (pre ++ post)
  insertUnit {pre post : List (Nat × Nat)} {s : Nat} :
      Q (pre ++ post) → Q (pre ++ (1, s) :: post)
  merge {pre post : List (Nat × Nat)} {t m n : Nat} :
      Q (pre ++ (n, t * m) :: (m, t) :: post) → Q (pre ++ (m * n, t) :: post)

theorem accepted_viewClosed : ViewClosed (fun d => mayOverlap d = false) where
  perm h hp := by rw [← accept_perm hp]; exact h
  slice h hfit := by
    rcases hfit with h0 | ⟨hstep, hfit⟩
    · subst h0; simp [mayOverlap]
    · exact c08_slice_accepted _ _ _ _ _ _ hstep (Or.inr hfit) h
  index h hs := c08_index_axis_accepted _ _ _ _ hs h
  insertUnit h := by rw [c08_unit_axis]; exact h
  merge h := c08_merge_accepted _ _ _ _ _ h

theorem Derived.least {Q : List (Nat × Nat) → Prop} (hQ : ViewClosed Q)
    (hc : ∀ d, isContiguous d = true → Q d) {d : List (Nat × Nat)} (h : Derived d) : Q d := by
  induction h with
  | contig h => exact hc _ h
  | perm _ hp ih => exact hQ.perm ih hp
  | slice _ hfit ih => exact hQ.slice ih hfit
  | index _ hs ih => exact hQ.index ih hs
  | insertUnit _ ih => exact hQ.insertUnit ih
  | merge _ ih => exact hQ.merge ih

/-- **C08.T2** Completeness on the advertised class: every layout derived from a contiguous
one by any finite sequence of permute / slice-with-positive-step / index / unit-axis /
`merge_axes`-step operations is accepted by `may_have_internal_overlap`, for every rank. -/
theorem c08_derived_accepted (dims : List (Nat × Nat)) (h : Derived dims) :
    mayOverlap dims = false :=
  h.least accepted_viewClosed c08_contig_accepted

/-- Non-vacuity: a transposed, stepped 3-D layout.  Start from the contiguous 4×5×6 layout,
slice axis 1 with `::2` (5 → 3, stride 6 → 12), slice axis 2 with `1..6:3` (6 → 2, stride
1 → 3), insert a unit axis with stride 99 and move the innermost axis to the front.  The
result is derived, not contiguous, and has 24 distinct valid indices. -/
example : Derived [(2, 3), (4, 30), (1, 99), (3, 12)] ∧
    isContiguous [(2, 3), (4, 30), (1, 99), (3, 12)] = false ∧
    mayOverlap [(2, 3), (4, 30), (1, 99), (3, 12)] = false := by
  refine ⟨?_, by decide, by decide⟩
  have h0 : Derived ([(4, 30)] ++ (5, 6) :: [(6, 1)]) := .contig (by decide)
  have h1 : Derived ([(4, 30)] ++ (3, 6 * 2) :: [(6, 1)]) := .slice h0 (by omega)
  have h2 : Derived ([(4, 30), (3, 12)] ++ (2, 1 * 3) :: []) :=
    .slice (pre := [(4, 30), (3, 12)]) (post := []) (size := 6) (stride := 1) h1 (by omega)
  have h3 : Derived ([(4, 30)] ++ (1, 99) :: [(3, 12), (2, 3)]) :=
    .insertUnit (pre := [(4, 30)]) (post := [(3, 12), (2, 3)]) h2
  refine .perm h3 ?_
  exact (List.perm_append_comm (l₁ := [(4, 30), (1, 99), (3, 12)]) (l₂ := [(2, 3)]))

/-- Corollary (T2 ∘ T1): derived layouts never alias. -/
theorem c08_derived_injective (dims : List (Nat × Nat)) (i j : List Nat) (h : Derived dims)
    (hi : ValidIdx dims i) (hj : ValidIdx dims j) (hoff : offset dims i = offset dims j) :
    i = j :=
  c08_no_overlap_injective dims i j (c08_derived_accepted dims h) hi hj hoff

/-- The characterisation is exact on the rejecting side too: the documented false positive
`[4,4]/[3,4]` (injective, see T1's examples) is not a dominance chain in any order, and a
broadcast layout is not derived. -/
example : ¬ DomChain [(4, 3), (4, 4)] := fun h => by
  have := (c08_accept_iff_domChain _).mpr (Or.inr h)
  revert this; decide

example : ¬ Derived [(5, 1), (5, 0)] := fun h => by
  have := c08_derived_accepted _ h
  revert this; decide

/-! ## C08.T4 — capacity expansion runs the overlap check on the GROWN layout

`TensorBase::<Vec<T>, L>::expanded_layout(axis, new_size)` (the decision behind `has_capacity`
and `append`) is modelled by `TensorBounds.expandedLayout` in `Model/TensorBounds.lean`
(C06's model: `resize_dim` = `setSize`, `checked_min_data_len`, capacity comparison,
`may_have_internal_overlap(new_layout.shape(), new_layout.strides())`).  The machine-arithmetic
side (the decision on `usize` equals this ideal one for every requested size) is
`TensorBounds.c06_T3_expandedLayout`, and the storage-bounds side of `append` is
`TensorBounds.c06_T2_append`, both in `Props/C06.lean`; they are cited, not redone. -/

/-- **C08.T4** Exact content of the modelled decision (C06's `TensorBounds.expandedLayout`):
it returns a layout iff that layout is the grown one, its checked minimum storage length
exists and fits the capacity, and the overlap check on the GROWN layout passes. -/
theorem c08_expansion_iff (dims nl : List (Nat × Nat)) (capacity axis newSize : Nat) :
    TensorBounds.expandedLayout dims capacity axis newSize = some nl ↔
      nl = TensorBounds.setSize dims axis newSize ∧
      ∃ m, TensorBounds.checkedMinDataLen nl = some m ∧ m ≤ capacity ∧ mayOverlap nl = false := by
  unfold TensorBounds.expandedLayout
  constructor
  · intro h
    split at h
    · cases h
    · rename_i m hm
      split at h
      · rename_i hok
        cases h
        exact ⟨rfl, m, hm, hok.1, hok.2⟩
      · cases h
  · rintro ⟨rfl, m, hm, hcap, hov⟩
    simp [hm, hcap, hov]

/-- **C08.T4** Whenever `expanded_layout` accepts (`has_capacity` = true / `append` succeeds),
the layout it returns is the *grown* layout (`axis` resized to `new_size`, strides unchanged),
that grown layout passes `may_have_internal_overlap`, and hence (T1) no two distinct valid
indices of the grown tensor share a storage offset.  No hypothesis on the old layout: in
particular the growth axis may have size 0 or 1 and a stride that does not step over the
other dimensions. -/
theorem c08_expansion_checks_grown_layout (dims nl : List (Nat × Nat))
    (capacity axis newSize : Nat)
    (h : TensorBounds.expandedLayout dims capacity axis newSize = some nl) :
    nl = TensorBounds.setSize dims axis newSize ∧ mayOverlap nl = false ∧
    ∀ i j, ValidIdx nl i → ValidIdx nl j → offset nl i = offset nl j → i = j := by
  obtain ⟨hnl, _, _, _, hov⟩ := (c08_expansion_iff dims nl capacity axis newSize).mp h
  exact ⟨hnl, hov, fun i j hi hj ho => c08_no_overlap_injective nl i j hov hi hj ho⟩

/-- Non-vacuity: a `[1,4]` tensor with strides `[4,1]` and capacity 16 can grow to `[3,4]`. -/
example : TensorBounds.expandedLayout [(1, 4), (4, 1)] 16 0 3 = some [(3, 4), (4, 1)] := by
  decide

/-- Why it must be the grown layout: the transposed `[4,1]` tensor has shape `[1,4]`, strides
`[1,1]`.  Its current layout is accepted (the unit axis hides the stride), the grown layout
`[2,4]`/`[1,1]` aliases (`[0,1]` and `[1,0]`), the overlap check rejects it, and the modelled
`expanded_layout` refuses although the capacity (16 ≥ 5) would suffice.  A decision that
looked at the old shape would accept it. -/
example : mayOverlap [(1, 1), (4, 1)] = false ∧
    mayOverlap (TensorBounds.setSize [(1, 1), (4, 1)] 0 2) = true ∧
    offset [(2, 1), (4, 1)] [0, 1] = offset [(2, 1), (4, 1)] [1, 0] ∧
    TensorBounds.checkedMinDataLen (TensorBounds.setSize [(1, 1), (4, 1)] 0 2) = some 5 ∧
    TensorBounds.expandedLayout [(1, 1), (4, 1)] 16 0 2 = none := by
  decide

/-- **C08.T4** `has_capacity(axis, n) = true` ⇒ the grown tensor is alias-free. -/
theorem c08_hasCapacity_grown_injective (dims : List (Nat × Nat)) (capacity axis newSize : Nat)
    (h : TensorBounds.hasCapacity dims capacity axis newSize = true) (i j : List Nat)
    (hi : ValidIdx (TensorBounds.setSize dims axis newSize) i)
    (hj : ValidIdx (TensorBounds.setSize dims axis newSize) j)
    (hoff : offset (TensorBounds.setSize dims axis newSize) i =
      offset (TensorBounds.setSize dims axis newSize) j) : i = j := by
  unfold TensorBounds.hasCapacity at h
  obtain ⟨nl, hnl⟩ := Option.isSome_iff_exists.mp h
  obtain ⟨rfl, _, hinj⟩ := c08_expansion_checks_grown_layout _ _ _ _ _ hnl
  exact hinj i j hi hj hoff

/-- **C08.T4** `append(axis, other)` succeeding (C06's `TensorBounds.append`) ⇒ the tensor it
leaves behind has the grown layout, that layout passes the overlap check, and no two of its
valid indices share an offset.  (`c06_T2_append` adds: and they all lie inside the storage,
which still fits the capacity.) -/
theorem c08_append_grown_injective (t t' : TensorBounds.Owned) (axis : Nat)
    (other : List (Nat × Nat)) (h : TensorBounds.append t axis other = .ok t') :
    t'.dims = TensorBounds.setSize t.dims axis
      (TensorBounds.sizeAt t.dims axis + TensorBounds.sizeAt other axis) ∧
    mayOverlap t'.dims = false ∧
    ∀ i j, ValidIdx t'.dims i → ValidIdx t'.dims j → offset t'.dims i = offset t'.dims j →
      i = j := by
  unfold TensorBounds.append at h
  split at h
  · cases h
  · split at h
    · cases h
    · split at h
      · cases h
      · rename_i nl hnl
        cases h
        exact c08_expansion_checks_grown_layout _ _ _ _ _ hnl

/-- **C08.T4** (completeness of expansion) The overlap half of the decision never refuses a
grown layout of the advertised class: if the grown layout is `Derived` (e.g. contiguous, as
for a `with_capacity` tensor grown along its expansion axis, or any permuted / sliced view of
one) then `has_capacity` is decided by the storage length alone. -/
theorem c08_expansion_of_derived (dims : List (Nat × Nat)) (capacity axis newSize m : Nat)
    (hd : Derived (TensorBounds.setSize dims axis newSize))
    (hm : TensorBounds.checkedMinDataLen (TensorBounds.setSize dims axis newSize) = some m) :
    TensorBounds.hasCapacity dims capacity axis newSize = decide (m ≤ capacity) := by
  have hov := c08_derived_accepted _ hd
  unfold TensorBounds.hasCapacity TensorBounds.expandedLayout
  simp only [hm, hov, and_true]
  by_cases hc : m ≤ capacity <;> simp [hc]

/-- Non-vacuity: `with_capacity([3,4], 0)` = shape `[0,4]` strides `[4,1]`, capacity 12; growing
axis 0 to 3 gives the contiguous (hence `Derived`) `[3,4]`, min length 12, accepted; to 4 it
is refused for capacity only. -/
example : Derived (TensorBounds.setSize [(0, 4), (4, 1)] 0 3) ∧
    TensorBounds.checkedMinDataLen (TensorBounds.setSize [(0, 4), (4, 1)] 0 3) = some 12 ∧
    TensorBounds.hasCapacity [(0, 4), (4, 1)] 12 0 3 = true ∧
    TensorBounds.hasCapacity [(0, 4), (4, 1)] 12 0 4 = false ∧
    TensorBounds.append ⟨[(0, 4), (4, 1)], 0, 12⟩ 0 [(2, 0), (4, 0)] =
      .ok ⟨[(2, 4), (4, 1)], 8, 12⟩ := by
  refine ⟨.contig (by decide), by decide, by decide, by decide, by decide⟩

end RtenVerif.Overlap
