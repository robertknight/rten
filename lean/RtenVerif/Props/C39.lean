import RtenVerif.Lemmas.CtcGreedy
import RtenVerif.Lemmas.CtcExact
import RtenVerif.Lemmas.CtcPos
import RtenVerif.Lemmas.CtcNoPrune
import RtenVerif.Lemmas.CtcHom

/-!
# C39 — CTC decoding returns distinct, correctly scored hypotheses

Property theorems over `RtenVerif.Model.Ctc` (model of `/repo/src/ctc.rs` after the
`fix:` commit "CTC beam search skips zero-probability extensions").

T1 (greedy = collapse of the arg-max path) and T2 (pairwise distinct label sequences) hold for
every `Ops α` — T2 under the single law `isZero (add zero zero)`, which is exactly the "all −inf"
special case of `log_sum_exp` — hence independently of float rounding.  T3 (score ≤ exact total
probability `exactTotal`, a brute-force sum over all `L^T` alignments), F (finite scores) and S4
(exact scores and a complete beam when nothing is pruned) are over exact `Nat` arithmetic
(`natOps`); float `log_sum_exp` rounding is outside the model (tested by the harness with a
tolerance).  H ties the carrier the driver runs to `natOps`.
-/
namespace RtenVerif.Ctc

/-- **C39.T1** For every carrier, every comparison and every matrix: if `decode_greedy`
returns, it returns exactly the collapsed arg-max path — run starts of non-blank labels
with the position of their first occurrence — whose label sequence is the CTC collapse
`B(path)` (merge repeats, drop blanks), and the score is the left-to-right "sum" (`mul`
in probability space) of the chosen entries. -/
theorem c39_greedy_collapse {α} (ops : Ops α) (L : Nat) (rows : List (List α)) (h : Hyp α)
    (hd : decodeGreedy ops L rows = some h) :
    ∃ path, rows.mapM (argmaxRow ops) = some path ∧
      h.steps = collapsePos path ∧ labels h.steps = collapse path ∧
      h.score = greedyScore ops rows path := by
  unfold decodeGreedy at hd
  split at hd
  · cases hd
  · split at hd
    · cases hd
    · rename_i path hp
      cases hd
      refine ⟨path, hp, ?_, ?_, rfl⟩
      · exact greedyLoop_eq_collapsePos path
      · exact greedyLoop_eq_collapsePos path ▸ labels_collapsePos path

/-- `decode_greedy` panics only for `n_labels = 0` (rows of a `[T, L]` tensor are
non-empty when `L ≠ 0`). -/
theorem c39_greedy_total {α} (ops : Ops α) (L : Nat) (rows : List (List α)) (hL : L ≠ 0)
    (hr : ∀ r ∈ rows, r ≠ []) : (decodeGreedy ops L rows).isSome := by
  unfold decodeGreedy
  rw [if_neg hL]
  have : ∃ path, rows.mapM (argmaxRow ops) = some path := by
    induction rows with
    | nil => exact ⟨[], rfl⟩
    | cons r rs ih =>
      obtain ⟨p, hp⟩ := ih (fun r' h' => hr r' (List.mem_cons_of_mem _ h'))
      cases r with
      | nil => exact absurd rfl (hr [] List.mem_cons_self)
      | cons x xs =>
        refine ⟨argmaxGo ops 0 x 1 xs :: p, ?_⟩
        simp [List.mapM_cons, argmaxRow, hp]
  obtain ⟨p, hp⟩ := this
  rw [hp]
  rfl

example : (decodeGreedy natOps 3 [[1, 2, 2], [1, 1, 1], [3, 1, 1], [1, 5, 1], [1, 5, 1], [1, 1, 1]]).map
    (fun h => (h.steps, h.score)) = some ([⟨1, 0⟩, ⟨1, 3⟩], 150) := by decide +kernel

/-- What a collapsed position means: `⟨l, p⟩` is reported iff `l` is a non-blank label
that occurs at `p` and `p` is the *first* position of its run. -/
theorem c39_collapsePos_mem (path : List Nat) (l p : Nat) :
    (⟨l, p⟩ : Step) ∈ collapsePos path ↔
      l ≠ 0 ∧ path[p]? = some l ∧ (p = 0 ∨ path[p - 1]? ≠ some l) := by
  unfold collapsePos
  rw [List.mem_filter, mem_runStarts, decide_eq_true_eq, and_comm]
  refine and_congr_right fun _ => ⟨?_, fun h => ⟨p, (Nat.zero_add p).symm, h.1, ?_⟩⟩
  · rintro ⟨d, hd, h1, h2⟩
    obtain rfl : p = d := hd.trans (Nat.zero_add d)
    refine ⟨h1, ?_⟩
    cases p with
    | zero => exact Or.inl rfl
    | succ p => exact Or.inr h2
  · cases p with
    | zero => exact fun h => nomatch h
    | succ p => exact h.2.resolve_left (Nat.succ_ne_zero p)

/-- Exact instance: the arg-max of a row is an index of a maximal entry, and among equal
maxima the **first** one (`max_position_by` replaces the best only on `Greater`). -/
theorem c39_argmax_nat (row : List Nat) (i : Nat) (h : argmaxRow natOps row = some i) :
    ∃ v, row[i]? = some v ∧ ∀ j w, row[j]? = some w → w ≤ v ∧ (w = v → i ≤ j) := by
  cases row with
  | nil => cases h
  | cons x xs =>
    obtain rfl : argmaxGo natOps 0 x 1 xs = i := Option.some.inj h
    obtain ⟨v, hr, hv, hfirst, hall⟩ := argmaxGo_nat xs 0 x 1 Nat.one_pos
    generalize argmaxGo natOps 0 x 1 xs = r at hr hfirst hall
    refine ⟨v, ?_, fun j w hj => ?_⟩
    · rcases hr with ⟨rfl, rfl⟩ | ⟨d, rfl, h2⟩
      · rfl
      · rw [Nat.add_comm]; exact h2
    · cases j with
      | zero =>
        obtain rfl : x = w := Option.some.inj hj
        exact ⟨hv, fun h => Nat.le_of_eq (hfirst h.symm)⟩
      | succ j => exact Nat.add_comm 1 j ▸ hall j w hj

/-- In the exact instance the greedy score is the weight (product of entries) of the
arg-max alignment. -/
theorem c39_greedy_score_nat (rows : List (List Nat)) (path : List Nat) :
    greedyScore natOps rows path = weight rows path := rfl

/-- The single law T2 needs: `log_sum_exp([-inf, -inf]) == -inf` (the special case at the
top of `log_sum_exp`; without it the result would be NaN and the skip would not fire). -/
theorem c39_natOps_zero_law : natOps.isZero (natOps.add natOps.zero natOps.zero) = true := rfl

/-- **C39.T2 (step)** One decoding step preserves "label sequences pairwise distinct",
for every carrier, arithmetic, comparison, beam width, label count and input row. -/
theorem c39_beam_step_distinct {α} (ops : Ops α)
    (hz : ops.isZero (ops.add ops.zero ops.zero) = true) (B L : Nat)
    (beam : List (BState α)) (pos : Nat) (row : List α) (h : Distinct beam) :
    Distinct (beamStep ops B L beam pos row) :=
  beamStep_distinct ops hz B L beam pos row h

/-- **C39.T2** `decode_beam_impl` returns states with pairwise distinct label sequences,
for every matrix, beam width and label count (and after every step: apply this to
`rows.take k`). -/
theorem c39_beam_distinct {α} (ops : Ops α)
    (hz : ops.isZero (ops.add ops.zero ops.zero) = true) (B L : Nat)
    (rows : List (List α)) (beam : List (BState α))
    (h : decodeBeamImpl ops B L rows = some beam) : Distinct beam :=
  decodeBeamImpl_induct h (fun _ => Distinct) (initBeam_distinct ops)
    fun _ _ _ beam pos row _ => beamStep_distinct ops hz B L beam pos row

/-- **C39.T2 (n-best)** The hypotheses returned by `decode_beam_nbest` have pairwise
distinct label sequences, for every `beam_size` and `n_best`. -/
theorem c39_nbest_distinct {α} (ops : Ops α)
    (hz : ops.isZero (ops.add ops.zero ops.zero) = true) (B N L : Nat)
    (rows : List (List α)) (hs : List (Hyp α))
    (h : decodeBeamNbest ops B N L rows = some hs) :
    (hs.map (fun hy => labels hy.steps)).Nodup := by
  obtain ⟨beam, hb, rfl⟩ := decodeBeamNbest_eq_some h
  rw [List.map_map]
  exact ((List.take_sublist N beam).map _).nodup (c39_beam_distinct ops hz B L rows beam hb)

/-- The defect input: uniform 2×3 matrix. -/
def uniform23 : List (List Nat) := [[1, 1, 1], [1, 1, 1]]

/-- Non-vacuity: on the uniform 2×3 input with beam 10 the fixed decoder returns five
distinct hypotheses with exact scores 3/9, 3/9, 1/9, 1/9, 1/9. -/
example : (decodeBeamNbest natOps 10 10 3 uniform23).map
    (·.map fun h => (labels h.steps, h.steps.map (·.pos), h.score)) =
    some [([1], [0], 3), ([2], [0], 3), ([], [], 1), ([1, 2], [0, 1], 1), ([2, 1], [0, 1], 1)] := by
  decide +kernel

/-- **C39.T2 is false for the code before the fix**:
the old selection loop on the uniform 2×3 matrix with beam 10 returns `[1]` and `[2]`
twice.  (Observed on the real code: second copies with score −inf.) -/
theorem c39_beam_distinct_old_false :
    ¬ Distinct (beamLoopOld natOps 10 3 (initBeam natOps) 0 uniform23) := by
  unfold Distinct; decide +kernel

example : (beamLoopOld natOps 10 3 (initBeam natOps) 0 uniform23).map
    (fun s => (labels s.pre, s.pb + s.pnb)) =
    [([1], 3), ([2], 3), ([], 1), ([1, 2], 1), ([2, 1], 1), ([1], 0), ([2], 0), ([1, 1], 0),
      ([2, 2], 0)] := by decide +kernel

/-- **C39 finite scores, `_partial`.**  Every state created by a regular selection step
(i.e. unless *every* extension has zero probability and the fallback keeps state 0) has a
non-zero score (`score != -inf`), for every carrier.  That the fallback does not fire when
every row has a non-zero entry needs arithmetic laws: it is `c39_fallback_never_fires` over
`natOps`; for the `f32` carrier the harness checks "all rows have a positive weight ⇒ every
returned score is finite" on the real code for every case. -/
theorem c39_step_scores_nonzero_partial {α} (ops : Ops α) (B L : Nat) (beam : List (BState α))
    (pos : Nat) (row : List α)
    (hne : ((candidates ops L beam.length (extendAll ops L beam row)).foldl (pushExt ops B) []).isEmpty
      = false) :
    ∀ st ∈ beamStep ops B L beam pos row, ops.isZero (hypOf ops st).score = false := by
  intro st hst
  rw [beamStep_eq, selectTopk_eq, hne, if_neg Bool.false_ne_true] at hst
  obtain ⟨e, he, rfl⟩ := List.mem_map.mp hst
  obtain ⟨h, hz⟩ := mem_foldl_pushExt ops B _ e he
  rw [(mem_candidates ops L beam.length _ e h).2.2] at hz
  exact hz

/-- **C39.T3 (invariant form)** After `decode_beam_impl`, every state's `prob_blank` /
`prob_no_blank` is at most the total weight of the alignments of its label sequence that end
in a blank / in a non-blank (`dpRev`, the textbook prefix recursion, proved equal to the
brute-force sums in `Lemmas/CtcExact.lean`).  For every matrix, beam width and label count. -/
theorem c39_beam_parts_le (B L : Nat) (rows : List (List Nat)) (beam : List (BState Nat))
    (h : decodeBeamImpl natOps B L rows = some beam) :
    ∀ st ∈ beam, st.pb ≤ (dpRev rows.reverse (labels st.pre)).1 ∧
      st.pnb ≤ (dpRev rows.reverse (labels st.pre)).2 :=
  (decodeBeamImpl_induct h (fun d beam => Reach L beam ∧ Distinct beam ∧ Inv d beam)
    ⟨initBeam_reach natOps L, initBeam_distinct natOps,
      fun st hst => by rw [List.mem_singleton.mp hst]; exact ⟨Nat.le_refl _, Nat.le_refl _⟩⟩
    fun _ _ d beam pos row _ h => ⟨beamStep_reach natOps B L beam pos row h.1,
      beamStep_distinct natOps rfl B L beam pos row h.2.1,
      beamStep_inv B L d beam pos row h.1 h.2.1 h.2.2⟩).2.2

/-- **C39.T3** Over exact arithmetic the score of every state returned by
`decode_beam_impl` is at most the exact total probability of its label sequence — the sum of
the weights of **all** `L^T` alignments that collapse to it — for every well-shaped matrix,
every beam width and label count. -/
theorem c39_beam_score_le_exact (B L : Nat) (rows : List (List Nat))
    (hw : ∀ r ∈ rows, r.length = L) (beam : List (BState Nat))
    (h : decodeBeamImpl natOps B L rows = some beam) :
    ∀ st ∈ beam, (hypOf natOps st).score ≤ exactTotal L rows (labels st.pre) := by
  intro st hst
  have hparts := c39_beam_parts_le B L rows beam h st hst
  have hok := (decodeBeamImpl_reach h).2 st hst
  rw [← dpRev_eq_exactTotal L rows hw (labels st.pre) fun m hm => (hok m hm).1]
  exact Nat.add_le_add hparts.1 hparts.2

/-- **C39.T3 (n-best)** The same bound for the hypotheses of `decode_beam_nbest`, for every
`beam_size` and `n_best`. -/
theorem c39_nbest_score_le_exact (B N L : Nat) (rows : List (List Nat))
    (hw : ∀ r ∈ rows, r.length = L) (hs : List (Hyp Nat))
    (h : decodeBeamNbest natOps B N L rows = some hs) :
    ∀ hy ∈ hs, hy.score ≤ exactTotal L rows (labels hy.steps) := by
  obtain ⟨beam, hb, rfl⟩ := decodeBeamNbest_eq_some h
  intro hy hhy
  obtain ⟨st, hst, rfl⟩ := List.mem_map.mp hhy
  exact c39_beam_score_le_exact B L rows hw beam hb st (List.mem_of_mem_take hst)

/-- Non-vacuity and strictness: with beam 1 on `[[1,2],[2,1]]` the alignment `0 1` of `[1]`
is pruned (the state `[]` is dropped after the first step), so the score 6 is strictly below
the exact total 7. -/
example : (decodeBeamNbest natOps 1 1 2 [[1, 2], [2, 1]]).map
    (·.map fun h => (labels h.steps, h.score, exactTotal 2 [[1, 2], [2, 1]] (labels h.steps))) =
    some [([1], 6, 7)] := by decide +kernel

def Pos (beam : List (BState Nat)) : Prop := beam ≠ [] ∧ ∀ st ∈ beam, 0 < st.pb + st.pnb

/-- **C39.F (step)** Over exact arithmetic, with `beam_size ≥ 1`, a beam whose states all
have positive probability and a row with at least one positive entry, some extension has
non-zero probability, so the "keep state 0" fallback is not taken. -/
theorem c39_fallback_never_fires (B L : Nat) (hB : 1 ≤ B) (beam : List (BState Nat))
    (row : List Nat) (hrow : ∃ l, l < L ∧ 0 < row.getD l 0) (h : Pos beam) :
    ((candidates natOps L beam.length (extendAll natOps L beam row)).foldl (pushExt natOps B) []).isEmpty
      = false := by
  obtain ⟨l, hl, hr⟩ := hrow
  obtain ⟨hne, hpos⟩ := h
  cases beam with
  | nil => exact absurd rfl hne
  | cons s rest =>
    obtain ⟨c, hc, hz⟩ := exists_nonzero_candidate L (s :: rest) row s rfl
      (hpos s List.mem_cons_self) l hl hr
    have hf := List.length_pos_of_mem
      (List.mem_filter (p := fun e => !natOps.isZero e.prob).mpr ⟨hc, by rw [hz]; rfl⟩)
    have := foldl_pushExt_length natOps B (candidates natOps L (s :: rest).length
      (extendAll natOps L (s :: rest) row))
    rw [← Bool.not_eq_true, List.isEmpty_iff, ← List.length_eq_zero_iff, this]
    omega

theorem beamStep_pos (B L : Nat) (hB : 1 ≤ B) (beam : List (BState Nat)) (pos : Nat)
    (row : List Nat) (hrow : ∃ l, l < L ∧ 0 < row.getD l 0) (h : Pos beam) :
    Pos (beamStep natOps B L beam pos row) := by
  refine ⟨beamStep_ne_nil natOps B L beam pos row, fun st hst => ?_⟩
  have := c39_step_scores_nonzero_partial natOps B L beam pos row
    (c39_fallback_never_fires B L hB beam row hrow h) st hst
  exact Nat.pos_of_ne_zero (by simpa [hypOf, natOps] using this)

/-- **C39.F** If every row of the matrix has a positive entry (in log space: a finite
log-probability; true of every row of a probability distribution), `decode_beam_impl`
returns a non-empty beam whose scores are all non-zero (finite in log space) — every beam
width and label count.  `c39_step_scores_nonzero_partial` with its hypothesis discharged by
`c39_fallback_never_fires` at every step. -/
theorem c39_scores_finite (B L : Nat) (rows : List (List Nat))
    (hrows : ∀ row ∈ rows, ∃ l, l < L ∧ 0 < row.getD l 0) (beam : List (BState Nat))
    (h : decodeBeamImpl natOps B L rows = some beam) :
    beam ≠ [] ∧ ∀ st ∈ beam, natOps.isZero (hypOf natOps st).score = false := by
  have hinit : Pos (initBeam natOps) :=
    ⟨List.cons_ne_nil _ _, fun st hst => by rw [List.mem_singleton.mp hst]; exact Nat.one_pos⟩
  have hpos : Pos beam := decodeBeamImpl_induct h (fun _ => Pos) hinit fun hB _ _ beam pos row hr =>
    beamStep_pos B L (by omega) beam pos row (hrows row hr)
  refine ⟨hpos.1, fun st hst => ?_⟩
  simpa [hypOf, natOps] using Nat.ne_of_gt (hpos.2 st hst)

theorem exactTotal_pos_ok (L : Nat) (rows : List (List Nat)) (s : List Nat)
    (h : 0 < exactTotal L rows s) : okSeq L s := by
  unfold exactTotal at h
  obtain ⟨_, hv, _⟩ := List.sum_pos_iff_exists_pos_nat.mp h
  obtain ⟨a, ha, _⟩ := List.mem_map.mp hv
  simp only [List.mem_filter, beq_iff_eq] at ha
  obtain ⟨hmem, hcol⟩ := ha
  intro m hm
  rw [← hcol] at hm
  unfold collapse at hm
  simp only [List.mem_filter, decide_eq_true_eq] at hm
  exact ⟨hm.2, (mem_allAligns L _ a hmem).2 m (dedupAdj_subset a m hm.1)⟩

/-- **C39.S4** Over exact arithmetic: if during the whole run the number of extensions with
non-zero probability never exceeds the beam width (`noPrune`, i.e. nothing is pruned at any
step — decidable and executable; it holds in particular when `beam_size` is at least the
number of label sequences of positive probability at every step), then for every well-shaped
matrix (a) the score of every returned state **equals** the exact total probability of its
label sequence (sum over all `L^T` alignments), and (b) the result is **complete**: every
label sequence with positive total probability is in the beam. -/
theorem c39_beam_exact_when_unpruned (B L : Nat) (rows : List (List Nat))
    (hw : ∀ r ∈ rows, r.length = L) (beam : List (BState Nat))
    (h : decodeBeamImpl natOps B L rows = some beam)
    (hnp : noPrune natOps B L (initBeam natOps) 0 rows = true) :
    (∀ st ∈ beam, (hypOf natOps st).score = exactTotal L rows (labels st.pre)) ∧
    (∀ s, 0 < exactTotal L rows s → ∃ st ∈ beam, labels st.pre = s) := by
  have hE : Exact L rows.reverse beam := by
    obtain ⟨rfl, rfl | ⟨_, hL⟩⟩ := decodeBeamImpl_eq_some h
    · exact initBeam_exact L
    · simpa using beamLoop_exact B L (by omega) rows _ 0 [] (initBeam_exact L) hnp
  constructor
  · intro st hst
    rw [← dpRev_eq_exactTotal L rows hw (labels st.pre) fun m hm => (hE.lr st hst m hm).1,
      ← (hE.eq st hst).1, ← (hE.eq st hst).2]
    rfl
  · intro s hs
    have hok := exactTotal_pos_ok L rows s hs
    rw [← dpRev_eq_exactTotal L rows hw s fun m hm => (hok m hm).1] at hs
    exact hE.complete s hok hs

/-- **C39.S4 (n-best)** Under the same condition every hypothesis of `decode_beam_nbest` has
its exact score (with `n_best ≥ beam_size` the list is the whole, complete beam). -/
theorem c39_nbest_exact_when_unpruned (B N L : Nat) (rows : List (List Nat))
    (hw : ∀ r ∈ rows, r.length = L) (hs : List (Hyp Nat))
    (h : decodeBeamNbest natOps B N L rows = some hs)
    (hnp : noPrune natOps B L (initBeam natOps) 0 rows = true) :
    ∀ hy ∈ hs, hy.score = exactTotal L rows (labels hy.steps) := by
  obtain ⟨beam, hb, rfl⟩ := decodeBeamNbest_eq_some h
  intro hy hhy
  obtain ⟨st, hst, rfl⟩ := List.mem_map.mp hhy
  exact (c39_beam_exact_when_unpruned B L rows hw beam hb hnp).1 st (List.mem_of_mem_take hst)

/-- Non-vacuity: on the uniform 2×3 matrix beam 10 (indeed beam 5) prunes nothing; beam 1
on `[[1,2],[2,1]]` does (and there the score 6 is below the exact total 7, see above). -/
example : noPrune natOps 10 3 (initBeam natOps) 0 uniform23 = true := by decide +kernel
example : noPrune natOps 5 3 (initBeam natOps) 0 uniform23 = true := by decide +kernel
example : noPrune natOps 4 3 (initBeam natOps) 0 uniform23 = false := by decide +kernel
example : noPrune natOps 1 2 (initBeam natOps) 0 [[1, 2], [2, 1]] = false := by decide +kernel

/-- **C39.H (general)** A map that preserves the operations and comparisons of the carrier
commutes with the whole beam search (every beam width, label count, matrix, start beam). -/
theorem c39_beam_hom {α β : Type} (o1 : Ops α) (o2 : Ops β) (φ : α → β) (hh : OpsHom o1 o2 φ)
    (B L : Nat) (rows : List (List α)) (beam : List (BState α)) (pos : Nat) :
    (beamLoop o1 B L beam pos rows).map (mapState φ) =
      beamLoop o2 B L (beam.map (mapState φ)) pos (rows.map (·.map φ)) :=
  beamLoop_hom hh B L rows beam pos

/-- **C39.H** `V.val` is such a homomorphism from the driver's carrier `vOps` (exact value +
expression hash, with its zero-absorption and `vOne` shortcuts) to `natOps`. -/
theorem c39_vOps_hom : OpsHom vOps natOps V.val := vOps_hom

/-- **C39.H (driver, n-best)** What `model_C39` computes for a `beam` request — the beam search
over `vOps` on the weights lifted by `leaf` — has exactly the labels, positions and score
values of the `natOps` model on the original weights, which T3 / F / S4 are about. -/
theorem c39_driver_nbest_eq_nat (B N L : Nat) (rows : List (List Nat)) :
    (decodeBeamNbest vOps B N L (rows.map (·.map leaf))).map (·.map (mapHyp V.val)) =
      decodeBeamNbest natOps B N L rows := by
  rw [decodeBeamNbest_hom vOps_hom, rows_leaf_val]

/-- **C39.H (driver, best)** The same for a `best` request (`decode_beam`). -/
theorem c39_driver_best_eq_nat (B L : Nat) (rows : List (List Nat)) :
    (decodeBeam vOps B L (rows.map (·.map leaf))).map (mapHyp V.val) =
      decodeBeam natOps B L rows := by
  rw [decodeBeam_hom vOps_hom, rows_leaf_val]

/-- **C39.B** `decode_beam_impl` returns a non-empty beam of at most `max beam_size 1` states
(at most `beam_size` whenever there is a time step, since then `beam_size ≠ 0`), for every
carrier. -/
theorem c39_beam_length {α} (ops : Ops α) (B L : Nat) (rows : List (List α))
    (beam : List (BState α)) (h : decodeBeamImpl ops B L rows = some beam) :
    beam ≠ [] ∧ beam.length ≤ max B 1 ∧ (rows ≠ [] → beam.length ≤ B) := by
  have hlen := decodeBeamImpl_induct h (fun _ beam => beam.length ≤ max B 1) (Nat.le_max_right B 1)
    fun _ _ _ beam pos row _ _ => beamStep_length_le ops B L beam pos row
  refine ⟨(decodeBeamImpl_reach h).1, hlen, fun hr => ?_⟩
  rcases (decodeBeamImpl_eq_some h).2 with rfl | ⟨hB, _⟩
  · exact absurd rfl hr
  · omega

/-- **C39.B (indices)** In one decoding step from a non-empty beam of at most `beam_size ≥ 1`
states with `n_labels ≥ 1`, every index the code uses on the `[beam_size, n_labels]` tables is
in range: the row of each state, the row of each merge target, and the `(index, label)` of each
selected extension (which also indexes `beam`).  The beam invariant needed here is
`c39_beam_length`.  So the total function tables of the model never hide an out-of-range read. -/
theorem c39_step_indices_in_bounds {α} (ops : Ops α) (B L : Nat) (beam : List (BState α))
    (row : List α) (hL : 0 < L) (hne : beam ≠ []) (hlen : beam.length ≤ B) :
    (∀ sb ∈ beam.zipIdx, sb.2 < B ∧ 0 < L) ∧
    (∀ s ∈ beam, ∀ l ti, mergeTarget beam s.pre l = some ti → ti < B ∧ 0 < L) ∧
    (∀ label ∈ List.range' 1 (L - 1), label < L) ∧
    (∀ e ∈ selectTopk ops B (candidates ops L beam.length (extendAll ops L beam row)),
      e.index < beam.length ∧ e.index < B ∧ e.label < L) := by
  refine ⟨fun sb hsb => ⟨Nat.lt_of_lt_of_le ?_ hlen, hL⟩,
    fun s _ l ti h => ⟨Nat.lt_of_lt_of_le (mergeTarget_lt beam s.pre l ti h) hlen, hL⟩,
    fun label hl => ?_, fun e he => ?_⟩
  · exact (List.getElem?_eq_some_iff.mp (List.mem_zipIdx_iff_getElem?.mp hsb)).1
  · have := List.mem_range'_1.mp hl
    omega
  · have hpos : 0 < beam.length := List.length_pos_iff.mpr hne
    rcases selectTopk_mem ops B L beam.length _ e he with ⟨h0, h1⟩ | ⟨hc, _⟩
    · rw [h0, h1]; exact ⟨hpos, Nat.lt_of_lt_of_le hpos hlen, hL⟩
    · obtain ⟨h0, h1, _⟩ := mem_candidates ops L beam.length _ e hc
      exact ⟨h0, Nat.lt_of_lt_of_le h0 hlen, h1⟩

/-- **C39 best (totality)** `decode_beam` panics exactly when `decode_beam_impl` does: the
`remove(0)` never hits an empty vector, for every carrier. -/
theorem c39_best_total {α} (ops : Ops α) (B L : Nat) (rows : List (List α)) :
    (decodeBeam ops B L rows).isSome = (decodeBeamImpl ops B L rows).isSome := by
  unfold decodeBeam
  cases hb : decodeBeamImpl ops B L rows with
  | none => rfl
  | some beam =>
    have := (c39_beam_length ops B L rows beam hb).1
    cases beam with
    | nil => exact absurd rfl this
    | cons s rest => rfl

/-- **C39 best = head of n-best** for every `n_best ≥ 1`. -/
theorem c39_best_is_nbest_head {α} (ops : Ops α) (B N L : Nat) (hN : 1 ≤ N)
    (rows : List (List α)) (h : Hyp α) (hd : decodeBeam ops B L rows = some h) :
    ∃ hs, decodeBeamNbest ops B N L rows = some (h :: hs) := by
  obtain ⟨st, rest, hb, rfl⟩ := decodeBeam_eq_some hd
  unfold decodeBeamNbest
  rw [hb]
  cases N with
  | zero => exact absurd hN (Nat.not_succ_le_zero 0)
  | succ n => exact ⟨(rest.take n).map (hypOf ops), rfl⟩

/-- **C39.T3 (best)** The score of `decode_beam`'s hypothesis never exceeds the exact total
probability of its label sequence. -/
theorem c39_best_score_le_exact (B L : Nat) (rows : List (List Nat))
    (hw : ∀ r ∈ rows, r.length = L) (h : Hyp Nat) (hd : decodeBeam natOps B L rows = some h) :
    h.score ≤ exactTotal L rows (labels h.steps) := by
  obtain ⟨st, rest, hb, rfl⟩ := decodeBeam_eq_some hd
  exact c39_beam_score_le_exact B L rows hw _ hb st List.mem_cons_self

/-- **C39.F (best)** The score of `decode_beam`'s hypothesis is non-zero when every row has a
positive entry. -/
theorem c39_best_finite (B L : Nat) (rows : List (List Nat))
    (hrows : ∀ row ∈ rows, ∃ l, l < L ∧ 0 < row.getD l 0) (h : Hyp Nat)
    (hd : decodeBeam natOps B L rows = some h) : natOps.isZero h.score = false := by
  obtain ⟨st, rest, hb, rfl⟩ := decodeBeam_eq_some hd
  exact (c39_scores_finite B L rows hrows _ hb).2 st List.mem_cons_self

/-- **C39.S4 (best)** The score of `decode_beam`'s hypothesis equals the exact total when nothing
is pruned (`noPrune`). -/
theorem c39_best_exact_when_unpruned (B L : Nat) (rows : List (List Nat))
    (hw : ∀ r ∈ rows, r.length = L) (h : Hyp Nat) (hd : decodeBeam natOps B L rows = some h)
    (hnp : noPrune natOps B L (initBeam natOps) 0 rows = true) :
    h.score = exactTotal L rows (labels h.steps) := by
  obtain ⟨st, rest, hb, rfl⟩ := decodeBeam_eq_some hd
  exact (c39_beam_exact_when_unpruned B L rows hw _ hb hnp).1 st List.mem_cons_self

/-- T1 (`c39_greedy_collapse`, `c39_greedy_total`) holds for every carrier, in particular for
`nanOps`; here the arg-max semantics on NaN: a NaN entry beats every number, and among several
NaNs the **last** one is chosen (`cmp_nan_greater(NaN, NaN) = Greater` replaces the best). -/
example : argmaxRow nanOps [some 3, none, some 5, none, some 1] = some 3 := by decide +kernel
example : argmaxRow nanOps [some 3, some 5, some 5] = some 1 := by decide +kernel
example : (decodeGreedy nanOps 3 [[some 1, none, some 2], [some 1, some 1, some 1]]).map
    (fun h => (h.steps, h.score)) = some ([⟨1, 0⟩], none) := by decide +kernel

end RtenVerif.Ctc
