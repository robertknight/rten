import RtenVerif.Lemmas.OutputTypes
import RtenVerif.Generated.OutputTypeTable

/-!
# C12 — Declared operator output types match produced types

Model: `RtenVerif/Model/OutputTypes.lean` (rule language of `src/operator.rs`, the type part of
`infer_shapes`, `CastElimination`'s guard, `Cast`); per-operator rule table generated from
`src/ops/**/*.rs` by `translate/output_types.py`.

The property has two layers.  The *leaf* layer — each operator's declared rule equals the dtype
the operator really produces (`RuleSound`, hypothesis `H_o`) — is a statement about ~160 Rust
kernels; it is discharged by finite enumeration on the real code (harness `c12`: complete in
the dtype dimension, sampled in shapes and attributes).  The *composition* layer — sound rules
imply sound labels over any graph, and `CastElimination` is then semantics preserving — is
proved here.
-/
namespace RtenVerif.OutputTypes

/-- **C12.T1** Composition: for every plan (any list of operator nodes, any wiring), any static
metadata and any execution `rt`: if the static metadata is right about the execution, every
label already present is right, and every operator's rule is sound for this execution (`H_o`),
then every label computed by the propagation loop — strict or best-effort — is the run-time
type of that value. -/
theorem c12_propagation_sound (rt : RtTyping) (strict : Bool) (static : NodeId → Option VType)
    (hs : StaticSound rt static) :
    ∀ (plan : List OpNode) (types0 types : TypeMap),
      Sound rt types0 → (∀ op ∈ plan, RuleSound rt op) →
      propagate strict static plan types0 = some types → Sound rt types := by
  intro plan types0 types h0 hall h
  fun_induction propagate strict static plan types0 with
  | case1 => cases h; exact h0
  | case2 op ops types0 types' hstep ih =>
    exact ih (stepOp_sound rt strict static op types0 types' hs h0 (hall op List.mem_cons_self) hstep)
      (fun o ho => hall o (List.mem_cons_of_mem _ ho)) h
  | case3 => cases h

/-- **C12.T1'** The label the optimizer leaves on a value (`update_value_type` over the static
dtype) is its run-time type. This is the label `CastElimination` reads. -/
theorem c12_label_sound (rt : RtTyping) (strict : Bool) (static : NodeId → Option VType)
    (plan : List OpNode) (types : TypeMap)
    (hs : StaticSound rt static) (hall : ∀ op ∈ plan, RuleSound rt op)
    (h : propagate strict static plan [] = some types) (id : NodeId) (t : VType)
    (hl : label static types id = some t) : rt id = some t := by
  exact label_sound hs (c12_propagation_sound rt strict static hs plan [] types (sound_nil rt) hall h) hl

/-- Non-vacuity of T1: `x:float → Cast(to=int32) → Equal(·,·) → SequenceConstruct → SequenceAt`
with an execution in which every rule is sound; all four labels are computed. -/
def demoPlan : List OpNode :=
  [ { rules := some [.fixed (.tensor .int32)], inputs := [some 0], outputs := [some 1] },
    { rules := some [.fixed (.tensor .int32)], inputs := [some 1, some 1], outputs := [some 2] },
    { rules := some [.sequenceWithElementTypeOfInput 0], inputs := [some 0, some 0], outputs := [some 3] },
    { rules := some [.elementTypeOfInputSequence 0], inputs := [some 3, some 2], outputs := [some 4] } ]

def demoStatic : NodeId → Option VType := fun id => if id = 0 then some (.tensor .float) else none

example : propagate true demoStatic demoPlan [] =
    some [(4, .tensor .float), (3, .sequence .float), (2, .tensor .int32), (1, .tensor .int32)] := by
  decide

/-- The hypothesis `H_o` cannot be dropped: with an operator whose rule says `CopyFromInput(0)` but
which produces int32 from a float input, the computed label is wrong. -/
theorem c12_unsound_rule_gives_wrong_label :
    ∃ (rt : RtTyping) (static : NodeId → Option VType) (plan : List OpNode) (types : TypeMap),
      StaticSound rt static ∧ propagate false static plan [] = some types ∧ ¬ Sound rt types := by
  refine ⟨fun id => if id = 0 then some (.tensor .float) else if id = 1 then some (.tensor .int32) else none,
    demoStatic,
    [{ rules := some [.copyFromInput 0], inputs := [some 0], outputs := [some 1] }],
    [(1, .tensor .float)], ?_, by decide, ?_⟩
  · intro id t h
    unfold demoStatic at h
    by_cases h0 : id = 0
    · subst h0; simpa using h
    · simp [h0] at h
  · intro hs
    have := hs 1 (.tensor .float) (by decide)
    simp at this

def quantRt : RtTyping := fun id => if id = 2 ∨ id = 3 then some (.tensor .uint8) else some (.tensor .float)
def quantOp (r : Rule) : OpNode := { rules := some [r], inputs := [some 0, some 1, some 2], outputs := [some 3] }

/-- Finding `C12-quantizelinear-u8` (fixed): before the fix `QuantizeLinear::output_types` returned
`Fixed(int8)` when no `output_dtype` attribute is set, while `run` produces the zero point's type.
For the execution "inputs float, float, uint8 → output uint8" (`quantRt`: what the real operator does)
the old rule violates `H_o`; the new rule `CopyFromInput(2)` evaluates to the produced type. -/
theorem c12_quantize_old_rule_unsound :
    ¬ RuleSound quantRt (quantOp (.fixed (.tensor .int8))) ∧
    (Rule.copyFromInput 2).eval (rtInput quantRt (quantOp (.copyFromInput 2))) = quantRt 3 := by
  refine ⟨?_, by decide⟩
  intro h
  have := h [.fixed (.tensor .int8)] rfl 0 3 (.fixed (.tensor .int8)) (by decide) rfl
    (.tensor .int8) rfl
  revert this
  decide

/-- **C12.T2** `CastElimination` is semantics preserving given sound labels: if the guard holds
for a label that is the run-time type of the Cast's input, then `Cast` returns its input
unchanged, so replacing the node by the identity (`Fusion::Identity`) does not change any value. -/
theorem c12_cast_elimination_sound {α : Type} (conv : DType → DType → α → α) (to : DType)
    (v : RtValue α) (lab : Option VType)
    (hsound : ∀ t, lab = some t → v.vtype = t)
    (hguard : castElimGuard lab to = true) : castOp conv to v = some v := by
  unfold castElimGuard at hguard
  cases lab with
  | none => simp at hguard
  | some t =>
    have ht : t = .tensor to := by simpa using hguard
    have hv := hsound t rfl
    subst ht
    cases v with
    | tensor d p =>
      have : d = to := by simpa [RtValue.vtype] using hv
      simp [castOp, this]
    | sequence d items => simp [RtValue.vtype] at hv

/-- Non-vacuity of T2: a float tensor labelled float, Cast(to = float). -/
example : castElimGuard (some (.tensor .float)) .float = true ∧
    (RtValue.tensor .float (7 : Nat)).vtype = .tensor .float := by decide

/-- T2 needs the sound label: a float tensor wrongly labelled int32 would have its
`Cast(to = int32)` removed although the cast changes type and payload. -/
theorem c12_cast_elimination_needs_sound_label :
    castElimGuard (some (.tensor .int32)) .int32 = true ∧
    castOp (fun _ _ (p : Nat) => p + 1) .int32 (RtValue.tensor .float 7) = some (.tensor .int32 8) := by
  decide

/-- The guard never fires without a label, and never for a sequence label. -/
theorem c12_guard_conservative (to d : DType) :
    castElimGuard none to = false ∧ castElimGuard (some (.sequence d)) to = false := by
  cases to <;> cases d <;> decide

/-- **C12.T3** Sanity of the generated table (re-checked on every run because the table is
regenerated from the source first): every input index used by a `CopyFromInput` /
`ElementTypeOfInputSequence` / `SequenceWithElementTypeOfInput` rule of an operator with a literal
`max_inputs = Some(n)` is `< n`. -/
theorem c12_table_slots_ok : Generated.table.all Entry.slotsOk = true := by decide

/-- The table is not empty and not all-opaque (so T3 is not vacuous): it has more than 150 entries,
fewer than 5 opaque ones, and `OneHot`'s `CopyFromInput(2)` is checked against `max_inputs = 3`. -/
theorem c12_table_nontrivial :
    150 < Generated.table.length ∧
    (Generated.table.filter fun e => match e.body with | .opaque => true | _ => false).length < 5 ∧
    (Generated.table.filter fun e => match e.body, e.maxInputs with
      | .list [.copyFromInput 2], some 3 => true | _, _ => false).length ≥ 1 := by decide +kernel

/-- An inferred label overwrites whatever the model file declared for that value
(`update_value_type`): for a labelled id the optimizer's label does not depend on `static` at all, so
a wrong `value_info` dtype on a value that receives an inferred label is harmless. -/
theorem c12_label_overwrites_static (static static' : NodeId → Option VType) (types : TypeMap) (id : NodeId)
    (t : VType) (h : types.get id = some t) : label static types id = some t ∧ label static' types id = some t := by
  simp [label, h]

/-- `StaticSound` cannot be dropped for values that receive NO inferred label (producer without
rules, or with an input of unknown type): `x` (undeclared, float at run time) → `Identity` → `m`
declared int32 by a lying `value_info` → `Cast(to = int32)`. No label is inferred for `m`, the
guard reads the declaration and the needed Cast is removed. The harness reproduces exactly this
on the real optimizer (bucket `lying_value_info_changed_output`; classified as an inconsistent model
file, not a defect: rten trusts declared types, and ONNX requires typed graph inputs). -/
theorem c12_lying_value_info_drops_cast :
    let static : NodeId → Option VType := fun id => if id = 1 then some (.tensor .int32) else none
    let plan : List OpNode := [{ rules := some [.copyFromInput 0], inputs := [some 0], outputs := [some 1] }]
    propagate false static plan [] = some [] ∧
    castElimGuard (label static [] 1) .int32 = true ∧
    castOp (fun _ _ (p : Nat) => p + 1) .int32 (RtValue.tensor .float 7) ≠ some (RtValue.tensor .float 7) := by
  decide

/-- With a declared (sound) input the same lying `value_info` is overwritten and the Cast stays. -/
theorem c12_lying_value_info_overwritten :
    let static : NodeId → Option VType := fun id =>
      if id = 0 then some (.tensor .float) else if id = 1 then some (.tensor .int32) else none
    let plan : List OpNode := [{ rules := some [.copyFromInput 0], inputs := [some 0], outputs := [some 1] }]
    ∃ types, propagate false static plan [] = some types ∧ label static types 1 = some (.tensor .float) ∧
      castElimGuard (label static types 1) .int32 = false := by
  exact ⟨[(1, .tensor .float)], by decide, by decide, by decide⟩

/-- One operator of a graph as the harness / driver describes it: table key, dtype attributes,
input and output ids. -/
structure OpSpec where
  key : String
  attrs : Attrs
  inputs : List (Option NodeId)
  outputs : List (Option NodeId)

/-- The `OpNode` whose rule list is what the generated table gives for this operator
(`none`: unknown key, opaque body or missing attribute). -/
def OpSpec.toNode (table : List Entry) (o : OpSpec) : Option OpNode :=
  (findEntry table o.key).bind fun e =>
    (e.body.rules o.attrs o.outputs.length).map fun r => { rules := r, inputs := o.inputs, outputs := o.outputs }

def planOfTable (table : List Entry) : List OpSpec → Option (List OpNode)
  | [] => some []
  | o :: os =>
    match o.toNode table with
    | none => none
    | some n =>
      match planOfTable table os with
      | none => none
      | some ns => some (n :: ns)

theorem mem_planOfTable (table : List Entry) (specs : List OpSpec) (plan : List OpNode)
    (h : planOfTable table specs = some plan) : ∀ op ∈ plan, ∃ o ∈ specs, o.toNode table = some op := by
  fun_induction planOfTable table specs generalizing plan with
  | case1 => cases h; exact fun _ hop => nomatch hop
  | case2 | case3 => cases h
  | case4 o os n hn ns hr ih =>
    cases h
    intro op hop
    rcases List.mem_cons.mp hop with rfl | hmem
    · exact ⟨o, List.mem_cons_self, hn⟩
    · obtain ⟨o', ho', hn'⟩ := ih ns hr op hmem
      exact ⟨o', List.mem_cons_of_mem _ ho', hn'⟩

/-- **C12.T1 over the generated table**: for a graph described by table keys, if every operator's
TABLE rule (`Body.rules` of its `Generated.table` entry, instantiated with its attributes and output
count) is sound for the execution, every propagated label is the run-time type. This is the form in
which the leaf hypothesis is discharged by the harness: its `rules` lines show that the table rule
equals the rule object the live operator returns, its `lab` lines that the rule predicts the
produced dtype. -/
theorem c12_propagation_sound_table (rt : RtTyping) (strict : Bool) (static : NodeId → Option VType)
    (hs : StaticSound rt static) (specs : List OpSpec) (plan : List OpNode) (types : TypeMap)
    (hplan : planOfTable Generated.table specs = some plan)
    (hleaf : ∀ o ∈ specs, ∀ n, o.toNode Generated.table = some n → RuleSound rt n)
    (h : propagate strict static plan [] = some types) : Sound rt types := by
  refine c12_propagation_sound rt strict static hs plan [] types (sound_nil rt) ?_ h
  intro op hop
  obtain ⟨o, ho, hn⟩ := mem_planOfTable Generated.table specs plan hplan op hop
  exact hleaf o ho op hn

end RtenVerif.OutputTypes
