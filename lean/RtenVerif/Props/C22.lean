import RtenVerif.Lemmas.PlanCache
import RtenVerif.Props.C26
import RtenVerif.Props.C02
/-!
# C22 — Concurrent use of one model gives sequential results

> When several threads call run or partial_run on the same loaded model concurrently, with
> different inputs and different requested output sets, each call returns exactly what it would
> return if the calls were made one at a time. No call blocks forever or panics because of another.

Model (`Model/PlanCache.lean`, section "Concurrent calls on one model"): the only mutable state shared by calls is the plan
cache behind `Graph::cached_plan: Mutex<Option<Arc<CachedPlan>>>`.  A `run` call is
`[lock; matches-or-replan; unlock]` (one atomic step) followed by `run_plan` with the call's own
`Arc` (a step that reads no shared mutable state); `partial_run` never touches the cache.  A
schedule is an arbitrary list of thread indices.

* `c22_linearizable`: the only shared state is the cache, a `run` call touches it in one atomic
  step and its second step reads nothing shared; so for **every** schedule, every finished call
  returned what the same call returns when made alone after some sequence of `run` calls on the
  model.  What follows about plans and outcomes is then C26's theorems about `run` from a
  reachable cache.
* `c22_hit_plan_valid` (T1): whatever happened before, the plan a call leaves the critical
  section with is a valid plan (C03 `PlanOK`) *for that call's own request* — hit or miss.
  Before the fix of `CachedPlan::matches` this was false (`c22_T1_orig_false`).
* `c22_call_spec` (T2): for **every** schedule, every finished call's outcome satisfies `Spec`,
  a relation that mentions only the call's own arguments: the cache content is unobservable up
  to the choice among valid plans.  `c22_errors_sequential`: an error outcome is *exactly* the
  outcome of the same call made alone on a fresh model.  `c22_values_sequential`: on graphs
  with unique producers the plan a call holds and the plan it would get alone give the same
  output values in C02's value-carrying model of `run_plan` (both succeed with equal outputs or
  both fail) — by C02's `c02_plan_independent_iff` and C03's `c03_complete` (planner completeness
  on unique-producer graphs), under the hypotheses of C02's theorem (well-formed request, no
  captures, operator contract, unique producers).  Equality of
  *failing* outcomes is false in general (`Executor.c02_error_depends_on_order`).
* `c22_progress`, `c22_all_done` (T3): a thread's step never waits for another thread: the
  critical section contains no blocking call and its only loop terminates (`c03_terminates`);
  after any schedule in which a thread was scheduled twice, it is done — no deadlock through
  this mutex.
Runtime assumptions (not modelled): `std::sync::Mutex` is a mutex, rayon pools are live, kernels
are data-race free, `Arc` reference counting.

What "exactly what it would return alone" means here: proved for validation errors, planning
errors and `Ok` values; for a run in which a kernel fails only "both fail" is proved — which
operator error is reported depends on the plan order (`Executor.c02_error_depends_on_order`).

`c22_progress` / `c22_all_done` hold by construction of the three-state `Pc` (a call takes at
most two steps); their content is that no step waits and that `create_plan` terminates.  Mutex
poisoning is not represented: a panic *inside* a critical section would poison `cached_plan` and
make every later `lock().unwrap()` panic.  The critical section contains `matches`,
`create_plan` and `CachedPlan::new`; the planner model has no panic outcome (none was observed by
C03's exhaustive correspondence runs), and `run_plan` — where the request-dependent panic sites
are — runs after the unlock and is panic-free for accepted requests (`c26_run_never_panics`,
`c26_partial_never_panics`), so no modelled panic occurs while a plan-cache mutex is held.

Two executor models are used: `PlanCache.runPlan` (outcome classes and panic sites; no in-place
taking) and C02's `Executor.runPlan` (values; in-place taking).  They share the graph IR, the
plan and `PlanOK`; no refinement between them is proved.
-/
namespace RtenVerif.PlanCache
open RtenVerif.Graph RtenVerif.Planner

/-- What a finished call may return, stated on its own arguments only. -/
def Spec (m : Mdl) (k : Call) (o : Outcome) : Prop :=
  if k.isPartial then o = partialRun m k.opsOk k.req.inputs k.req.outs
  else if validateInputs m k.req.inputs = false then o = .errInvalidInput
  else
    (∃ e, createPlan m.g k.req.ids k.req.outs (cacheOpts false) = .error e ∧ o = .errPlan e) ∨
    (∃ plan, ArgsOK m.g k.req.ids k.req.outs ∧
      PlanOK m.g false (resolvedNew m.g k.req.ids false) k.req.outs plan ∧
      o = runPlan m.g k.opsOk k.req.inputs plan k.req.outs)

/-- A thread's state is the state of a sequential execution of its call from a reachable cache. -/
def PcLin (m : Mdl) (k : Call) : Pc → Prop
  | .start => True
  | .planned plan => k.isPartial = false ∧ validateInputs m k.req.inputs = true ∧
      ∃ c, Reachable m c ∧ (getCachedPlan .fixed m.g false c k.req.ids k.req.outs).1 = .ok plan
  | .done o => ∃ c, Reachable m c ∧ o = runAlone .fixed m k c

theorem stepCall_lin {m : Mdl} {k : Call} {pc : Pc} {c : Option CachedPlan}
    (hc : Reachable m c) (hpc : PcLin m k pc) :
    Reachable m (stepCall .fixed m k pc c).2 ∧ PcLin m k (stepCall .fixed m k pc c).1 := by
  revert hpc
  fun_cases stepCall .fixed m k pc c
  -- the arms of `stepCall` in order: done, planned, `partial_run`, invalid inputs, then the
  -- critical section ending in a planning error or in a plan
  case case1 o => exact fun hpc => ⟨hc, hpc⟩
  case case2 plan =>
    rintro ⟨hp, hv, c0, hc0, hg⟩
    refine ⟨hc, c0, hc0, ?_⟩
    rw [runAlone, if_neg (by simp [hp]), run_fst, if_neg (by simp [hv]),
      show k.req.inputs.map (·.1) = k.req.ids from rfl, hg]
  case case3 hp => exact fun _ => ⟨hc, c, hc, by rw [runAlone, if_pos hp]⟩
  case case4 hp hv => exact fun _ => ⟨hc, c, hc, by rw [runAlone, if_neg hp, run, if_pos hv]⟩
  case case5 hp hv e c' hg =>
    -- the step is the whole of `run` from `c`
    have hrun : run .fixed m k.opsOk c k.req.inputs k.req.outs = (.errPlan e, c') := by
      rw [run, if_neg hv, show k.req.inputs.map (·.1) = k.req.ids from rfl, hg]
    exact fun _ => ⟨congrArg Prod.snd hrun ▸ Reachable.step k.opsOk k.req.inputs k.req.outs hc, c, hc,
      by rw [runAlone, if_neg hp, hrun]⟩
  case case6 hp hv plan c' hg =>
    -- the step is the first half of `run` from `c`
    have hr := Reachable.step k.opsOk k.req.inputs k.req.outs hc
    rw [run, if_neg hv, show k.req.inputs.map (·.1) = k.req.ids from rfl, hg] at hr
    exact fun _ => ⟨hr, by simpa using hp, by simpa using hv, c, hc, by rw [hg]⟩

structure SysLin (m : Mdl) (calls : List Call) (s : Sys) : Prop where
  cache : Reachable m s.cache
  pcs : ∀ (i : Nat) (k : Call) (pc : Pc), calls[i]? = some k → s.pcs[i]? = some pc → PcLin m k pc

theorem stepSys_lin {m : Mdl} {calls : List Call} {s : Sys} (i : Nat)
    (h : SysLin m calls s) : SysLin m calls (stepSys .fixed m calls s i) := by
  unfold stepSys
  split
  · rename_i k pc hk hpc
    obtain ⟨h1, h2⟩ := stepCall_lin h.cache (h.pcs i k pc hk hpc)
    refine ⟨h1, fun j k' pc' hk' hpc' => ?_⟩
    by_cases hij : i = j
    · subst hij
      obtain rfl := Option.some.inj (hk.symm.trans hk')
      rw [List.getElem?_set_self (List.getElem?_eq_some_iff.mp hpc).1] at hpc'
      exact Option.some.inj hpc' ▸ h2
    · rw [List.getElem?_set_ne hij] at hpc'
      exact h.pcs j k' pc' hk' hpc'
  · exact h

theorem execSched_lin {m : Mdl} {calls : List Call} :
    ∀ (sched : List Nat) {s : Sys}, SysLin m calls s → SysLin m calls (execSched .fixed m calls sched s)
  | [], _, h => h
  | i :: is, _, h => execSched_lin is (stepSys_lin i h)

theorem initSys_lin {m : Mdl} {c : Option CachedPlan} (hc : Reachable m c) (calls : List Call) :
    SysLin m calls (initSys c calls) := by
  refine ⟨hc, fun i k pc _ hpc => ?_⟩
  rw [initSys, List.getElem?_map] at hpc
  obtain ⟨_, _, rfl⟩ := Option.map_eq_some_iff.mp hpc
  trivial

/-- Every finished call returned what it returns alone after some sequence of `run` calls. -/
theorem c22_linearizable {m : Mdl} {c : Option CachedPlan} (hc : Reachable m c) (calls : List Call)
    (sched : List Nat) {i : Nat} {k : Call} {o : Outcome} (hk : calls[i]? = some k)
    (hd : (execSched .fixed m calls sched (initSys c calls)).pcs[i]? = some (.done o)) :
    ∃ c', Reachable m c' ∧ o = runAlone .fixed m k c' :=
  (execSched_lin sched (initSys_lin hc calls)).pcs i k _ hk hd

/-- **C22.T1** In every state reachable by any schedule of any calls, from any cache content
left behind by earlier calls: a thread that has left the critical section holds a plan that is
valid, complete and minimal (C03 `PlanOK`) for *its own* request, and that request is well-formed. -/
theorem c22_hit_plan_valid {m : Mdl} {c : Option CachedPlan} (hc : Reachable m c) (calls : List Call)
    (sched : List Nat) {i : Nat} {k : Call} {plan : List Nat} (hk : calls[i]? = some k)
    (hp : (execSched .fixed m calls sched (initSys c calls)).pcs[i]? = some (.planned plan)) :
    ArgsOK m.g k.req.ids k.req.outs ∧
      PlanOK m.g false (resolvedNew m.g k.req.ids false) k.req.outs plan := by
  obtain ⟨_, _, c', hc', hg⟩ := (execSched_lin sched (initSys_lin hc calls)).pcs i k _ hk hp
  exact c26_accepted_plan_ok hc' hg

/-- T1 is false for `CachedPlan::matches` before the fix: thread 0 runs `[a,b] → [y]`, then
thread 1 asks `[a,a] → [y]`, hits the cache and leaves the critical section with the plan `[3]`,
which needs `b`; its `run_plan` step panics.  Alone, thread 1 gets an error. -/
theorem c22_T1_orig_false :
    let calls : List Call := [{ req := ⟨[(0, wv), (1, wv)], [2]⟩ }, { req := ⟨[(0, wv), (0, wv)], [2]⟩ }]
    (execSched .orig wMdl calls [0, 1] (initSys none calls)).pcs[1]? = some (.planned [3]) ∧
    (execSched .orig wMdl calls [0, 1, 1] (initSys none calls)).pcs[1]? =
      some (.done (.panic .missingInput)) ∧
    (execSched .orig wMdl calls [1, 1, 0] (initSys none calls)).pcs[1]? =
      some (.done (.errPlan .dupInput)) ∧
    ¬ArgsOK wGraph [0, 0] [2] := by
  refine ⟨by decide +kernel, by decide +kernel, by decide +kernel, ?_⟩
  intro h; exact absurd h.2.2.1 (by decide)

theorem runAlone_spec_reachable {m : Mdl} {c : Option CachedPlan} (hc : Reachable m c) (k : Call) :
    Spec m k (runAlone .fixed m k c) := by
  unfold Spec runAlone
  by_cases hp : k.isPartial = true
  · rw [if_pos hp, if_pos hp]
  · rw [if_neg hp, if_neg hp, run_fst]
    by_cases hv : validateInputs m k.req.inputs = false
    · rw [if_pos hv, if_pos hv]
    · rw [if_neg hv, if_neg hv]
      cases hg : (getCachedPlan .fixed m.g false c (k.req.inputs.map (·.1)) k.req.outs).1 with
      | error e => exact Or.inl ⟨e, getCachedPlan_error hg, rfl⟩
      | ok p =>
        obtain ⟨ha, hok⟩ := c26_accepted_plan_ok hc hg
        exact Or.inr ⟨p, ha, hok, rfl⟩

/-- **C22.T2** For every schedule, every finished call returned something its own arguments
allow (`Spec` mentions nothing but the call): the other calls and the cache are unobservable up
to the choice among valid plans for the call's request. -/
theorem c22_call_spec {m : Mdl} {c : Option CachedPlan} (hc : Reachable m c) (calls : List Call)
    (sched : List Nat) {i : Nat} {k : Call} {o : Outcome} (hk : calls[i]? = some k)
    (hd : (execSched .fixed m calls sched (initSys c calls)).pcs[i]? = some (.done o)) :
    Spec m k o := by
  obtain ⟨c', hc', rfl⟩ := c22_linearizable hc calls sched hk hd
  exact runAlone_spec_reachable hc' k

/-- The sequential reference: the call made alone on a freshly loaded model also satisfies
`Spec` (so `Spec` is not vacuous: it is met by the sequential execution). -/
theorem runAlone_spec (m : Mdl) (k : Call) : Spec m k (runAlone .fixed m k none) := by
  exact runAlone_spec_reachable Reachable.cold k

def Outcome.fromRunPlan : Outcome → Bool
  | .ok | .errOpNotFound | .errOp | .panic _ => true
  | _ => false

theorem execLoop_error {g : Graph} {views : List Nat} {opsOk : Bool} :
    ∀ (plan : List Nat) (st : RSt) (o : Outcome),
      execLoop g views opsOk plan st = .error o → o.fromRunPlan = true := by
  intro plan st o
  fun_induction execLoop g views opsOk plan st
  case case1 => exact nofun
  case case6 ih => exact ih
  -- the four error exits of one iteration
  all_goals rintro ⟨⟩; rfl

theorem runPlan_class (g : Graph) (opsOk : Bool) (inputs : List (Nat × InVal)) (plan outs : List Nat) :
    (runPlan g opsOk inputs plan outs).fromRunPlan = true := by
  fun_cases runPlan g opsOk inputs plan outs
  case case4 h => exact execLoop_error _ _ _ h
  all_goals rfl

theorem runAlone_error_indep {m : Mdl} {c : Option CachedPlan} {k : Call} {o : Outcome}
    (hnp : k.isPartial = false) (ho : o = runAlone .fixed m k c)
    (herr : o = .errInvalidInput ∨ ∃ e, o = .errPlan e) : runAlone .fixed m k none = o := by
  rw [runAlone, if_neg (by simp [hnp]), run_fst] at ho ⊢
  by_cases hv : validateInputs m k.req.inputs = false
  · rw [if_pos hv] at ho ⊢; exact ho.symm
  · rw [if_neg hv] at ho ⊢
    rw [getCachedPlan_cold]
    cases hg : (getCachedPlan .fixed m.g false c (k.req.inputs.map (·.1)) k.req.outs).1 with
    | error e => rw [hg] at ho; rw [getCachedPlan_error hg, ho]
    | ok plan =>
      rw [hg] at ho
      have hcl := runPlan_class m.g k.opsOk k.req.inputs plan k.req.outs
      rw [show runPlan m.g k.opsOk k.req.inputs plan k.req.outs = o from ho.symm] at hcl
      rcases herr with h | ⟨e, h⟩ <;> (subst h; cases hcl)

/-- Errors are exactly sequential: if a `run` call finishes with a validation or planning error
in some interleaving, the same call made alone on a freshly loaded model returns the same error. -/
theorem c22_errors_sequential {m : Mdl} {c : Option CachedPlan} (hc : Reachable m c)
    (calls : List Call) (sched : List Nat) {i : Nat} {k : Call} {o : Outcome}
    (hk : calls[i]? = some k) (hnp : k.isPartial = false)
    (hd : (execSched .fixed m calls sched (initSys c calls)).pcs[i]? = some (.done o))
    (herr : o = .errInvalidInput ∨ ∃ e, o = .errPlan e) :
    runAlone .fixed m k none = o := by
  obtain ⟨c', _, ho⟩ := c22_linearizable hc calls sched hk hd
  exact runAlone_error_indep hnp ho herr

/-- **C22.T2, value form** (by C02's `c02_plan_independent_iff`).  Take any schedule of any calls
from any reachable cache, and a thread that has left the critical section holding `plan` —
possibly another call's cached plan for a permutation of its ids.  Then the same call made alone
on a freshly loaded model plans successfully (C03.T2c `c03_complete`), with some `p'`, and C02's
value-carrying model of `run_plan` (`Executor.runPlan`, including in-place execution and
reference counting) returns the outputs `vals` with the held plan **iff** it returns the same
`vals` with `p'`: same outputs on success, and both succeed or both fail.  The hypotheses on
`ops`/`r` are exactly those of C02's theorem (well-formed request, no captures, operator contract,
unique producers, the call's ids are the supplied inputs).  Full equality of *failing* outcomes is
false — which operator error is reported depends on the plan order
(`Executor.c02_error_depends_on_order`). -/
theorem c22_values_sequential {V : Type} {ops : Executor.Ops V} {r : Executor.Run V}
    {m : Mdl} {c : Option CachedPlan} (hc : Reachable m c)
    (calls : List Call) (sched : List Nat) {i : Nat} {k : Call} {plan : List Nat}
    (hk : calls[i]? = some k)
    (hp : (execSched .fixed m calls sched (initSys c calls)).pcs[i]? = some (.planned plan))
    (hg : r.g = m.g) (hwf : Executor.WF r) (hcap : r.g.captures = [])
    (hct : Executor.Contract ops r.g) (hu : UniqueProducer r.g)
    (hin : ∀ d ∈ k.req.ids, r.isInput d = true) :
    ∃ p', createPlan m.g k.req.ids k.req.outs (cacheOpts false) = .ok p' ∧
      ∀ vals, (Executor.runPlan ops r Executor.nocap plan k.req.outs).outcome = .ok vals ↔
        (Executor.runPlan ops r Executor.nocap p' k.req.outs).outcome = .ok vals := by
  obtain ⟨hargs, hok⟩ := c22_hit_plan_valid hc calls sched hk hp
  obtain ⟨p', hp', hok'⟩ := c03_complete (opts := cacheOpts false) (hg ▸ hu) hargs hok
  refine ⟨p', hp', fun vals => ?_⟩
  rw [← hg] at hok hok'
  exact Executor.c02_plan_independent_iff hwf hcap hct hu hin hargs.1 hok hok' vals

/-- **No call panics because of another** (outcome level): on a graph whose operator inputs and
outputs are value or constant nodes, for every schedule of any calls from any reachable cache,
every finished call returned `Ok` or an error — in the reduced `run_plan` none of the panic
sites is reachable with the plan the call holds (`runPlan_accepted`, `partialRun_no_panic`). -/
theorem c22_never_panics {m : Mdl} (hwf : WFG m.g) (hwo : WFGo m.g) {c : Option CachedPlan}
    (hc : Reachable m c) (calls : List Call) (sched : List Nat) {i : Nat} {k : Call} {o : Outcome}
    (hk : calls[i]? = some k)
    (hd : (execSched .fixed m calls sched (initSys c calls)).pcs[i]? = some (.done o)) :
    o.isPanic = false := by
  obtain ⟨c', hc', rfl⟩ := c22_linearizable hc calls sched hk hd
  rw [runAlone]
  split
  · exact partialRun_no_panic hwf hwo _ _ _
  · exact c26_run_isPanic_false hwf hc' _ _ _

/-! ## Subgraph plan caches (`If` branches, `Loop` bodies)

The graph of an `If` branch or `Loop` body has its own `cached_plan` mutex, shared by all
concurrent runs and taken by `run_subgraph` with `is_subgraph = true`.  The cache lemmas are
generic in `isSub`, so they lift to the whole family of graphs of a model: however the critical
sections of however many threads on however many of these caches interleave (a list of lock
events), every cache keeps its invariant and every critical section hands out a plan that is
valid for the request it was asked for — with the graph's captures counted as available exactly
when the graph is a subgraph. -/

/-- Every cache of the family satisfies its invariant (`isSub` = "is not the top-level graph"). -/
structure FamInv (graphs : List Graph) (caches : List (Option CachedPlan)) : Prop where
  len : caches.length = graphs.length
  inv : ∀ (i : Nat) (g : Graph) (c : Option CachedPlan), graphs[i]? = some g → caches[i]? = some c →
    CacheInv g (isSubOf i) c

theorem famInv_cold (graphs : List Graph) : FamInv graphs (graphs.map (fun _ => none)) := by
  refine ⟨List.length_map .., fun i g c _ hc => ?_⟩
  rw [List.getElem?_map] at hc
  obtain ⟨_, _, rfl⟩ := Option.map_eq_some_iff.mp hc
  trivial

theorem lockStep_inv {graphs : List Graph} {caches : List (Option CachedPlan)} (e : LockEv)
    (h : FamInv graphs caches) : FamInv graphs (lockStep graphs caches e).2 := by
  unfold lockStep
  split
  · rename_i g c hg hc
    refine ⟨(List.length_set ..).trans h.len, fun i g' c' hg' hc' => ?_⟩
    by_cases hi : e.gi = i
    · subst hi
      obtain rfl := Option.some.inj (hg.symm.trans hg')
      rw [List.getElem?_set_self (List.getElem?_eq_some_iff.mp hc).1] at hc'
      obtain rfl := Option.some.inj hc'
      exact getCachedPlan_inv _ _ (h.inv _ _ _ hg hc)
    · rw [List.getElem?_set_ne hi] at hc'
      exact h.inv i g' c' hg' hc'
  · exact h

theorem cachesAfter_inv {graphs : List Graph} (evs : List LockEv) :
    ∀ {caches : List (Option CachedPlan)}, FamInv graphs caches →
      FamInv graphs (cachesAfter graphs evs caches) := by
  induction evs with
  | nil => intro _ h; exact h
  | cons e es ih => intro _ h; exact ih (lockStep_inv e h)

/-- **C22.T1 for the whole family of plan caches.** After any sequence of critical sections on
the caches of the top-level graph and of the `If`/`Loop` body graphs (any threads, any
interleaving, valid or invalid requests), the next critical section `e` — top-level or nested —
that returns a plan returns one that is valid, complete and minimal for `e`'s own request on
`e`'s own graph, with `captures_available = is_subgraph`; and an error is `create_plan`'s error
for that very request. -/
theorem c22_nested_plan_valid {graphs : List Graph} {caches0 : List (Option CachedPlan)}
    (h0 : FamInv graphs caches0) (evs : List LockEv) (e : LockEv) :
    (∀ plan, (lockStep graphs (cachesAfter graphs evs caches0) e).1 = some (.ok plan) →
      ∃ g, graphs[e.gi]? = some g ∧ ArgsOK g e.ins e.outs ∧
        PlanOK g false (resolvedNew g e.ins (isSubOf e.gi)) e.outs plan) ∧
    (∀ err, (lockStep graphs (cachesAfter graphs evs caches0) e).1 = some (.error err) →
      ∃ g, graphs[e.gi]? = some g ∧ createPlan g e.ins e.outs (cacheOpts (isSubOf e.gi)) = .error err) := by
  have hinv := cachesAfter_inv evs h0
  generalize cachesAfter graphs evs caches0 = caches at hinv
  unfold lockStep
  split
  · rename_i g c hg hc
    simp only [Option.some.injEq]
    exact ⟨fun plan h => ⟨g, hg, getCachedPlan_ok (hinv.inv _ _ _ hg hc) h⟩,
      fun err h => ⟨g, hg, getCachedPlan_error h⟩⟩
  · exact ⟨fun _ h => (by cases h), fun _ h => (by cases h)⟩

/-- Non-vacuity: a model with a top-level graph and one subgraph (with a capture); two threads'
nested critical sections interleaved with top-level ones; the capture is available only
because the graph is planned as a subgraph (last conjunct: planned as a top-level graph it is not). -/
example :
    let sub : Graph := { nodes := [.value, .value, .operator { inputs := [some 0], outputs := [some 1] }],
                         captures := [0] }
    lockTrace [wGraph, sub]
      [⟨0, [0, 1], [2]⟩, ⟨1, [], [1]⟩, ⟨0, [1, 0], [2]⟩, ⟨1, [], [1]⟩, ⟨0, [0, 1], [4]⟩, ⟨1, [], [1, 1]⟩]
      [none, none] = ['m', 'm', 'h', 'h', 'm', 'm'] ∧
    (lockStep [wGraph, sub] [none, none] ⟨1, [], [1]⟩).1 = some (.ok [2]) ∧
    (lockStep [sub] [none] ⟨0, [], [1]⟩).1 = some (.error .missingInput) := by
  decide +kernel

/-- The requests of the body graph `k` are constant: every lock event on cache `k` carries
`(ins, outs)` (what `If` / `Loop` do: `Vec::new()` / the body's input ids, and the body graph's
`output_ids()`; the harness asserts it on the logged lock events). -/
def ConstReq (k : Nat) (ins outs : List Nat) (evs : List LockEv) : Prop :=
  ∀ e ∈ evs, e.gi = k → e.ins = ins ∧ e.outs = outs

theorem cachesAfter_fixed {graphs : List Graph} {k : Nat} {g : Graph} {ins outs : List Nat}
    (hg : graphs[k]? = some g) :
    ∀ (evs : List LockEv) (caches : List (Option CachedPlan)), ConstReq k ins outs evs →
      (∀ c, caches[k]? = some c → FixedCache g (isSubOf k) ins outs c) →
      ∀ c, (cachesAfter graphs evs caches)[k]? = some c → FixedCache g (isSubOf k) ins outs c := by
  intro evs
  induction evs with
  | nil => intro caches _ h; exact h
  | cons e es ih =>
    intro caches hreq h
    apply ih _ (fun e' he' => hreq e' (List.mem_cons_of_mem _ he'))
    intro c hc
    unfold lockStep at hc
    split at hc
    · rename_i g' c0 hge hce
      dsimp only at hc
      by_cases hk : e.gi = k
      · obtain ⟨hi, ho⟩ := hreq e (List.mem_cons_self ..) hk
        subst hk
        obtain rfl := Option.some.inj (hg.symm.trans hge)
        rw [List.getElem?_set_self (List.getElem?_eq_some_iff.mp hce).1] at hc
        obtain rfl := Option.some.inj hc
        rw [hi, ho]
        exact (getCachedPlan_fixed_request (h c0 hce)).2
      · rw [List.getElem?_set_ne hk] at hc
        exact h c hc
    · exact h c hc

/-- **The plan cache of an `If` branch / `Loop` body is transparent.**  If all critical sections
on cache `k` carry the same request — as they do for body graphs — then after any sequence of
critical sections of any threads on any caches of the family, starting from cold caches, the next
critical section on cache `k` returns *exactly* `create_plan`'s answer for the body graph (the
same plan, or the same error): a nested run executes the very plan it would execute if its call
were made alone on a freshly loaded model.  Together with the determinism of `run_plan` as a
function of (graph, plan, inputs, capture environment) this is why the result of an `If`/`Loop`
operator does not depend on the other threads; at top level, where the plan may be a different
valid plan, C02's `c02_plan_independent_iff` applies with `If`/`Loop` as operators. -/
theorem c22_subgraph_cache_transparent {graphs : List Graph} {k : Nat} {g : Graph}
    {ins outs : List Nat} (hg : graphs[k]? = some g) (evs : List LockEv)
    (hreq : ConstReq k ins outs evs) :
    (lockStep graphs (cachesAfter graphs evs (graphs.map (fun _ => none))) ⟨k, ins, outs⟩).1 =
      some (createPlan g ins outs (cacheOpts (isSubOf k))) := by
  have hfix := cachesAfter_fixed hg evs (graphs.map (fun _ => none)) hreq (by
    intro c hc
    simp only [List.getElem?_map, hg, Option.map_some, Option.some.injEq] at hc
    subst hc; trivial)
  have hlen := (cachesAfter_inv evs (famInv_cold graphs)).len
  have hk : k < graphs.length := (List.getElem?_eq_some_iff.mp hg).1
  obtain ⟨c, hc⟩ : ∃ c, (cachesAfter graphs evs (graphs.map (fun _ => none)))[k]? = some c :=
    ⟨_, List.getElem?_eq_getElem (by rw [hlen]; exact hk)⟩
  unfold lockStep
  simp only [hg, hc]
  rw [(getCachedPlan_fixed_request (hfix c hc)).1]

/-- Non-vacuity: the body graph of the example above, locked four times by two threads between
top-level critical sections, returns `create_plan`'s plan `[2]` every time. -/
example :
    let sub : Graph := { nodes := [.value, .value, .operator { inputs := [some 0], outputs := [some 1] }],
                         captures := [0] }
    (lockStep [wGraph, sub]
      (cachesAfter [wGraph, sub] [⟨0, [0, 1], [2]⟩, ⟨1, [], [1]⟩, ⟨0, [1, 0], [4]⟩, ⟨1, [], [1]⟩, ⟨1, [], [1]⟩]
        [none, none]) ⟨1, [], [1]⟩).1 = some (.ok [2]) ∧
    createPlan sub [] [1] (cacheOpts true) = .ok [2] := by
  decide +kernel

/-- Steps a thread still has to take. -/
def pcMeasure : Pc → Nat
  | .start => 2
  | .planned _ => 1
  | .done _ => 0

theorem pcMeasure_stepCall (v : Ver) (m : Mdl) (k : Call) (pc : Pc) (c : Option CachedPlan) :
    pcMeasure (stepCall v m k pc c).1 ≤ pcMeasure pc - 1 := by
  fun_cases stepCall v m k pc c
  -- the accepted plan leaves one step; every other exit is `done`
  case case6 => exact Nat.le_refl 1
  all_goals exact Nat.zero_le _

/-- **C22.T3a** A step of an unfinished call always makes progress, whatever the cache holds and
whatever the other threads are doing: no step has a waiting condition (the critical section is a
single atomic step containing no blocking call; `c22_critical_section_terminates`). -/
theorem c22_progress (v : Ver) (m : Mdl) (k : Call) (pc : Pc) (c : Option CachedPlan)
    (h : pcMeasure pc ≠ 0) : pcMeasure (stepCall v m k pc c).1 < pcMeasure pc := by
  have := pcMeasure_stepCall v m k pc c
  omega

/-- The only loop inside the critical section terminates (C03.T1): the fuel of the planner model
is never exhausted, i.e. `create_plan` returns on every graph and request. -/
theorem c22_critical_section_terminates (g : Graph) (ins outs : List Nat) :
    createPlan g ins outs (cacheOpts false) ≠ .error .outOfFuel :=
  c03_terminates g ins outs (cacheOpts false)

theorem stepSys_pcs_ne {v : Ver} {m : Mdl} {calls : List Call} {s : Sys} {i j : Nat} (h : j ≠ i) :
    (stepSys v m calls s j).pcs[i]? = s.pcs[i]? := by
  rw [stepSys]
  split
  · exact List.getElem?_set_ne h
  · rfl

theorem stepSys_pcs_self {v : Ver} {m : Mdl} {calls : List Call} {s : Sys} {i : Nat} {k : Call} {pc : Pc}
    (hk : calls[i]? = some k) (hpc : s.pcs[i]? = some pc) :
    (stepSys v m calls s i).pcs[i]? = some (stepCall v m k pc s.cache).1 := by
  unfold stepSys
  rw [hk, hpc]
  simp only
  have hlt : i < s.pcs.length := (List.getElem?_eq_some_iff.mp hpc).1
  rw [List.getElem?_set_self hlt]

theorem execSched_done {v : Ver} {m : Mdl} {calls : List Call} {i : Nat} {k : Call}
    (hk : calls[i]? = some k) :
    ∀ (sched : List Nat) (s : Sys) (pc : Pc), s.pcs[i]? = some pc → pcMeasure pc ≤ sched.count i →
      ∃ o, (execSched v m calls sched s).pcs[i]? = some (.done o) := by
  intro sched
  induction sched with
  | nil =>
    intro s pc hpc hm
    cases pc with
    | done o => exact ⟨o, hpc⟩
    | planned _ => cases hm
    | start => cases hm
  | cons j js ih =>
    intro s pc hpc hm
    by_cases hji : j = i
    · subst hji
      refine ih _ _ (stepSys_pcs_self hk hpc) ?_
      have := pcMeasure_stepCall v m k pc s.cache
      rw [List.count_cons_self] at hm
      omega
    · refine ih _ _ ((stepSys_pcs_ne hji).trans hpc) ?_
      rwa [List.count_cons_of_ne hji] at hm

/-- **C22.T3b** No deadlock through the plan-cache mutex: in any schedule that gives a call two
turns — wherever the other threads' steps fall — that call has finished. -/
theorem c22_all_done (v : Ver) (m : Mdl) (c : Option CachedPlan) (calls : List Call) (sched : List Nat)
    {i : Nat} {k : Call} (hk : calls[i]? = some k) (h2 : 2 ≤ sched.count i) :
    ∃ o, (execSched v m calls sched (initSys c calls)).pcs[i]? = some (.done o) := by
  refine execSched_done hk sched (initSys c calls) .start ?_ h2
  simp [initSys, hk]

/-- Two threads forcing a cache replacement, thread 1 planned while thread 0 is between its
steps; every outcome equals the sequential one (`decide`d on the concrete interleavings). -/
def wCalls : List Call :=
  [{ req := ⟨[(0, wv), (1, wv)], [2]⟩ }, { req := ⟨[(0, wv), (1, { wv with owned := true })], [4, 2]⟩ },
   { isPartial := true, req := ⟨[(0, wv)], [4]⟩ }]

example : (execSched .fixed wMdl wCalls [0, 1, 2, 1, 0] (initSys none wCalls)).pcs =
    [.done .ok, .done .ok, .done (.okIds [0])] := by decide +kernel
example : (execSched .fixed wMdl wCalls [1, 0, 0, 1, 2] (initSys none wCalls)).cache =
    some { inputs := [0, 1], outputs := [2], plan := [3] } := by decide +kernel
example : (execSched .fixed wMdl wCalls [0, 1] (initSys none wCalls)).pcs =
    [.planned [3], .planned [3, 5], .start] := by decide +kernel
example : wCalls.map (fun k => runAlone .fixed wMdl k none) = [.ok, .ok, .okIds [0]] := by decide +kernel

/-! ### Non-vacuity of `c22_values_sequential`

C02's graph `twoFailing` (`a = F(x)`, `b = G(x)`): thread 0 asks `[x] → [a, b]` and caches the
plan `[3, 4]`; thread 1 asks `[x] → [b, a]`, hits the cache (same ids, other order) and holds
`[3, 4]`, whereas alone it would have planned `[4, 3]`.  All hypotheses hold, and both plans give
thread 1 the same outputs. -/

def tMdl : Mdl := { g := Executor.twoFailing }
def tv : InVal := { dtype := 1, shape := [2] }
def tCalls : List Call := [{ req := ⟨[(0, tv)], [1, 2]⟩ }, { req := ⟨[(0, tv)], [2, 1]⟩ }]

example : (execSched .fixed tMdl tCalls [0, 1] (initSys none tCalls)).pcs[1]? = some (.planned [3, 4]) := by
  decide +kernel
example : createPlan tMdl.g [0] [2, 1] (cacheOpts false) = .ok [4, 3] := by decide +kernel

theorem twoFailing_unique : UniqueProducer Executor.twoFailing :=
  Executor.twoFailing_unique

example : ∃ p', createPlan tMdl.g [0] [2, 1] (cacheOpts false) = .ok p' ∧
    ∀ vals, (Executor.runPlan Executor.okOps Executor.twoRun Executor.nocap [3, 4] [2, 1]).outcome = .ok vals ↔
      (Executor.runPlan Executor.okOps Executor.twoRun Executor.nocap p' [2, 1]).outcome = .ok vals :=
  c22_values_sequential (m := tMdl) (k := { req := ⟨[(0, tv)], [2, 1]⟩ }) Reachable.cold tCalls [0, 1]
    (i := 1) (by decide) (by decide) rfl Executor.twoRun_wf rfl
    Executor.okOps_contract
    twoFailing_unique (by intro d hd; simp [Req.ids] at hd; subst hd; rfl)

end RtenVerif.PlanCache
