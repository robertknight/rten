import RtenVerif.Lemmas.NormalizerBytes

/-!
# C30 — Text normalizers keep an exact offset map

Property theorems over `RtenVerif.Model.Normalizer` (model of `rten-text/src/normalizers.rs`).
The Unicode tables (`Uni`) and the regex matches carried by `Norm.replace` are parameters: the
theorems hold for *every* choice of them, every input text and every normalizer tree.

"Valid UTF-8": the model's texts are lists of Unicode scalar values (`Char`), like the Rust
code which only ever pushes `char`s / `&str` slices onto a `String`; string slicing off a char
boundary is modelled as a panic (`none`).

Property text: "the reported offset map assigns every normalized byte position a source byte
offset that is a character boundary in the input, non-decreasing along the normalized text".
* proved for all inputs: one offset per normalized byte (T1), non-decreasing (T2), every offset
  is `≤ source.len()`, every offset stored at a *char boundary* of the normalized text is a char
  boundary of the source (T3 — `c30_offsets_partial`), and *every* offset is a boundary when the
  tree contains a char-wise normalizer anywhere (`c30_all_boundaries_charwise`);
* FALSE as literally stated (`c30_every_byte_boundary_false`): the byte-identity paths (`Bert`
  no-op, unmatched text in `Replace`, the initial map of `Sequence`) give the continuation bytes
  of a multi-byte char the offsets of the source's continuation bytes.  Pinned by the unit test
  `test_bert_noop` ⇒ open finding `C30-continuation-byte-offsets`.
-/
namespace RtenVerif.Normalizer

mutual
/-- Every normalizer tree returns a `Good` pair (or panics on a regex-contract violation). -/
theorem run_good (u : Uni) : ∀ (n : Norm) (t : List Char) (r : List Char × List Nat),
    run u n t = some r → Good t r.1 r.2
  | .bert l s, t, _, rfl => bert_good u l s t
  | .unicode f, t, _, rfl => (unicode_good u f t).1
  | .replace c ms, t, r, h => replace_good t c ms r h
  | .replaceErr, _, _, h => nomatch h
  | .seq ns, t, r, h => runSeq_good u ns t (t, List.range' 0 (blen t)) r (identity_good t) h

/-- The `Sequence` loop keeps the invariant relative to the *original* source text. -/
theorem runSeq_good (u : Uni) : ∀ (ns : List Norm) (src : List Char) (st r : List Char × List Nat),
    Good src st.1 st.2 → runSeq u ns (blen src) st = some r → Good src r.1 r.2
  | [], _, _, _, hg, rfl => hg
  | n :: ns, src, st, r, hg, h => by
    rw [runSeq_cons] at h
    obtain ⟨r', hr', h⟩ := Option.bind_eq_some_iff.mp h
    exact runSeq_good u ns src _ r
      (compose_good src st.1 r'.1 st.2 r'.2 hg (run_good u n st.1 r' hr')) h
end

/-- **C30 (T1–T3, `_partial`: T3 speaks about char-boundary positions only).**  For every
Unicode table, every normalizer tree and every input text, if `normalize` returns
`(normalized, offsets)` then: `offsets` has exactly one entry per byte of `normalized`; it is
non-decreasing; every entry is a position in `0..=text.len()`; and the entry at every char
boundary of `normalized` is a char boundary of the input. -/
theorem c30_offsets_partial (u : Uni) (n : Norm) (text : List Char) (normalized : List Char)
    (offsets : List Nat) (h : run u n text = some (normalized, offsets)) :
    offsets.length = blen normalized ∧
    nonDecreasing offsets = true ∧
    (∀ o ∈ offsets, o ≤ blen text) ∧
    boundaryOK text normalized offsets = true := by
  have g := run_good u n text _ h
  exact ⟨g.len, nonDecreasing_of_pairwise _ g.mono, g.le, boundaryOK_of_bnd _ _ _ g.bnd⟩

/-- **C30.T3**, index form: `offsets[p]` for a char boundary `p` of `normalized` is a char boundary of
the input. -/
theorem c30_boundary_positions (u : Uni) (n : Norm) (text normalized : List Char)
    (offsets : List Nat) (h : run u n text = some (normalized, offsets))
    (p o : Nat) (hp : offsets[p]? = some o) (hb : isBoundary normalized p = true) :
    isBoundary text o = true :=
  (run_good u n text _ h).bnd p o hp hb

/-- Inside `Sequence`, every lookup `offsets[o]` made for a stage's map is in range, or is the
end-of-input position `offsets.len()` (which the code maps to `text.len()`); before the fix of
`Sequence::normalize` the latter case panicked. -/
theorem c30_sequence_lookup_in_range (src cur nx : List Char) (offs no : List Nat)
    (h1 : Good src cur offs) (h2 : Good cur nx no) : ∀ o ∈ no, o ≤ offs.length := by
  intro o ho; rw [h1.len]; exact h2.le o ho

/- Chains without `Replace` never panic (`Replace` panics only if the regex engine breaks its
contract: matches in order, on char boundaries, `start ≤ end`). -/
mutual
def replaceFree : Norm → Bool
  | .bert _ _ => true
  | .unicode _ => true
  | .replace _ _ => false
  | .replaceErr => false
  | .seq ns => allReplaceFree ns
def allReplaceFree : List Norm → Bool
  | [] => true
  | n :: ns => replaceFree n && allReplaceFree ns
end

mutual
theorem run_total (u : Uni) : ∀ (n : Norm) (t : List Char), replaceFree n = true →
    (run u n t).isSome = true
  | .bert _ _, _, _ => rfl
  | .unicode _, _, _ => rfl
  | .replace _ _, _, h => nomatch h
  | .replaceErr, _, h => nomatch h
  | .seq ns, t, h => runSeq_total u ns (blen t) _ h

theorem runSeq_total (u : Uni) : ∀ (ns : List Norm) (len : Nat) (st : List Char × List Nat),
    allReplaceFree ns = true → (runSeq u ns len st).isSome = true
  | [], _, _, _ => rfl
  | n :: ns, len, st, h => by
    simp only [allReplaceFree, Bool.and_eq_true] at h
    obtain ⟨r, hr⟩ := Option.isSome_iff_exists.mp (run_total u n st.1 h.1)
    rw [runSeq_cons, hr]
    exact runSeq_total u ns len _ h.2
end

/- The tree contains a char-wise leaf: a `Bert` that lower-cases or strips accents, or a
`Unicode` normalizer (these attribute every output byte to the start of a source char). -/
mutual
def hasCharwise : Norm → Bool
  | .bert l s => l || s
  | .unicode _ => true
  | .replace _ _ => false
  | .replaceErr => false
  | .seq ns => anyCharwise ns
def anyCharwise : List Norm → Bool
  | [] => false
  | n :: ns => hasCharwise n || anyCharwise ns
end

def AllB (src : List Char) (offs : List Nat) : Prop := ∀ o ∈ offs, isBoundary src o = true

theorem composeMap_allB_left (src : List Char) (offs no : List Nat) (h : AllB src offs) :
    AllB src (composeMap (blen src) offs no) := by
  intro o ho
  obtain ⟨x, _, rfl⟩ := List.mem_map.mp ho
  exact getD_of_all offs _ x (isBoundary_blen src) fun v hv => h v (List.mem_of_getElem? hv)

theorem composeMap_allB_right (src cur : List Char) (offs no : List Nat) (hg : Good src cur offs)
    (h : AllB cur no) : AllB src (composeMap (blen src) offs no) := by
  intro o ho
  obtain ⟨x, hx, rfl⟩ := List.mem_map.mp ho
  exact getD_of_all offs _ x (isBoundary_blen src) fun v hv => hg.bnd x v hv (h x hx)

mutual
theorem run_allB (u : Uni) : ∀ (n : Norm) (t : List Char) (r : List Char × List Nat),
    hasCharwise n = true → run u n t = some r → AllB t r.2
  | .bert l s, t, _, hc, rfl => bert_allBoundaries u l s t hc
  | .unicode f, t, _, _, rfl => (unicode_good u f t).2
  | .replace _ _, _, _, hc, _ => nomatch hc
  | .replaceErr, _, _, hc, _ => nomatch hc
  | .seq ns, t, r, hc, h =>
    runSeq_allB u ns t (t, List.range' 0 (blen t)) r (identity_good t) (Or.inr hc) h

theorem runSeq_allB (u : Uni) : ∀ (ns : List Norm) (src : List Char) (st r : List Char × List Nat),
    Good src st.1 st.2 → (AllB src st.2 ∨ anyCharwise ns = true) →
    runSeq u ns (blen src) st = some r → AllB src r.2
  | [], _, _, _, _, hc, rfl => hc.resolve_right (nomatch ·)
  | n :: ns, src, st, r, hg, hc, h => by
    rw [runSeq_cons] at h
    obtain ⟨r', hr', h⟩ := Option.bind_eq_some_iff.mp h
    have hg' := compose_good src st.1 r'.1 st.2 r'.2 hg (run_good u n st.1 r' hr')
    refine runSeq_allB u ns src _ r hg' ?_ h
    rw [anyCharwise, Bool.or_eq_true] at hc
    rcases hc with hc | hc | hc
    · exact Or.inl (composeMap_allB_left src st.2 r'.2 hc)
    · exact Or.inl (composeMap_allB_right src st.1 st.2 r'.2 hg (run_allB u n st.1 r' hc hr'))
    · exact Or.inr hc
end

/-- **C30 (full strength whenever a char-wise stage is involved).**  If the normalizer tree
contains at least one char-wise leaf (`Bert` with lower-casing or accent stripping, any
`Unicode::*`) — anywhere, also inside nested `Sequence`s — then *every* normalized byte
position is mapped to a char boundary of the input.  The literal statement can therefore only
fail for trees built from no-op `Bert`, `Replace` and `Sequence` alone. -/
theorem c30_all_boundaries_charwise (u : Uni) (n : Norm) (text normalized : List Char)
    (offsets : List Nat) (hc : hasCharwise n = true)
    (h : run u n text = some (normalized, offsets)) :
    allBoundaries text offsets = true := by
  simp only [allBoundaries, List.all_eq_true]
  exact run_allB u n text _ hc h

/-- **C30 (composition law).**  For every list of normalizers `ns` and every further normalizer
`n`: `Sequence [ns…, n]` normalizes with `Sequence ns`, feeds the result to `n`, and reports
`n`'s map composed with the accumulated map (`offsets[o]`, the end-of-input position mapping to
`text.len()`). -/
theorem c30_sequence_snoc (u : Uni) (ns : List Norm) (n : Norm) (text : List Char) :
    run u (.seq (ns ++ [n])) text =
      (run u (.seq ns) text).bind fun st =>
        (run u n st.1).map fun r => (r.1, composeMap (blen text) st.2 r.2) := by
  simp only [run, runSeq_append]
  cases runSeq u ns (blen text) (text, List.range' 0 (blen text)) with
  | none => rfl
  | some st =>
    simp only [Option.bind_some, runSeq]
    cases run u n st.1 <;> rfl

/-- **C30 for `Sequence` of an arbitrary list of (arbitrarily nested) normalizers**: the
composed map has one entry per normalized byte, is non-decreasing, stays within
`0..=text.len()` and sends char boundaries to char boundaries. -/
theorem c30_sequence (u : Uni) (ns : List Norm) (text normalized : List Char) (offsets : List Nat)
    (h : run u (.seq ns) text = some (normalized, offsets)) :
    offsets.length = blen normalized ∧ nonDecreasing offsets = true ∧
    (∀ o ∈ offsets, o ≤ blen text) ∧ boundaryOK text normalized offsets = true :=
  c30_offsets_partial u (.seq ns) text normalized offsets h

/-- **C30 for `Replace`.**  For ANY list of matches that are in order, non-overlapping, have
`start ≤ end` and lie on char boundaries of the text (`matchesOk`; empty matches, adjacent
matches, matches at the very start or end, no match at all) and ANY replacement string (also
empty): `Replace::normalize` does not panic and its offset map satisfies T1–T3.  The hypothesis
is what the harness checks on fancy-regex's real output (failure kind `ASSUMPTION`). -/
theorem c30_replace_any_matches (src content : List Char) (ms : List (Nat × Nat))
    (hok : matchesOk src ms 0 = true) :
    ∃ r, replace src content ms = some r ∧ Good src r.1 r.2 := by
  obtain ⟨r, hr⟩ := replaceFrom_isSome src content ms 0 hok
  exact ⟨r, hr, replace_good src content ms r hr⟩

/-- **C30 on bytes.**  With `nb`/`tb` the UTF-8 encodings of the normalized and the input text
(`utf8`, `Utf8.encCp` = `char::encode_utf8`): `nb` is well-formed UTF-8
(`Utf8.valid` = `String::from_utf8`), `offsets.len() = nb.len()` (the code adds no extra entry),
offsets are non-decreasing, each is `≤ tb.len()`, and for every position `p` that
`is_char_boundary` accepts in `nb`, `offsets[p]` is accepted by `is_char_boundary` in `tb`
(`Utf8.isBoundary`: start, end, or not a continuation byte). -/
theorem c30_offsets_bytes (u : Uni) (n : Norm) (text normalized : List Char) (offsets : List Nat)
    (h : run u n text = some (normalized, offsets)) :
    Utf8.valid (utf8 normalized) = true ∧
    offsets.length = (utf8 normalized).length ∧
    offsets.Pairwise (· ≤ ·) ∧
    (∀ o ∈ offsets, o ≤ (utf8 text).length) ∧
    (∀ p o, offsets[p]? = some o → Utf8.isBoundary (utf8 normalized) p = true →
      Utf8.isBoundary (utf8 text) o = true) := by
  have g := run_good u n text _ h
  refine ⟨utf8_valid _, by rw [utf8_length]; exact g.len, g.mono, ?_, ?_⟩
  · intro o ho; rw [utf8_length]; exact g.le o ho
  · intro p o hp hb
    rw [isBoundary_bytes] at hb ⊢
    exact g.bnd p o hp hb

/-- Full strength on bytes whenever a char-wise stage is involved: every offset is accepted by
`is_char_boundary` on the input's bytes. -/
theorem c30_all_boundaries_bytes (u : Uni) (n : Norm) (text normalized : List Char)
    (offsets : List Nat) (hc : hasCharwise n = true)
    (h : run u n text = some (normalized, offsets)) :
    ∀ o ∈ offsets, Utf8.isBoundary (utf8 text) o = true := by
  intro o ho
  rw [isBoundary_bytes]
  exact run_allB u n text _ hc h o ho

/-- A tiny Unicode table for the examples: `İ` (U+0130) lower-cases to `i` + U+0307 and
decomposes to `I` + U+0307, U+0307 is a nonspacing mark, `I` + U+0307 composes to `İ`, `A`
lower-cases to `a`; everything else is the identity. -/
def demoUni : Uni where
  lower c := if c = 'İ' then ['i', '̇'] else if c = 'A' then ['a'] else [c]
  decompCanon c := if c = 'İ' then ['I', '̇'] else [c]
  decompCompat c := if c = 'İ' then ['I', '̇'] else [c]
  isMn c := c = '̇'
  compose a b := if a = 'I' ∧ b = '̇' then some 'İ' else none

/-- The hypothesis of `c30_offsets_partial` is met by non-trivial runs (these are the unit tests
`test_bert_lowercase`, `test_unicode`, and a `Sequence` with a `Replace` that matches the empty
string at the end of its input — the configuration that used to panic). -/
example : run demoUni (.bert true false) ['İ', 'İ', 'A', 'B'] =
    some (['i', '̇', 'i', '̇', 'a', 'B'], [0, 0, 0, 2, 2, 2, 4, 5]) := by decide
example : run demoUni (.unicode .nfc) ['I', '̇', 'a', 'b'] = some (['İ', 'a', 'b'], [0, 0, 3, 4]) := by
  decide
example : run demoUni (.seq [.unicode .nfd, .replace ['!'] [(4, 4)]]) ['İ', 'a'] =
    some (['I', '̇', 'a', '!'], [0, 0, 0, 2, 3]) := by decide
example : hasCharwise (.seq [.seq [.replace [] []], .unicode .nfd]) = true ∧
    replaceFree (.seq [.unicode .nfd, .bert true true]) = true := by decide

/-- **The literal statement is false**: with the no-op `Bert` normalizer (and likewise for
`Replace` without a match or the empty `Sequence`) the second byte of "ö" gets the source
offset 1, which is not a char boundary of the input.  (`test_bert_noop` pins this output.) -/
theorem c30_every_byte_boundary_false :
    ¬ ∀ (u : Uni) (n : Norm) (text normalized : List Char) (offsets : List Nat),
        run u n text = some (normalized, offsets) → allBoundaries text offsets = true := by
  intro h
  have := h demoUni (.bert false false) ['ö'] ['ö'] [0, 1] (by decide)
  revert this; decide

/-- The same witness for the other byte-identity paths. -/
example : run demoUni (.replace ['_'] []) ['ö'] = some (['ö'], [0, 1]) ∧
    run demoUni (.seq []) ['ö'] = some (['ö'], [0, 1]) ∧
    run demoUni (.seq [.bert false false, .replace ['_'] [(2, 3)]]) ['ö', 'x'] = some (['ö', '_'], [0, 1, 2]) ∧
    run demoUni (.seq [.unicode .nfc, .replace ['_'] [(2, 3)]]) ['ö', 'x'] = some (['ö', '_'], [0, 0, 2]) ∧
    allBoundaries ['ö'] [0, 1] = false := by decide

/-- Non-vacuity of the `Replace`, byte-level and composition statements: a match list with an
empty match at the start, an adjacent non-empty match and an empty match at the very end
satisfies `matchesOk` ("öx", byte ranges); the byte-level boundary predicate agrees with Rust on
"ö" = `C3 B6`; the composition law instance. -/
example : matchesOk ['ö', 'x'] [(0, 0), (0, 2), (3, 3)] 0 = true ∧
    matchesOk ['ö', 'x'] [(1, 2)] 0 = false ∧ matchesOk ['ö', 'x'] [(2, 3), (0, 2)] 0 = false := by
  decide
example : replace ['ö', 'x'] [] [(0, 0), (0, 2), (3, 3)] = some (['x'], [2]) := by decide
example : utf8 ['ö', 'x'] = [0xC3, 0xB6, 0x78] ∧ Utf8.isBoundary (utf8 ['ö', 'x']) 1 = false ∧
    Utf8.isBoundary (utf8 ['ö', 'x']) 2 = true ∧ Utf8.isBoundary (utf8 ['ö', 'x']) 3 = true := by
  decide
example : run demoUni (.seq ([.unicode .nfd] ++ [.bert true false])) ['İ', 'A'] =
    some (['I', '̇', 'a'], [0, 0, 0, 2]) := by decide

end RtenVerif.Normalizer
