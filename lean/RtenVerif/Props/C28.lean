import RtenVerif.Lemmas.BpeEncode

/-!
# C28 — BPE merging matches the reference merge algorithm

Property text: *for any merge table and input piece, the token IDs produced equal those of the
reference BPE procedure that repeatedly merges the lowest-ranked adjacent pair (left to right
among equal pairs) until no merge applies, then maps pieces through the vocabulary.*

Model: `RtenVerif.Model.Bpe` (`bpe_merge`, `build_merge_map` of `rten-text/src/models/bpe.rs`).
`refBpe` is the string-level reference; `σ` is the type of token strings, `cat` concatenation,
`dom s` = "`s` is a key of the vocabulary", `v s` = its id.
-/
namespace RtenVerif.Bpe

set_option linter.unusedSectionVars false
variable {α : Type} [DecidableEq α] {σ : Type} [DecidableEq σ]

/-! ## T1 — termination of `bpe_merge` -/

/-- **C28.T1a** Every iteration of the outer loop that does not `break` strictly shortens the
token vector — for every merge map (also non-injective / cyclic ones, `merged = first`, …). -/
theorem c28_T1_round_decreases (m : MergeMap α) (toks t' : List α)
    (h : mergeRound m toks = some t') : t'.length < toks.length :=
  mergeRound_length_lt h

/-- **C28.T1b** Hence `toks.length` rounds always reach the `break`: the result of `bpeMerge`
admits no further merge, and more fuel changes nothing. -/
theorem c28_T1_terminates (m : MergeMap α) (toks : List α) :
    mergeRound m (bpeMerge m toks) = none ∧
    ∀ n, toks.length ≤ n → bpeMergeFuel m n toks = bpeMerge m toks :=
  ⟨bpeMergeFuel_fixpoint m _ toks (Nat.le_refl _),
   fun n hn => bpeMergeFuel_stable m n toks.length toks hn (Nat.le_refl _)⟩

/-- **C28.T1c** `tokens.len() - 1` in the inner loop cannot underflow: a pair is only found
when there are at least two tokens. -/
theorem c28_T1_no_underflow (m : MergeMap α) (toks : List α) (c : (α × α) × (Nat × α))
    (h : findMinPair m toks = some c) : 2 ≤ toks.length :=
  findMinPair_some_length h

/-- **C28.T1d (loop invariant)** The `tokens.len() - 1` of the inner `while` cannot underflow at
*any* iteration of a round: with the subtraction made partial (`replaceLoopChecked`, `none` =
underflow) the loop still returns, and returns the functional replacement. -/
theorem c28_T1_no_underflow_invariant (m : MergeMap α) (toks : List α) (c : (α × α) × (Nat × α))
    (h : findMinPair m toks = some c) :
    replaceLoopChecked c.1.1 c.1.2 c.2.2 toks.length 0 toks =
      some (replacePairs c.1.1 c.1.2 c.2.2 toks) := by
  have h2 := findMinPair_some_length h
  have hne : toks ≠ [] := by intro he; rw [he] at h2; simp at h2
  rw [replaceLoopChecked_eq _ _ _ _ _ _ hne, replaceLoop_eq]

/-! ## T2 — the in-place loop is the functional replacement -/

/-- **C28.T2** The `while i < tokens.len() - 1 { …; tokens.remove(i + 1); …; i += 1 }` loop equals
the left-to-right non-overlapping replacement of `(first, second)` by `merged`, for all token
vectors and all three ids (including `merged = first` or `merged = second`). -/
theorem c28_T2_loop_eq_replace (first second merged : α) (toks : List α) :
    replaceLoop first second merged toks.length 0 toks = replacePairs first second merged toks :=
  replaceLoop_eq first second merged toks

/-- Overlapping occurrences compete: in `a a a` only the first `a a` is merged. -/
example : replaceLoop 0 0 7 3 0 [0, 0, 0] = [7, 0] ∧ replacePairs 0 0 7 [0, 0, 0, 0, 0] = [7, 7, 0] := by
  decide

/-- **C28.T2b** The whole in-place `bpe_merge` (index loop + `Vec::remove`) computes the same as the
purely functional fuel model (rounds of `replacePairs`), for every merge map and token vector. -/
theorem c28_inplace_refines_functional (m : MergeMap α) (toks : List α) :
    bpeMerge m toks = bpeMergeFun m toks := by
  have hr : ∀ t, mergeRound m t = mergeRoundFun m t := fun t => mergeRound_eq m t
  unfold bpeMerge bpeMergeFun
  generalize toks.length = n
  induction n generalizing toks with
  | zero => rfl
  | succ n ih =>
    simp only [bpeMergeFuel, bpeMergeFunFuel, hr]
    cases mergeRoundFun m toks with
    | none => rfl
    | some t' => exact ih t'

/-! ## Meaning of the reference's choice -/

theorem refBestBy_spec (rank : σ × σ → Option Nat) (pieces : List σ) (p : σ × σ)
    (h : refBestBy rank pieces = some p) :
    p ∈ windows2 pieces ∧ ∃ r, rank p = some r ∧
      ∀ q ∈ windows2 pieces, ∀ rq, rank q = some rq → r ≤ rq := by
  obtain ⟨r, hm⟩ := refBestBy_eq_some h
  obtain ⟨hp, hr⟩ := mem_refCandidatesBy.mp (minByKey_mem _ hm)
  exact ⟨hp, r, hr, fun q hq rq hrq =>
    minByKey_le _ hm (q, rq) (mem_refCandidatesBy.mpr ⟨hq, hrq⟩)⟩

theorem refBestBy_none (rank : σ × σ → Option Nat) (pieces : List σ) :
    refBestBy rank pieces = none ↔ ∀ q ∈ windows2 pieces, rank q = none := by
  unfold refBestBy
  rw [Option.map_eq_none_iff, minByKey_eq_none]
  simp only [refCandidatesBy, List.filterMap_eq_nil_iff, Option.map_eq_none_iff]

/-- The chosen pair is the **leftmost** among the adjacent pairs of minimal rank: in the list of
ranked adjacent pairs (in position order) everything before it has a strictly larger rank. -/
theorem refBestBy_leftmost (rank : σ × σ → Option Nat) (pieces : List σ) (p : σ × σ)
    (h : refBestBy rank pieces = some p) :
    ∃ pre post r, refCandidatesBy rank pieces = pre ++ (p, r) :: post ∧
      (∀ c ∈ pre, r < c.2) ∧ ∀ c ∈ post, r ≤ c.2 := by
  obtain ⟨r, hm⟩ := refBestBy_eq_some h
  obtain ⟨pre, post, hl, hpre, hpost⟩ := minByKey_first _ hm
  exact ⟨pre, post, r, hl, hpre, hpost⟩

/-! ## T3 — data refinement -/

/-- **C28.T3 (strong form, no duplicate-freeness needed)** With a vocabulary that is injective on
its keys, whenever `build_merge_map` succeeds, id-level merging of the ids of `pieces` yields the
ids of the reference result — provided a duplicated merge entry is ranked by its *last*
occurrence (`refBpeLast`). -/
theorem c28_T3_refinement_lastwins (dom : σ → Bool) (v : σ → Nat) (cat : σ → σ → σ)
    (hinj : ∀ x y, dom x = true → dom y = true → v x = v y → x = y)
    (merges : List (σ × σ)) (M : MergeMap Nat)
    (hM : buildMergeMap dom v cat merges = .ok M)
    (pieces : List σ) (hp : ∀ x ∈ pieces, dom x = true) :
    bpeMerge M (pieces.map v) = (refBpeLast cat merges pieces).map v := by
  unfold refBpeLast
  apply bpeMerge_sim v (fun s => dom s = true) hinj cat (refRankLast merges) M
  · intro a b ha hb
    have := build_lookup dom v cat hinj merges 0 [] M hM a b ha hb
    rw [this]
    cases refRankLast merges (a, b) <;> simp [lookup]
  · intro a b r hr
    exact (build_dom dom v cat merges 0 [] M hM (a, b) (refRankLast_mem hr)).2.2
  · exact hp

/-- **C28.T3** With an injective vocabulary and a duplicate-free merge list, id-level merging
followed by nothing else equals the reference BPE procedure (rank = position in the merge list)
mapped through the vocabulary. -/
theorem c28_T3_refinement (dom : σ → Bool) (v : σ → Nat) (cat : σ → σ → σ)
    (hinj : ∀ x y, dom x = true → dom y = true → v x = v y → x = y)
    (merges : List (σ × σ)) (hnd : merges.Nodup) (M : MergeMap Nat)
    (hM : buildMergeMap dom v cat merges = .ok M)
    (pieces : List σ) (hp : ∀ x ∈ pieces, dom x = true) :
    bpeMerge M (pieces.map v) = (refBpe cat merges pieces).map v := by
  have h := c28_T3_refinement_lastwins dom v cat hinj merges M hM pieces hp
  have hr : refRankLast merges = refRank merges := funext (refRankLast_eq_refRank hnd)
  unfold refBpeLast at h
  unfold refBpe
  rw [← hr]; exact h

/-- The pieces of the reference result are all keys of the vocabulary, so mapping them through the
total `v` (= `get(..).unwrap_or(0)`) in T3 never uses the default. -/
theorem c28_T3_results_in_vocab (dom : σ → Bool) (v : σ → Nat) (cat : σ → σ → σ)
    (merges : List (σ × σ)) (M : MergeMap Nat)
    (hM : buildMergeMap dom v cat merges = .ok M)
    (pieces : List σ) (hp : ∀ x ∈ pieces, dom x = true) :
    ∀ x ∈ refBpeLast cat merges pieces, dom x = true := by
  unfold refBpeLast refBpeBy
  exact refBpeFuelBy_dom (fun s => dom s = true) cat (refRankLast merges)
    (fun a b r hr => (build_dom dom v cat merges 0 [] M hM (a, b) (refRankLast_mem hr)).2.2)
    _ pieces hp

/-- **`build_vocab` yields an injective vocabulary** (discharges T3's `hinj` for the vocabulary the
code generates itself), for every merge list. -/
theorem c28_buildVocab_injective (ms : List (String × String)) :
    ∀ x y, vDom (buildVocabFull ms none) x = true → vDom (buildVocabFull ms none) y = true →
      vId (buildVocabFull ms none) x = vId (buildVocabFull ms none) y → x = y :=
  (buildVocabFull_inj ms).inj

/-- **C28 for the function the driver runs.** With the vocabulary `Bpe::new` generates from the
merge list (no supplied vocabulary, no suffix, `ignore_merges` off), for *every* merge list for
which `build_merge_map` succeeds and every byte string, `encode_piece` returns the ids of the
reference BPE result on the byte tokens (T3's `hinj` is discharged by `c28_buildVocab_injective`;
duplicated merge entries rank by their last occurrence, `refBpeLast`). -/
theorem c28_encode_auto_vocab_is_reference (ms : List (String × String)) (M : MergeMap Nat)
    (hM : buildMergeMap (vDom (buildVocabFull ms none)) (vId (buildVocabFull ms none)) (· ++ ·) ms = .ok M)
    (bs : List Nat) (hb : ∀ b ∈ bs, b < 256) :
    encodePieceBytes (buildVocabFull ms none) M none false bs =
      some ((refBpeLast (· ++ ·) ms (bs.map byteStr)).map (vId (buildVocabFull ms none))) := by
  have hdom : ∀ b ∈ bs, vDom (buildVocabFull ms none) (byteStr b) = true :=
    fun b hbm => byte_in_buildVocabFull ms (hb b hbm)
  have hT3 := c28_T3_refinement_lastwins (vDom (buildVocabFull ms none)) (vId (buildVocabFull ms none))
    (· ++ ·) (c28_buildVocab_injective ms) ms M hM (bs.map byteStr)
    (by intro x hx; obtain ⟨b, hbm, rfl⟩ := List.mem_map.mp hx; exact hdom b hbm)
  unfold encodePieceBytes
  simp only [Bool.false_eq_true, if_false, mapM_vocabGet bs hdom]
  rw [← hT3, List.map_map]
  rfl

def wAuto : Vocab := buildVocabFull [("b", "a"), ("ba", "r")] none

set_option maxRecDepth 100000 in
/-- Non-vacuity: `b a` then `ba r` on the bytes of "barbar": `build_merge_map` succeeds and the
result is `[bar, bar]` = ids 257, 257. -/
example :
    (match buildMergeMap (vDom wAuto) (vId wAuto) (· ++ ·) [("b", "a"), ("ba", "r")] with
     | .ok M => encodePieceBytes wAuto M none false [98, 97, 114, 98, 97, 114] == some [257, 257]
     | .error _ => false) = true := by
  decide +kernel

/-- **C28.T4 (textbook algorithm, id level)** (The reference `refBpeBy` is written with the same
list primitives `windows2`/`minByKey`/`replacePairs` as the functional model, whose meaning is
given by `refBestBy_spec`, `refBestBy_leftmost`, `refBestBy_none` and `replacePairs_cons_cons`;
the reference that is independent of this development is the harness's Rust `ref_bpe`.)
For *every* merge map and *every* token vector —
no injectivity, validity or ordering assumption — `bpe_merge` computes exactly the textbook
procedure: repeatedly take the lowest-ranked adjacent pair (leftmost among equal ranks), merge
**all** its non-overlapping occurrences left to right, until no adjacent pair has a rank. -/
theorem c28_T4_textbook_idlevel (m : MergeMap Nat) (toks : List Nat) :
    bpeMerge m toks = refBpeBy (mergedOf m) (rankOf m) toks := by
  have h := bpeMerge_sim (σ := Nat) id (fun _ => True) (fun _ _ _ _ h => h) (mergedOf m) (rankOf m) m
    (by
      intro a b _ _
      simp only [rankOf, mergedOf, id]
      cases lookup m (a, b) with
      | none => rfl
      | some v => simp)
    (fun _ _ _ _ => trivial) toks (fun _ _ => trivial)
  simpa using h

/-- The final state of the textbook procedure has no ranked adjacent pair (it really runs
"until no merge applies"). -/
theorem c28_T4_textbook_stops (m : MergeMap Nat) (toks : List Nat) :
    refBestBy (rankOf m) (refBpeBy (mergedOf m) (rankOf m) toks) = none := by
  rw [← c28_T4_textbook_idlevel]
  have h := (c28_T1_terminates m toks).1
  rw [mergeRound_eq] at h
  rw [refBestBy_none]
  intro q hq
  cases hf : findMinPair m (bpeMerge m toks) with
  | some c => simp [hf] at h
  | none =>
    have hc : candidates m (bpeMerge m toks) = [] := (minByKey_eq_none _).mp hf
    simp only [candidates, List.filterMap_eq_nil_iff, Option.map_eq_none_iff] at hc
    simp only [rankOf, Option.map_eq_none_iff]
    exact hc q hq

/-- **All occurrences, not only the first.** Merging only the left-most occurrence of the chosen
pair per round is a different algorithm: with the (not training-ordered) table `ab a, a b` the
input `a b a b` gives `[ab, ab]` under `bpe_merge` and the textbook procedure, but `[aba, b]` when
only the first occurrence is merged before re-selecting (ids: a=0, b=1, aba=2, ab=3). -/
theorem c28_T4_all_occurrences_not_first_only :
    bpeMerge [((0, 1), (1, 3)), ((3, 0), (0, 2))] [0, 1, 0, 1] = [3, 3] ∧
    refBpeBy (mergedOf [((0, 1), (1, 3)), ((3, 0), (0, 2))])
      (rankOf [((0, 1), (1, 3)), ((3, 0), (0, 2))]) [0, 1, 0, 1] = [3, 3] ∧
    bpeMergeFirstOnly [((0, 1), (1, 3)), ((3, 0), (0, 2))] [0, 1, 0, 1] = [2, 1] := by
  decide

/-! ### Non-vacuity and necessity of the guards

Token strings are lists of letters (`0 = a, 1 = b, 2 = c`), `cat = (++)`, the vocabulary is a
finite key list `K` with `v s = ` index of `s` in `K`. -/

def wK : List (List Nat) := [[0], [1], [2], [0, 1], [1, 2], [0, 1, 2]]
def wDom (s : List Nat) : Bool := decide (s ∈ wK)
def wV (s : List Nat) : Nat := wK.idxOf s
/-- `a b`, `b c`, `ab c` -/
def wMerges : List (List Nat × List Nat) := [([0], [1]), ([1], [2]), ([0, 1], [2])]

theorem wV_inj : ∀ x y, wDom x = true → wDom y = true → wV x = wV y → x = y := by
  intro x y hx hy
  have hx' : x ∈ wK := of_decide_eq_true hx
  have hy' : y ∈ wK := of_decide_eq_true hy
  revert x y
  have : ∀ x ∈ wK, ∀ y ∈ wK, wV x = wV y → x = y := by decide
  intro x y _ _ hx' hy'
  exact this x hx' y hy'

/-- The hypotheses of T3 are met by a non-trivial state, and both sides are the non-trivial
`[abc, ab]` for the piece `a b c a b`. -/
example : ∃ M, buildMergeMap wDom wV (· ++ ·) wMerges = .ok M ∧ wMerges.Nodup ∧
    (∀ x ∈ [[0], [1], [2], [0], [1]], wDom x = true) ∧
    bpeMerge M ([[0], [1], [2], [0], [1]].map wV) = [5, 3] ∧
    refBpe (· ++ ·) wMerges [[0], [1], [2], [0], [1]] = [[0, 1, 2], [0, 1]] := by
  refine ⟨_, rfl, by decide, by decide, by decide, by decide⟩

/-- **Guard "duplicate-free" is necessary for the first-occurrence reference.** Merge list
`a b, b c, a b`: the id-level map ranks `(a,b)` by its last position 2, so `b c` (rank 1) wins on
`a b c`; the reference with rank = first position merges `a b` first. (This excluded point is
run on the real code by the harness, request `bpe … M=a+b,b+c,a+b P=abc`.) -/
theorem c28_T3_nodup_needed :
    ∃ M, buildMergeMap wDom wV (· ++ ·) [([0], [1]), ([1], [2]), ([0], [1])] = .ok M ∧
      bpeMerge M ([[0], [1], [2]].map wV) = [0, 4] ∧
      (refBpe (· ++ ·) [([0], [1]), ([1], [2]), ([0], [1])] [[0], [1], [2]]).map wV = [3, 2] ∧
      (refBpeLast (· ++ ·) [([0], [1]), ([1], [2]), ([0], [1])] [[0], [1], [2]]).map wV = [0, 4] := by
  refine ⟨_, rfl, by decide, by decide, by decide⟩

/-- A vocabulary in which `a` and `b` share id 0 (`c ↦ 1`, `ac ↦ 2`). -/
def wV2 (s : List Nat) : Nat := if s = [0] ∨ s = [1] then 0 else if s = [2] then 1 else 2
def wDom2 (s : List Nat) : Bool := decide (s ∈ [[0], [1], [2], [0, 2]])

/-- **Guard "injective vocabulary" is necessary.** With the single merge `a c`, the piece `b c`
has no applicable merge at the string level (ids `[0, 1]`), but the id-level map cannot tell
`b` from `a` and produces the id of `ac`. -/
theorem c28_T3_injective_needed :
    ∃ M, buildMergeMap wDom2 wV2 (· ++ ·) [([0], [2])] = .ok M ∧
      bpeMerge M ([[1], [2]].map wV2) = [2] ∧
      (refBpe (· ++ ·) [([0], [2])] [[1], [2]]).map wV2 = [0, 1] := by
  refine ⟨_, rfl, by decide, by decide⟩

end RtenVerif.Bpe
