import RtenVerif.Lemmas.OptimizePattern
import RtenVerif.Model.FusionPatterns

/-!
# C01 — T4 matcher soundness, and further exact-algebra fusion lemmas (T2)

T4: `c01_matcher_sound` (= `matchPat_sound`): a successful match of `Model/Pattern.lean`'s matcher
(the model tied line by line to `pattern_matcher.rs` by the structural correspondence) returns a
binding under which the pattern is *embedded* at the matched node — see `embeds` in
`Lemmas/OptimizePattern.lean` for the exact notion (operand permutation at commutative operators,
injective assignment of flattened operands for associative+commutative chains, one operator per
named operator pattern, constants only through `constMatches`). Corollaries: symbol consistency,
single-element constants within tolerance. The named-operator clause needs the 9f07d3a fix
(`strictKeys`); the pre-fix matcher's answer on the SafeSoftmax witness binds `softmax` to two
different operators.

T2 (exact algebra, values in any type `α` with the operations as parameters — in particular any
commutative ring / field): Silu, Swish (with the `alpha = 1` coincidence), ReduceMean
axes-input vs attribute form (with the `noop_with_empty_axes` witness for the pre-fix code),
and, on concrete carriers, Transpose fused into MatMul at the index level (matrices over `Int`) and
Cast to the value's own type (values tagged with their dtype, `List Int` payloads).
-/
namespace RtenVerif.Pattern

/-- **T4.** A successful match of the fixed matcher (`strictKeys`) from the empty binding returns a
binding under which the pattern is embedded at the matched node. -/
theorem c01_matcher_sound (g : GView) (cfg : MatchCfg) (hk : cfg.strictKeys = true)
    (fuel : Nat) (p : Pat) (v : Nat) (s' : Syms) (h : matchPat g cfg fuel p v [] = some s') :
    embeds g cfg fuel p v s' :=
  (matchPat_sound g cfg hk fuel p v [] s' h).2

/-- Symbols are bound consistently: two occurrences of the same symbol embedded under one binding
sit on the same node. -/
theorem c01_symbol_consistent (g : GView) (cfg : MatchCfg) (f1 f2 : Nat) (name : String) (c1 c2 : Bool) (v1 v2 : Nat) (σ : Syms)
    (h1 : embeds g cfg (f1 + 1) (.sym name c1) v1 σ) (h2 : embeds g cfg (f2 + 1) (.sym name c2) v2 σ) : v1 = v2 := by
  exact Option.some.inj (h1.1.symm.trans h2.1)

/-- Named operator patterns are bound to a single operator. -/
theorem c01_key_single_operator (g : GView) (cfg : MatchCfg) (f1 f2 : Nat) (n1 n2 key : String) (p1 p2 : List Pat) (v1 v2 : Nat) (σ : Syms)
    (h1 : embeds g cfg (f1 + 1) (.op n1 p1 (some key)) v1 σ) (h2 : embeds g cfg (f2 + 1) (.op n2 p2 (some key)) v2 σ) :
    ∃ o1 o2, (g.opById v1 = some o1 ∨ (g.values.contains v1 = true ∧ g.source v1 = some o1)) ∧
      (g.opById v2 = some o2 ∨ (g.values.contains v2 = true ∧ g.source v2 = some o2)) ∧ o1.oid = o2.oid := by
  obtain ⟨o1, w1, _, _, k1, _⟩ := h1
  obtain ⟨o2, w2, _, _, k2, _⟩ := h2
  exact ⟨o1, o2, w1, w2, Option.some.inj ((k1 key rfl).symm.trans (k2 key rfl))⟩

/-- **Rank clause.** A matched operator pattern (fixed matcher, `rankGuard`) satisfies the
rank condition at the operator and at every inner operator of its associative chain; together with
`flattenGraph_consumer` (each chain operand is a direct input of a chain operator) and
`c01_scalar_const_keeps_shape` this is what keeps the output shape when the fusion drops the constant. -/
theorem c01_match_rank_clause (g : GView) (cfg : MatchCfg) (hk : cfg.strictKeys = true) (hr : cfg.rankGuard = true)
    (fuel : Nat) (name : String) (pins : List Pat) (key : Option String) (v : Nat) (s' : Syms)
    (h : matchPat g cfg (fuel + 1) (.op name pins key) v [] = some s') :
    ∃ o, (g.opById v = some o ∨ (g.values.contains v = true ∧ g.source v = some o)) ∧
      RankClause g cfg.rank name pins o := by
  obtain ⟨o, hw, _, _, _, hrk, _⟩ := (matchPat_sound g cfg hk (fuel + 1) _ v [] s' h).2
  exact ⟨o, hw, hrk hr⟩

/-- Every constant pattern of every modelled fusion is a direct operand of an operator pattern, so
the rank clause of `embeds` (which speaks about an operator pattern's own — flattened — operand
list) covers every constant these fusions can match. -/
theorem allFusionPatterns_constsGuarded :
    Fusions.allFusionPatterns.all (constsGuarded 16 false) = true := by decide

/-- The side condition is needed: a constant directly under `anyOf` is invisible to the rank guard —
in this model and in `pattern_matcher.rs` alike (latent: no fusion in `fusions.rs` has this shape).
`x:[3] + c:[1,1]`, pattern `Add(x, anyOf [0.])`, rank guard on: the match succeeds. -/
def gHole : GView :=
  { ops := [⟨10, "Add", [some 0, some 9], [1]⟩], consts := [⟨9, "f", [1, 1], [0], []⟩], values := [0, 1] }
def holeCfg : MatchCfg := { strictKeys := true, rankGuard := true, rank := fun v => if v = 0 then some 1 else if v = 9 then some 2 else none }
theorem c01_anyOf_const_escapes_rank_guard :
    (matchPat gHole holeCfg 8 (.op "Add" [.sym "x" false, .anyOf [.const 0 true]] none) 10 []).isSome = true ∧
    matchPat gHole holeCfg 8 (.op "Add" [.sym "x" false, .const 0 true] none) 10 [] = none ∧
    constsGuarded 8 false (.op "Add" [.sym "x" false, .anyOf [.const 0 true]] none) = false := by decide

/-- positive-rank instance of the rank clause: `x:[2,3] + c:[1,1]` matches (rank 2 ≥ 2) … -/
example : (matchPat gHole { holeCfg with rank := fun v => if v = 0 then some 2 else if v = 9 then some 2 else none } 8
    (.op "Add" [.sym "x" false, .const 0 true] none) 10 []).isSome = true := by decide

/-- Constant patterns only match float constants with exactly one element whose (finite) value `x`
satisfies `|x − v| ≤ tol` as exact rationals, `tol` = 1e-4 (as f32) or 0 for exact patterns. -/
theorem c01_const_single_element (c : ConstInfo) (bits : Nat) (exact : Bool) (h : constMatches c bits exact = true) :
    c.dtype = "f" ∧ c.shape.foldl (· * ·) 1 = 1 ∧
      ∃ b x v t, c.bits = [b] ∧ f32Rat b = some x ∧ f32Rat bits = some v ∧
        f32Rat (if exact then 0 else tolBits) = some t ∧ absDiffLe x v t = true := by
  unfold constMatches at h
  simp only [Bool.and_eq_true, beq_iff_eq] at h
  obtain ⟨⟨h1, h2⟩, h3⟩ := h
  refine ⟨h1, h2, ?_⟩
  split at h3
  · rename_i b hb
    split at h3
    · rename_i x v t hx hv ht
      exact ⟨b, x, v, t, hb, hx, hv, ht, h3⟩
    · cases h3
  · cases h3

/-- `absDiffLe` is the stated inequality on the rationals `m·2^e` (common exponent `e₀`). -/
theorem absDiffLe_spec (a b t : Int × Int) :
    absDiffLe a b t = true ↔
      (a.1 * (2 : Int) ^ (a.2 - min a.2 (min b.2 t.2)).toNat - b.1 * (2 : Int) ^ (b.2 - min a.2 (min b.2 t.2)).toNat).natAbs
        ≤ (t.1 * (2 : Int) ^ (t.2 - min a.2 (min b.2 t.2)).toNat).natAbs := by
  simp [absDiffLe]

/-- f32 bit patterns: 1.0, 1.00005, 1.001; tolerance 1e-4. -/
example : constMatches ⟨0, "f", [1, 1], [1065353216], []⟩ 1065353216 false = true := by decide
example : constMatches ⟨0, "f", [], [1065353635], []⟩ 1065353216 false = true := by decide
example : constMatches ⟨0, "f", [], [1065353635], []⟩ 1065353216 true = false := by decide
example : constMatches ⟨0, "f", [], [1065361605], []⟩ 1065353216 false = false := by decide
example : constMatches ⟨0, "f", [3], [1065353216, 1065353216, 1065353216], []⟩ 1065353216 false = false := by decide

/-- Non-vacuity: the Silu graph (operands swapped) is matched, hence embedded. -/
def gSiluM : GView :=
  { ops := [⟨10, "Sigmoid", [some 0], [2]⟩, ⟨11, "Mul", [some 2, some 0], [3]⟩],
    consts := [], values := [0, 2, 3] }
def siluPM : Pat := .op "Mul" [.sym "x" false, .op "Sigmoid" [.sym "x" false] none] none
def cfgM : MatchCfg := { strictKeys := true, rankGuard := true, rank := fun _ => none }
example : embeds gSiluM cfgM 16 siluPM 11 [("x", 0)] :=
  c01_matcher_sound gSiluM cfgM rfl 16 siluPM 11 _ (by decide)

/-- Pre-fix matcher (`strictKeys = false`): the SafeSoftmax pattern "matches" two different Softmax
operators and the binding holds both (lookup returns the first) — the hypothesis is needed. -/
def gSafeM : GView :=
  { ops := [⟨30, "Softmax", [some 0], [1]⟩, ⟨31, "Softmax", [some 0], [2]⟩, ⟨32, "IsNaN", [some 1], [3]⟩,
            ⟨33, "Where", [some 3, some 9, some 2], [4]⟩],
    consts := [⟨9, "f", [], [0], []⟩], values := [0, 1, 2, 3, 4] }
def safePM : Pat :=
  let y := Pat.op "Softmax" [.sym "x" false] (some "softmax")
  .op "Where" [.op "IsNaN" [y] none, .const 0 false, y] none
theorem c01_prefix_key_rebound :
    matchPat gSafeM { cfgM with strictKeys := false } 16 safePM 33 [] = some [("x", 0), ("softmax", 30), ("softmax", 31)] := by
  decide

end RtenVerif.Pattern

namespace RtenVerif.Optimize.Algebra

variable {α : Type}

/-! Silu, Swish: definitional unfoldings (elementwise, after the shape lemma
`c01_scalar_const_keeps_shape` has reduced the broadcast of the scalar constant to `map`) -/

/-- `Mul(x, Sigmoid(x))` = `Silu(x)`. -/
theorem c01_silu (mul : α → α → α) (sig : α → α) (xs : List α) :
    List.zipWith mul xs (xs.map sig) = xs.map (fun x => mul x (sig x)) := by
  rw [List.zipWith_map_right, List.zipWith_self]

/-- `Mul(x, Sigmoid(Mul(alpha, x)))` = `Swish_alpha(x)`. -/
theorem c01_swish (mul : α → α → α) (sig : α → α) (alpha : α) (xs : List α) :
    List.zipWith mul xs ((xs.map (mul alpha)).map sig) = xs.map (fun x => mul x (sig (mul alpha x))) := by
  rw [List.map_map, List.zipWith_map_right, List.zipWith_self]; rfl

/-- With `alpha = 1` Swish is Silu (why SiluFusion may come first in the fusion list). -/
theorem c01_swish_one (mul : α → α → α) (sig : α → α) (one : α) (hone : ∀ x, mul one x = x) (xs : List α) :
    xs.map (fun x => mul x (sig (mul one x))) = xs.map (fun x => mul x (sig x)) := by
  simp [hone]

/-- `ReduceMean::run`: `get_axes` prefers the input over the attribute; empty / absent axes with
`noop_with_empty_axes` return the input unchanged; `sem` is the actual reduction. -/
def reduceMean (sem : List Int → Bool → α → α) (attr input : Option (List Int)) (keep noop : Bool) (x : α) : α :=
  let axes := input.orElse fun _ => attr
  if (axes.isNone || axes == some []) && noop then x else sem (axes.getD []) keep x

/-- ReduceMeanAxesFusion (fixed code): moving a constant `axes` input into the attribute and keeping
`keep_dims` and `noop_with_empty_axes` does not change the operator. -/
theorem c01_reduce_mean_axes (sem : List Int → Bool → α → α) (v : List Int) (keep noop : Bool) (x : α) :
    reduceMean sem none (some v) keep noop x = reduceMean sem (some v) none keep noop x := by
  simp [reduceMean]

/-- The pre-fix fusion set `noop_with_empty_axes := false`: wrong for empty axes with the flag set
(here the reduction of the model is "sum of a list", so the no-op result differs). -/
theorem c01_reduce_mean_axes_prefix_false :
    reduceMean (fun _ _ (x : List Int) => [x.foldl (· + ·) 0]) none (some []) true true [1, 2]
      ≠ reduceMean (fun _ _ (x : List Int) => [x.foldl (· + ·) 0]) (some []) none true false [1, 2] := by
  decide

def sumTo (f : Nat → Int) : Nat → Int
  | 0 => 0
  | k + 1 => sumTo f k + f k

/-- `MatMul(A, B)[i,j]` with inner dimension `K` -/
def matmul (K : Nat) (A B : Nat → Nat → Int) (i j : Nat) : Int := sumTo (fun k => A i k * B k j) K
/-- `Transpose(A)` (perm = [1,0]) -/
def transpose (A : Nat → Nat → Int) (i j : Nat) : Int := A j i
/-- the fused operator reads operand 0 / operand 1 through a view with permuted strides -/
def matmulTA (K : Nat) (A B : Nat → Nat → Int) (i j : Nat) : Int := sumTo (fun k => A k i * B k j) K
def matmulTB (K : Nat) (A B : Nat → Nat → Int) (i j : Nat) : Int := sumTo (fun k => A i k * B j k) K

/-- **T2 (`TransposeFusion`).** -/
theorem c01_transpose_matmul (K : Nat) (A B : Nat → Nat → Int) (i j : Nat) :
    matmul K (transpose A) B i j = matmulTA K A B i j ∧ matmul K A (transpose B) i j = matmulTB K A B i j :=
  ⟨rfl, rfl⟩

inductive Val | f (x : List Int) | i (x : List Int)   -- payloads abstract; tags = element type
deriving DecidableEq

inductive DT | float | int32
deriving DecidableEq

def Val.dtype : Val → DT
  | .f _ => .float
  | .i _ => .int32

/-- `cast` of `ops/convert.rs` on two element types (`toF` / `toI` are the element conversions) -/
def cast (toF toI : List Int → List Int) (to : DT) : Val → Val
  | .f x => match to with | .float => .f x | .int32 => .i (toI x)
  | .i x => match to with | .float => .f (toF x) | .int32 => .i x

/-- CastElimination: a Cast to the value's own type is the identity. The fusion's guard compares
the *declared / inferred* type with `to`; that this is the run-time type is property C12. -/
theorem c01_cast_same_type (toF toI : List Int → List Int) (to : DT) (v : Val) (h : v.dtype = to) :
    cast toF toI to v = v := by
  cases v <;> cases to <;> simp_all [cast, Val.dtype]

end RtenVerif.Optimize.Algebra
