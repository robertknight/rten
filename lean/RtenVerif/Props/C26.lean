import RtenVerif.Lemmas.PlanCache
import RtenVerif.Lemmas.PlanCacheExec
import RtenVerif.Lemmas.PlannerComplete
/-!
# C26 — Invalid run requests are reported as errors

> Calling run or partial_run with unknown, duplicated or non-value node IDs, missing required
> inputs, or inputs whose type, rank or fixed dimensions contradict the model's declared metadata
> returns an error and never panics.

Model: `Model/PlanCache.lean` (`validate_inputs` → `get_cached_plan` → `run_plan`'s panic sites)
on top of C03's planner model.  The theorems quantify over **every** graph IR (cyclic, ill-formed
operator edges, …), every request, and every plan-cache content reachable by an arbitrary history
of earlier `run` calls (valid or not).

T1: every request of one of the named classes (`Invalid`) yields `Err` — for `run` on every
reachable cache content, and for `partial_run` (where a missing input is not an error); for a failed
validation or ill-formed id lists `c26_error_class` names the error, which is not one of
`run_plan`'s.

Outcome level: on graphs whose operator inputs (and, for `partial_run`, outputs) are value or
constant nodes, **every** request — valid or not, cold or warm cache, succeeding or failing kernels —
returns `Ok` or `Err`; none of the four modelled panic sites of `run_plan` is reachable (refcount
invariant, `Lemmas/PlanCacheExec.lean`), while on an ill-formed graph one is (`c26_wfg_needed`).

With `CachedPlan::matches` as it was before the fix, T1 is false: a duplicated id that keeps the
list length hits the cache and `run_plan` panics (`c26_orig_false_input` / `c26_orig_false_output`,
`decide`d on the model, replayed on the real code by the harness).
-/
namespace RtenVerif.PlanCache
open RtenVerif.Graph RtenVerif.Planner

/-- Supplied value contradicts the declared metadata `vm` (dtype; or, for a tensor, rank or a
fixed dimension). -/
def Mismatch (vm : VMeta) (v : InVal) : Prop :=
  (∃ d, vm.dtype = some d ∧ d ≠ v.dtype) ∨
  (v.seq = false ∧ ∃ es, vm.shape = some es ∧
    (es.length ≠ v.shape.length ∨
      ∃ (k : Nat) (e s : Nat), es[k]? = some (some e) ∧ v.shape[k]? = some s ∧ e ≠ s))

/-- An invalid `run` request: the classes the property names. -/
inductive Invalid (m : Mdl) (inputs : List (Nat × InVal)) (outs : List Nat) : Prop
  /-- some supplied input for a value node contradicts that node's declared dtype/rank/fixed dim -/
  | badValue (id : Nat) (v : InVal) : (id, v) ∈ inputs → getNode m.g id = some .value →
      Mismatch (m.vmeta.getD id {}) v → Invalid m inputs outs
  /-- a duplicated output id -/
  | dupOutput : ¬outs.Nodup → Invalid m inputs outs
  /-- an output id that is unknown or is an operator node -/
  | badOutput (o : Nat) : o ∈ outs → isValueOrConstant m.g o = false → Invalid m inputs outs
  /-- a duplicated input id -/
  | dupInput : ¬(inputs.map (·.1)).Nodup → Invalid m inputs outs
  /-- an input id that is unknown or is an operator node -/
  | badInput (i : Nat) : i ∈ inputs.map (·.1) → isValueOrConstant m.g i = false → Invalid m inputs outs
  /-- a required input is missing: no plan whatsoever produces the outputs from what is supplied -/
  | missing : (¬∃ plan, PlanOK m.g false (resolvedNew m.g (inputs.map (·.1)) false) outs plan) →
      Invalid m inputs outs

/-- Plan-cache contents reachable from a freshly loaded model by any sequence of `run` calls
(any requests, any operator behaviour). -/
inductive Reachable (m : Mdl) : Option CachedPlan → Prop
  | cold : Reachable m none
  | step {c : Option CachedPlan} (opsOk : Bool) (inputs : List (Nat × InVal)) (outs : List Nat) :
      Reachable m c → Reachable m (run .fixed m opsOk c inputs outs).2

theorem exists_dim_cons {x : Option Nat} {es : List (Option Nat)} {s : Nat} {ss : List Nat} :
    (∃ (k : Nat) (e s' : Nat), (x :: es)[k]? = some (some e) ∧ (s :: ss)[k]? = some s' ∧ e ≠ s') ↔
      (∃ e, x = some e ∧ e ≠ s) ∨
        ∃ (k : Nat) (e s' : Nat), es[k]? = some (some e) ∧ ss[k]? = some s' ∧ e ≠ s' := by
  constructor
  · rintro ⟨k, e, s', h1, h2, h3⟩
    cases k with
    | zero => exact Or.inl ⟨e, Option.some.inj h1, Option.some.inj h2 ▸ h3⟩
    | succ k => exact Or.inr ⟨k, e, s', h1, h2, h3⟩
  · rintro (⟨e, rfl, h⟩ | ⟨k, e, s', h1, h2, h3⟩)
    · exact ⟨0, e, s, rfl, rfl, h⟩
    · exact ⟨k + 1, e, s', h1, h2, h3⟩

theorem dimsOk_false_iff : ∀ (es : List (Option Nat)) (ss : List Nat),
    dimsOk es ss = false ↔ ∃ (k : Nat) (e s : Nat), es[k]? = some (some e) ∧ ss[k]? = some s ∧ e ≠ s
  | [], ss => ⟨fun h => (by simp [dimsOk] at h), fun ⟨k, e, s, h, _⟩ => (by simp at h)⟩
  | x :: es, [] =>
    ⟨fun h => (by cases x <;> simp [dimsOk] at h), fun ⟨k, e, s, _, h, _⟩ => (by simp at h)⟩
  | none :: es, s :: ss => by
    rw [dimsOk, dimsOk_false_iff es ss, exists_dim_cons]
    exact ⟨Or.inr, fun h => h.resolve_left (fun ⟨e, he, _⟩ => by cases he)⟩
  | some e :: es, s :: ss => by
    rw [dimsOk, Bool.and_eq_false_iff, dimsOk_false_iff es ss, exists_dim_cons]
    exact or_congr (beq_eq_false_iff_ne.trans
      ⟨fun h => ⟨e, rfl, h⟩, fun ⟨_, he, hne⟩ => Option.some.inj he ▸ hne⟩) Iff.rfl

/-- The two conjuncts of the check are the two disjuncts of `Mismatch`. -/
theorem validateOne_false_iff (m : Mdl) (id : Nat) (v : InVal) :
    validateOne m id v = false ↔ getNode m.g id = some .value ∧ Mismatch (m.vmeta.getD id {}) v := by
  unfold validateOne
  cases hn : getNode m.g id with
  | none => exact ⟨fun h => (by cases h), fun h => (by cases h.1)⟩
  | some n =>
    cases n with
    | constant => exact ⟨fun h => (by cases h), fun h => (by cases h.1)⟩
    | operator op => exact ⟨fun h => (by cases h), fun h => (by cases h.1)⟩
    | value =>
      unfold Mismatch
      generalize m.vmeta.getD id {} = vm
      dsimp only
      rw [Bool.and_eq_false_iff, Bool.or_eq_false_iff]
      refine (or_congr ?_ (and_congr Iff.rfl ?_)).trans (and_iff_right rfl).symm
      · cases vm.dtype with
        | none => exact ⟨fun h => (by cases h), fun ⟨d, h, _⟩ => (by cases h)⟩
        | some d =>
          exact beq_eq_false_iff_ne.trans
            ⟨fun h => ⟨d, rfl, h⟩, fun ⟨_, he, hne⟩ => Option.some.inj he ▸ hne⟩
      · cases vm.shape with
        | none => exact ⟨fun h => (by cases h), fun ⟨es, h, _⟩ => (by cases h)⟩
        | some es =>
          rw [Bool.and_eq_false_iff, dimsOk_false_iff]
          exact (or_congr beq_eq_false_iff_ne Iff.rfl).trans
            ⟨fun h => ⟨es, rfl, h⟩, fun ⟨_, he, h⟩ => Option.some.inj he ▸ h⟩

theorem validateInputs_false_iff (m : Mdl) (inputs : List (Nat × InVal)) :
    validateInputs m inputs = false ↔
      ∃ id v, (id, v) ∈ inputs ∧ getNode m.g id = some .value ∧ Mismatch (m.vmeta.getD id {}) v := by
  unfold validateInputs
  rw [List.all_eq_false]
  constructor
  · rintro ⟨⟨id, v⟩, hm, h⟩
    exact ⟨id, v, hm, (validateOne_false_iff m id v).mp (by simpa using h)⟩
  · rintro ⟨id, v, hm, h⟩
    exact ⟨(id, v), hm, by simpa using (validateOne_false_iff m id v).mpr h⟩

theorem run_fst (v : Ver) (m : Mdl) (opsOk : Bool) (c : Option CachedPlan)
    (inputs : List (Nat × InVal)) (outs : List Nat) :
    (run v m opsOk c inputs outs).1 =
      if validateInputs m inputs = false then .errInvalidInput
      else
        match (getCachedPlan v m.g false c (inputs.map (·.1)) outs).1 with
        | .error e => .errPlan e
        | .ok plan => runPlan m.g opsOk inputs plan outs := by
  unfold run
  cases hv : validateInputs m inputs with
  | false => simp
  | true =>
    simp only [Bool.not_true, Bool.false_eq_true, if_false]
    generalize getCachedPlan v m.g false c (inputs.map (·.1)) outs = p
    rcases p with ⟨r, c'⟩
    cases r <;> rfl

theorem run_snd (v : Ver) (m : Mdl) (opsOk : Bool) (c : Option CachedPlan)
    (inputs : List (Nat × InVal)) (outs : List Nat) (hv : validateInputs m inputs = true) :
    (run v m opsOk c inputs outs).2 = (getCachedPlan v m.g false c (inputs.map (·.1)) outs).2 := by
  simp only [run, hv, Bool.not_true, Bool.false_eq_true, if_false]
  generalize getCachedPlan v m.g false c (inputs.map (·.1)) outs = p
  rcases p with ⟨_ | _, _⟩ <;> rfl

theorem reachable_inv {m : Mdl} {c : Option CachedPlan} (h : Reachable m c) : CacheInv m.g false c := by
  induction h with
  | cold => trivial
  | step opsOk inputs outs _ ih =>
    have := getCachedPlan_inv (inputs.map (·.1)) outs ih
    unfold run
    split
    · exact ih
    · generalize getCachedPlan .fixed m.g false _ _ _ = p at this ⊢
      rcases p with ⟨_ | _, _⟩ <;> exact this

/-! ## T1 -/

/-- Which error: a contradicted declaration is reported first (`InvalidInput`); otherwise
ill-formed id lists get `create_plan`'s argument error — the same as on a cold cache — and the
cache is left as it was. -/
theorem c26_error_class {m : Mdl} {c : Option CachedPlan} (hc : Reachable m c) (opsOk : Bool)
    (inputs : List (Nat × InVal)) (outs : List Nat) :
    (validateInputs m inputs = false →
      run .fixed m opsOk c inputs outs = (.errInvalidInput, c)) ∧
    (validateInputs m inputs = true → ¬ArgsOK m.g (inputs.map (·.1)) outs →
      ∃ e, createPlan m.g (inputs.map (·.1)) outs (cacheOpts false) = .error e ∧
        (e = .dupOutput ∨ e = .badOutput ∨ e = .dupInput ∨ e = .badInput) ∧
        run .fixed m opsOk c inputs outs = (.errPlan e, c)) := by
  constructor
  · intro hv; simp [run, hv]
  · intro hv hbad
    obtain ⟨e, he, hcls⟩ := createPlan_err_of_not_argsOK (cacheOpts false) hbad
    refine ⟨e, he, hcls, ?_⟩
    simp only [run, hv, Bool.not_true, Bool.false_eq_true, if_false]
    rw [getCachedPlan_of_not_argsOK (reachable_inv hc) hbad, he]

/-- `Invalid` by cases: a failed validation or ill-formed id lists (together the hypothesis of
`c26_partial_invalid_is_error`), or no valid plan. -/
theorem invalid_cases {m : Mdl} {inputs : List (Nat × InVal)} {outs : List Nat}
    (h : Invalid m inputs outs) :
    validateInputs m inputs = false ∨ ¬ArgsOK m.g (inputs.map (·.1)) outs ∨
      ¬∃ plan, PlanOK m.g false (resolvedNew m.g (inputs.map (·.1)) false) outs plan := by
  cases h with
  | badValue id v hm hn hmis => exact Or.inl ((validateInputs_false_iff m inputs).mpr ⟨id, v, hm, hn, hmis⟩)
  | dupOutput h => exact Or.inr (Or.inl (fun ha => h ha.1))
  | badOutput o ho h => exact Or.inr (Or.inl (fun ha => by have := ha.2.1 o ho; rw [h] at this; cases this))
  | dupInput h => exact Or.inr (Or.inl (fun ha => h ha.2.2.1))
  | badInput i hi h => exact Or.inr (Or.inl (fun ha => by have := ha.2.2.2 i hi; rw [h] at this; cases this))
  | missing h => exact Or.inr (Or.inr h)

/-- **C26.T1 (`run`, `run_n`, `run_one`)** For every model, every plan-cache content reachable by
any history of earlier calls, and every operator behaviour: a request that is invalid in one of
the ways the property names returns an error (`isErr`, which includes the errors of `run_plan`;
that the error is reported before `run_plan` is entered is stated by `c26_error_class` for the
validation and id-list classes, and shown for `Invalid.missing` only inside this proof). -/
theorem c26_invalid_is_error {m : Mdl} {c : Option CachedPlan} (hc : Reachable m c) (opsOk : Bool)
    {inputs : List (Nat × InVal)} {outs : List Nat} (hinv : Invalid m inputs outs) :
    (run .fixed m opsOk c inputs outs).1.isErr = true := by
  obtain ⟨hA, hB⟩ := c26_error_class hc opsOk inputs outs
  cases hv : validateInputs m inputs with
  | false => rw [hA hv]; rfl
  | true =>
    rcases invalid_cases hinv with h | h | h
    · rw [hv] at h
      cases h
    · obtain ⟨e, _, _, hr⟩ := hB hv h
      rw [hr]
      rfl
    · rw [run_fst, if_neg (by simp [hv])]
      cases hg : (getCachedPlan .fixed m.g false c (inputs.map (·.1)) outs).1 with
      | error e => rfl
      | ok plan => exact absurd ⟨plan, (getCachedPlan_ok (reachable_inv hc) hg).2⟩ h

theorem isErr_not_panic {o : Outcome} (h : o.isErr = true) : o.isPanic = false := by
  cases o <;> simp_all [Outcome.isErr, Outcome.isPanic]

/-- **C26.T1 (`partial_run`)** The same for `partial_run`, which plans afresh on every call;
a missing input is by design not an error there, every other class is. -/
theorem c26_partial_invalid_is_error (m : Mdl) (opsOk : Bool) {inputs : List (Nat × InVal)}
    {outs : List Nat}
    (hinv : validateInputs m inputs = false ∨ ¬ArgsOK m.g (inputs.map (·.1)) outs) :
    (partialRun m opsOk inputs outs).isErr = true := by
  unfold partialRun
  cases hv : validateInputs m inputs with
  | false => rfl
  | true =>
    rcases hinv with h | h
    · rw [hv] at h; cases h
    · obtain ⟨e, he, _⟩ := createPlan_err_of_not_argsOK
        { allowMissing := true, capturesAvailable := false } h
      simp only [Bool.not_true, Bool.false_eq_true, if_false, he]
      rfl

/-- A request that `get_cached_plan` accepts — on a hit as well as on a miss — has well-formed
ids and is run with a plan that is valid, complete and minimal *for this request* (C03's
`PlanOK`).  (This is also C22.T1.) -/
theorem c26_accepted_plan_ok {m : Mdl} {c : Option CachedPlan} (hc : Reachable m c)
    {ins outs plan : List Nat} (h : (getCachedPlan .fixed m.g false c ins outs).1 = .ok plan) :
    ArgsOK m.g ins outs ∧ PlanOK m.g false (resolvedNew m.g ins false) outs plan :=
  getCachedPlan_ok (reachable_inv hc) h

/-! ## "Missing required input", syntactically

`Invalid.missing` is semantic (no valid plan exists).  On graphs with unique producers the two
concrete shapes of a missing input fall under it: a requested output, or an input (or capture) of
an operator on the path to a requested output, that is neither supplied nor a constant nor
produced by any operator. -/

/-- An operator needed for the requested outputs reads `d`, which is not supplied, not a constant
and has no producer: the request is `Invalid` (class "missing required input"). -/
theorem invalid_of_unproduced_dependency {m : Mdl} {inputs : List (Nat × InVal)} {outs : List Nat}
    (hu : UniqueProducer m.g) {x d : Nat} {xop : OpNode}
    (hx : Needed m.g (resolvedNew m.g (inputs.map (·.1)) false) outs x)
    (hop : getOp m.g x = some xop) (hd : d ∈ opDeps m.g xop)
    (hr : rContains m.g (resolvedNew m.g (inputs.map (·.1)) false) d = false)
    (hs : getSource m.g d = none) : Invalid m inputs outs := by
  apply Invalid.missing
  rintro ⟨Q, hQ⟩
  exact no_errCause_of_planOK (opts := cacheOpts false) hu hQ
    (ErrCause.missing rfl hx hop hd hr hs)

/-- A requested output that is not supplied, not a constant and has no producer. -/
theorem invalid_of_unproduced_output {m : Mdl} {inputs : List (Nat × InVal)} {outs : List Nat}
    (hu : UniqueProducer m.g) {o : Nat} (ho : o ∈ outs)
    (hr : rContains m.g (resolvedNew m.g (inputs.map (·.1)) false) o = false)
    (hs : getSource m.g o = none) : Invalid m inputs outs := by
  apply Invalid.missing
  rintro ⟨Q, hQ⟩
  exact no_errCause_of_planOK (opts := cacheOpts false) hu hQ (ErrCause.noSource rfl ho hr hs)

/-! ## Outcome level: every request returns `Ok` or `Err` -/

/-- **C26, outcome level (`run`, `run_n`, `run_one`).** On a graph whose operator inputs are value
or constant nodes, for every reachable plan-cache content, every request (valid or invalid) and
every kernel behaviour, `run` returns `Ok` or an error: a request that `validate_inputs` or
`get_cached_plan` rejects returns that error, and an accepted request runs with a plan that is
valid for it (`c26_accepted_plan_ok`), for which the refcount invariant (`runPlan_accepted`) shows that
none of the panic sites "not a value or constant", "Invalid plan did not produce input value",
"missing output value" and `NodeRefCount` indexing is reachable. -/
theorem c26_run_never_panics {m : Mdl} (hwf : WFG m.g) {c : Option CachedPlan} (hc : Reachable m c)
    (opsOk : Bool) (inputs : List (Nat × InVal)) (outs : List Nat) :
    (run .fixed m opsOk c inputs outs).1 = .ok ∨ (run .fixed m opsOk c inputs outs).1.isErr = true := by
  rw [run_fst]
  by_cases hv : validateInputs m inputs = false
  · rw [if_pos hv]; exact Or.inr rfl
  · rw [if_neg hv]
    cases hg : (getCachedPlan .fixed m.g false c (inputs.map (·.1)) outs).1 with
    | error e => exact Or.inr rfl
    | ok plan =>
      obtain ⟨hargs, hok⟩ := c26_accepted_plan_ok hc hg
      rcases runPlan_accepted hwf opsOk hargs hok with ⟨_, h⟩ | h
      · right; show (runPlan m.g opsOk inputs plan outs).isErr = true; rw [h]; rfl
      · left; exact h

theorem c26_run_isPanic_false {m : Mdl} (hwf : WFG m.g) {c : Option CachedPlan} (hc : Reachable m c)
    (opsOk : Bool) (inputs : List (Nat × InVal)) (outs : List Nat) :
    (run .fixed m opsOk c inputs outs).1.isPanic = false := by
  rcases c26_run_never_panics hwf hc opsOk inputs outs with h | h
  · rw [h]; rfl
  · exact isErr_not_panic h

/-- **C26, outcome level (`partial_run`).** `prune_plan` keeps the plan valid and the returned
leaf ids distinct, available and value/constant nodes, so `partial_run` never panics either
(operator outputs must be value or constant nodes as well). -/
theorem c26_partial_never_panics {m : Mdl} (hwf : WFG m.g) (hwo : WFGo m.g) (opsOk : Bool)
    (inputs : List (Nat × InVal)) (outs : List Nat) :
    (partialRun m opsOk inputs outs).isPanic = false :=
  partialRun_no_panic hwf hwo opsOk inputs outs

/-- The graph hypothesis is needed: operator 2 lists its own (operator) id as its output and
operator 1 reads it (no loader builds such a graph); the planner accepts `[] → [0]` with the plan
`[2, 1]` and `run_plan` reaches `panic!("node … is not a value or constant")`. -/
theorem c26_wfg_needed :
    (run .fixed { g := { nodes := [.value, .operator { inputs := [some 2], outputs := [some 0] },
        .operator { inputs := [], outputs := [some 2] }] } }
      true none [] [0]).1 = .panic .notValueOrConstant := by decide +kernel

/-! ## Witnesses -/

/-- `y = op3(a, b)`, `z = op5(y)`; ids: a=0 b=1 y=2 op=3 z=4 op=5. -/
def wGraph : Graph :=
  { nodes := [.value, .value, .value,
      .operator { inputs := [some 0, some 1], outputs := [some 2] },
      .value,
      .operator { inputs := [some 2], outputs := [some 4] }] }

def wMdl : Mdl := { g := wGraph, vmeta := [{ dtype := some 1, shape := some [none, some 4] }] }

def wv : InVal := { dtype := 1, shape := [2, 4] }

/-- Non-vacuity: the witness graph is well-formed. -/
theorem wGraph_wfg : WFG wGraph ∧ WFGo wGraph :=
  ⟨wfgB_sound (by decide), wfgoB_sound (by decide)⟩

example (c : Option CachedPlan) (hc : Reachable wMdl c) (inputs : List (Nat × InVal)) (outs : List Nat) :
    (run .fixed wMdl true c inputs outs).1.isPanic = false :=
  c26_run_isPanic_false wGraph_wfg.1 hc true inputs outs

/-- Non-vacuity of T1: a warm cache (after the valid request `[a,b] → [y]`) and requests of each
class. -/
example : Reachable wMdl (run .fixed wMdl true none [(0, wv), (1, wv)] [2]).2 :=
  Reachable.step true _ _ Reachable.cold
example : (run .fixed wMdl true none [(0, wv), (1, wv)] [2]) =
    (.ok, some { inputs := [0, 1], outputs := [2], plan := [3] }) := by decide +kernel
example : Invalid wMdl [(0, wv), (0, wv)] [2] := Invalid.dupInput (by decide)
def wv5 : InVal := { dtype := 1, shape := [2, 5] }
example : Invalid wMdl [(0, wv5), (1, wv)] [2] :=
  Invalid.badValue 0 wv5 (by decide) (by decide)
    (Or.inr ⟨rfl, [none, some 4], rfl, Or.inr ⟨1, 4, 5, by decide, by decide, by decide⟩⟩)
example : Invalid wMdl [(0, wv), (1, wv)] [3] := Invalid.badOutput 3 (by decide) (by decide)
example : Invalid wMdl [(0, wv), (1, wv)] [77] := Invalid.badOutput 77 (by decide) (by decide)

/-- `[a] → [y]` lacks `b`: operator 3 is needed, reads `b`, nobody produces `b`. -/
example : Invalid wMdl [(0, wv)] [2] :=
  invalid_of_unproduced_dependency (x := 3) (d := 1)
    (xop := { inputs := [some 0, some 1], outputs := [some 2] })
    (uniqueProducerB_sound (by decide))
    (Needed.root (o := 2) (pop := { inputs := [some 0, some 1], outputs := [some 2] })
      (by decide) (by decide) (by decide)) (by decide) (by decide) (by decide) (by decide)

/-- `[a] → [b]`: `b` is requested, not supplied, not a constant, and nobody produces it. -/
example : Invalid wMdl [(0, wv)] [1] :=
  invalid_of_unproduced_output (o := 1) (uniqueProducerB_sound (by decide)) (by decide) (by decide) (by decide)

/-- The code as it stands, warm cache: errors. -/
example : (run .fixed wMdl true (cacheAfter .fixed wMdl true [⟨[(0, wv), (1, wv)], [2]⟩] none)
    [(0, wv), (0, wv)] [2]).1 = .errPlan .dupInput := by decide +kernel
example : (run .fixed wMdl true (cacheAfter .fixed wMdl true [⟨[(0, wv), (1, wv)], [2, 4]⟩] none)
    [(0, wv), (1, wv)] [2, 2]).1 = .errPlan .dupOutput := by decide +kernel
/-- …and a permuted valid request still hits the cache and succeeds. -/
example : (run .fixed wMdl true (cacheAfter .fixed wMdl true [⟨[(0, wv), (1, wv)], [2, 4]⟩] none)
    [(1, wv), (0, wv)] [4, 2]) = (.ok, some { inputs := [0, 1], outputs := [2, 4], plan := [3, 5] }) := by
  decide +kernel

/-- **T1 is false for `CachedPlan::matches` as it was** (length + membership): after the valid
request `[a,b] → [y]`, the request `[a,a] → [y]` (a duplicated input id *and* a missing required
input) hits the cache and `run_plan` panics with "Invalid plan did not produce input value".
On a cold cache the same request is an error. -/
theorem c26_orig_false_input :
    Invalid wMdl [(0, wv), (0, wv)] [2] ∧
    (run .orig wMdl true none [(0, wv), (0, wv)] [2]).1 = .errPlan .dupInput ∧
    (run .orig wMdl true (cacheAfter .orig wMdl true [⟨[(0, wv), (1, wv)], [2]⟩] none)
      [(0, wv), (0, wv)] [2]).1 = .panic .missingInput :=
  ⟨Invalid.dupInput (by decide), by decide +kernel, by decide +kernel⟩

/-- The same through the outputs: after `[a,b] → [y,z]`, the request `[a,b] → [y,y]` hits the
cache and the second `temp_values.remove(y)` fails: `expect("missing output value")` panics. -/
theorem c26_orig_false_output :
    Invalid wMdl [(0, wv), (1, wv)] [2, 2] ∧
    (run .orig wMdl true none [(0, wv), (1, wv)] [2, 2]).1 = .errPlan .dupOutput ∧
    (run .orig wMdl true (cacheAfter .orig wMdl true [⟨[(0, wv), (1, wv)], [2, 4]⟩] none)
      [(0, wv), (1, wv)] [2, 2]).1 = .panic .missingOutput :=
  ⟨Invalid.dupOutput (by decide), by decide +kernel, by decide +kernel⟩

end RtenVerif.PlanCache
