import RtenVerif.Lemmas.FillIter
import RtenVerif.Props.C36

/-!
# C36 — polygon filling, wide lines, polygon outlines

`Polygon::fill_iter` (`FillIter`), `draw_line` with width > 1 and `draw_polygon` with width 1.

"Shape's bounds" as the code defines them:
* `fill_iter`: `Polygon::bounding_rect()` = `[min y, max y) × [min x, max x)` of the vertices
  (the iterator never yields the bottom row / right column: top/left fill rule);
* wide `draw_line`: the polygon filled is the rotated rect of width `width` around the segment,
  with corners truncated to integers; its bounds are the bounding rect of those four corners
  (the corners are computed in `f32` by the code and are an input of the model; the harness
  checks that they lie within `width/2 + 2` of the segment's bounding box);
* `draw_polygon` (width 1): each edge is a `draw_line` of width 1, i.e. clamped to the image.
-/
namespace RtenVerif.Contours

/-- **C36.T3a** Every pixel `fill_iter` yields lies inside the polygon's bounding rect
`[top, bottom) × [left, right)` — for every vertex list (any coordinates, degenerate, self-
intersecting, empty). -/
theorem c36_fillIter_in_bounds (pts : List Pt) :
    ∀ p ∈ (fillIter pts).1, (polyBounds pts).1 ≤ p.1 ∧ p.1 < (polyBounds pts).2.2.1 ∧
      (polyBounds pts).2.1 ≤ p.2 ∧ p.2 < (polyBounds pts).2.2.2 :=
  (fillIter_spec pts).1

/-- **C36.T3b** Termination with the true bound: the `while` loop of `FillIter::next` runs at
most `area of the bounding rect + 1` times in total (one cursor position per iteration). -/
theorem c36_fillIter_terminates (pts : List Pt) : (fillIter pts).2 = true :=
  (fillIter_spec pts).2

/-- **C36.T3c** At most `area + 1` pixels are yielded. -/
theorem c36_fillIter_count (pts : List Pt) :
    (fillIter pts).1.length ≤
      (((polyBounds pts).2.2.1 - (polyBounds pts).1) *
        ((polyBounds pts).2.2.2 - (polyBounds pts).2.1)).toNat + 1 := by
  unfold fillIter
  exact runFill_length _ _ _

/-- The code before the fix kept the edges of a polygon with empty bounds; then T3a/T3b fail.
`fillIterUnfixed` is that variant of `FillIter::new` + iteration with explicit fuel. -/
def fillIterUnfixed (pts : List Pt) (fuel : Nat) : List Pt × Bool :=
  let b := polyBounds pts
  let edges := isortE (fun a c => decide (a.startY ≤ c.startY))
    (((polyEdges pts).filter fun e => e.1.1 != e.2.1).map mkEdge)
  let cursor : Pt := if boundsEmpty b then (b.2.2.1, b.2.2.2) else (b.1, b.2.1)
  let u := updateActive cursor.1 [] edges
  runFill b fuel { pending := u.2, active := u.1, cursor := cursor }

/-- **Negation witness** (unfixed code): the zero-width polygon `(0,0) (1,0) (2,0)` yields
`(2,0), (2,1), (2,2), …` — pixels outside its bounding rect `[0,2) × [0,0)` — and has not
finished after 5 iterations (the bound of T3b here is `area + 1 = 1`). -/
theorem c36_fillIter_unfixed_false :
    fillIterUnfixed [(0, 0), (1, 0), (2, 0)] 5 =
      ([(2, 0), (2, 1), (2, 2), (2, 3), (2, 4)], false) := by decide

/-- Non-vacuity: a 2×2 square, a diamond with negative coordinates, a zero-width polygon. -/
example : (fillIter [(0, 0), (0, 2), (2, 2), (2, 0)]) = ([(0, 0), (0, 1), (1, 0), (1, 1)], true) := by
  decide
example : (fillIter [(0, 1), (2, 3), (4, 1), (2, -1)]).1 =
    [(1, 0), (1, 1), (2, -1), (2, 0), (2, 1), (2, 2), (3, 0), (3, 1)] := by decide
example : fillIter [(0, 0), (1, 0), (2, 0)] = ([], true) := by decide

theorem writeClipped_spec (h w : Int) (ps : List Pt) :
    ∀ p ∈ (writeClipped h w ps).1, inImage h w p = true ∧ p ∈ ps := by
  intro p hp
  rw [writeClipped_eq] at hp
  obtain ⟨h1, h2⟩ := List.mem_filter.mp hp
  exact ⟨h2, (List.takeWhile_sublist _).mem h1⟩

/-- **C36.T4d** `draw_line` with width > 1: every modified pixel is inside the image and inside
the bounding rect of the rotated rect's integer corners — for any corners (any line, any width,
coordinates inside or outside the image).  A negative pixel coordinate makes `Point::coord`
panic (outcome flag), pixels beyond the right/bottom border are skipped by `get_mut`. -/
theorem c36_drawWideLine_spec (h w : Int) (corners : List Pt) :
    ∀ p ∈ (drawWideLine h w corners).1, inImage h w p = true ∧
      (polyBounds corners).1 ≤ p.1 ∧ p.1 < (polyBounds corners).2.2.1 ∧
      (polyBounds corners).2.1 ≤ p.2 ∧ p.2 < (polyBounds corners).2.2.2 := by
  intro p hp
  obtain ⟨h1, h2⟩ := writeClipped_spec h w _ p hp
  exact ⟨h1, c36_fillIter_in_bounds corners p h2⟩

/-- **C36.T4e** `draw_polygon` with width 1: every modified pixel is inside the image, for any
vertices. -/
theorem c36_drawPolygon1_in_image (h w : Int) (es : List (Pt × Pt)) :
    ∀ p ∈ (drawPolygon1 h w es).1, inImage h w p = true := by
  rw [drawPolygon1_eq]
  exact fun p hp => ((writeAll_spec h w _).1 p hp).1

example : (drawWideLine 4 4 [(0, 1), (0, 3), (6, 3), (6, 1)]) =
    ([(0, 1), (0, 2), (1, 1), (1, 2), (2, 1), (2, 2), (3, 1), (3, 2)], false) := by decide
example : (drawWideLine 4 4 [(-1, 1), (-1, 3), (2, 3), (2, 1)]).2 = true := by decide

end RtenVerif.Contours
