import RtenVerif.Lemmas.GemmImpl
import RtenVerif.Lemmas.GemmPack
import RtenVerif.Lemmas.GemmPrepack
import RtenVerif.Generated.GemmConsts

/-!
# C16 — Matrix multiplication is correct for every kernel and shape

Property text: *for any operand shapes (including zero-sized and sizes around block and tile
boundaries), any strides, alpha, beta, bias vector, prepacked or im2col form, and every kernel
usable on the machine, GEMM computes `alpha*A*B + beta*C + bias` within floating-point tolerance,
and initializes every output element.  When beta is zero, prior output contents never influence
the result.*

What is proved here (over the model `RtenVerif/Model/Gemm.lean` of `gemm_impl`, for **every**
`M N K`, every tile size `mr nr > 0`, every block size with `mr ∣ mc`, `nr ∣ nc`, `kc > 0`, every
commutative semiring of scalars with `1 ≠ 0`):

* T1 `c16_partition`, `c16_depth_partition`, `c16_calls_valid`: the kernel calls touching an output
  element are exactly its tile `(r / mr, c / nr)`, once per depth block, in depth order; calls
  touch nothing outside `M × N`; the tile indices are in range (the `assert!` of
  `OutputTiles::tile` cannot fire); depth blocks tile `[0, K)` exactly once.
* T2 `c16_schedule_result` (`K > 0`; depth 0 is `c16_zero_depth`): running the schedule from any
  output state gives, element-wise, one un-blocked application
  `alpha·Σ_{k<K} A[r,k]·B[k,c] + beta·C[r,c]` followed by the bias;
  `c16_beta_zero_initializes`: with `beta = 0` every element is written, whatever the prior
  contents (even uninitialised); `c16_beta_nonzero`: the closed form for initialised outputs.
* `c16_block_sizes_ok`: the block sizes the code computes (`col_block_size`, `row_block_size`,
  `depth_block_size` with the constants regenerated from the source) satisfy the hypotheses.
* zero-depth branch `c16_zero_depth`.
* T4 `c16_gemv_result`: the gemv fast path (column blocks × k blocks with effective beta, bias per
  column block) gives the same element-wise result, for every `N`, `K > 0`, thread count.
* `c16_gemmImpl_result`: the modelled `gemm_impl` end to end — branch selection (`gemmPath`),
  block sizes plugged into `schedule`, empty / zero-depth / gemv / general path — every `Ok`
  answer is `alpha·A·B + beta·C + bias` element-wise with nothing else touched;
  `c16_gemmImpl_accepts_iff_valid`: `Ok` only for consistent sizes, and always for well-formed
  requests (unpacked, or prepacked by the same kernel).
* T3 `c16_packA_slots/_length/_offset/_slot_unique`, `c16_packB_…`: the slot order written by
  `pack_a_block` / `pack_b_block` is, for every block size, tile size and edge panel, a bijection
  between the block's elements and the non-padding slots of the panels (`panel_stride = MR·cols`
  resp. `rows·NR`, row-major inside), every other slot being zero.  `c16_packed_tile_dot`: a
  kernel reading those panels as `simd_gemm` indexes them accumulates exactly the
  `dot A B r c dStart (dEnd - dStart)` that T2 charges each call with (T3 feeds T2);
  `c16_panels_match_tiles`: as many panels as tiles, so `gemm_block`'s panel slices are in bounds.
  The model functions of T3 are driven against the real `pack_a_block`/`pack_b_block` (`pack`
  requests of the harness).
* Strides: `c16_packA_src`, `c16_packB_src`, `c16_packed_tile_dot_strided` — arbitrary row/column
  strides of A and B (`packsrc` requests); seed C16_b refuted (`c16_packB_src_seedB_refuted`).
* Prepacked operands: `c16_prepacked_block_in_bounds`, `c16_prepacked_block_is_packed_block`,
  `c16_prepackedB_block_is_packed_block` — `PackedMatrixBase::block` incl. the short tail depth
  block (`pblock` requests); seed C16_c refuted (`c16_prepacked_block_seedC_refuted`).

**Partial**: the micro-kernels (SIMD code, their use of the packed panels), floating-point
rounding, the thread schedule (the model is the sequential order; `runCalls_of_cover` /
`runGemv_of_cover` give the same result for every order of the calls that keeps the calls on one
output element in depth order) and ISAs not present on the test host are outside the model; they
are covered by the differential harness only.
-/
namespace RtenVerif.Gemm

/-- The source text of the blocking functions / loop nests still has the shape the model encodes
(flags regenerated from /repo by `translate/gemm_consts.py` on every run). -/
theorem c16_source_shapes_ok : Generated.allShapesOk = true := by decide

/-- Every f32 kernel in the source has positive tile sizes, and the regenerated constants of the
blocking formulas are positive (so every block size is positive); the three `gemv` constants are
not among them. -/
theorem c16_consts_ok :
    (Generated.f32Kernels.all fun k => decide (0 < k.2.1) && decide (0 < k.2.2)) = true ∧
    0 < Generated.consts.depthBytes / Generated.f32Size ∧ 0 < Generated.consts.colLower ∧
    0 < Generated.consts.colUpper ∧ 0 < Generated.consts.rowMax := by decide

/-- **T1 (tiles).** For block sizes that are multiples of the tile sizes, the calls of the
schedule that write element `(r, c)` of the output are exactly the tile `(r / mr, c / nr)`, once
per depth block, in depth order. -/
theorem c16_partition {M N K mr nr mc nc kc : Nat} (hmr : 0 < mr) (hnr : 0 < nr)
    (hmc : 0 < mc) (hnc : 0 < nc) (hdm : mr ∣ mc) (hdn : nr ∣ nc)
    {r c : Nat} (hr : r < M) (hc : c < N) :
    (schedule M N K mr nr mc nc kc).filter (fun cl => cl.covers mr nr r c) =
      (depthBlocks K kc).map (fun d => mkCall M N mr nr d (r / mr) (c / nr)) := by
  have hci : c / nc ∈ List.range (divCeil N nc) := List.mem_range.mpr (div_lt_divCeil hnc hc)
  have hri : r / mc ∈ List.range (divCeil M mc) := List.mem_range.mpr (div_lt_divCeil hmc hr)
  unfold schedule
  -- only column block `c / nc` and, in each depth block, row block `r / mc` contain the tile
  rw [filter_flatMap_unique _ _ _ (c / nc) List.nodup_range hci]
  · rw [List.filter_flatMap, List.map_eq_flatMap]
    refine flatMap_congr' fun d _ => ?_
    rw [filter_flatMap_unique _ _ _ (r / mc) List.nodup_range hri]
    · exact gemmBlock_filter_hit hmr hnr hr hc _ _ d
        ((tile_mem_block_iff hnr hnc hdn hc).mpr rfl) ((tile_mem_block_iff hmr hmc hdm hr).mpr rfl)
    · intro i _ hne
      apply gemmBlock_filter_miss hmr hnr hr hc
      exact .inr fun hmem => hne ((tile_mem_block_iff hmr hmc hdm hr).mp hmem).symm
  · intro i _ hne
    rw [List.filter_flatMap]
    apply List.flatMap_eq_nil_iff.mpr
    intro d _
    rw [List.filter_flatMap]
    apply List.flatMap_eq_nil_iff.mpr
    intro ri _
    apply gemmBlock_filter_miss hmr hnr hr hc
    exact .inl fun hmem => hne ((tile_mem_block_iff hnr hnc hdn hc).mp hmem).symm

example : (schedule 7 20 5 6 16 6 32 5).filter (fun cl => cl.covers 6 16 6 17) =
    [mkCall 7 20 6 16 (0, 5) 1 1] := by decide

/-- The divisibility hypothesis is needed: with `nc = 3` not a multiple of `nr = 2` the tile of
column 2 is visited by two column blocks. -/
theorem c16_partition_needs_dvd :
    ((schedule 1 4 1 1 2 1 3 1).filter (fun cl => cl.covers 1 2 0 2)).length = 2 := by decide

/-- **T1 (exactly once per depth block).** -/
theorem c16_partition_count {M N K mr nr mc nc kc : Nat} (hmr : 0 < mr) (hnr : 0 < nr)
    (hmc : 0 < mc) (hnc : 0 < nc) (hdm : mr ∣ mc) (hdn : nr ∣ nc)
    {r c : Nat} (hr : r < M) (hc : c < N) :
    ((schedule M N K mr nr mc nc kc).filter (fun cl => cl.covers mr nr r c)).length =
      (depthBlocks K kc).length := by
  rw [c16_partition hmr hnr hmc hnc hdm hdn hr hc, List.length_map]

/-- **T1 (depth).** The depth blocks tile `[0, K)`: every `k < K` lies in exactly one block and
no block contains anything else. -/
theorem c16_depth_partition {K kc : Nat} (hkc : 0 < kc) (k : Nat) :
    (depthBlocks K kc).countP (fun d => decide (d.1 ≤ k) && decide (k < d.2)) =
      if k < K then 1 else 0 := by
  unfold depthBlocks
  rw [rangeChunks_countP hkc k K 0 K (by omega)]
  simp

/-- `kc = 0` would make `range_chunks` loop forever (the model runs out of fuel instead): the
guard `kc > 0` is needed, and `depth_block_size` guarantees it (`c16_block_sizes_ok`). -/
example : (depthBlocks 3 0).countP (fun d => decide (d.1 ≤ 1) && decide (1 < d.2)) = 0 := by decide

/-- **T1 (validity).** Every call is a tile of the output grid (so `OutputTiles::tile`'s assertion
holds), covers only elements inside `M × N`, and its depth range is a non-empty block inside
`[0, K)` of length at most `kc`. -/
theorem c16_calls_valid {M N K mr nr mc nc kc : Nat} (hmr : 0 < mr) (hnr : 0 < nr) (hkc : 0 < kc)
    {cl : Call} (h : cl ∈ schedule M N K mr nr mc nc kc) :
    cl.rowTile < divCeil M mr ∧ cl.colTile < divCeil N nr ∧
    cl.dStart < cl.dEnd ∧ cl.dEnd ≤ K ∧ cl.dEnd ≤ cl.dStart + kc ∧
    (cl.betaUser = true ↔ cl.dStart = 0) ∧ (cl.bias = true ↔ cl.dStart = 0) ∧
    ∀ r c, cl.covers mr nr r c = true → r < M ∧ c < N := by
  unfold schedule at h
  obtain ⟨ci, _, h⟩ := List.mem_flatMap.mp h
  obtain ⟨d, hd, h⟩ := List.mem_flatMap.mp h
  obtain ⟨ri, _, h⟩ := List.mem_flatMap.mp h
  obtain ⟨rt, ct, hct, hrt, rfl⟩ := mem_gemmBlock h
  have hm := rangeChunks_mem hkc (Nat.le_of_eq (Nat.sub_zero K)) hd
  -- a block ends at or before the matrix edge, so its tiles are tiles of the matrix
  have edge : ∀ {n bs i t j : Nat}, 0 < t → j ∈ tileRange (blockRange n bs i).1
      (blockRange n bs i).2 t → j < divCeil n t := fun ht hj =>
    Nat.lt_of_lt_of_le (mem_tileRange.mp hj).2 (divCeil_mono ht (Nat.min_le_right ..))
  exact ⟨edge hmr hrt, edge hnr hct, hm.2.1, hm.2.2.1, hm.2.2.2, beq_iff_eq, beq_iff_eq,
    fun r c hcv => covers_mkCall_in_range d rt ct hcv⟩

section
variable {α : Type} [CommSemiring α] [DecidableEq α]

/-- **T2.** Running the blocked schedule on any output state equals, for every element of the
output, a single un-blocked kernel application over the whole depth `K` with the caller's
`beta`, followed by the bias; elements outside `M × N` are untouched. -/
theorem c16_schedule_result (h1 : (1 : α) ≠ 0) {M N K mr nr mc nc kc : Nat}
    (hmr : 0 < mr) (hnr : 0 < nr) (hmc : 0 < mc) (hnc : 0 < nc) (hkc : 0 < kc) (hK : 0 < K)
    (hdm : mr ∣ mc) (hdn : nr ∣ nc)
    (alpha beta : α) (bias : Bias α) (A B : Nat → Nat → α) (C : OutMat α) (r c : Nat) :
    runCalls mr nr alpha beta bias A B C (schedule M N K mr nr mc nc kc) r c =
      if r < M ∧ c < N then
        addBias bias r c (kernelElem alpha (dot A B r c 0 K) beta (C r c))
      else C r c :=
  runCalls_of_cover h1 hkc hK (c16_partition hmr hnr hmc hnc hdm hdn)
    (fun _ hcl => (c16_calls_valid hmr hnr hkc hcl).2.2.2.2.2.2.2) ..

def biasVal (bias : Bias α) (r c : Nat) : α :=
  match bias with
  | .none => 0
  | .row b => b c
  | .col b => b r

omit [DecidableEq α] in
theorem addBias_some (bias : Bias α) (r c : Nat) (x : α) :
    addBias bias r c (some x) = some (x + biasVal bias r c) := by
  cases bias <;> simp [addBias, biasVal]

/-- **T2, beta = 0: every element is initialised and prior contents never matter.** Whatever
the output held before (including uninitialised memory, `none`), each element of the `M × N`
output ends up `some (alpha·Σ A·B + bias)`. -/
theorem c16_beta_zero_initializes (h1 : (1 : α) ≠ 0) {M N K mr nr mc nc kc : Nat}
    (hmr : 0 < mr) (hnr : 0 < nr) (hmc : 0 < mc) (hnc : 0 < nc) (hkc : 0 < kc) (hK : 0 < K)
    (hdm : mr ∣ mc) (hdn : nr ∣ nc)
    (alpha : α) (bias : Bias α) (A B : Nat → Nat → α) (C : OutMat α) {r c : Nat}
    (hr : r < M) (hc : c < N) :
    runCalls mr nr alpha 0 bias A B C (schedule M N K mr nr mc nc kc) r c =
      some (alpha * dot A B r c 0 K + biasVal bias r c) := by
  rw [c16_schedule_result h1 hmr hnr hmc hnc hkc hK hdm hdn, if_pos ⟨hr, hc⟩, kernelElem,
    if_pos rfl, addBias_some]

/-- **T2, general beta** on an initialised output element. -/
theorem c16_beta_nonzero (h1 : (1 : α) ≠ 0) {M N K mr nr mc nc kc : Nat}
    (hmr : 0 < mr) (hnr : 0 < nr) (hmc : 0 < mc) (hnc : 0 < nc) (hkc : 0 < kc) (hK : 0 < K)
    (hdm : mr ∣ mc) (hdn : nr ∣ nc)
    (alpha beta : α) (bias : Bias α) (A B : Nat → Nat → α) (C : OutMat α) {r c : Nat}
    (hr : r < M) (hc : c < N) (x : α) (hx : C r c = some x) :
    runCalls mr nr alpha beta bias A B C (schedule M N K mr nr mc nc kc) r c =
      some (alpha * dot A B r c 0 K + beta * x + biasVal bias r c) := by
  rw [c16_schedule_result h1 hmr hnr hmc hnc hkc hK hdm hdn, if_pos ⟨hr, hc⟩, hx, kernelElem]
  by_cases hb : beta = 0
  · rw [if_pos hb, addBias_some, hb, zero_mul, add_zero]
  · rw [if_neg hb, Option.map_some, addBias_some]

/-- **Zero-depth branch** (`a.cols() == 0`): `beta·C + bias`, and with `beta = 0` every element
is written whatever the prior contents. -/
theorem c16_zero_depth (M N : Nat) (beta : α) (bias : Bias α) (C : OutMat α) {r c : Nat}
    (hr : r < M) (hc : c < N) :
    zeroDepth M N beta bias C r c =
      if beta = 0 then some (biasVal bias r c)
      else (C r c).map (fun x => beta * x + biasVal bias r c) := by
  simp only [zeroDepth, hr, hc, and_self, if_true]
  by_cases hb : beta = 0
  · rw [if_pos hb, if_pos hb, addBias_some, zero_add]
  · rw [if_neg hb, if_neg hb]
    cases C r c with
    | none => cases bias <;> rfl
    | some x => rw [Option.map_some, Option.map_some, addBias_some, mul_comm]

end

/-- The block sizes `gemm_impl` computes satisfy the hypotheses of T1/T2, for every shape, every
kernel tile size and every thread count, provided the constants are positive
(`c16_consts_ok` checks that for the regenerated ones). -/
theorem c16_block_sizes_ok (k : BlockConsts) (elemSize : Nat)
    (hd : 0 < k.depthBytes / elemSize) (hcl : 0 < k.colLower) (hcu : 0 < k.colUpper)
    (hrm : 0 < k.rowMax) {M N K mr nr threads : Nat} (hmr : 0 < mr) (hnr : 0 < nr)
    (hM : 0 < M) (hN : 0 < N) (hK : 0 < K) (minSize : Option Nat) :
    0 < rowBlockSize k M mr ∧ mr ∣ rowBlockSize k M mr ∧
    0 < colBlockSize k N nr threads ∧ nr ∣ colBlockSize k N nr threads ∧
    0 < depthBlockSize k elemSize K minSize := by
  -- rounding up to a tile multiple does not decrease, and each `min` / `max` is of positive numbers
  have hcol : 0 < min (max (N / threads) (min k.colLower N)) k.colUpper :=
    Nat.lt_min.mpr ⟨Nat.lt_of_lt_of_le (Nat.lt_min.mpr ⟨hcl, hN⟩) (Nat.le_max_right ..), hcu⟩
  exact ⟨Nat.lt_of_lt_of_le (Nat.lt_min.mpr ⟨hrm, hM⟩) (nextMultipleOf_ge ..),
    nextMultipleOf_dvd hmr, Nat.lt_of_lt_of_le hcol (nextMultipleOf_ge ..), nextMultipleOf_dvd hnr,
    Nat.lt_of_lt_of_le (Nat.lt_min.mpr ⟨hd, hK⟩) (Nat.le_max_left ..)⟩

example : rowBlockSize Generated.consts 70 6 = 66 ∧ colBlockSize Generated.consts 300 16 4 = 128 ∧
    depthBlockSize Generated.consts 4 300 none = 256 := by decide

section
variable {α : Type} [CommSemiring α] [DecidableEq α]

/-- **T4.** The vector-matrix fast path (column blocks × k blocks, effective beta = caller's beta
on the first k block and one afterwards, bias at the end of each column block) gives the same
element-wise result as the general path (`c16_schedule_result` with `M = 1`): one un-blocked
kernel application over `[0, K)` followed by the bias, for every `N`, `K > 0`, thread count and
stride class of B, the three gemv constants being positive; nothing outside row 0 / columns `< N`
is touched. -/
theorem c16_gemv_result (h1 : (1 : α) ≠ 0) (k : BlockConsts) (hcm : 0 < k.gemvColMin)
    (hku : 0 < k.gemvKUnitRow) (hko : 0 < k.gemvKOther) {N K threads : Nat} (hK : 0 < K)
    (rs1 : Bool) (alpha beta : α) (bias : Bias α) (A B : Nat → Nat → α) (C : OutMat α)
    (r c : Nat) :
    runGemv alpha beta bias A B C (gemvSchedule k N K threads rs1) r c =
      if r = 0 ∧ c < N then
        addBias bias 0 c (kernelElem alpha (dot A B 0 c 0 K) beta (C 0 c))
      else C r c :=
  runGemv_of_cover h1 hK
    (fun hc => ⟨_, _, by split <;> assumption, gemvSchedule_filter k N K threads rs1 hcm hc⟩)
    (gemvSchedule_filter_out k N K threads rs1) ..

example : (gemvSchedule Generated.consts 300 600 4 true).length = 3 * (2 + 1) := by decide

/-- **`gemm_impl`, top level.** For positive blocking constants (all seven) and tile sizes:
whenever the modelled `gemm_impl` returns `Ok` — through the empty-output branch, the zero-depth
branch, the gemv fast path or the blocked general path with the block sizes computed by
`col_block_size` / `row_block_size` / `depth_block_size` — every element of the `M × N` output is
one kernel application over the whole depth with the caller's beta followed by the bias, and
everything else is untouched. -/
theorem c16_gemmImpl_result (h1 : (1 : α) ≠ 0) {k : BlockConsts} {kern : KernelCfg} {p : Problem}
    (hd : 0 < k.depthBytes / kern.elemSize) (hcl : 0 < k.colLower) (hcu : 0 < k.colUpper)
    (hrm : 0 < k.rowMax) (hcm : 0 < k.gemvColMin) (hku : 0 < k.gemvKUnitRow)
    (hko : 0 < k.gemvKOther) (hmr : 0 < kern.mr) (hnr : 0 < kern.nr)
    (alpha beta : α) (bias : Bias α) (A B : Nat → Nat → α) (C : OutMat α) {out : OutMat α}
    (h : gemmImpl k kern p alpha beta bias A B C = .ok out) (r c : Nat) :
    out r c =
      if r < p.M ∧ c < p.N then
        addBias bias r c (kernelElem alpha (dot A B r c 0 p.Ka) beta (C r c))
      else C r c := by
  unfold gemmImpl at h
  cases hp : gemmPath k kern p with
  | error e => rw [hp] at h; cases h
  | ok path =>
    rw [hp] at h
    obtain ⟨_, hcases⟩ := gemmPath_ok hp
    rcases hcases with ⟨rfl, hz⟩ | ⟨rfl, hM, hN, hKa⟩ | ⟨rfl, hM, hN, hKa⟩
    · dsimp only at h
      split at h
      · cases h
        rw [if_neg (by omega)]
      · cases h
        rw [show p.Ka = 0 by omega]
        exact zeroDepth_eq ..
    · dsimp only at h
      cases h
      rw [c16_gemv_result h1 k hcm hku hko (Nat.pos_of_ne_zero hKa), hM]
      simp only [Nat.lt_one_iff]
      by_cases hr : r = 0
      · subst hr; rfl
      · rw [if_neg fun h => hr h.1, if_neg fun h => hr h.1]
    · dsimp only at h
      cases h
      obtain ⟨b1, b2, b3, b4, b5⟩ := c16_block_sizes_ok k kern.elemSize hd hcl hcu hrm
        (threads := p.threads) hmr hnr (Nat.pos_of_ne_zero hM) (Nat.pos_of_ne_zero hN)
        (Nat.pos_of_ne_zero hKa) none
      exact c16_schedule_result h1 hmr hnr b1 b3 b5 (Nat.pos_of_ne_zero hKa) b2 b4 ..

/-- `gemm_impl` only answers `Ok` for consistent sizes, and a well-formed request — consistent
sizes, operands unpacked or prepacked by the same kernel — is never rejected (operands prepacked
by another kernel are: last example of this file). -/
theorem c16_gemmImpl_accepts_iff_valid {k : BlockConsts} {kern : KernelCfg} {p : Problem}
    (alpha beta : α) (bias : Bias α) (A B : Nat → Nat → α) (C : OutMat α) :
    ((∃ out, gemmImpl k kern p alpha beta bias A B C = .ok out) →
      p.Ka = p.Kb ∧ biasLenBad p.rowBiasLen p.N = false ∧ biasLenBad p.colBiasLen p.M = false ∧
        biasLenBad p.aQuantLen p.M = false ∧ biasLenBad p.bQuantLen p.N = false ∧
        p.outLen = p.M * p.N) ∧
    (p.Ka = p.Kb → biasLenBad p.rowBiasLen p.N = false → biasLenBad p.colBiasLen p.M = false →
      biasLenBad p.aQuantLen p.M = false → biasLenBad p.bQuantLen p.N = false →
      p.outLen = p.M * p.N →
      (p.aPacked = none ∨ p.aPacked = some (prepackMeta k kern true p.Ka)) →
      (p.bPacked = none ∨ p.bPacked = some (prepackMeta k kern false p.Kb)) →
      ∃ out, gemmImpl k kern p alpha beta bias A B C = .ok out) := by
  constructor
  · rintro ⟨out, h⟩
    unfold gemmImpl at h
    cases hp : gemmPath k kern p with
    | error e => rw [hp] at h; cases h
    | ok path => exact (gemmPath_ok hp).1
  · intro hK hb1 hb2 hq1 hq2 hol ha hb
    rw [← hK] at hb
    unfold gemmImpl
    fun_cases gemmPath k kern p
    -- every argument check passes
    next h => exact absurd hK h
    next h => cases hb1.symm.trans h
    next h => cases hb2.symm.trans h
    next h => cases hq1.symm.trans h
    next h => cases hq2.symm.trans h
    next h => exact absurd hol h
    -- the empty and the zero-depth output
    next h => exact ⟨_, if_pos h⟩
    next h _ => exact ⟨_, if_neg h⟩
    -- `validate` accepts the kernel's own metadata
    case case10 e h =>
      rcases ha with ha | ha <;> rw [ha] at h
      · cases h
      · cases (validatePacked_prepackMeta k kern true p.Ka).symm.trans h
    case case11 e h =>
      rcases hb with hb | hb <;> rw [hb] at h
      · cases h
      · cases (validatePacked_prepackMeta k kern false p.Ka).symm.trans h
    all_goals exact ⟨_, rfl⟩

end

/-! ## T3: packed panel layouts

`packASlots mr rows cols` / `packBSlots nr rows cols` list, in write order, what
`pack_a_block::<_, MR>` / `pack_b_block::<_, NR>` store for a `rows × cols` block: `some (row, col)`
= that element of the block, `none` = zero padding.  The kernel reads panel `t` of the block at
`t · panel_stride` with `panel_stride = MR·cols` (A) / `rows·NR` (B) elements
(`packed_a_layout` / `packed_b_layout`), row-major `MR × cols` (A) / `rows × NR` (B) inside. -/

/-- **T3 (A), slot formula**, for every block size, tile size and edge panel: slot
`p·(MR·cols) + j·cols + col` of panel `p` holds element `(p·MR + j, col)`, or zero if that row is
beyond the block (edge panel). -/
theorem c16_packA_slots (mr rows cols : Nat) (hmr : 0 < mr) {p j col : Nat} (hp : p * mr < rows)
    (hj : j < mr) (hc : col < cols) :
    (packASlots mr rows cols)[p * (mr * cols) + (j * cols + col)]? =
      some (if p * mr + j < rows then some (p * mr + j, col) else none) := by
  rw [packASlots_nested mr rows cols hmr]
  exact Blocks.getElem?_nest₃ (fun p j col => if p * mr + j < rows then some (p * mr + j, col) else none)
    ((lt_divCeil_iff hmr).mpr hp) hj hc

/-- The packed A block has exactly `ceil(rows/MR)` panels of `MR·cols` slots
(`packed_a_layout`: `rows.next_multiple_of(MR) * cols`). -/
theorem c16_packA_length (mr rows cols : Nat) (hmr : 0 < mr) :
    (packASlots mr rows cols).length = divCeil rows mr * (mr * cols) := by
  rw [packASlots_nested mr rows cols hmr]
  exact Blocks.length_nest₃ ..

/-- **T3 (A), every element is stored** at `packAOffset`. -/
theorem c16_packA_offset (mr rows cols : Nat) (hmr : 0 < mr) {row col : Nat} (hr : row < rows)
    (hc : col < cols) :
    (packASlots mr rows cols)[packAOffset mr cols row col]? = some (some (row, col)) := by
  have h1 := Nat.div_add_mod' row mr
  have h2 := Nat.mod_lt row hmr
  have := c16_packA_slots mr rows cols hmr (p := row / mr) (by omega) h2 hc
  rwa [← packAOffset_digits h2, h1, if_pos hr] at this

/-- **T3 (A), bijection**: a slot that holds an element holds an element of the block, and it is
the slot `packAOffset` of that element; so elements ↔ non-padding slots is one-to-one, and every
other slot is zero (`none`). -/
theorem c16_packA_slot_unique (mr rows cols : Nat) (hmr : 0 < mr) {i r c : Nat}
    (h : (packASlots mr rows cols)[i]? = some (some (r, c))) :
    r < rows ∧ c < cols ∧ i = packAOffset mr cols r c := by
  obtain ⟨p, j, col, hp, hj, hcol, rfl, hg⟩ := slot_digits (c16_packA_length mr rows cols hmr)
    (fun p j col => if p * mr + j < rows then some (p * mr + j, col) else none)
    (fun p j col hp hj hc => c16_packA_slots mr rows cols hmr ((lt_divCeil_iff hmr).mp hp) hj hc) h
  split at hg
  · cases hg
    exact ⟨‹_›, hcol, (packAOffset_digits hj ..).symm⟩
  · cases hg

/-- **T3 (B), slot formula**: slot `panel·(rows·NR) + row·NR + j` holds element
`(row, panel·NR + j)`, or zero if that column is beyond the block (edge panel). -/
theorem c16_packB_slots (nr rows cols : Nat) {panel row j : Nat} (hp : panel < divCeil cols nr)
    (hr : row < rows) (hj : j < nr) :
    (packBSlots nr rows cols)[panel * (rows * nr) + (row * nr + j)]? =
      some (if panel * nr + j < cols then some (row, panel * nr + j) else none) :=
  Blocks.getElem?_nest₃ (fun panel row j => if panel * nr + j < cols then some (row, panel * nr + j)
    else none) hp hr hj

/-- The packed B block has exactly `ceil(cols/NR)` panels of `rows·NR` slots
(`packed_b_layout`: `cols.next_multiple_of(NR) * rows`). -/
theorem c16_packB_length (nr rows cols : Nat) :
    (packBSlots nr rows cols).length = divCeil cols nr * (rows * nr) :=
  Blocks.length_nest₃ ..

/-- **T3 (B), every element is stored** at `packBOffset`. -/
theorem c16_packB_offset (nr rows cols : Nat) (hnr : 0 < nr) {row col : Nat} (hr : row < rows)
    (hc : col < cols) :
    (packBSlots nr rows cols)[packBOffset nr rows row col]? = some (some (row, col)) := by
  have h1 := Nat.div_add_mod' col nr
  have h2 := Nat.mod_lt col hnr
  have := c16_packB_slots nr rows cols (div_lt_divCeil hnr hc) hr h2
  rwa [← packBOffset_digits h2, h1, if_pos hc] at this

/-- **T3 (B), bijection.** -/
theorem c16_packB_slot_unique (nr rows cols : Nat) (hnr : 0 < nr) {i r c : Nat}
    (h : (packBSlots nr rows cols)[i]? = some (some (r, c))) :
    r < rows ∧ c < cols ∧ i = packBOffset nr rows r c := by
  obtain ⟨p, row, j, hp, hrow, hj, rfl, hg⟩ := slot_digits (c16_packB_length nr rows cols)
    (fun p row j => if p * nr + j < cols then some (row, p * nr + j) else none)
    (fun p row j hp hr hj => c16_packB_slots nr rows cols hp hr hj) h
  split at hg
  · cases hg
    exact ⟨hrow, ‹_›, (packBOffset_digits hj ..).symm⟩
  · cases hg

example : packASlots 2 3 2 =
    [some (0, 0), some (0, 1), some (1, 0), some (1, 1), some (2, 0), some (2, 1), none, none] := by
  decide
example : packBSlots 2 2 3 =
    [some (0, 0), some (0, 1), some (1, 0), some (1, 1), some (0, 2), none, some (1, 2), none] := by
  decide

section
variable {α : Type} [Zero α]

theorem packAVals_length (A : Nat → Nat → α) (mr rs re ds de : Nat) (hmr : 0 < mr) :
    (packAVals A mr rs re ds de).length = divCeil (re - rs) mr * (mr * (de - ds)) := by
  rw [packAVals, List.length_map, c16_packA_length _ _ _ hmr]

theorem packBVals_length (B : Nat → Nat → α) (nr ds de cs ce : Nat) :
    (packBVals B nr ds de cs ce).length = divCeil (ce - cs) nr * ((de - ds) * nr) := by
  rw [packBVals, List.length_map, c16_packB_length]

theorem packAVals_get (A : Nat → Nat → α) {mr rs re ds de p x k : Nat} (hmr : 0 < mr)
    (hp : p * mr < re - rs) (hx : x < mr) (hk : k < de - ds) :
    (packAVals A mr rs re ds de)[p * (mr * (de - ds)) + (x * (de - ds) + k)]? =
      some (if p * mr + x < re - rs then A (rs + (p * mr + x)) (ds + k) else 0) := by
  rw [packAVals, List.getElem?_map, c16_packA_slots mr _ _ hmr hp hx hk]
  split <;> rfl

theorem packBVals_get (B : Nat → Nat → α) {nr ds de cs ce p k y : Nat}
    (hp : p < divCeil (ce - cs) nr) (hk : k < de - ds) (hy : y < nr) :
    (packBVals B nr ds de cs ce)[p * ((de - ds) * nr) + (k * nr + y)]? =
      some (if p * nr + y < ce - cs then B (ds + k) (cs + (p * nr + y)) else 0) := by
  rw [packBVals, List.getElem?_map, c16_packB_slots nr _ _ hp hk hy]
  split <;> rfl

end

/-! ## T3 ∘ kernel: a panel-reading micro-kernel computes the block dot product

Connects T3 to T2: `runCalls` charges each kernel call with `dot A B r c dStart (dEnd - dStart)`.
`panelDot` is what a kernel that reads the packed panels the way `simd_gemm` does (A panel element
`(x, k)` at `x·depth + k`, B panel element `(k, y)` at `k·NR + y`, panel `i` at `i·panel_stride`)
accumulates.  On the panels produced by `pack_a_block` / `pack_b_block` it is exactly that dot
product, for every tile of the block including edge tiles. -/

/-- **T3 ∘ kernel.** For the block `rows [rs, re) × depth [ds, de) × cols [cs, ce)`, the tile
`(i, jt)` of the block and an element `(x, y)` of that tile that exists (`i·MR + x < re - rs`,
`jt·NR + y < ce - cs`): the panel-reading kernel's accumulation over the packed panels equals
`Σ_{k ∈ [ds, de)} A[rs + i·MR + x, k] · B[k, cs + jt·NR + y]`. -/
theorem c16_packed_tile_dot {α : Type} [Add α] [Mul α] [Zero α] (A B : Nat → Nat → α)
    {mr nr rs re ds de cs ce i jt x y : Nat} (hmr : 0 < mr)
    (hx : x < mr) (hy : y < nr) (hrow : i * mr + x < re - rs) (hcol : jt * nr + y < ce - cs) :
    panelDot (packAVals A mr rs re ds de) (packBVals B nr ds de cs ce) mr nr (de - ds) i jt x y =
      dot A B (rs + (i * mr + x)) (cs + (jt * nr + y)) ds (de - ds) := by
  have hi : i * mr < re - rs := Nat.lt_of_le_of_lt (Nat.le_add_right ..) hrow
  have hjt : jt < divCeil (ce - cs) nr :=
    (lt_divCeil_iff (Nat.zero_lt_of_lt hy)).mpr (Nat.lt_of_le_of_lt (Nat.le_add_right ..) hcol)
  refine panelDot_eq_dot A B _ _ (fun k hk => ?_) (fun k hk => ?_)
  · rw [packAVals_get A hmr hi hx hk, if_pos hrow]
  · rw [packBVals_get B hjt hk hy, if_pos hcol]

example : panelDot (packAVals (fun r k => (10 * r + k : Int)) 2 0 3 0 2)
    (packBVals (fun k c => (k + 3 * c : Int)) 2 0 2 0 3) 2 2 2 1 1 0 0 =
    dot (fun r k => (10 * r + k : Int)) (fun k c => (k + 3 * c : Int)) 2 2 0 2 := by decide

/-! ## Arbitrary row / column strides

The operands reach `pack_a_block` / `pack_b_block` as views with arbitrary `(row_stride,
col_stride)`; element `(r, c)` lives at storage offset `r·row_stride + c·col_stride`. -/

/-- **Strides (B).** `pack_b_block` — both its full-panel branch (with the unit-column-stride
special case) and its padded-tail branch, offsets computed as in the source — reads for slot
`(k, c)` of the block exactly storage offset `(r0 + k)·row_stride + (c0 + c)·col_stride`, for
every stride pair and block position.  (Seed C16_b drops `col_stride` from `c0` in the tail
branch: `c16_packB_src_seedB_refuted`.) -/
theorem c16_packB_src (nr rstr cstr r0 r1 c0 c1 : Nat) :
    packBSrc nr rstr cstr r0 r1 c0 c1 =
      (packBSlots nr (r1 - r0) (c1 - c0)).map
        (Option.map fun kc => (r0 + kc.1) * rstr + (c0 + kc.2) * cstr) := by
  unfold packBSrc packBSlots
  rw [List.map_flatMap]
  refine flatMap_congr' fun panel _ => ?_
  rw [List.map_flatMap]
  simp only [List.map_map]
  split
  · -- a full panel: every column exists
    rename_i hfull
    refine flatMap_congr' fun row _ => List.map_congr_left fun col hcol => ?_
    have hlt : panel * nr + col < c1 - c0 := by have := List.mem_range.mp hcol; omega
    simp only [Function.comp, hlt, if_true, Option.map_some]
    congr 1
    rw [Nat.add_mul, Nat.add_mul, Nat.add_mul, Nat.add_mul]
    omega
  · refine flatMap_congr' fun row _ => List.map_congr_left fun col _ => ?_
    simp only [Function.comp]
    split
    · simp only [Option.map_some]
      congr 1
      rw [Nat.add_assoc c0]
    · rfl

/-- The seeded tail-branch offset `(r0+row)·rs + c0 + (start+col)·cs` differs from the right one as
soon as `col_stride ≠ 1` and `c0 ≠ 0` (here strides (1, 5), block columns 2..3, NR = 2). -/
theorem c16_packB_src_seedB_refuted :
    packBSrc 2 1 5 0 1 2 3 = [some 10, none] ∧ (0 + 0) * 1 + 2 + (0 + 0) * 5 ≠ 10 := by decide

/-- **Strides (A).** Slot `(p·MR + j, col)` of the packed A block is read from storage offset
`(r0 + p·MR + j)·row_stride + (c0 + col)·col_stride`, zero padding beyond the block. -/
theorem c16_packA_src (mr rstr cstr r0 r1 c0 c1 : Nat) (hmr : 0 < mr) {p j col : Nat}
    (hp : r0 + p * mr < r1) (hj : j < mr) (hc : col < c1 - c0) :
    (packASrc mr rstr cstr r0 r1 c0 c1)[p * (mr * (c1 - c0)) + (j * (c1 - c0) + col)]? =
      some (if r0 + p * mr + j < r1 then some ((r0 + p * mr + j) * rstr + (c0 + col) * cstr)
        else none) := by
  rw [packASrc_eq_map _ _ _ _ _ _ _ hmr, List.getElem?_map,
    c16_packA_slots mr _ _ hmr (Nat.lt_sub_iff_add_lt'.mpr hp) hj hc]
  simp only [Nat.lt_sub_iff_add_lt', Nat.add_assoc]
  split <;> rfl

theorem srcVals_packASrc {α : Type} [Zero α] (data : Nat → α) (mr rstr cstr rs re ds de : Nat)
    (hmr : 0 < mr) :
    srcVals data (packASrc mr rstr cstr rs re ds de) =
      packAVals (fun r k => data (r * rstr + k * cstr)) mr rs re ds de := by
  rw [packASrc_eq_map _ _ _ _ _ _ _ hmr, srcVals, packAVals, List.map_map]
  exact List.map_congr_left fun o _ => by rcases o with _ | ⟨r, c⟩ <;> rfl

theorem srcVals_packBSrc {α : Type} [Zero α] (data : Nat → α) (nr rstr cstr ds de cs ce : Nat) :
    srcVals data (packBSrc nr rstr cstr ds de cs ce) =
      packBVals (fun k c => data (k * rstr + c * cstr)) nr ds de cs ce := by
  rw [c16_packB_src, srcVals, packBVals, List.map_map]
  exact List.map_congr_left fun o _ => by rcases o with _ | ⟨r, c⟩ <;> rfl

/-- **T3 ∘ kernel with arbitrary strides.** Packing straight from the strided storage of A and B
and letting the panel-reading kernel run gives the block dot product of the *logical* matrices
`A[r,k] = dataA[r·ars + k·acs]`, `B[k,c] = dataB[k·brs + c·bcs]`. -/
theorem c16_packed_tile_dot_strided {α : Type} [Add α] [Mul α] [Zero α] (dataA dataB : Nat → α)
    {mr nr ars acs brs bcs rs re ds de cs ce i jt x y : Nat} (hmr : 0 < mr)
    (hx : x < mr) (hy : y < nr) (hrow : i * mr + x < re - rs) (hcol : jt * nr + y < ce - cs) :
    panelDot (srcVals dataA (packASrc mr ars acs rs re ds de))
        (srcVals dataB (packBSrc nr brs bcs ds de cs ce)) mr nr (de - ds) i jt x y =
      dot (fun r k => dataA (r * ars + k * acs)) (fun k c => dataB (k * brs + c * bcs))
        (rs + (i * mr + x)) (cs + (jt * nr + y)) ds (de - ds) := by
  rw [srcVals_packASrc _ _ _ _ _ _ _ _ hmr, srcVals_packBSrc]
  exact c16_packed_tile_dot _ _ hmr hx hy hrow hcol

/-- `gemm_block` enumerates `block_col_tile` over the column tiles of a column block and slices
`b.data[block_col_tile·panel_stride .. +panel_stride]` (likewise row tiles / A panels).  The number
of tiles `start/t .. ceil(end/t)` of block `i` equals the number `ceil((end-start)/t)` of panels
that `pack_b_block` / `pack_a_block` write for that block (`c16_packB_length`,
`c16_packA_length`), so with a freshly packed block every such slice is in bounds. -/
theorem c16_panels_match_tiles {t bs n i q : Nat} (ht : 0 < t) (hbs : bs = q * t)
    (hi : i * bs ≤ n) :
    (tileRange (blockRange n bs i).1 (blockRange n bs i).2 t).length =
      divCeil ((blockRange n bs i).2 - (blockRange n bs i).1) t := by
  unfold tileRange
  rw [List.length_range']
  simp only [blockRange]
  have hstart : i * bs / t = i * q := by
    rw [hbs, ← Nat.mul_assoc, Nat.mul_div_cancel _ ht]
  have hle : i * bs ≤ min (i * bs + bs) n := Nat.le_min.mpr ⟨Nat.le_add_right .., hi⟩
  -- the block starts at tile `i·q`; the rest of it is what `pack_*_block` sees
  have hsplit : min (i * bs + bs) n = (i * q) * t + (min (i * bs + bs) n - i * bs) := by
    rw [Nat.mul_assoc, ← hbs, Nat.add_sub_cancel' hle]
  rw [hstart]
  conv => lhs; rw [hsplit, divCeil_mul_add ht]
  exact Nat.add_sub_cancel_left ..

example : (tileRange (blockRange 40 16 2).1 (blockRange 40 16 2).2 4).length = 2 ∧
    (packBSlots 4 3 (40 - 32)).length = 2 * (3 * 4) := by decide

/-! ## Prepacked operands: `PackedMatrixBase::block`

`prepack_a` / `prepack_b` write one packed block per depth block (`prepackABuf` / `prepackBBuf`);
`gemm_impl` fetches `pm.block(row_range | col_range, depth_block_idx)`.  `t` is the panel size
(`MR` resp. `NR`), `nm` the number of rows of A resp. columns of B, `s..e` a row/column block as
`gemm_impl` forms them (start a multiple of `t`; end a multiple of `t` or the matrix end). -/

/-- **The slice is inside the packed buffer**, for every block, every depth block (including the
short tail block with its smaller panel stride), and has `ceil(e/t) − s/t` panels of the returned
stride — as many as `gemm_block` has tiles for the block. -/
theorem c16_prepacked_block_in_bounds {t nm K kc idx s e : Nat} (ht : 0 < t) (hkc : 0 < kc)
    (hidx : idx * kc < K) (hse : s ≤ e) (he : e ≤ nm) :
    ((prepackBase t nm K kc).block s e idx).1 ≤ ((prepackBase t nm K kc).block s e idx).2.1 ∧
    ((prepackBase t nm K kc).block s e idx).2.1 ≤ (prepackBase t nm K kc).totalLen ∧
    ((prepackBase t nm K kc).block s e idx).2.1 - ((prepackBase t nm K kc).block s e idx).1 =
      (divCeil e t - s / t) * ((prepackBase t nm K kc).block s e idx).2.2 := by
  rw [prepack_block_eq hkc hidx]
  simp only [prepackBase]
  have hst : s / t ≤ divCeil e t := Nat.le_of_mul_le_mul_right
    (Nat.le_trans (Nat.div_mul_le_self s t) (Nat.le_trans hse (divCeil_mul_ge ht))) ht
  have h2 : divCeil e t * (t * blockDepth K kc idx) ≤
      nextMultipleOf nm t * blockDepth K kc idx := by
    rw [nextMultipleOf_eq ht, Nat.mul_assoc]
    exact Nat.mul_le_mul_right _ (divCeil_mono ht he)
  refine ⟨Nat.add_le_add_left (Nat.mul_le_mul_right _ hst) _, ?_,
    by rw [Nat.add_sub_add_left, Nat.sub_mul]⟩
  -- the block ends before the next depth block starts, or it is the short last one
  rcases blockDepth_cases hkc hidx with ⟨hd, hi⟩ | ⟨hd, hi, hm⟩
  · have := Nat.mul_le_mul_right (nextMultipleOf nm t * kc) hi
    rw [Nat.succ_mul] at this
    rw [hd] at h2 ⊢
    omega
  · rw [if_neg hm, ← hi]
    rw [hd] at h2 ⊢
    omega

/-- **The slice is the packed block** (A): element `(x, k)` of panel `p` of the slice returned by
`block(s..e, idx)` is element `(x, k)` of panel `p` of what `pack_a_block(rows s..e, depth block
idx)` writes — the very panels `c16_packed_tile_dot` is about. -/
theorem c16_prepacked_block_is_packed_block {α : Type} [Add α] [Mul α] [Zero α]
    (A : Nat → Nat → α) {t nm K kc idx s e p x k : Nat} (ht : 0 < t) (hkc : 0 < kc)
    (hidx : idx * kc < K) (hs : t ∣ s) (he : e ≤ nm) (hend : e = nm ∨ t ∣ e)
    (hp : s / t + p < divCeil e t) (hx : x < t) (hk : k < blockDepth K kc idx) :
    (prepackABuf A t nm K kc)[((prepackBase t nm K kc).block s e idx).1 +
        (p * (t * blockDepth K kc idx) + (x * blockDepth K kc idx + k))]? =
      (packAVals A t s e (idx * kc) (min (idx * kc + kc) K))[
        p * (t * blockDepth K kc idx) + (x * blockDepth K kc idx + k)]? := by
  obtain ⟨hpt, hcond⟩ := sub_block_cond ht hs he hend hp hx
  have hpe : (s / t + p) * t < e := (lt_divCeil_iff ht).mp hp
  have hD : min (idx * kc + kc) K - idx * kc = blockDepth K kc idx := rfl
  rw [prepackABuf, prepacked_block_get (fun d => packAVals A t 0 nm d.1 d.2) e ht hkc hidx
    (fun d => by rw [packAVals_length _ _ _ _ _ _ ht, Nat.sub_zero, Nat.mul_assoc])
    (Nat.lt_of_lt_of_le hp (divCeil_mono ht he)) (mul_add_lt hx hk)]
  -- panel `s / t + p` of all rows against panel `p` of rows `s..e`
  rw [← hD, packAVals_get A ht (Nat.sub_zero nm ▸ Nat.lt_of_lt_of_le hpe he) hx hk,
    packAVals_get A ht (Nat.lt_sub_iff_add_lt'.mpr (hpt ▸ hpe)) hx hk]
  simp only [Nat.sub_zero, Nat.zero_add, hcond]
  rw [hpt, Nat.add_assoc]

/-- Same for B: the slice is what `pack_b_block(depth block idx, cols s..e)` writes. -/
theorem c16_prepackedB_block_is_packed_block {α : Type} [Add α] [Mul α] [Zero α]
    (B : Nat → Nat → α) {t nm K kc idx s e p k y : Nat} (ht : 0 < t) (hkc : 0 < kc)
    (hidx : idx * kc < K) (hs : t ∣ s) (he : e ≤ nm) (hend : e = nm ∨ t ∣ e)
    (hp : s / t + p < divCeil e t) (hy : y < t) (hk : k < blockDepth K kc idx) :
    (prepackBBuf B t nm K kc)[((prepackBase t nm K kc).block s e idx).1 +
        (p * (t * blockDepth K kc idx) + (k * t + y))]? =
      (packBVals B t (idx * kc) (min (idx * kc + kc) K) s e)[
        p * (blockDepth K kc idx * t) + (k * t + y)]? := by
  obtain ⟨hpt, hcond⟩ := sub_block_cond ht hs he hend hp hy
  have hpe : (s / t + p) * t < e := (lt_divCeil_iff ht).mp hp
  have hpn : s / t + p < divCeil nm t := Nat.lt_of_lt_of_le hp (divCeil_mono ht he)
  have hD : min (idx * kc + kc) K - idx * kc = blockDepth K kc idx := rfl
  rw [prepackBBuf, prepacked_block_get (fun d => packBVals B t d.1 d.2 0 nm) e ht hkc hidx
    (fun d => by rw [packBVals_length, Nat.sub_zero, Nat.mul_comm (d.2 - d.1) t, Nat.mul_assoc])
    hpn (Nat.mul_comm _ t ▸ mul_add_lt hk hy)]
  rw [Nat.mul_comm t, ← hD, packBVals_get B (by rwa [Nat.sub_zero]) hk hy,
    packBVals_get B ((lt_divCeil_iff ht).mpr (Nat.lt_sub_iff_add_lt'.mpr (hpt ▸ hpe))) hk hy]
  simp only [Nat.sub_zero, Nat.zero_add, hcond]
  rw [hpt, Nat.add_assoc]

example : (prepackBase 6 8 5 4).block 6 8 1 = (54, 60, 6) ∧ (prepackBase 6 8 5 4).totalLen = 60 := by
  decide

/-- The seeded variant C16_c (full `panel_stride` used for the start offset in the short tail
depth block) is refuted: for an 8×5 operand, `MR = 6`, depth block 4, the second row panel of the
tail block would be read at 72..78 in a buffer of 60 elements, instead of 54..60. -/
theorem c16_prepacked_block_seedC_refuted :
    ((prepackBase 6 8 5 4).blockSeedC 6 8 1).2.1 > (prepackBase 6 8 5 4).totalLen ∧
    (prepackBase 6 8 5 4).blockSeedC 6 8 1 ≠ (prepackBase 6 8 5 4).block 6 8 1 := by decide

def pathSummary : Except GemmErr Path → Option (Nat × Nat × Nat × Nat) × Option GemmErr
  | .error e => (none, some e)
  | .ok .none => (some (0, 0, 0, 0), none)
  | .ok (.gemv evs) => (some (0, 0, 0, evs.length), none)
  | .ok (.gemm mc nc kc calls) => (some (mc, nc, kc, calls.length), none)

def exKern : KernelCfg := { id := 4, mr := 6, nr := 16, elemSize := 4 }
def exOther : KernelCfg := { id := 2, mr := 8, nr := 4, elemSize := 4 }
def exProblem (by_ : KernelCfg) : Problem :=
  { M := 70, Ka := 300, Kb := 300, N := 40, outLen := 2800, rowBiasLen := some 40,
    colBiasLen := none, aQuantLen := none, bQuantLen := none,
    aPacked := some (prepackMeta Generated.consts by_ true 300),
    bPacked := some (prepackMeta Generated.consts by_ false 300),
    bOther := false, bRowStride1 := false, threads := 4 }

/-- A prepacked, accepted problem: operands prepacked with the FMA
kernel's tile sizes, same kernel at run time: accepted, two depth blocks, 2·3·12 kernel calls. -/
example :
    (∃ out, gemmImpl Generated.consts exKern (exProblem exKern) (2 : Int) 0 (.row fun c => c)
        (fun r k => r + k) (fun k c => k - c) (fun _ _ => none) = .ok out) ∧
    pathSummary (gemmPath Generated.consts exKern (exProblem exKern)) =
      (some (66, 48, 256, 2 * 12 * 3), none) := by
  refine ⟨?_, by decide⟩
  exact (c16_gemmImpl_accepts_iff_valid _ _ _ _ _ _).2 rfl rfl rfl rfl rfl rfl (Or.inr rfl)
    (Or.inr rfl)

/-- ... and the same operands prepacked by a different kernel are rejected. -/
example : pathSummary (gemmPath Generated.consts exKern (exProblem exOther)) =
    (none, some .packedDataKernelMismatch) := by decide

end RtenVerif.Gemm
