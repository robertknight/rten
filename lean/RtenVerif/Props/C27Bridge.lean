import RtenVerif.Lemmas.ByteBpe
import RtenVerif.Lemmas.Bpe

/-!
# C27 ↔ C28: the two models of `bpe_merge` agree

C27 (`ByteBpe.bpeMerge`: rank-ordered merge list, last entry wins; recursive first-minimum scan;
functional replacement pass) and C28 (`Bpe.bpeMerge`: association list with the most recent
insert first; `windows(2).filter_map.min_by_key`; the in-place index loop) are two transcriptions
of the same Rust function.  They compute the same token list for every merge table and every
input, so C28's results (the in-place loop refines the functional replacement, termination within
`len` rounds, agreement with the reference BPE) apply to the function used in C27's round trip.
The round trip itself rests on this: what merging preserves is proved once for C28's model
(`Bpe.bpeMergeFuel_inv`) and read here for C27's (`bpeMerge_inv`, `bpeMerge_decode`).
-/
namespace RtenVerif.ByteBpe
open RtenVerif

/-- C27's merge list as C28's `MergeMap`: entry `i` (rank `i`) is inserted after the earlier
ones, i.e. consed in front — what `build_merge_map` does. -/
def toC28From : Nat → List ((Nat × Nat) × Nat) → Bpe.MergeMap Nat → Bpe.MergeMap Nat
  | _, [], acc => acc
  | i, (k, m) :: rest, acc => toC28From (i + 1) rest ((k, (i, m)) :: acc)

def toC28 (ms : List ((Nat × Nat) × Nat)) : Bpe.MergeMap Nat := toC28From 0 ms []

theorem lookup_toC28From : ∀ (ms : List ((Nat × Nat) × Nat)) (i : Nat) (acc : Bpe.MergeMap Nat)
    (p : Nat × Nat),
    Bpe.lookup (toC28From i ms acc) p =
      match mergeLookup ms i p with
      | some r => some r
      | none => Bpe.lookup acc p := by
  intro ms
  induction ms with
  | nil => intro i acc p; simp [toC28From, mergeLookup]
  | cons km rest ih =>
    intro i acc p
    obtain ⟨k, m⟩ := km
    simp only [toC28From, mergeLookup]
    rw [ih]
    cases mergeLookup rest (i + 1) p with
    | some r => rfl
    | none =>
      simp only [Bpe.lookup]
      by_cases hk : k = p
      · simp [hk]
      · have : (k == p) = false := by simpa using hk
        simp [hk, this]

theorem lookup_toC28 (ms : List ((Nat × Nat) × Nat)) (p : Nat × Nat) :
    Bpe.lookup (toC28 ms) p = mergeLookup ms 0 p := by
  unfold toC28
  rw [lookup_toC28From]
  cases mergeLookup ms 0 p <;> simp [Bpe.lookup]

theorem candidates_cons_cons (M : Bpe.MergeMap Nat) (a b : Nat) (rest : List Nat) :
    Bpe.candidates M (a :: b :: rest) =
      (match Bpe.lookup M (a, b) with
        | some r => [((a, b), r)]
        | none => []) ++ Bpe.candidates M (b :: rest) := by
  simp only [Bpe.candidates, Bpe.windows2, List.filterMap_cons]
  cases Bpe.lookup M (a, b) <;> simp

/-- The first-minimum scan: C27's recursion = C28's `windows2 / filterMap / minByKey`. -/
theorem minPair_eq (ms : List ((Nat × Nat) × Nat)) : ∀ (toks : List Nat),
    minPair ms toks = Bpe.findMinPair (toC28 ms) toks := by
  intro toks
  induction toks with
  | nil => rfl
  | cons a tl ih =>
    cases tl with
    | nil => rfl
    | cons b rest =>
      simp only [minPair, Bpe.findMinPair, candidates_cons_cons, lookup_toC28]
      simp only [Bpe.findMinPair] at ih
      rw [ih]
      cases mergeLookup ms 0 (a, b) with
      | none => simp
      | some rm =>
        simp only [List.singleton_append, Bpe.minByKey_cons]
        cases Bpe.minByKey (fun c => c.2.1) (Bpe.candidates (toC28 ms) (b :: rest)) with
        | none => rfl
        | some best => rfl

/-- The replacement pass: C27's `mergePass` = C28's functional `replacePairs`
(= the in-place loop, `Bpe.replaceLoop_eq`). -/
theorem mergePass_eq (f s m : Nat) (toks : List Nat) :
    mergePass f s m toks = Bpe.replacePairs f s m toks := by
  induction toks using mergePass.induct f s with
  | case1 => rfl
  | case2 a => rfl
  | case3 a b rest hc ih =>
    rw [mergePass, if_pos hc, Bpe.replacePairs_cons_cons, if_pos (by simpa using hc), ih]
  | case4 a b rest hc ih =>
    rw [mergePass, if_neg hc, Bpe.replacePairs_cons_cons, if_neg (by simpa using hc), ih]

theorem bpeMerge_eq_c28_fuel (ms : List ((Nat × Nat) × Nat)) : ∀ (fuel : Nat) (toks : List Nat),
    bpeMerge ms fuel toks = Bpe.bpeMergeFuel (toC28 ms) fuel toks := by
  intro fuel
  induction fuel with
  | zero => intro toks; rfl
  | succ fuel ih =>
    intro toks
    simp only [bpeMerge, Bpe.bpeMergeFuel, Bpe.mergeRound, minPair_eq]
    cases Bpe.findMinPair (toC28 ms) toks with
    | none => rfl
    | some c =>
      obtain ⟨⟨f, s⟩, ⟨r, m⟩⟩ := c
      simp only [Bpe.replaceLoop_eq, ← mergePass_eq f s m toks]
      exact ih _

/-- `encode_piece`'s merge step in C27 is C28's `bpeMerge` on the same merge table. -/
theorem bpeMerge_eq_c28 (ms : List ((Nat × Nat) × Nat)) (toks : List Nat) :
    bpeMerge ms toks.length toks = Bpe.bpeMerge (toC28 ms) toks :=
  bpeMerge_eq_c28_fuel ms toks.length toks

theorem mem_toC28From : ∀ (ms : List ((Nat × Nat) × Nat)) (i : Nat) (acc : Bpe.MergeMap Nat)
    (p : Nat × Nat) (r m : Nat), (p, (r, m)) ∈ toC28From i ms acc → (p, m) ∈ ms ∨ (p, (r, m)) ∈ acc
  | [], _, _, _, _, _, h => .inr h
  | (k, m') :: rest, i, acc, p, r, m, h => by
    rcases mem_toC28From rest (i + 1) _ p r m h with h | h
    · exact .inl (List.mem_cons_of_mem _ h)
    · rcases List.mem_cons.mp h with h | h
      · cases h; exact .inl List.mem_cons_self
      · exact .inr h

/-- A reading of token lists under which every merge entry's result stands for its two parts, in
any context, is the same before and after `bpe_merge`. -/
theorem bpeMerge_inv (ms : List ((Nat × Nat) × Nat)) (I : List Nat → Prop)
    (hI : ∀ e ∈ ms, ∀ pre post, I (pre ++ e.1.1 :: e.1.2 :: post) → I (pre ++ e.2 :: post))
    (fuel : Nat) (toks : List Nat) (h : I toks) : I (bpeMerge ms fuel toks) := by
  rw [bpeMerge_eq_c28_fuel]
  refine Bpe.bpeMergeFuel_inv _ I (fun a b r m hl => hI ((a, b), m) ?_) fuel toks h
  exact (mem_toC28From ms 0 [] (a, b) r m (Bpe.lookup_mem hl)).resolve_right (nomatch ·)

/-- **What `bpe_merge` keeps**: the bytes the token list decodes to. -/
theorem bpeMerge_decode {t : Bpe} (hc : Consistent t.vocab t.merges)
    (hadd : ∀ id s, strOf t.vocab id = some s → t.added.lookup id = none)
    (fuel : Nat) (toks bs : List Nat) (h : decodeIds t toks = .ok bs) :
    decodeIds t (bpeMerge t.merges fuel toks) = .ok bs := by
  refine bpeMerge_inv t.merges (decodeIds t · = .ok bs) (fun e he pre post h => ?_) fuel toks h
  obtain ⟨sa, sb, h1, h2, h3⟩ := hc e he
  simp only [decodeIds_append_ok, decodeIds_cons_ok, decodeOne_of_strOf hadd h1,
    decodeOne_of_strOf hadd h2, decodeOne_of_strOf hadd h3] at h ⊢
  obtain ⟨b1, _, hp, ⟨ba, _, ha, ⟨bb, bp, hb, hq, rfl⟩, rfl⟩, rfl⟩ := h
  exact ⟨b1, _, hp, ⟨ba ++ bb, bp, decodeStr_append sa sb ba bb ha hb, hq, rfl⟩, by simp⟩

end RtenVerif.ByteBpe
