import RtenVerif.Lemmas.Chunks

/-!
# C29 — Chunked encoding respects limits and partitions the token stream

Property text: *for any input (single text or pair) and any chunk limit and overlap, every chunk
has at most the requested number of tokens including special tokens, each chunk's content tokens
are a contiguous window of the full encoding, consecutive windows overlap by exactly the requested
amount, and together the windows cover every content token in order.*

Model: `RtenVerif.Model.Chunks` (`chunks_with_overlap` of `rten-text/src/split.rs`,
`Tokenizer::encode_chunks` of `rten-text/src/tokenizer.rs`). A window is `(start, length)`;
`chunkRanges n size overlap = none` models the `assert!(overlap < chunk_size)` panic.

What is proved: T1 (limit) and T2 (contiguous in-bounds windows, in order, covering everything) in
full, for every input on which the code returns chunks. T3 (exact overlap) is decided completely:
`c29_T3_exact_iff` — it holds iff there is no remainder window, or no overlap was requested, or
there is a single window; otherwise it is **false** exactly at the final remainder window
(`c29_T3_false`, `c29_T3_consecutive_partial`), which overlaps its predecessor by 0 tokens. Where
the window is not larger than the overlap the code panics (`c29_overlap_ge_window_panics`), where
the limit leaves no room it returns no chunk (`c29_no_room_unsatisfiable` shows nothing else could
respect the limit).
-/
namespace RtenVerif.Chunks

/-- **C29.T2a** Every window is a non-empty contiguous slice `start .. start+len` of the token
list with at most `size` tokens. -/
theorem c29_T2_windows_in_bounds (n size overlap : Nat) (rs : List (Nat × Nat))
    (h : chunkRanges n size overlap = some rs) :
    ∀ r ∈ rs, 0 < r.2 ∧ r.2 ≤ size ∧ r.1 + r.2 ≤ n :=
  fun _ hr => ranges_bounds h hr

/-- **C29.T2b** Together the windows cover every token position. -/
theorem c29_T2_cover (n size overlap : Nat) (rs : List (Nat × Nat))
    (h : chunkRanges n size overlap = some rs) :
    ∀ p, p < n → ∃ r ∈ rs, r.1 ≤ p ∧ p < r.1 + r.2 :=
  fun _ hp => ranges_cover h hp

/-- **C29.T2c / T3 (partial)** Consecutive windows `i`, `i+1`: if both are full windows the next one
starts exactly `overlap` tokens before the end of the previous one; otherwise the next one is the
final remainder and starts exactly at the end of the previous one (overlap 0). In both cases the
windows come in order and leave no gap. -/
theorem c29_T3_consecutive_partial (n size overlap : Nat) (rs : List (Nat × Nat))
    (h : chunkRanges n size overlap = some rs) (i : Nat) (r r' : Nat × Nat)
    (hr : rs[i]? = some r) (hr' : rs[i + 1]? = some r') :
    (i + 1 < fullCount n size (size - overlap) ∧ r'.1 + overlap = r.1 + r.2 ∧ r'.2 = size) ∨
    (i + 1 = fullCount n size (size - overlap) ∧ r'.1 = r.1 + r.2 ∧ r'.1 + r'.2 = n) := by
  have hlt := chunkRanges_some_lt h
  obtain ⟨_, _, ⟨hi, _, h2⟩ | ⟨hi, _, _, _, h2⟩⟩ := ranges_consecutive h hr hr'
  · exact .inl ⟨hi, by omega, h2⟩
  · exact .inr ⟨hi, by omega, h2⟩

/-- In particular the windows are in order without gaps: the next window starts after the
previous start and not after the previous end, and ends later. -/
theorem c29_T2_in_order (n size overlap : Nat) (rs : List (Nat × Nat))
    (h : chunkRanges n size overlap = some rs) (i : Nat) (r r' : Nat × Nat)
    (hr : rs[i]? = some r) (hr' : rs[i + 1]? = some r') :
    r.1 < r'.1 ∧ r'.1 ≤ r.1 + r.2 ∧ r.1 + r.2 < r'.1 + r'.2 := by
  have hlt := chunkRanges_some_lt h
  obtain ⟨_, _, ⟨_, _, _⟩ | ⟨_, _, _, _, _⟩⟩ := ranges_consecutive h hr hr' <;> omega

/-- **C29.T2d** The `i`-th window starts at `i · (size − overlap)` — for the full windows. -/
theorem c29_T2_start_partial (n size overlap : Nat) (rs : List (Nat × Nat))
    (h : chunkRanges n size overlap = some rs) (i : Nat)
    (hi : i < fullCount n size (size - overlap)) :
    rs[i]? = some (i * (size - overlap), size) :=
  (ranges_get h i).trans (if_pos hi)

/-- Non-vacuity: 10 tokens, windows of 4, overlap 1: three full windows and no remainder. -/
example : chunkRanges 10 4 1 = some [(0, 4), (3, 4), (6, 4)] := by decide

/-- The full statement of T3 (and of "window `i` starts at `i·(size−overlap)`"): every pair of
consecutive windows overlaps by exactly `overlap`. -/
def ExactOverlap (n size overlap : Nat) : Prop :=
  ∀ rs, chunkRanges n size overlap = some rs →
    ∀ i r r', rs[i]? = some r → rs[i + 1]? = some r' → r'.1 + overlap = r.1 + r.2

/-- **C29.T3 is false of the model (and of the code):** 6 tokens, windows of 3, overlap 1 gives
`[0,3) [2,5) [5,6)` — the final remainder window overlaps its predecessor by 0, not 1 (it also does
not start at `2·(3−1) = 4`). Pinned by the unit test `test_chunks_overlap` ("Overlap, remainder"). -/
theorem c29_T3_false : ¬ ExactOverlap 6 3 1 := by
  intro h
  have := h [(0, 3), (2, 3), (5, 1)] (by decide) 1 (2, 3) (5, 1) (by decide) (by decide)
  simp at this

theorem c29_T3_exact_when_no_remainder (n size overlap : Nat)
    (hrem : remSize n size (size - overlap) = 0 ∨ overlap = 0) : ExactOverlap n size overlap := by
  intro rs h i r r' hr hr'
  have hlt := chunkRanges_some_lt h
  -- a remainder window has `remSize` tokens, so with `hrem` it is absent or overlap 0 is exact
  obtain ⟨_, _, ⟨_, _, _⟩ | ⟨_, _, _, _, _⟩⟩ := ranges_consecutive h hr hr' <;> omega

/-- **C29.T3 decided.** For a legal request (`overlap < size`) the exact-overlap clause holds
**iff** there is no remainder window, or no overlap was requested, or everything fits in a single
window. In all other cases it fails, and it fails only at the final remainder window
(`c29_T3_consecutive_partial`). -/
theorem c29_T3_exact_iff (n size overlap : Nat) (hlt : overlap < size) :
    ExactOverlap n size overlap ↔
      (remSize n size (size - overlap) = 0 ∨ overlap = 0 ∨ n < size) := by
  constructor
  · intro hex
    -- otherwise the last full window and the remainder are consecutive and share no token
    refine Classical.byContradiction fun hno => ?_
    have hp : 0 < remSize n size (size - overlap) := Nat.pos_of_ne_zero fun h => hno (.inl h)
    have hn : size ≤ n := Nat.le_of_not_lt fun h => hno (.inr (.inr h))
    obtain ⟨k, hk⟩ : ∃ k, fullCount n size (size - overlap) = k + 1 :=
      ⟨_, (Nat.succ_pred_eq_of_pos (fullCount_pos_iff.mpr hn)).symm⟩
    obtain ⟨rs, hrs⟩ : ∃ rs, chunkRanges n size overlap = some rs := ⟨_, chunkRanges_eq hlt⟩
    have e1 := (ranges_get hrs k).trans (if_pos (hk ▸ Nat.lt_succ_self k))
    have e2 := (ranges_get hrs (k + 1)).trans
      (by rw [if_neg (hk ▸ Nat.lt_irrefl _), if_pos ⟨hk.symm, hp⟩])
    have hx := hex rs hrs _ _ _ e1 e2
    obtain ⟨_, _, ⟨_, _, _⟩ | ⟨_, _, _, _, _⟩⟩ := ranges_consecutive hrs e1 e2 <;>
      omega
  · rintro (h | h | h)
    · exact c29_T3_exact_when_no_remainder n size overlap (Or.inl h)
    · exact c29_T3_exact_when_no_remainder n size overlap (Or.inr h)
    · intro rs hrs i r r' _ hr'
      have hfc : ¬ 0 < fullCount n size (size - overlap) := by rw [fullCount_pos_iff]; omega
      rcases ranges_get_cases hrs hr' with ⟨_, _⟩ | ⟨_, _, _⟩ <;> omega

/-- Non-vacuity of the three escape cases and of the failing case. -/
example : ExactOverlap 7 3 1 ∧ ExactOverlap 7 3 0 ∧ ExactOverlap 2 3 1 ∧ ¬ ExactOverlap 8 3 1 := by
  refine ⟨(c29_T3_exact_iff 7 3 1 (by omega)).mpr (Or.inl (by decide)),
    (c29_T3_exact_iff 7 3 0 (by omega)).mpr (Or.inr (Or.inl rfl)),
    (c29_T3_exact_iff 2 3 1 (by omega)).mpr (Or.inr (Or.inr (by omega))), ?_⟩
  intro h
  have := (c29_T3_exact_iff 8 3 1 (by omega)).mp h
  revert this; decide

/-- **Precondition.** `overlap ≥ window` is an `assert!` in `chunks_with_overlap`: a panic, for
every length (pinned by `test_chunks_overlap_panic`). -/
theorem c29_overlap_ge_window_panics (n size overlap : Nat) (h : size ≤ overlap) :
    chunkRanges n size overlap = none :=
  chunkRanges_none h

/-- **C29.T2 (single text)** When chunks are returned and there is room for content, the chunks
are exactly `[CLS]? ++ window ++ [SEP]?` for the windows of `chunkRanges` over the full encoding,
in order — so T2a–T2d and T3-partial above apply to them with `size = limit − overhead`. -/
theorem c29_T2_content_single (cls sep : Option Nat) (limit : Option Nat) (overlap : Nat)
    (toks offs : List Nat) (textLen : Nat) (cs : List Chunk)
    (h : encodeSingle cls sep limit overlap toks offs textLen = some cs)
    (hroom : maxTokens limit toks.length (optLen cls + optLen sep) ≠ 0) :
    ∃ rs, chunkRanges toks.length (maxTokens limit toks.length (optLen cls + optLen sep))
        (effOverlap toks.length (maxTokens limit toks.length (optLen cls + optLen sep)) overlap)
        = some rs ∧
      cs.map (·.ids) = rs.map (fun r => cls.toList ++ slice toks r ++ sep.toList) := by
  unfold encodeSingle at h
  simp only [hroom, if_false, Option.map_eq_some_iff] at h
  obtain ⟨rs, hrs, rfl⟩ := h
  refine ⟨rs, hrs, ?_⟩
  rw [List.map_map]
  rfl

/-- `encode_chunks` on a pair with its `let`s named. -/
theorem encodePair_eq (cls sep : Option Nat) (limit : Option Nat) (overlap : Nat)
    (toks1 offs1 toks2 offs2 : List Nat) (len1 len2 : Nat) :
    ∃ maxTok firstLen secondLen,
      maxTok = maxTokens limit (toks1.length + toks2.length) (optLen cls + 2 * optLen sep) ∧
      firstLen = min toks1.length maxTok ∧ secondLen = min toks2.length (maxTok - firstLen) ∧
      encodePair cls sep limit overlap toks1 offs1 toks2 offs2 len1 len2 =
        if maxTok = 0 ∨ secondLen = 0 then some [] else
          (chunkRanges toks2.length secondLen (effOverlap toks2.length secondLen overlap)).map
            fun rs => rs.map (mkPair cls sep toks1 offs1 toks2 offs2 len1 len2 firstLen) := by
  refine ⟨_, _, _, rfl, rfl, rfl, ?_⟩
  unfold encodePair
  simp only
  split
  · rw [if_pos (.inl ‹_›)]
  · split
    · rw [if_pos (.inr ‹_›)]
    · rw [if_neg (by rintro (h | h) <;> contradiction)]

/-- **C29.T2 (pair)** Every chunk is `[CLS]? ++ prefix of the first sequence ++ [SEP]? ++ window of
the second sequence ++ [SEP]?`, the windows being those of `chunkRanges` over the second
encoding. -/
theorem c29_T2_content_pair (cls sep : Option Nat) (limit : Option Nat) (overlap : Nat)
    (toks1 offs1 toks2 offs2 : List Nat) (len1 len2 : Nat) (cs : List Chunk)
    (h : encodePair cls sep limit overlap toks1 offs1 toks2 offs2 len1 len2 = some cs)
    (hne : cs ≠ []) :
    ∃ maxTok firstLen secondLen rs,
      maxTok = maxTokens limit (toks1.length + toks2.length) (optLen cls + 2 * optLen sep) ∧
      firstLen = min toks1.length maxTok ∧ secondLen = min toks2.length (maxTok - firstLen) ∧
      chunkRanges toks2.length secondLen (effOverlap toks2.length secondLen overlap) = some rs ∧
      cs.map (·.ids) = rs.map (fun r =>
        cls.toList ++ toks1.take firstLen ++ sep.toList ++ slice toks2 r ++ sep.toList) := by
  obtain ⟨maxTok, firstLen, secondLen, hm, hf, hs, he⟩ :=
    encodePair_eq cls sep limit overlap toks1 offs1 toks2 offs2 len1 len2
  rw [he] at h
  split at h
  · exact absurd (Option.some.inj h).symm hne
  · obtain ⟨rs, hrs, rfl⟩ := Option.map_eq_some_iff.mp h
    exact ⟨maxTok, firstLen, secondLen, rs, hm, hf, hs, hrs, by rw [List.map_map]; rfl⟩

/-- **C29.T1 (single text)** Every chunk has at most `limit` tokens, special tokens included —
for every text, limit, overlap and CLS/SEP configuration for which chunks are returned. -/
theorem c29_T1_limit_single (cls sep : Option Nat) (L overlap : Nat) (toks offs : List Nat)
    (textLen : Nat) (cs : List Chunk)
    (h : encodeSingle cls sep (some L) overlap toks offs textLen = some cs) :
    ∀ c ∈ cs, c.ids.length ≤ L := by
  intro c hc
  by_cases hroom : maxTokens (some L) toks.length (optLen cls + optLen sep) = 0
  · simp only [encodeSingle, hroom, if_true, Option.some.injEq] at h
    subst h; cases hc
  · obtain ⟨rs, hrs, hids⟩ := c29_T2_content_single cls sep _ overlap toks offs textLen cs h hroom
    have hm : c.ids ∈ cs.map (·.ids) := List.mem_map_of_mem hc
    rw [hids] at hm
    obtain ⟨r, hr, he⟩ := List.mem_map.mp hm
    rw [← he]
    have hb := c29_T2_windows_in_bounds _ _ _ rs hrs r hr
    simp only [maxTokens, Option.getD_some] at hb
    simp only [List.length_append, optLen_toList, slice_length]
    omega

/-- **C29.T1 (pair)** -/
theorem c29_T1_limit_pair (cls sep : Option Nat) (L overlap : Nat)
    (toks1 offs1 toks2 offs2 : List Nat) (len1 len2 : Nat) (cs : List Chunk)
    (h : encodePair cls sep (some L) overlap toks1 offs1 toks2 offs2 len1 len2 = some cs) :
    ∀ c ∈ cs, c.ids.length ≤ L := by
  intro c hc
  obtain ⟨maxTok, firstLen, secondLen, rs, hm, hf, hs, hrs, hids⟩ :=
    c29_T2_content_pair cls sep _ overlap toks1 offs1 toks2 offs2 len1 len2 cs h
      (List.ne_nil_of_mem hc)
  have hc' : c.ids ∈ cs.map (·.ids) := List.mem_map_of_mem hc
  rw [hids] at hc'
  obtain ⟨r, hr, he⟩ := List.mem_map.mp hc'
  rw [← he]
  have hb := c29_T2_windows_in_bounds _ _ _ rs hrs r hr
  have h1 : firstLen ≤ maxTok := hf ▸ Nat.min_le_right _ _
  have h2 : secondLen ≤ maxTok - firstLen := hs ▸ Nat.min_le_right _ _
  have h3 := Nat.min_le_left firstLen toks1.length
  simp only [maxTokens, Option.getD_some] at hm
  simp only [List.length_append, optLen_toList, List.length_take, slice_length]
  clear hf hs
  omega

/-- After the `fix:` commit a single text that fits into one chunk never panics, whatever the
overlap (before it, `overlap ≥ len` hit the assert, e.g. one token with `overlap = 1`). -/
theorem c29_fits_no_panic_single (cls sep : Option Nat) (limit : Option Nat) (overlap : Nat)
    (toks offs : List Nat) (textLen : Nat)
    (hfit : toks.length ≤ maxTokens limit toks.length (optLen cls + optLen sep)) :
    (encodeSingle cls sep limit overlap toks offs textLen).isSome = true := by
  unfold encodeSingle
  simp only
  by_cases h0 : maxTokens limit toks.length (optLen cls + optLen sep) = 0
  · simp [h0]
  · simp only [h0, if_false, effOverlap, hfit, if_true, Option.isSome_map]
    rw [chunkRanges_eq (by omega)]; rfl

/-- Non-vacuity / witness of the fixed defect: one token, no limit, `overlap = 1`. -/
example : encodeSingle (some 0) (some 1) none 1 [3] [0] 2 =
    some [{ ids := [0, 3, 1], offsets := [0, 0, 2], firstSeq := 3 }] := by decide

/-- The remaining panic: the text does not fit and the requested overlap is not smaller than the
window (`limit − overhead`). 5 tokens, limit 4 with CLS+SEP (window 2), overlap 2. -/
theorem c29_encode_overlap_ge_window_panics :
    encodeSingle (some 0) (some 1) (some 4) 2 [3, 4, 5, 6, 7] [0, 3, 6, 9, 12] 14 = none := by
  decide

/-- In a pair the window is what the first sequence leaves: limit 8, CLS+SEP+SEP, a 3-token query
leaves a window of 2 for a 5-token context, so `overlap = 2` panics although `2 < 8`. -/
theorem c29_encode_pair_small_room_panics :
    encodePair (some 0) (some 1) (some 8) 2 [3, 4, 5] [0, 3, 6] [103, 104, 105, 106, 107]
      [8, 11, 14, 17, 20] 8 14 = none := by
  decide

/-- **No room.** If the limit does not exceed the special-token overhead, *no* chunk with at least
one content token can respect the limit — so "≤ limit" and "cover every content token" cannot
both hold for a non-empty text; the code returns no chunk (`Ok(vec![])`, pinned by the unit test
with `max_chunk_len: Some(0)`). -/
theorem c29_no_room_unsatisfiable (cls sep : Option Nat) (L : Nat) (content : List Nat)
    (hL : L ≤ optLen cls + optLen sep) (hc : content ≠ []) :
    ¬ ((cls.toList ++ content ++ sep.toList).length ≤ L) := by
  have : 0 < content.length := List.length_pos_iff.mpr hc
  simp only [List.length_append, optLen_toList]; omega

theorem c29_no_room_empty (cls sep : Option Nat) (L overlap : Nat) (toks offs : List Nat)
    (textLen : Nat) (hL : L ≤ optLen cls + optLen sep) :
    encodeSingle cls sep (some L) overlap toks offs textLen = some [] := by
  unfold encodeSingle
  have : maxTokens (some L) toks.length (optLen cls + optLen sep) = 0 := by
    simp only [maxTokens, Option.getD_some]; omega
  simp [this]

/-! ## S4 — token offsets of a chunk (secondary: not in the property text) -/

/-- **C29.S4** The last offset of a single-text chunk built from window `r` is the offset of the
first token after the window, or the text length for the last window — also with overlap
(before the `fix:` commit 7ff89d8 it was looked up at `chunk_idx * max_tokens + len`). -/
theorem c29_S4_final_offset_single (cls sep : Option Nat) (toks offs : List Nat) (textLen : Nat)
    (r : Nat × Nat) (hlen : offs.length = toks.length) (hb : r.1 + r.2 ≤ toks.length) :
    (mkSingle cls sep toks offs textLen r).offsets.getLast? = some (offs.getD (r.1 + r.2) textLen) := by
  have : (slice offs r).length = r.2 := by rw [slice_length]; omega
  simp [mkSingle, this]

/-- **C29.S4** Without `[CLS]` the offsets of a chunk are the window's slice of the offsets followed by
the final offset of `c29_S4_final_offset_single`. -/
theorem c29_S4_content_offsets_single (sep : Option Nat) (toks offs : List Nat) (textLen : Nat)
    (r : Nat × Nat) :
    (mkSingle none sep toks offs textLen r).offsets = slice offs r ++ [offs.getD (r.1 + (slice offs r).length) textLen] := by
  simp [mkSingle]

/-- Witness of the fixed offset defect: 5 tokens at offsets 0,3,6,9,12 (text length 14), limit 5
with CLS+SEP (window 3), overlap 2: the second chunk holds tokens 1..4 and its final offset is 12,
the offset of token 4 (the old `1*3 + 3 = 6 ≥ 5` lookup fell back to the text length 14). -/
example : (encodeSingle (some 0) (some 1) (some 5) 2 [3, 4, 5, 6, 7] [0, 3, 6, 9, 12] 14).map
    (fun cs => cs.map (·.offsets)) = some [[0, 0, 3, 6, 9], [3, 3, 6, 9, 12], [6, 6, 9, 12, 14]] := by
  decide

/-- An unknown `[CLS]`/`[SEP]` string is an error of `encode_chunks` and `encode` (never a panic,
never silently dropped), whatever the input and options (the error value carries no token, so
which of the two is reported is not part of the statement). -/
theorem c29_unknown_special_is_error (cls sep : Special) (limit : Option Nat) (overlap : Nat)
    (inp : Input) (h : cls = .unknown ∨ sep = .unknown) :
    encodeChunks cls sep limit overlap inp = .error .tokenIdNotFound ∧
    encode cls sep limit overlap inp = .error .tokenIdNotFound := by
  rcases h with rfl | rfl
  · exact ⟨rfl, rfl⟩
  · cases cls <;> exact ⟨rfl, rfl⟩

theorem c29_encodeChunks_ok (cls sep : Special) (c s : Option Nat) (limit : Option Nat)
    (overlap : Nat) (inp : Input) (hc : cls.resolve = .ok c) (hs : sep.resolve = .ok s) :
    encodeChunks cls sep limit overlap inp = .ok (match inp with
      | .item toks offs len => encodeSingle c s limit overlap toks offs len
      | .pair t1 o1 t2 o2 l1 l2 => encodePair c s limit overlap t1 o1 t2 o2 l1 l2) := by
  unfold encodeChunks
  rw [hc, hs]
  cases inp <;> rfl

/-- **`Tokenizer::encode` truncates to the first chunk**: its result is the head of
`encode_chunks`, hence respects the limit whenever a chunk exists (single text shown). -/
theorem c29_encode_limit_single (cls sep : Special) (c s : Option Nat) (L overlap : Nat)
    (toks offs : List Nat) (len : Nat) (ch : Chunk) (rest : List Chunk)
    (hc : cls.resolve = .ok c) (hs : sep.resolve = .ok s)
    (h : encodeSingle c s (some L) overlap toks offs len = some (ch :: rest)) :
    encode cls sep (some L) overlap (.item toks offs len) = .ok (some ch) ∧ ch.ids.length ≤ L := by
  refine ⟨?_, c29_T1_limit_single c s L overlap toks offs len _ h ch (by simp)⟩
  unfold encode
  rw [c29_encodeChunks_ok cls sep c s _ _ _ hc hs, hc, hs]
  simp only [h]
  rfl

/-- The fabricated chunk of `encode` (no chunk from `encode_chunks`) consists of the special tokens
only; it is longer than a limit below the overhead (limit 1, CLS+SEP: 2 tokens) — `encode` always
returns one `Encoded`, so "≤ limit" is not obtainable there. -/
theorem c29_encode_fallback_exceeds_small_limit :
    encode (.tok 0) (.tok 1) (some 1) 0 (.item [3, 4] [0, 3] 5) =
      .ok (some { ids := [0, 1], offsets := [0, 0], firstSeq := 2 }) := by rfl

/-- **C29 — when does a pair produce no chunk at all?** `encode_chunks` on a pair returns
`Ok(vec![])` **iff** the limit leaves no room for any content token, or the second sequence is
empty, or the first sequence alone fills the room (`max_tokens ≤ |first|`). In the last two cases
content tokens exist and there is room for some, yet nothing is covered (open findings
`C29-pair-empty-second`, `C29-pair-first-fills-room`). -/
theorem c29_pair_no_chunk_iff (cls sep : Option Nat) (limit : Option Nat) (overlap : Nat)
    (toks1 offs1 toks2 offs2 : List Nat) (len1 len2 : Nat) :
    encodePair cls sep limit overlap toks1 offs1 toks2 offs2 len1 len2 = some [] ↔
      (maxTokens limit (toks1.length + toks2.length) (optLen cls + 2 * optLen sep) = 0 ∨
       toks2 = [] ∨
       maxTokens limit (toks1.length + toks2.length) (optLen cls + 2 * optLen sep) ≤ toks1.length) := by
  obtain ⟨_, _, _, rfl, rfl, rfl, he⟩ :=
    encodePair_eq cls sep limit overlap toks1 offs1 toks2 offs2 len1 len2
  -- nothing is left for the second sequence iff it is empty or the first one fills the room
  have key : ∀ a b m : Nat, min a (m - min b m) = 0 ↔ a = 0 ∨ m ≤ b := by omega
  rw [he, ← List.length_eq_zero_iff (l := toks2)]
  simp only [key]
  split
  · exact iff_of_true rfl ‹_›
  · refine iff_of_false (fun h => ?_) ‹_›
    obtain ⟨rs, hrs, hnil⟩ := Option.map_eq_some_iff.mp h
    -- the second sequence is non-empty, so some window covers its position 0
    obtain ⟨r, hr, _⟩ := c29_T2_cover _ _ _ rs hrs 0
      (Nat.pos_of_ne_zero fun h0 => ‹¬ _› (Or.inr (Or.inl h0)))
    rw [List.map_eq_nil_iff.mp hnil] at hr; cases hr

/-- Witness: limit 6 with CLS+SEP+SEP leaves room 3, the 3-token query takes it
all, the 2 context tokens appear in no chunk. Pinned by the unit test "Chunk size too small for
any tokens from the second sequence". -/
theorem c29_pair_first_fills_room :
    encodePair (some 0) (some 1) (some 6) 0 [3, 4, 5] [0, 3, 6] [103, 104] [8, 11] 8 5 = some [] := by
  decide

/-- **The first sequence of a pair is never truncated in an emitted chunk**: whenever at least one
chunk is returned, `first_len = |first|` (the `[..first_len]` slice is the whole first sequence) —
a longer first sequence leaves no room and falls under `c29_pair_no_chunk_iff`. -/
theorem c29_pair_first_whole (cls sep : Option Nat) (limit : Option Nat) (overlap : Nat)
    (toks1 offs1 toks2 offs2 : List Nat) (len1 len2 : Nat) (cs : List Chunk)
    (h : encodePair cls sep limit overlap toks1 offs1 toks2 offs2 len1 len2 = some cs)
    (hne : cs ≠ []) :
    toks1.take (min toks1.length
      (maxTokens limit (toks1.length + toks2.length) (optLen cls + 2 * optLen sep))) = toks1 := by
  have hno := mt (c29_pair_no_chunk_iff cls sep limit overlap toks1 offs1 toks2 offs2 len1 len2).mpr
    fun he => hne (Option.some.inj (h.symm.trans he))
  rw [Nat.min_eq_left (by omega)]
  exact List.take_length

/-- A window of `chunkRanges` over `toks` selects a non-empty slice of an offsets list of the same
length, so `offsets_chunk.first().unwrap()` (the `[CLS]` offset, modelled with `headD`) never
fails. -/
theorem c29_cls_offset_defined (n size overlap : Nat) (rs : List (Nat × Nat))
    (h : chunkRanges n size overlap = some rs) (offs : List Nat) (hlen : offs.length = n)
    (r : Nat × Nat) (hr : r ∈ rs) : slice offs r ≠ [] := by
  have hb := c29_T2_windows_in_bounds n size overlap rs h r hr
  exact List.ne_nil_of_length_pos (by rw [slice_length]; omega)

/-- **Pair with an empty second text**: no chunk is produced although there is room — the
first sequence's tokens appear in no chunk (open finding `C29-pair-empty-second`). -/
theorem c29_pair_empty_second_drops_first :
    encodePair (some 0) (some 1) none 0 [3, 4] [0, 3] [] [] 5 0 = some [] := by decide

end RtenVerif.Chunks
