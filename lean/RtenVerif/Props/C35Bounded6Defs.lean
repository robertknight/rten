import RtenVerif.Props.C35

/-!
# C35.S3 bounded scope: all 6-point multisets of the 4×4 grid — definitions

54,264 inputs, among them 296 on which the scan performs at least two strict right-turn pops
for one point.  `C35Bounded.lean` states the check on this scope, an instance of
`hullContainsCheck_all`.
-/
namespace RtenVerif.Poly

/-- Point number `k` of the 4×4 grid. -/
def gp4 (k : Nat) : Pt := (Int.ofNat (k % 4), Int.ofNat (k / 4))

/-- All non-decreasing lists of length `k` over `lo .. n-1`. -/
def msets (n : Nat) : Nat → Nat → List (List Nat)
  | 0, _ => [[]]
  | k + 1, lo => ((List.range n).filter (fun a => decide (lo ≤ a))).flatMap fun a =>
      (msets n k a).map (a :: ·)

def rangeIn (lo hi : Nat) : List Nat := (List.range (hi + 1)).filter (fun a => decide (lo ≤ a))

/-- The check on every 6-point multiset `a ≤ b ≤ …` with `a0 ≤ a ≤ a1`, `b0 ≤ b ≤ b1`. -/
def chunkOk (a0 a1 b0 b1 : Nat) : Bool :=
  (rangeIn a0 a1).all fun a => (rangeIn (max a b0) b1).all fun b =>
    (msets 16 4 b).all fun r => hullContainsCheck ((a :: b :: r).map gp4)

end RtenVerif.Poly
