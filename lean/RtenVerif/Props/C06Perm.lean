import RtenVerif.Props.C06
import RtenVerif.Props.C08Views

/-!
# C06 — `permuted` / `permute` / `transposed` / `into_permuted` keep the safety invariant

Stated on C09's executable layout model (`Layout.permuteIter`, `Layout.permuted`,
`Layout.transposed`; `Model/Layout.lean` is diffed against `rten-tensor` by C09's check).
Every valid index of a permuted layout corresponds to a valid index of the source with the same
offset, different ones to different ones, so `VSafe` (in-storage, and injectivity for mutable
views) is inherited — for owned tensors (`permute`, `transpose`) and views (`permuted(_mut)`,
`transposed`) alike.

With these and the axis edits of `Props/C06.lean`: programs on owned tensors (`OwnedOpY`, T2y) and
chains of views (`ViewOpX`, T2z) over all calls that have a preservation theorem; and the offset
range of `slice_axis` / `clip_dim` / `split` on `usize` (`M.blockRange`, T3n).
-/
namespace RtenVerif.TensorBounds
open RtenVerif.Overlap RtenVerif.Layout

/-- The source index of the permuted index `j'`. -/
def unpermute (p : List Nat) (j' : List Nat) : List Nat :=
  (List.range p.length).map (fun i => j'.getD (p.idxOf i) 0)

/-- `VSafe` (for a fixed storage length and mutability) is inherited along each of the five
abstract view steps, so every closure theorem of `Props/C08Views.lean` applies to it: each step
embeds the new layout's index space into the old one's. -/
theorem vsafe_viewClosed (m : Bool) (n : Nat) : ViewClosed (VSafe m · n) where
  perm h hp := (Embeds.of_perm hp).vsafe h
  slice h hfit := ((Embeds.refl _).append ((Embeds.dim_range (k := 0) _ (by simpa using hfit)).append (.refl _))).vsafe h
  index h hs := ((Embeds.refl _).append ((Embeds.dim_pick (k := 0) _ hs).append (.refl _))).vsafe h
  insertUnit h := ((Embeds.refl _).append ((Embeds.unit_insert _).append (.refl _))).vsafe h
  merge h := ((Embeds.refl _).append ((Embeds.dim_merge (.inr rfl)).append (.refl _))).vsafe h

theorem vsafe_permuteIter {m : Bool} {d : List (Nat × Nat)} {n : Nat} {p : List Nat}
    (hperm : p.Perm (List.range d.length)) (hs : VSafe m d n) : VSafe m (permuteIter d p) n :=
  (vsafe_viewClosed m n).perm hs (permuteIter_perm hperm).symm

/-- **C06.T2x** any valid permutation of the dimensions (`permuted`, `permuted_mut`, `permute`,
`into_permuted`) keeps `VSafe`. -/
theorem c06_T2_permuted {m : Bool} {d : List (Nat × Nat)} {n : Nat} {p : List Nat}
    (hp : isValidPermutation d.length p = true) (hs : VSafe m d n) :
    VSafe m (permuteIter d p) n := vsafe_permuteIter (valid_perm hp) hs

/-- **C06.T2x** for `transposed` / `transpose` on C09's model (`permute_iter((0..ndim).rev())`). -/
theorem c06_T2_transposed_view {m : Bool} (v : Layout.View) {n : Nat} (hs : VSafe m v.dims n) :
    VSafe m (Layout.transposed v).dims n :=
  viewClosed_transposed (vsafe_viewClosed m n) v hs

/-- **C06.T2x** on C09's `permuted` (the function its driver calls). -/
theorem c06_T2_permuted_view {m : Bool} {v v' : Layout.View} {p : List Nat} {n : Nat}
    (h : Layout.permuted v p = .ok v') (hs : VSafe m v.dims n) : VSafe m v'.dims n :=
  viewClosed_permuted (vsafe_viewClosed m n) v v' p hs h

example : isValidPermutation 3 [2, 0, 1] = true ∧
    permuteIter [(2, 12), (3, 4), (4, 1)] [2, 0, 1] = [(4, 1), (2, 12), (3, 4)] ∧
    unpermute [2, 0, 1] [3, 1, 2] = [1, 2, 3] := by decide +kernel

/-- `permute(order)` / `transpose()` on an owned tensor: `self.layout = self.layout.permuted(..)`;
an invalid permutation panics before the assignment. -/
def permuteOwned (t : Owned) (p : List Nat) : Owned :=
  if isValidPermutation t.dims.length p then { t with dims := permuteIter t.dims p } else t

def transposeOwned (t : Owned) : Owned :=
  { t with dims := permuteIter t.dims (List.range t.dims.length).reverse }

theorem osafe_permuteIter {t : Owned} {p : List Nat} (hp : p.Perm (List.range t.dims.length))
    (hs : OSafe t) : OSafe { t with dims := permuteIter t.dims p } :=
  hs.of_same (.of_perm (permuteIter_perm hp).symm)

/-- Every mutating call on an owned tensor that has a preservation theorem. -/
inductive OwnedOpY where
  | x (op : OwnedOpX)
  | permute (order : List Nat)
  | transpose
  deriving DecidableEq, Repr

def stepOwnedY (t : Owned) : OwnedOpY → Owned
  | .x op => stepOwnedX t op
  | .permute p => permuteOwned t p
  | .transpose => transposeOwned t

theorem osafe_stepY {t : Owned} (op : OwnedOpY) (hs : OSafe t) : OSafe (stepOwnedY t op) := by
  cases op with
  | x op => exact osafe_stepX op hs
  | permute p =>
    simp only [stepOwnedY, permuteOwned]
    split
    · next hp => exact osafe_permuteIter (valid_perm hp) hs
    · exact hs
  | transpose => exact osafe_permuteIter (List.reverse_perm _) hs

/-- **C06.T2y** any program of `clip_dim`, `append`, `reshape`, `make_contiguous`, `remove_axis`,
`insert_axis`, `move_axis`, `permute` and `transpose` calls (successful or failing) on an owned
tensor preserves the invariant `OSafe` (in-storage, injective, within capacity, size guards). -/
theorem c06_T2_owned_programY (ops : List OwnedOpY) {t : Owned} (hs : OSafe t) :
    OSafe (ops.foldl stepOwnedY t) :=
  List.foldlRecOn ops stepOwnedY hs fun _ ht op _ => osafe_stepY op ht

/-- View-producing / view-editing calls with a preservation theorem. -/
inductive ViewOpX where
  | base (op : ViewOp)
  | permuted (order : List Nat)
  | transposed
  | indexAxis (axis index : Nat)
  | removeAxis (index : Nat)
  | insertAxis (index : Nat)
  | moveAxis (src dst : Nat)
  deriving DecidableEq, Repr

def applyViewX (mutable : Bool) (v : AView) : ViewOpX → Option AView
  | .base op => applyView mutable v op
  | .permuted p =>
    if isValidPermutation v.dims.length p then some { v with dims := permuteIter v.dims p } else none
  | .transposed => some { v with dims := permuteIter v.dims (List.range v.dims.length).reverse }
  | .indexAxis axis index => (indexAxis v.dims v.len axis index).map v.sub
  | .removeAxis i => (removeAxis v.dims i).map (fun d => { v with dims := d })
  | .insertAxis i => (insertAxis v.dims i).map (fun d => { v with dims := d })
  | .moveAxis s d => (moveAxis v.dims s d).map (fun x => { v with dims := x })

def runViewsX (mutable : Bool) : AView → List ViewOpX → Option AView
  | v, [] => some v
  | v, op :: ops =>
    match applyViewX mutable v op with
    | none => none
    | some w => runViewsX mutable w ops

theorem c06_T2_view_stepX {m : Bool} {v w : AView} {op : ViewOpX}
    (hs : VSafe m v.dims v.len) (h : applyViewX m v op = some w) :
    VSafe m w.dims w.len ∧ v.base ≤ w.base ∧ w.base + w.len ≤ v.base + v.len := by
  cases op <;> simp only [applyViewX, Option.map_eq_some_iff, Option.some.injEq] at h
  case base op => exact c06_T2_view_step hs h
  case permuted p =>
    split at h
    · next hp => cases h; exact Keeps.of_vsafe (c06_T2_permuted hp) hs
    · cases h
  case transposed => exact h ▸ Keeps.of_vsafe (vsafe_permuteIter (List.reverse_perm _)) hs
  case indexAxis axis index =>
    obtain ⟨x, hx, rfl⟩ := h
    exact (indexAxis_subview hx).step hs
  case removeAxis i =>
    obtain ⟨x, hx, rfl⟩ := h
    exact Keeps.of_vsafe (removeAxis_same hx).embeds.vsafe hs
  case insertAxis i =>
    obtain ⟨x, hx, rfl⟩ := h
    exact Keeps.of_vsafe (insertAxis_same hx).embeds.vsafe hs
  case moveAxis s d =>
    obtain ⟨x, hx, rfl⟩ := h
    exact Keeps.of_vsafe (moveAxis_same hx).embeds.vsafe hs

/-- **C06.T2z** any chain of slices, axis slices, split halves, broadcasts (immutable), permutations,
transpositions, `index_axis`, `remove_axis`, `insert_axis`, `move_axis` starting from a `VSafe`
view yields a `VSafe` view whose storage lies inside the starting view's storage. -/
theorem c06_T2_view_chainX {m : Bool} : ∀ (ops : List ViewOpX) {v w : AView},
    VSafe m v.dims v.len → runViewsX m v ops = some w →
    VSafe m w.dims w.len ∧ v.base ≤ w.base ∧ w.base + w.len ≤ v.base + v.len :=
  fun ops _ _ hs h => run_induction (fun _ => rfl)
    (fun v op ops => by simp only [runViewsX]; cases applyViewX m v op <;> rfl)
    (Keeps.refl m) Keeps.trans (fun h hs => c06_T2_view_stepX hs h) ops h hs

/-- Non-vacuity: transpose a 3×4 view, take row 1 of the result, insert an axis, slice it. -/
example : runViewsX true ⟨0, 12, [(3, 4), (4, 1)]⟩
      [.transposed, .indexAxis 0 1, .insertAxis 0, .base (.sliceAxis 1 1 3)] =
    some ⟨5, 5, [(1, 12), (2, 4)]⟩ := by decide +kernel

namespace M

def strideAt (d : List (U × U)) (axis : Nat) : U := (d.getD axis (0, 0)).2

/-- The offset range `slice_axis(axis, s..s+n)` and `clip_dim` compute on `usize`
(wrap-around `*`, `+`, the `is_empty()` test on the wrap-around element count); with
`s = mid`, `n = size - mid` it is also `split`'s `mid_offset` and the right half's length. -/
def blockRange (d : List (U × U)) (axis : Nat) (s n : U) : U × U :=
  if len (setSize d axis n) = 0 then (0, 0)
  else (s * strideAt (setSize d axis n) axis,
        s * strideAt (setSize d axis n) axis + minDataLen (setSize d axis n))

end M

theorem strideAt_toN (d : List (M.U × M.U)) (axis : Nat) :
    (M.strideAt d axis).toNat = strideAt (M.toN d) axis := by
  induction d generalizing axis with
  | nil => rfl
  | cons x xs ih =>
    cases axis with
    | zero => rfl
    | succ a =>
      have := ih a
      simp only [M.strideAt, strideAt, List.getD_cons_succ, M.toN_cons] at *
      exact this

/-- **C06.T3n** on an accepted tensor, for a range inside the axis (`hle`), the `usize`
evaluation of the block range equals the ideal one the model's `sliceAxis` / `clipDim` / `split`
use — no product or sum wraps, and the wrap-around element count behind `is_empty()` is the true
count. -/
theorem c06_T3_blockRange (d : List (M.U × M.U)) {k : Nat} {m : Bool}
    (acc : Accepted (M.toN d) k m) {axis : Nat} (s n : M.U) (hax : axis < d.length)
    (hle : s.toNat + n.toNat ≤ sizeAt (M.toN d) axis) :
    ((M.blockRange d axis s n).1.toNat, (M.blockRange d axis s n).2.toNat) =
      (if len (setSize (M.toN d) axis n.toNat) = 0 then (0, 0)
       else (s.toNat * strideAt (setSize (M.toN d) axis n.toNat) axis,
             s.toNat * strideAt (setSize (M.toN d) axis n.toNat) axis +
               minDataLen (setSize (M.toN d) axis n.toNat))) := by
  have hW := M.isizeMax_lt_W
  have hax' : axis < (M.toN d).length := by simpa [M.toN] using hax
  obtain ⟨hlenfit, hrest⟩ := c06_T3_subblock_no_wrap acc hax' hle
  have hlen : (M.len (M.setSize d axis n)).toNat = len (setSize (M.toN d) axis n.toNat) := by
    rw [M.len_toNat _ (by rw [setSize_toN]; omega), setSize_toN]
  unfold M.blockRange
  by_cases h0 : len (setSize (M.toN d) axis n.toNat) = 0
  · have : M.len (M.setSize d axis n) = 0 := (M.eq_zero_iff _).mpr (by rw [hlen]; exact h0)
    rw [if_pos this, if_pos h0]; rfl
  · have : ¬ M.len (M.setSize d axis n) = 0 := fun h => h0 (by rw [← hlen, h]; rfl)
    rw [if_neg this, if_neg h0]
    obtain ⟨h1, h2⟩ := hrest h0
    rw [strideAt_setSize] at *
    have hst : (M.strideAt (M.setSize d axis n) axis).toNat = strideAt (M.toN d) axis := by
      rw [strideAt_toN, setSize_toN, strideAt_setSize]
    have hmul : (s * M.strideAt (M.setSize d axis n) axis).toNat =
        s.toNat * strideAt (M.toN d) axis := by
      rw [M.mul_toNat, hst, Nat.mod_eq_of_lt (by omega)]
    have hmo : maxOffset (setSize (M.toN d) axis n.toNat) < isizeMax :=
      Nat.lt_of_le_of_lt (maxOffset_setSize_le _ _ _ (by omega)) acc.offset_fits
    have hmdl : (M.minDataLen (M.setSize d axis n)).toNat =
        minDataLen (setSize (M.toN d) axis n.toNat) := by
      rw [M.minDataLen_toNat _ (by rw [setSize_toN]; omega), setSize_toN]
    rw [M.add_toNat, hmul, hmdl, Nat.mod_eq_of_lt (by omega)]

/-- Non-vacuity: rows 1..3 of a 3×4 tensor on machine integers. -/
example : M.blockRange [(3, 4), (4, 1)] 0 1 2 = (4, 12) := by decide +kernel

end RtenVerif.TensorBounds
