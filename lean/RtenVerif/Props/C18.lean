import RtenVerif.Lemmas.SimdLoop
import RtenVerif.Lemmas.SimdFold
import RtenVerif.Lemmas.SimdEmu

/-!
# C18 — SIMD instruction sets agree and stay within slice bounds

Property theorems over `RtenVerif.Model.SimdLoop`.

* **T1 (loops, proved for every length `n`, vector width `v > 0`, unroll factor `u > 0`)**:
  `simd_map`, `simd_apply<u>`, `Iter`+`tail`/`fold_unroll<u>` visit the chunks
  `[0,v), [v,2v), …` followed by at most one masked tail whose mask bit `i` is set iff
  `i < n mod v`; every index `< n` is accessed exactly once and no index `≥ n` is accessed.
  `SliceWriter` initialises exactly the prefix `[0, n_init)`, once each, `n_init ≤ len`.
  The emulated masked load/store loops (AVX2 8/16-bit lanes, generic ISA) access exactly the lanes
  whose mask is set (T1k–m); in `fold`/`fold_unroll` each lane accumulates exactly its own elements
  and the padding of the tail vector never reaches an accumulator (T1h–j).
* **T2 (lane semantics)**: the scalar reference used by the correspondence harness obeys the
  expected laws (wrapping = `BitVec` arithmetic, saturation bounds, widening tricks used by
  the AVX2/AVX-512 8-bit paths, unsigned compare via sign flip).

What is *not* proved here (and cannot be with a Lean model of the loops): that each ISA's
intrinsics implement the lane semantics — that part of C18 is decided by running the real
code under generic / AVX2 / AVX-512 (exhaustive for 8-bit operand pairs, sampled beyond),
see `harness/gemm/src/bin/c18.rs`.
-/
namespace RtenVerif.SimdLoop

/-- **C18.T1a** Chunk structure of `simd_map`: `n / v` full vectors at offsets `0, v, 2v, …`
then the masked tail for the remaining `n % v` elements (absent when `n % v = 0`). -/
theorem c18_map_chunks (v n : Nat) (hv : 0 < v) :
    simdMap v n = fullRun v 0 (n / v) ++ tailChunk v ((n / v) * v) (n % v) :=
  simdMap_eq v n (n / v) (n % v) (Nat.mod_lt n hv) (Nat.div_add_mod' n v)

/-- **C18.T1b** `simd_map` touches exactly the indices `0 … n-1`, in order, each once — for
loads from the source and stores to the destination alike. -/
theorem c18_map_touched (v n : Nat) (hv : 0 < v) : touched (simdMap v n) = List.range n := by
  have h := touched_fullRun_tail v 0 (n / v) (n % v) (Nat.le_of_lt (Nat.mod_lt n hv))
  rw [Nat.zero_add, Nat.div_add_mod'] at h
  rw [c18_map_chunks v n hv, h, List.range_eq_range']

/-- **C18.T1c** Every in-range index is accessed exactly once … -/
theorem c18_map_each_once (v n i : Nat) (hv : 0 < v) (hi : i < n) :
    (touched (simdMap v n)).count i = 1 := by
  rw [c18_map_touched v n hv, List.count_range, if_pos hi]

/-- … and nothing at or beyond the slice length is accessed. -/
theorem c18_map_in_bounds (v n i : Nat) (hv : 0 < v) (hi : i ∈ touched (simdMap v n)) : i < n := by
  rw [c18_map_touched v n hv] at hi
  exact List.mem_range.mp hi

/-- **C18.T1d** Mask bit `i` of the tail is set iff `i < remaining` — lane-array form
(generic, AVX2) and bit-loop form (AVX-512). -/
theorem c18_mask_bits (v n i : Nat) (hi : i < v) :
    (firstNMask v n)[i]'(by simp [hi]) = decide (i < n) ∧
    (bitLoopMask n).testBit i = decide (i < n) :=
  ⟨firstNMask_get v n i hi, bitLoopMask_testBit n i⟩

/-- AVX2 has no 16-bit masked load/store: the code tests bit `2i+1` of `movemask_epi8`.
Byte `j` of a 16-bit lane mask belongs to lane `j / 2`, so that bit is lane `i`'s. -/
theorem c18_avx2_m16_bit (i : Nat) : (2 * i + 1) / 2 = i := by omega

/-- **C18.T1e** The unrolled loop `simd_apply<u>` (and `Iter::fold_unroll<u>`, which has the
same three phases) performs exactly the same sequence of accesses as `simd_map`. -/
theorem c18_apply_eq_map (v u n : Nat) (hv : 0 < v) (hu : 0 < u) :
    simdApply v u n = some (simdMap v n) := by
  have hne : ¬ (v * u = 0) := Nat.ne_of_gt (Nat.mul_pos hv hu)
  -- `n = (n / (v*u) * u + n % (v*u) / v) * v + n % (v*u) % v`: so many whole vectors, then the tail
  have hn : (n / (v * u) * u + n % (v * u) / v) * v + n % (v * u) % v = n := by
    rw [Nat.add_mul, Nat.add_assoc, Nat.div_add_mod', Nat.mul_assoc, Nat.mul_comm u v,
      Nat.div_add_mod']
  simp only [simdApply, if_neg hne]
  rw [simdMap_eq v n _ _ (Nat.mod_lt _ hv) hn, flatMap_fullRun, fullRun_append,
    Nat.zero_add, Nat.add_mul, Nat.mul_assoc, Nat.mul_comm u v]

/-- `chunks_exact_mut(0)` panics: the model reports it instead of looping. -/
theorem c18_apply_zero_panics (v n : Nat) : simdApply v 0 n = none := by simp [simdApply]

/-- Consequently the unrolled loops also touch exactly `0 … n-1`, once each. -/
theorem c18_apply_touched (v u n : Nat) (hv : 0 < v) (hu : 0 < u) :
    (simdApply v u n).map touched = some (List.range n) := by
  rw [c18_apply_eq_map v u n hv hu, Option.map_some, c18_map_touched v n hv]

/-- **C18.T1f** `Iter::next`* followed by `tail()` is the same schedule as `simd_map`. -/
theorem c18_iter_eq_map (v n : Nat) (hv : 0 < v) : simdIter v n = simdMap v n :=
  iterLoop_eq_mapLoop v n 0 n

/-- `Iter::tail()` is public and may be called in *any* iterator state (also before the full
chunks were consumed): it never touches anything outside the remaining `rem` elements. -/
theorem c18_iter_tail_safe (v off rem i : Nat) (hi : i ∈ touched (iterTail v off rem)) :
    off ≤ i ∧ i < off + rem := by
  unfold iterTail at hi
  by_cases h : rem > 0
  · simp only [h, if_true, touched_cons, masked_indices, touched_nil, List.append_nil,
      List.mem_range'_1] at hi
    omega
  · simp [h] at hi

theorem wStep_eq {s s' : WState} {op : WOp} (h : wStep s op = some s') :
    ∃ m, m ≤ s.len - s.nInit ∧
      s' = { s with nInit := s.nInit + m, writes := s.writes ++ List.range' s.nInit m } := by
  revert h
  fun_cases wStep s op <;> intro h <;> cases h
  next v hv => exact ⟨v, hv, by rw [full_indices]⟩
  next v k hv => exact ⟨v * k, hv, by rw [touched_fullRun, Nat.mul_comm]⟩
  next hv => exact ⟨1, by omega, rfl⟩

theorem wRun_inv {s0 s : WState} {ops : List WOp} (hw : s0.writes = List.range s0.nInit)
    (hl : s0.nInit ≤ s0.len) (h : wRun s0 ops = some s) :
    s.writes = List.range s.nInit ∧ s.nInit ≤ s.len ∧ s.len = s0.len := by
  induction ops generalizing s0 with
  | nil => cases h; exact ⟨hw, hl, rfl⟩
  | cons op ops ih =>
    rw [wRun] at h
    split at h
    · next s1 hs =>
      obtain ⟨m, hm, rfl⟩ := wStep_eq hs
      have hl' : s0.nInit + m ≤ s0.len := by omega
      have hw' : s0.writes ++ List.range' s0.nInit m = List.range (s0.nInit + m) := by
        rw [hw, List.range_eq_range', List.range_eq_range', ← List.range'_append_1 (s := 0),
          Nat.zero_add]
      exact ih (s0 := ⟨s0.len, s0.nInit + m, _⟩) hw' hl' h
    · cases h

/-- **C18.T1g** `SliceWriter`: after any sequence of `write_vec` / `write_vecs` /
`write_scalar` calls that did not panic, the stored indices are exactly `0 … n_init-1`
(each once, in order) and `n_init ≤ len` — so `into_mut_slice` returns only initialised
elements and nothing beyond the buffer was written. -/
theorem c18_writer_exact (len : Nat) (ops : List WOp) (s : WState)
    (h : wRun ⟨len, 0, []⟩ ops = some s) :
    s.writes = List.range s.nInit ∧ s.nInit ≤ s.len ∧ s.len = len :=
  wRun_inv rfl (Nat.zero_le _) h

/-- A write that does not fit panics (it is not silently truncated). -/
theorem c18_writer_overflow_panics (len nInit v : Nat) (ws : List Nat) (h : len - nInit < v) :
    wStep ⟨len, nInit, ws⟩ (.vec v) = none := by
  simp only [wStep]
  rw [if_neg (by omega)]

example : (simdMap 4 11).map Chunk.count = [4, 4, 3] ∧ touched (simdMap 4 11) = List.range 11 := by
  decide +kernel
example : simdApply 4 2 23 = some (simdMap 4 23) ∧
    ((simdMap 4 23).map Chunk.count = [4, 4, 4, 4, 4, 3]) := by decide +kernel
example : (simdMap 8 0) = [] ∧ (simdMap 8 8).map Chunk.count = [8] := by decide +kernel
example : wRun ⟨10, 0, []⟩ [.vec 4, .scalar, .vecs 2 2] = some ⟨10, 9, List.range 9⟩ := by decide +kernel
example : wRun ⟨10, 0, []⟩ [.vec 4, .vec 4, .vec 4] = none := by decide +kernel
/-- The hypothesis `0 < v` of T1 is needed: with `v = 0` the real loop `while n >= 0` never
terminates; the fuel-bounded model stops, but not with the full coverage. -/
example : touched (simdMap 0 3) ≠ List.range 3 := by decide +kernel

/-- **C18.T1k** `_mm256_movemask_epi8` modelled bit by bit: bit `i` of the movemask of a byte
mask is byte `i`; for a 16-bit-lane mask the bit `2i+1` that avx2.rs tests is lane `i`. -/
theorem c18_movemask_bit (m : List Bool) (i : Nat) :
    (movemask8 m).testBit i = m.getD i false ∧
    (movemask8 (bytesOf16 m)).testBit (i * 2 + 1) = m.getD i false :=
  ⟨movemask8_testBit m i, by rw [movemask8_testBit, (bytesOf16_getD m i).1]⟩

/-- **C18.T1l** the scalar fallback loop (any of the three encodings) dereferences exactly the
addresses `off + i` with `m[i]` set — the same index set a hardware masked access of the chunk
`⟨off, m⟩` touches — for every mask, not only `first_n_mask`. -/
theorem c18_emulated_access_exact (k : EmuKind) (m : List Bool) (off : Nat) :
    emuAccess m.length (emuBit k m) off = (Chunk.mk off m).indices := by
  rw [show emuBit k m = _ from funext (emuBit_eq k m)]
  exact emuAccess_getD m off

/-- With the tail mask `first_n_mask(t)` the emulated access stays inside `[off, off + t)`. -/
theorem c18_emulated_tail_in_bounds (k : EmuKind) (v off t : Nat) :
    emuAccess v (emuBit k (firstNMask v t)) off = List.range' off (min t v) := by
  have h := c18_emulated_access_exact k (firstNMask v t) off
  rw [firstNMask_length] at h
  exact h.trans (maskIdx_firstN v off t)

/-- **C18.T1m** emulated masked store: memory cell `a` afterwards holds lane `a - off` of the
vector iff that lane's mask is set and `a` lies in the vector's window; every other cell —
in particular everything outside `[off, off + lanes)` — is unchanged. -/
theorem c18_emulated_store_exact {α : Type} (zero : α) (k : EmuKind) (m : List Bool) (off : Nat)
    (xs : List α) (mem : Nat → α) (a : Nat) :
    emuStore zero mem m.length (emuBit k m) off xs a =
      if off ≤ a ∧ a < off + m.length ∧ m.getD (a - off) false = true
      then xs.getD (a - off) zero else mem a := by
  rw [emuStore_spec, emuBit_eq]

/-- Emulated masked load: lane `i` is the memory cell iff the mask is set, else zero. -/
theorem c18_emulated_load_lanes {α : Type} (zero : α) (k : EmuKind) (m : List Bool) (off : Nat)
    (mem : Nat → α) (i : Nat) (hi : i < m.length) :
    (emuLoad zero mem m.length (emuBit k m) off)[i]'(by simp [emuLoad, hi]) =
      if m.getD i false = true then mem (off + i) else zero := by
  simp [emuLoad, emuBit_eq]

example : movemask8 (bytesOf16 [true, false, true]) = 0b110011 ∧
    emuAccess 3 (emuBit .avx2x16 [true, false, true]) 10 = [10, 12] := by decide +kernel

section FoldThms
variable {α β : Type}

/-- **C18.T1h** `Iter::fold` and `Iter::fold_n` (per-lane state `β` = one value resp. an
`N`-tuple): for every slice `xs`, width `v > 0`, per-lane accumulate function `f`, initial
accumulator and padding value, every lane `j < v` of the result is the scalar left fold of
exactly the elements `xs[j], xs[j+v], …` (element `i` goes to lane `i mod v`, once, in order).
The zero padding of the tail vector is never folded in: the tail step keeps the old
accumulator where the mask is off. -/
theorem c18_fold_exact (f : β → α → β) (pad : α) (v : Nat) (hv : 0 < v) (xs : List α)
    (acc : Nat → β) (j : Nat) (hj : j < v) :
    iterFold true f pad v xs acc j = sFold v f 0 xs acc j := by
  obtain ⟨c, e1, e2, e3, e4⟩ := mainLoop_spec f pad v hv xs.length xs acc (Nat.le_refl _)
  unfold iterFold
  generalize mainLoop f pad v xs.length xs acc = r at *
  -- scalar fold of the consumed chunks (= the main loop's accumulator), then of the rest,
  -- which is one masked step, as is the tail step
  rw [e1, sFold_append, e3,
    sFold_congr v f r.1 0 _ r.2 hv (fun i hi => (e4 i hi).symm) j hj,
    sFold_chunk v f pad r.1 r.2 (Nat.le_of_lt e2), foldTail_true f pad v r.1 r.2 (Nat.le_of_lt e2)]

/-- **C18.T1i** `fold_unroll<u>` / `fold_n_unroll<_, u>`, main phase: the `u` accumulators
(= `v·u` virtual lanes) receive whole `v·u`-blocks only — no padding is involved — and hold the
exact lane folds of the consumed prefix; fewer than `v·u` elements are left. -/
theorem c18_fold_unroll_main (f : β → α → β) (pad : α) (v u : Nat) (hv : 0 < v) (hu : 0 < u)
    (xs : List α) (acc : Nat → β) :
    ∃ consumed, xs = consumed ++ (mainLoop f pad (v * u) xs.length xs acc).1 ∧
      (mainLoop f pad (v * u) xs.length xs acc).1.length < v * u ∧
      ∀ l, l < v * u →
        (mainLoop f pad (v * u) xs.length xs acc).2 l = sFold (v * u) f 0 consumed acc l := by
  obtain ⟨c, e1, e2, _, e4⟩ :=
    mainLoop_spec f pad (v * u) (Nat.mul_pos hv hu) xs.length xs acc (Nat.le_refl _)
  exact ⟨c, e1, e2, e4⟩

/-- **C18.T1j** `fold_unroll`, final phase: after the caller's `fold_acc` merged the `u`
accumulators, the remaining elements go through `fold` (T1h): the result is the exact lane
fold of the remaining elements starting from the merged accumulator — again no padding lane
reaches it.  (That merging `u` partial folds equals one sequential fold is the *caller's*
obligation on `fold`/`fold_acc` — associative-commutative operation, neutral initial value —
not a property of the loop.) -/
theorem c18_fold_unroll_tail (f : β → α → β) (facc : β → β → β) (pad : α) (v u : Nat)
    (hv : 0 < v) (xs : List α) (init : Nat → β) (j : Nat) (hj : j < v) :
    foldUnroll f facc pad v u xs init j =
      sFold v f 0 (mainLoop f pad (v * u) xs.length xs (fun l => init (l % v))).1
        (fun j => (List.range (u - 1)).foldl
          (fun a i => facc a ((mainLoop f pad (v * u) xs.length xs (fun l => init (l % v))).2
            ((i + 1) * v + j)))
          ((mainLoop f pad (v * u) xs.length xs (fun l => init (l % v))).2 j)) j := by
  unfold foldUnroll
  exact c18_fold_exact f pad v hv _ _ j hj

end FoldThms

/-- The full statement is FALSE of the loop without the tail `select` (the defect class
"padding leaks into the accumulator"): minimum of `[15, 85, 25]` with 4 lanes and zero padding —
lane 3 receives `min(1000, 0) = 0`, so the horizontal minimum becomes `0` although no element is
smaller than 15. -/
theorem c18_fold_without_select_false :
    ¬ (∀ j, j < 4 → iterFold false (fun a x => min a x) 0 4 [15, 85, 25] (fun _ => 1000) j
        = sFold 4 (fun a x => min a x) 0 [15, 85, 25] (fun _ => (1000 : Nat)) j) := by
  intro h
  exact absurd (h 3 (by decide)) (by decide)

/-- Non-vacuity: with the select the lanes are `[15, 85, 25, 1000]`; two-accumulator
(min, max) fold over a full chunk plus a tail; unrolled sum. -/
example : (List.range 4).map (iterFold true (fun a x => min a x) 0 4 [15, 85, 25] (fun _ => 1000))
    = [15, 85, 25, 1000] := by decide +kernel
example : (List.range 2).map
    (iterFold true (fun (a : Nat × Nat) x => (min a.1 x, max a.2 x)) 0 2 [5, 9, 7] (fun _ => (100, 0)))
    = [(5, 7), (9, 9)] := by decide +kernel
example : (List.range 2).map
    (foldUnroll (fun a x => a + x) (fun a b => a + b) 0 2 2 [1, 2, 3, 4, 5, 6, 7] (fun _ => 0))
    = [1 + 3 + 5 + 7, 2 + 4 + 6] := by decide +kernel

/-! ## T2 — scalar lane semantics -/

/-- Signed wrap stays inside the lane's range. -/
theorem c18_wrap_in_range (k : Nat) (x : Int) :
    (⟨true, k + 1⟩ : LaneTy).inRange ((⟨true, k + 1⟩ : LaneTy).wrap x) := by
  have := wrapS_bounds k x
  simp only [LaneTy.inRange, LaneTy.wrap, LaneTy.lo, LaneTy.hi, if_true, Nat.add_sub_cancel]
  omega

/-- Signed wrapping is the identity on in-range values (so `add/sub/mul` are exact when they do
not overflow). -/
theorem c18_wrap_id (k : Nat) (x : Int) (h : (⟨true, k + 1⟩ : LaneTy).inRange x) :
    (⟨true, k + 1⟩ : LaneTy).wrap x = x := by
  simp only [LaneTy.inRange, LaneTy.lo, LaneTy.hi, if_true, Nat.add_sub_cancel] at h
  simp only [LaneTy.wrap, if_true]
  exact wrapS_of_inRange k x h.1 (by omega)

/-- The signed wrap is two's-complement `BitVec` truncation; hence lane `add`/`mul` are
`BitVec` addition / multiplication. -/
theorem c18_wrapS_eq_bitvec (k : Nat) (x : Int) :
    wrapS (k + 1) x = (BitVec.ofInt (k + 1) x).toInt := by
  rw [BitVec.toInt_ofInt, wrapS_eq_bmod]

theorem c18_add_eq_bitvec (k : Nat) (a b : Int) :
    laneAdd ⟨true, k + 1⟩ a b = (BitVec.ofInt (k + 1) a + BitVec.ofInt (k + 1) b).toInt := by
  simp only [laneAdd, LaneTy.wrap, if_true]
  rw [c18_wrapS_eq_bitvec, BitVec.ofInt_add]

theorem c18_mul_eq_bitvec (k : Nat) (a b : Int) :
    laneMul ⟨true, k + 1⟩ a b = (BitVec.ofInt (k + 1) a * BitVec.ofInt (k + 1) b).toInt := by
  simp only [laneMul, LaneTy.wrap, if_true]
  rw [c18_wrapS_eq_bitvec, BitVec.ofInt_mul]

/-- **Saturating narrowing** (`i32→i16`, `i16→u8`): the result is in the destination range; it
is the identity on values already in range (`c18_narrow_sat_id`) and monotone
(`c18_narrow_sat_mono`). -/
theorem c18_narrow_sat_bounds (d : LaneTy) (x : Int) (hd : d.lo ≤ d.hi) :
    d.lo ≤ narrowSat d x ∧ narrowSat d x ≤ d.hi := by
  rw [narrowSat_eq]
  omega

theorem c18_narrow_sat_id (d : LaneTy) (x : Int) (h : d.inRange x) : narrowSat d x = x := by
  unfold LaneTy.inRange at h
  rw [narrowSat_eq]
  omega

theorem c18_narrow_sat_mono (d : LaneTy) (x y : Int) (hd : d.lo ≤ d.hi) (h : x ≤ y) :
    narrowSat d x ≤ narrowSat d y := by
  rw [narrowSat_eq, narrowSat_eq]
  omega

/-- Concrete ranges used by rten-gemm / quantisation (C17): `i16` is `[-32768, 32767]`,
`u8` is `[0, 255]`. -/
example : i16.lo = -32768 ∧ i16.hi = 32767 ∧ u8.lo = 0 ∧ u8.hi = 255 := by decide +kernel
example : narrowSat i16 40000 = 32767 ∧ narrowSat i16 (-40000) = -32768 ∧ narrowSat u8 (-3) = 0 ∧
    narrowSat u8 300 = 255 ∧ narrowSat u8 77 = 77 := by decide +kernel

/-- `extend_low`/`extend_high` followed by `narrow_saturate` is the identity on vectors whose
lanes are in the narrow range. -/
theorem c18_extend_narrow_roundtrip (d : LaneTy) (xs : List Int) (h : ∀ x ∈ xs, d.inRange x) :
    narrowSatVec d (extendLow xs) (extendHigh xs) = xs := by
  unfold narrowSatVec extendLow extendHigh lowHalf highHalf
  rw [List.take_append_drop]
  calc xs.map (narrowSat d) = xs.map id :=
        List.map_congr_left (fun x hx => c18_narrow_sat_id d x (h x hx))
    _ = xs := List.map_id xs

/-- The AVX2/AVX-512 8-bit `mul`/`shift_left` go through 16-bit lanes and truncate: same
result as the direct 8-bit wrapping operation (signed and unsigned). -/
theorem c18_mul_via_widening (a b : Int) :
    narrowTrunc i8 (laneMul i16 a b) = laneMul i8 a b ∧
    narrowTrunc u8 (laneMul u16 a b) = laneMul u8 a b := by
  constructor
  · simp only [narrowTrunc, laneMul, LaneTy.wrap, i8, i16, if_true]
    exact wrapS_wrapS_of_le 8 16 (by decide) _
  · simp only [narrowTrunc, laneMul, LaneTy.wrap, u8, u16]
    exact wrapU_wrapU_of_le 8 16 (by decide) _

theorem c18_shl_via_widening (k : Nat) (a : Int) :
    narrowTrunc i8 (laneShl i16 k a) = laneShl i8 k a ∧
    narrowTrunc u8 (laneShl u16 k a) = laneShl u8 k a := by
  constructor
  · simp only [narrowTrunc, laneShl, LaneTy.wrap, i8, i16, if_true]
    exact wrapS_wrapS_of_le 8 16 (by decide) _
  · simp only [narrowTrunc, laneShl, LaneTy.wrap, u8, u16]
    exact wrapU_wrapU_of_le 8 16 (by decide) _

/-- AVX2 unsigned `gt` (no native instruction): flipping the sign bit of both operands and
comparing as signed decides the unsigned order. -/
theorem c18_unsigned_gt_via_sign_flip (k : Nat) (x y : Int)
    (hx : 0 ≤ x ∧ x < 2 ^ (k + 1)) (hy : 0 ≤ y ∧ y < 2 ^ (k + 1)) :
    (xorSignAsSigned (k + 1) x > xorSignAsSigned (k + 1) y) ↔ x > y := by
  have hm := two_pow_succ_int k
  -- both branches of the flip are `z - 2^k` modulo `2^(k+1)`, which is in the signed range
  have key : ∀ z : Int, 0 ≤ z → z < 2 ^ (k + 1) → xorSignAsSigned (k + 1) z = z - 2 ^ k := by
    intro z h0 h1
    have e : z + 2 ^ k = z - 2 ^ k + 2 ^ (k + 1) := by omega
    rw [xorSignAsSigned, Nat.add_sub_cancel]
    refine Eq.trans ?_ (wrapS_of_inRange k (z - 2 ^ k) (by omega) (by omega))
    split
    · exact wrapS_congr _ _ _ (by rw [e, Int.add_emod_right])
    · rfl
  rw [key x hx.1 hx.2, key y hy.1 hy.2]
  omega

/-- `min`/`max`: a bound of both operands that is one of them. -/
theorem c18_min_max_laws (a b : Int) :
    laneMin a b ≤ a ∧ laneMin a b ≤ b ∧ (laneMin a b = a ∨ laneMin a b = b) ∧
    a ≤ laneMax a b ∧ b ≤ laneMax a b ∧ (laneMax a b = a ∨ laneMax a b = b) := by
  rw [laneMin_eq_min, laneMax_eq_max]
  omega

/-- Arithmetic shift right is floor division by `2^k` (signed and unsigned lanes). -/
theorem c18_shr_floor (k : Nat) (a : Int) :
    2 ^ k * laneShr k a ≤ a ∧ a < 2 ^ k * (laneShr k a + 1) := by
  have hp : (0 : Int) < 2 ^ k := Int.pow_pos (by decide)
  unfold laneShr
  constructor
  · exact Int.mul_ediv_self_le (by omega)
  · have := Int.lt_mul_ediv_self_add (x := a) hp
    rw [Int.mul_add, Int.mul_one]
    exact this

/-- `abs` wraps at the minimum (`abs(MIN) = MIN`), as the SIMD instructions do. -/
example : laneAbs i8 (-128) = -128 ∧ laneAbs i8 (-127) = 127 ∧ laneNeg i32 (-2147483648) = -2147483648 := by
  decide +kernel
example : laneAdd i8 127 1 = -128 ∧ laneMul u8 16 16 = 0 ∧ laneShl i16 15 1 = -32768 ∧
    laneShr 1 (-3) = -2 ∧ laneSub u16 0 1 = 65535 := by decide +kernel
example : interleaveLow [1, 2, 3, 4] [5, 6, 7, 8] = [1, 5, 2, 6] ∧
    interleaveHigh [1, 2, 3, 4] [5, 6, 7, 8] = [3, 7, 4, 8] ∧
    concatLow [1, 2, 3, 4] [5, 6, 7, 8] = [1, 2, 5, 6] ∧
    narrowSatVec i16 [70000, -1] [5, -70000] = [32767, -1, 5, -32768] := by decide +kernel

end RtenVerif.SimdLoop
