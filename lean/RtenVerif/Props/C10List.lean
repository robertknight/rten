import RtenVerif.Props.C10Bcast

/-! # C10 — `Gather` with a vector index, `Concat` of any number of valued inputs, `Expand` -/
namespace RtenVerif.ShapeInfer

/-- **C10.T1-gather (vector index)**: a valued vector gathered with a constant index vector. -/
theorem c10_gather_vector_sound (σ : Env) (es : List Sym) (vs : List Int) :
    ∀ (idxs : List Int) (r : STn) (w : List Int),
    evalList σ es = some vs → gatherValues es false idxs = .ok r → cgather vs idxs = some w →
    Agrees σ r (.vector w) := by
  intro idxs r w hev hi he
  simp only [gatherValues, Bool.false_eq_true, if_false] at hi
  split at hi <;> cases hi
  rename_i out hm
  -- the symbolic element and the executed element sit at the same resolved index
  refine ⟨w, rfl, mapO_lift (ev' := some) (fun i _ e j v hg hj hv => ?_) hm (mapO_some idxs) he⟩
  cases hj
  obtain ⟨k, hk, hek⟩ := Option.bind_eq_some_iff.mp hg
  obtain ⟨v', hv', hee⟩ := evalList_getElem σ es vs k e hev hek
  rw [← evalList_length σ es vs hev, hk, Option.bind_some, hv'] at hv
  exact hv ▸ hee

/-- **C10.T1-concat (n inputs)**. -/
theorem c10_concat_sound (σ : Env) : ∀ (ts : List STn) (cs : List CT) (r : STn) (cr : CT),
    AgreesL σ ts cs → concatValues ts = some r → cconcat cs = some cr → Agrees σ r cr := by
  intro ts cs r cr hag hi he
  simp only [concatValues, Option.map_eq_some_iff] at hi
  simp only [cconcat, Option.map_eq_some_iff] at he
  obtain ⟨ess, h1, rfl⟩ := hi
  obtain ⟨vss, h2, rfl⟩ := he
  exact ⟨_, rfl, evalList_flatten_values σ hag h1 h2⟩

/-- **C10.T1-expand**: the inferred dimensions evaluate to the NumPy
broadcast of the executed data shape with the instantiated target (which is what `Expand` produces). -/
theorem c10_expand_sound (σ : Env) (data : STn) (cd : CT) (ad sizes out : List Sym) (vsz zs : List Int)
    (hd : Agrees σ data cd) (had : data.dims = some ad) (hs : evalList σ sizes = some vsz)
    (hi : expandInfer data sizes = .ok (.shape out)) (he : cbroadcast cd.dims vsz = some zs) :
    Agrees σ (.shape out) (.shaped zs) :=
  c10_binaryShape_sound σ data (.shape sizes) cd (.shaped vsz) ad sizes out zs hd hs had rfl hi he

/-- Satisfiability of the hypotheses of `c10_gather_vector_sound`, `c10_concat_sound`, `c10_bdim_sound`
and `c10_binaryShape_sound` on concrete instances. -/
example : (gatherValues [.var "n" true, .val 4, .val 7] false [-1, 0]).toOption = some (.vector [.val 7, .var "n" true]) ∧
    cgather [3, 4, 7] [-1, 0] = some [7, 3] := by decide

example : concatValues [.vector [.var "n" true], .scalar (.val 2), .vector []] = some (.vector [.var "n" true, .val 2]) ∧
    cconcat [.vector [3], .scalar 2, .vector []] = some (.vector [3, 2]) := by decide

example : (bdim (.var "a" true) (.val 5)).toOption = some (.val 5) ∧ cb 1 5 = some 5 ∧ cb 5 5 = some 5 ∧
    (binaryShape (.shape [.var "a" true, .val 1]) (.shape [.val 3])).toOption = some (.shape [.var "a" true, .val 3]) ∧
    cbroadcast [2, 1] [3] = some [2, 3] := by decide

end RtenVerif.ShapeInfer
