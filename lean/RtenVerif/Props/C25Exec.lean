import RtenVerif.Lemmas.PlanCache
import RtenVerif.Props.C02
import RtenVerif.Lemmas.ExecutorDemoOps
/-!
# C25.T2 on the models of the code's planner, plan cache and executor

`Props/C25Seq.lean` proves T2 on C25's own small executor with an abstract `planner` and the
hypothesis `CacheTransparent`.  This file proves the corresponding statement, with nothing assumed
about the cache, on the models of the code's planner, cache and executor
(`RunPurity.CacheTransparent` itself is not instantiated here: no theorem relates
`RunPurity.runWith` to `Executor.runPlan`).  The sequence of runs is replayed on

* `Planner.createPlan` (C03's model of `Planner::create_plan`, order-*sensitive*: it returns
  `[3,4]` for outputs `[1,2]` and `[4,3]` for `[2,1]` on `Executor.twoFailing`),
* `PlanCache.getCachedPlan .fixed` (C22/C26's model of `get_cached_plan` / `CachedPlan::matches`),
* `Executor.runPlan` (C02's value-carrying model of `run_plan`, with reference counts and
  in-place execution).

`cacheTransparent_exec` derives "the plan a call is handed (hit or miss)
and the plan it would get on a fresh model return `.ok vals` together" from
`getCachedPlan_ok` (C22.T1), `c03_complete` + `c03_plan_ok` (C03) and
`Executor.c02_plan_independent_iff` (C02); `c25_T2_sequence_exec` is the induction over the
sequence.  The assumptions are named one by one in `Assumptions`, none about the cache:
`opContract` (an operator run in place returns what it returns out of place) is C13's per-operator
obligation; `wf` asks of each request that no id is supplied twice and that supplied ids and operator
outputs are value/constant resp. value nodes.  Kernel determinism — `Ops.run` / `Ops.runInPlace` are
functions — is built into the model and tested.

That the constants are the same for every run of the sequence (`consts` is a parameter here) is
T1: `c25_T1_memory` / `c25_T2_consts_unchanged` on Model/RunPurity and `c02_T4_temps`,
`c02_T4_inplace_operands` on this executor model.  In the model "same request, same state ⇒ same
result" is trivial (everything is a function); the content of T2 is that the only state a run
leaves behind — the plan cache — cannot be observed in the outputs.

`exec_example_*`: a closed instance on `Executor.twoFailing` where the second request hits the
cache with a plan in the *other* order than a fresh planner run would produce.
-/
namespace RtenVerif.C25Exec
open RtenVerif.Graph RtenVerif.Planner RtenVerif.PlanCache

variable {V : Type}

/-- One `Model::run` request: inputs in argument order (`true` = passed by value), outputs. -/
structure ReqX (V : Type) where
  ins : List (Nat × Bool × V)
  outs : List Nat

def ReqX.ids (q : ReqX V) : List Nat := q.ins.map (·.1)

def findIn (ins : List (Nat × Bool × V)) (owned : Bool) (id : Nat) : Option V :=
  (ins.find? (fun e => e.1 == id && e.2.1 == owned)).map (·.2.2)

/-- The `run_plan` call of a request on a model with constants `consts`. -/
def mkRun (g : Graph) (consts : Nat → V) (q : ReqX V) : Executor.Run V :=
  { g := g, consts := consts, borrowed := findIn q.ins false, owned := findIn q.ins true }

inductive XErr where
  | plan (e : PlanError)
  | exec (e : Executor.Err)
deriving Repr, DecidableEq

instance {α : Type} [DecidableEq α] : DecidableEq (Except XErr α)
  | .ok a, .ok b => if h : a = b then isTrue (by rw [h]) else isFalse (by intro h'; cases h'; exact h rfl)
  | .error a, .error b =>
    if h : a = b then isTrue (by rw [h]) else isFalse (by intro h'; cases h'; exact h rfl)
  | .ok _, .error _ => isFalse (by intro h; cases h)
  | .error _, .ok _ => isFalse (by intro h; cases h)

def liftExec : Except Executor.Err (List V) → Except XErr (List V)
  | .ok v => .ok v
  | .error e => .error (.exec e)

theorem liftExec_ok (x : Except Executor.Err (List V)) (vals : List V) :
    liftExec x = .ok vals ↔ x = .ok vals := by
  cases x <;> simp [liftExec]

/-- `Graph::run` on the cache the earlier runs left: result and new cache. -/
def runReqX (ops : Executor.Ops V) (g : Graph) (consts : Nat → V) (cache : Option CachedPlan)
    (q : ReqX V) : Except XErr (List V) × Option CachedPlan :=
  match getCachedPlan .fixed g false cache q.ids q.outs with
  | (.error e, c') => (.error (.plan e), c')
  | (.ok plan, c') =>
    (liftExec (Executor.runPlan ops (mkRun g consts q) Executor.nocap plan q.outs).outcome, c')

def runSeqX (ops : Executor.Ops V) (g : Graph) (consts : Nat → V) :
    Option CachedPlan → List (ReqX V) → List (Except XErr (List V))
  | _, [] => []
  | c, q :: qs =>
    let res := runReqX ops g consts c q
    res.1 :: runSeqX ops g consts res.2 qs

/-- Same outputs, or both fail. -/
def OutEquiv (a b : Except XErr (List V)) : Prop := ∀ vals, a = .ok vals ↔ b = .ok vals

def SeqEquivX : List (Except XErr (List V)) → List (Except XErr (List V)) → Prop
  | [], [] => True
  | a :: as, b :: bs => OutEquiv a b ∧ SeqEquivX as bs
  | _, _ => False

/-- The named assumptions of T2 on the code's planner (none of them about the cache). -/
structure Assumptions (ops : Executor.Ops V) (g : Graph) (consts : Nat → V) (qs : List (ReqX V)) : Prop where
  /-- the model graph is a top-level graph -/
  noCaptures : g.captures = []
  /-- every value has at most one producer -/
  unique : UniqueProducer g
  /-- operator contract: in place ≡ out of place; `in_place_inputs` is a set -/
  opContract : Executor.Contract ops g
  /-- every request is well formed -/
  wf : ∀ q, q ∈ qs → Executor.WF (mkRun g consts q)

theorem isInput_of_mem (g : Graph) (consts : Nat → V) (q : ReqX V) :
    ∀ d, d ∈ q.ids → (mkRun g consts q).isInput d = true := by
  intro d hd
  obtain ⟨⟨id, b, v⟩, he, rfl⟩ := List.mem_map.mp hd
  have hsome : (findIn q.ins b id).isSome = true := by
    rw [findIn, Option.isSome_map, List.find?_isSome]
    exact ⟨_, he, by simp⟩
  cases b <;> simp [Executor.Run.isInput, mkRun, hsome]

theorem findIn_some {ins : List (Nat × Bool × V)} {owned : Bool} {id : Nat} {x : V}
    (h : findIn ins owned id = some x) : (id, owned, x) ∈ ins := by
  obtain ⟨e, he, rfl⟩ := Option.map_eq_some_iff.mp h
  have hp := List.find?_some he
  rw [Bool.and_eq_true, beq_iff_eq, beq_iff_eq] at hp
  rw [← hp.1, ← hp.2]
  exact List.mem_of_find?_eq_some he

theorem mkRun_wf (g : Graph) (consts : Nat → V) (q : ReqX V)
    (hd : ∀ id x y, (id, true, x) ∈ q.ins → (id, false, y) ∉ q.ins)
    (hk : ∀ id x, (id, true, x) ∈ q.ins → isValueOrConstant g id = true)
    (ho : ∀ i op, getOp g i = some op → ∀ o ∈ opOutputs op, Executor.isValue g o = true) :
    Executor.WF (mkRun g consts q) := by
  refine ⟨rfl, fun v hv => ?_, fun v hv => ?_, ho⟩
  · obtain ⟨x, hx⟩ := Option.ne_none_iff_exists'.mp hv
    cases hb : (mkRun g consts q).borrowed v with
    | none => rfl
    | some y => exact absurd (findIn_some hb) (hd v x y (findIn_some hx))
  · obtain ⟨x, hx⟩ := Option.ne_none_iff_exists'.mp hv
    exact hk v x (findIn_some hx)

/-- **Cache transparency for the code's planner, on C02's executor model** (the counterpart of
`RunPurity.CacheTransparent`, stated for `Executor.runPlan`).  From any cache content satisfying
the cache invariant (every content reachable by earlier runs does: `getCachedPlan_inv`), if
`get_cached_plan` hands the request a plan — its own or the cached plan of a request with the same
id sets in another order — then `create_plan` on a fresh model succeeds for this request, and
C02's `run_plan` model returns `.ok vals` with the one plan iff with the other. -/
theorem cacheTransparent_exec (ops : Executor.Ops V) (g : Graph) (consts : Nat → V) (q : ReqX V)
    (hcap : g.captures = []) (hu : UniqueProducer g) (hct : Executor.Contract ops g)
    (hwf : Executor.WF (mkRun g consts q))
    {cache : Option CachedPlan} (hinv : CacheInv g false cache) {plan : List Nat}
    (h : (getCachedPlan .fixed g false cache q.ids q.outs).1 = .ok plan) :
    ∃ p', createPlan g q.ids q.outs (cacheOpts false) = .ok p' ∧
      ∀ vals, (Executor.runPlan ops (mkRun g consts q) Executor.nocap plan q.outs).outcome = .ok vals ↔
        (Executor.runPlan ops (mkRun g consts q) Executor.nocap p' q.outs).outcome = .ok vals := by
  obtain ⟨hargs, hok⟩ := getCachedPlan_ok hinv h
  obtain ⟨p', hp', hok'⟩ := c03_complete (opts := cacheOpts false) hu hargs hok
  refine ⟨p', hp', fun vals => ?_⟩
  exact Executor.c02_plan_independent_iff (r := mkRun g consts q) hwf hcap hct hu
    (isInput_of_mem g consts q) hargs.1 hok hok' vals

theorem getCachedPlan_cold (g : Graph) (ins outs : List Nat) :
    getCachedPlan .fixed g false none ins outs =
      (match createPlan g ins outs (cacheOpts false) with
        | .ok p => (.ok p, some (CachedPlan.new ins outs p))
        | .error e => (.error e, none)) := rfl

/-- One run of a sequence agrees with the run alone on a fresh model. -/
theorem runReqX_equiv (ops : Executor.Ops V) (g : Graph) (consts : Nat → V) (q : ReqX V)
    (hcap : g.captures = []) (hu : UniqueProducer g) (hct : Executor.Contract ops g)
    (hwf : Executor.WF (mkRun g consts q))
    {cache : Option CachedPlan} (hinv : CacheInv g false cache) :
    OutEquiv (runReqX ops g consts cache q).1 (runReqX ops g consts none q).1 ∧
      CacheInv g false (runReqX ops g consts cache q).2 := by
  have hinv' := getCachedPlan_inv (g := g) (isSub := false) q.ids q.outs hinv
  cases hg : getCachedPlan .fixed g false cache q.ids q.outs with
  | mk res c' =>
    rw [hg] at hinv'
    cases res with
    | error e =>
      have he := getCachedPlan_error (v := .fixed) (cache := cache) (by rw [hg])
      simp only [runReqX, hg, getCachedPlan_cold, he]
      exact ⟨fun _ => Iff.rfl, hinv'⟩
    | ok plan =>
      obtain ⟨p', hp', hiff⟩ := cacheTransparent_exec ops g consts q hcap hu hct hwf hinv
        (plan := plan) (by rw [hg])
      simp only [runReqX, hg, getCachedPlan_cold, hp', OutEquiv, liftExec_ok]
      exact ⟨hiff, hinv'⟩

/-- **C25.T2 on the code's planner.**  For the modelled `create_plan`, `get_cached_plan` and
`run_plan`, any sequence of runs on one model — starting from any cache content earlier runs may
have left (`CacheInv`, which every run keeps: `runReqX_equiv`) — returns, run by run, what that
request returns alone on a freshly loaded model: the same outputs, or both fail.  Assumptions:
`Assumptions` (top-level graph, unique producers, operator contract, well-formed requests); nothing
else is assumed about the cache, nothing about the planner. -/
theorem c25_T2_sequence_exec (ops : Executor.Ops V) (g : Graph) (consts : Nat → V) :
    ∀ (qs : List (ReqX V)) (cache : Option CachedPlan), CacheInv g false cache →
      Assumptions ops g consts qs →
      SeqEquivX (runSeqX ops g consts cache qs) (qs.map (fun q => (runReqX ops g consts none q).1)) := by
  intro qs
  induction qs with
  | nil => intro _ _ _; exact True.intro
  | cons q qs ih =>
    intro cache hinv ha
    obtain ⟨h1, h2⟩ := runReqX_equiv ops g consts q ha.noCaptures ha.unique ha.opContract
      (ha.wf q List.mem_cons_self) hinv
    simp only [runSeqX, List.map_cons, SeqEquivX]
    exact ⟨h1, ih _ h2 ⟨ha.noCaptures, ha.unique, ha.opContract,
      fun q' hq' => ha.wf q' (List.mem_cons_of_mem _ hq')⟩⟩

/-- From a freshly loaded model. -/
theorem c25_T2_sequence_exec_fresh (ops : Executor.Ops V) (g : Graph) (consts : Nat → V)
    (qs : List (ReqX V)) (ha : Assumptions ops g consts qs) :
    SeqEquivX (runSeqX ops g consts none qs) (qs.map (fun q => (runReqX ops g consts none q).1)) :=
  c25_T2_sequence_exec ops g consts qs none True.intro ha

/-! ## The plan caches of subgraphs (`If` branches, `Loop` bodies)

`run_subgraph` fills the `cached_plan` of the branch / body graph, and that cache survives the
run as well.  `Assumptions.noCaptures` restricts `c25_T2_sequence_exec` to the top-level graph, whose
subgraph operators are abstract functions (`Ops.run`).  That this abstraction does not hide a
history dependence through the nested caches is the following: a subgraph operator always issues
the *same* `(input_ids, output_ids)` to its body graph (`If`: no inputs and the branch's
`output_ids()`; `Loop`: the body's input ids in order and its `output_ids()`), so the body's cache
only ever sees one request, and for such a cache `get_cached_plan` is literally `create_plan`
(`PlanCache.getCachedPlan_fixed_request`): every nested `run_plan` of every run executes exactly
the plan a freshly loaded model would create — not merely an equivalent one. -/

/-- The plans `get_cached_plan` hands a subgraph operator in `n` successive calls with its fixed
request, starting from cache content `c`. -/
def subPlans (g : Graph) (ins outs : List Nat) : Nat → Option CachedPlan → List (Except PlanError (List Nat))
  | 0, _ => []
  | n + 1, c =>
    (getCachedPlan .fixed g true c ins outs).1 ::
      subPlans g ins outs n (getCachedPlan .fixed g true c ins outs).2

/-- **C25.T2, nested caches.** Whatever earlier runs (of the fixed request) left in a body graph's
plan cache, every later call is handed exactly `create_plan`'s answer for a cold cache — the same
plan, or the same planning error.  Hence the nested `run_plan` calls, and with them the subgraph
operator as a function of its inputs and captured values, do not depend on the run history. -/
theorem c25_T2_subgraph_cache (g : Graph) (ins outs : List Nat) :
    ∀ (n : Nat) (cache : Option CachedPlan), FixedCache g true ins outs cache →
      subPlans g ins outs n cache = List.replicate n (createPlan g ins outs (cacheOpts true)) := by
  intro n
  induction n with
  | zero => intro _ _; rfl
  | succ n ih =>
    intro cache h
    obtain ⟨h1, h2⟩ := getCachedPlan_fixed_request h
    simp only [subPlans, List.replicate_succ]
    rw [h1, ih _ h2]

/-- The cache of a freshly loaded model is of that form. -/
theorem fixedCache_cold (g : Graph) (ins outs : List Nat) : FixedCache g true ins outs none := True.intro

/-! ## Closed example: an order-sensitive planner and a cache hit with the "other" plan -/

section Example
open RtenVerif.Executor (twoFailing)

/-- Every operator returns its own node id, in place or not (so the contract holds). -/
def okOps : Executor.Ops Nat :=
  { len := fun _ => 1, inPlaceIdx := fun _ => [], isSubgraph := fun _ => false
    run := fun i _ _ => some [i], runInPlace := fun i _ _ => some [i] }

/-- `x = 10` lent; outputs `[a, b]`, then `[b, a]` (graph `0:x 1:a 2:b 3: a = F(x) 4: b = G(x)`). -/
def exReqs : List (ReqX Nat) :=
  [{ ins := [(0, false, 10)], outs := [1, 2] }, { ins := [(0, false, 10)], outs := [2, 1] }]

/-- The code's planner is order sensitive on this graph… -/
theorem exec_example_order_sensitive :
    createPlan twoFailing [0] [1, 2] (cacheOpts false) = .ok [3, 4] ∧
    createPlan twoFailing [0] [2, 1] (cacheOpts false) = .ok [4, 3] := by decide +kernel

/-- …and the second request of the sequence is run with the first request's cached plan `[3, 4]`,
not with the plan `[4, 3]` it gets alone. -/
theorem exec_example_cache_hit :
    (getCachedPlan .fixed twoFailing false (some (CachedPlan.new [0] [1, 2] [3, 4])) [0] [2, 1]).1 =
      .ok [3, 4] := by decide +kernel

/-- All assumptions hold for the example (closed: no hypotheses). -/
theorem exec_example_assumptions : Assumptions okOps twoFailing (fun _ => 0) exReqs :=
  { noCaptures := rfl
    unique := Executor.twoFailing_unique
    opContract := ⟨fun _ => List.nodup_nil, fun _ h => absurd rfl h, by intros; rfl⟩
    wf := fun q hq => by
      simp only [exReqs, List.mem_cons, List.not_mem_nil, or_false] at hq
      rcases hq with rfl | rfl <;>
        exact mkRun_wf _ _ _ (by simp) (by simp) Executor.twoRun_wf.outsValue }

/-- The theorem applied: both runs of the sequence agree with the runs alone… -/
theorem exec_example_T2 :
    SeqEquivX (runSeqX okOps twoFailing (fun _ => 0) none exReqs)
      (exReqs.map (fun q => (runReqX okOps twoFailing (fun _ => 0) none q).1)) :=
  c25_T2_sequence_exec_fresh okOps twoFailing (fun _ => 0) exReqs exec_example_assumptions

/-- …and concretely (evaluated by the kernel). -/
theorem exec_example_values :
    runSeqX okOps twoFailing (fun _ => 0) none exReqs = [.ok [3, 4], .ok [4, 3]] ∧
    exReqs.map (fun q => (runReqX okOps twoFailing (fun _ => 0) none q).1) = [.ok [3, 4], .ok [4, 3]] := by
  decide +kernel

/-! ### A closed example with in-place operators

`0:x 1:a 2:b  3: a = F(x)  4: b = G(x)`, both operators in-place capable (`Add`-like, value
dependent: `Lemmas/ExecutorDemoOps.lean`), `x = 10` passed **by value**.  Whichever operator the
plan schedules second takes `x` in place; the plan order depends on the order of the requested
outputs, and the second request is served with the first one's cached plan. -/

def ipG : Graph :=
  { nodes := [.value, .value, .value,
      .operator { inputs := [some 0], outputs := [some 1], inPlace := true },
      .operator { inputs := [some 0], outputs := [some 2], inPlace := true }] }

def ipOps : Executor.Ops Nat := Executor.sumOps (fun i => if i = 3 ∨ i = 4 then [0] else [])

def ipReqs : List (ReqX Nat) :=
  [{ ins := [(0, true, 10)], outs := [1, 2] }, { ins := [(0, true, 10)], outs := [2, 1] }]

theorem ip_example_assumptions : Assumptions ipOps ipG (fun _ => 0) ipReqs :=
  { noCaptures := rfl
    unique := uniqueProducer_of_upCheck (by decide +kernel)
    opContract := Executor.sumOps_contract _ _ _ (fun i => by split <;> simp) (fun _ _ => rfl)
    wf := fun q hq => by
      have ho : ∀ i, i < 5 → ∀ op ∈ getOp ipG i, ∀ o ∈ opOutputs op, Executor.isValue ipG o = true := by
        decide +kernel
      simp only [ipReqs, List.mem_cons, List.not_mem_nil, or_false] at hq
      rcases hq with rfl | rfl <;>
        exact mkRun_wf _ _ _ (by simp) (by simp; rfl) (fun i op hop => ho i (getOp_lt hop) op hop) }

/-- The operator scheduled second really runs in place on the caller's value, and which one that
is depends on the plan: `[3,4]` takes `x` in place at operator 4, `[4,3]` at operator 3. -/
theorem ip_example_in_place :
    ((Executor.runPlan ipOps (mkRun ipG (fun _ => 0) { ins := [(0, true, 10)], outs := [2, 1] })
        Executor.nocap [3, 4] [2, 1]).steps.map (fun t => (t.op, t.rip))) = [(3, false), (4, true)] ∧
    ((Executor.runPlan ipOps (mkRun ipG (fun _ => 0) { ins := [(0, true, 10)], outs := [2, 1] })
        Executor.nocap [4, 3] [2, 1]).steps.map (fun t => (t.op, t.rip))) = [(4, false), (3, true)] := by
  decide +kernel

/-- `c25_T2_sequence_exec` applied (the second request hits the cache with `[3, 4]`, alone it
plans `[4, 3]`), and the values. -/
theorem ip_example_T2 :
    SeqEquivX (runSeqX ipOps ipG (fun _ => 0) none ipReqs)
      (ipReqs.map (fun q => (runReqX ipOps ipG (fun _ => 0) none q).1)) :=
  c25_T2_sequence_exec_fresh ipOps ipG (fun _ => 0) ipReqs ip_example_assumptions

theorem ip_example_values :
    createPlan ipG [0] [2, 1] (cacheOpts false) = .ok [4, 3] ∧
    runSeqX ipOps ipG (fun _ => 0) none ipReqs = [.ok [13, 14], .ok [14, 13]] ∧
    ipReqs.map (fun q => (runReqX ipOps ipG (fun _ => 0) none q).1) = [.ok [13, 14], .ok [14, 13]] := by
  decide +kernel

end Example

end RtenVerif.C25Exec

