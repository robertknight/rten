import RtenVerif.Model.PolyRect
import RtenVerif.Lemmas.ListBasics
import Mathlib.Tactic.Linarith
import Mathlib.Tactic.LinearCombination
import Mathlib.Tactic.Ring
import Mathlib.Algebra.Order.Field.Basic

/-!
# C35.T4 — `min_area_rect`: the rect built from a candidate edge contains every folded point

Exact arithmetic over an arbitrary ordered field `K` with the edge length as a parameter `n`
(`n·n = d·d`), so no square roots; model `RtenVerif.Model.PolyRect`.  `f32` rounding of the real
code is execution-only (harness oracle with tolerance + the `rect` request of the driver).
-/
namespace RtenVerif.PolyRect

variable {K : Type} [Field K] [LinearOrder K] [IsStrictOrderedRing K]

theorem kmin_le (a b : K) : kmin a b ≤ a ∧ kmin a b ≤ b := by
  unfold kmin; split
  · rename_i h; exact ⟨le_of_lt h, le_refl _⟩
  · rename_i h; exact ⟨le_refl _, not_lt.mp h⟩

theorem le_kmax (a b : K) : a ≤ kmax a b ∧ b ≤ kmax a b := by
  unfold kmax; split
  · rename_i h; exact ⟨le_of_lt h, le_refl _⟩
  · rename_i h; exact ⟨le_refl _, not_lt.mp h⟩

def Cov (s e : K × K) (n : K) (acc : K × K × K) (p : K × K) : Prop :=
  acc.1 ≤ parProj s e n p ∧ parProj s e n p ≤ acc.2.1 ∧ perpProj s e n p ≤ acc.2.2

theorem edgeFold_step_cov (s e : K × K) (n : K) (acc : K × K × K) (q p : K × K)
    (h : p = q ∨ Cov s e n acc p) :
    Cov s e n (kmin acc.1 (parProj s e n q), kmax acc.2.1 (parProj s e n q),
      kmax acc.2.2 (perpProj s e n q)) p := by
  rcases h with rfl | ⟨h1, h2, h3⟩
  · exact ⟨(kmin_le _ _).2, (le_kmax _ _).2, (le_kmax _ _).2⟩
  · exact ⟨le_trans (kmin_le _ _).1 h1, le_trans h2 (le_kmax _ _).1, le_trans h3 (le_kmax _ _).1⟩

theorem unit_axis {dx dy n : K} (hn : n * n = dx * dx + dy * dy) (hn0 : n ≠ 0) :
    dx / n * (dx / n) + dy / n * (dy / n) = 1 := by
  rw [div_mul_div_comm, div_mul_div_comm, ← add_div, ← hn, div_self (mul_ne_zero hn0 hn0)]

/-- Coordinates of `p` relative to the centre `s + M·(a, b) + H·(−b, a)` along the unit axes
`(−b, a)` and `(a, b)`: the projections of `p − s`, less `H` and `M`. -/
theorem rect_coords {a b : K} (hab : a * a + b * b = 1) (sx sy px py M H : K) :
    (px - (sx + a * M + -b * H)) * -b + (py - (sy + b * M + a * H)) * a =
      (-b * (px - sx) + a * (py - sy)) - H ∧
    (px - (sx + a * M + -b * H)) * a + (py - (sy + b * M + a * H)) * -(-b) =
      (a * (px - sx) + b * (py - sy)) - M :=
  ⟨by linear_combination (-H) * hab, by linear_combination (-M) * hab⟩

theorem mid_bounds {lo hi x : K} (h1 : lo ≤ x) (h2 : x ≤ hi) :
    -((hi - lo) / 2) ≤ x - (lo + hi) / 2 ∧ x - (lo + hi) / 2 ≤ (hi - lo) / 2 :=
  ⟨by linarith, by linarith⟩

/-- **C35.T4 (formulas)** For every candidate edge `s → e` with length `n` (`n·n = d·d`, `n ≠ 0`),
the rect the code builds — axes `d/n` and its perpendicular, `width = max_par − min_par`,
`height = max_perp`, `center = s + par·((min_par + max_par)/2) + perp·(height/2)` — contains every
point whose projections were folded, provided no folded point lies on the outer side of the edge
(`0 ≤ perp_proj`, which is what "the edge is a hull edge" means; the code does not fold a
`min_perp`).  Exact arithmetic over any ordered field; `f32` rounding is not covered. -/
theorem c35_rect_contains_all (s e : K × K) (n : K) (p0 : K × K) (ps : List (K × K))
    (hn : n * n = (e.1 - s.1) * (e.1 - s.1) + (e.2 - s.2) * (e.2 - s.2)) (hn0 : n ≠ 0)
    (hleft : ∀ p ∈ p0 :: ps, 0 ≤ perpProj s e n p) :
    ∀ p ∈ p0 :: ps, Contains (edgeRect s e n p0 ps) p := by
  intro p hp
  have hcov : Cov s e n (edgeFold s e n p0 ps) p := by
    refine foldl_covers _ (Cov s e n) (edgeFold_step_cov s e n) ps _ p ?_
    rcases List.mem_cons.mp hp with rfl | h
    · exact .inr ⟨le_refl _, le_refl _, le_refl _⟩
    · exact .inl h
  have hP := mid_bounds hcov.1 hcov.2.1
  have hQ := mid_bounds (hleft p hp) hcov.2.2
  rw [sub_zero, zero_add] at hQ
  obtain ⟨e1, e2⟩ := rect_coords (unit_axis hn hn0) s.1 s.2 p.1 p.2
    (((edgeFold s e n p0 ps).1 + (edgeFold s e n p0 ps).2.1) / 2) ((edgeFold s e n p0 ps).2.2 / 2)
  unfold Contains edgeRect
  dsimp only
  rw [e1, e2]
  exact ⟨hQ.1, hQ.2, hP.1, hP.2⟩

theorem selectRect_mem (p0 : K × K) (ps : List (K × K)) :
    ∀ (edges : List ((K × K) × (K × K) × K)) (cur : RRect K),
      selectRect p0 ps edges cur = cur ∨
      ∃ x ∈ edges, selectRect p0 ps edges cur = edgeRect x.1 x.2.1 x.2.2 p0 ps := by
  intro edges
  induction edges with
  | nil => intro cur; exact Or.inl rfl
  | cons x rest ih =>
    intro cur
    obtain ⟨s, e, n⟩ := x
    simp only [selectRect]
    split
    · rcases ih (edgeRect s e n p0 ps) with h | ⟨y, hy, h⟩
      · exact Or.inr ⟨(s, e, n), List.mem_cons_self, h⟩
      · exact Or.inr ⟨y, List.mem_cons_of_mem _ hy, h⟩
    · rcases ih cur with h | ⟨y, hy, h⟩
      · exact Or.inl h
      · exact Or.inr ⟨y, List.mem_cons_of_mem _ hy, h⟩

/-- **C35.T4 (selection)** Whatever edge the area comparison selects: if every candidate edge
carries its true length and has all hull points on its inner side, and the current (initial)
rect contains all hull points, then the rect `selectRect` returns contains all hull points. -/
theorem c35_selectRect_contains_all (p0 : K × K) (ps : List (K × K))
    (edges : List ((K × K) × (K × K) × K)) (cur : RRect K)
    (hcur : ∀ p ∈ p0 :: ps, Contains cur p)
    (hedges : ∀ x ∈ edges,
      x.2.2 * x.2.2 = (x.2.1.1 - x.1.1) * (x.2.1.1 - x.1.1) + (x.2.1.2 - x.1.2) * (x.2.1.2 - x.1.2) ∧
      x.2.2 ≠ 0 ∧ ∀ p ∈ p0 :: ps, 0 ≤ perpProj x.1 x.2.1 x.2.2 p) :
    ∀ p ∈ p0 :: ps, Contains (selectRect p0 ps edges cur) p := by
  rcases selectRect_mem p0 ps edges cur with h | ⟨x, hx, h⟩
  · rw [h]; exact hcur
  · rw [h]
    obtain ⟨h1, h2, h3⟩ := hedges x hx
    exact c35_rect_contains_all x.1 x.2.1 x.2.2 p0 ps h1 h2 h3

/-- The rect with the centre of seed C35_c: `par_axis * (width / 2)` instead of
`par_axis * ((min_par + max_par) / 2)`. -/
def edgeRectSeeded (s e : K × K) (n : K) (p0 : K × K) (ps : List (K × K)) : RRect K :=
  let r := edgeRect s e n p0 ps
  let parX := (e.1 - s.1) / n
  let parY := (e.2 - s.2) / n
  { r with cx := s.1 + parX * (r.w / 2) + (-parY) * (r.h / 2),
           cy := s.2 + parY * (r.w / 2) + parX * (r.h / 2) }

/-- Hull `(0,0) (3,4) (-7,-1)`, edge `(0,0) → (3,4)` of length 5 (obtuse angle at its start, so
`min_par = -5 < 0`).  The code's formulas contain all three points… -/
example : ∀ p ∈ [((0 : ℚ), (0 : ℚ)), (3, 4), (-7, -1)],
    Contains (edgeRect (0, 0) (3, 4) 5 ((0 : ℚ), (0 : ℚ)) [(3, 4), (-7, -1)]) p := by
  apply c35_rect_contains_all <;> decide +kernel

/-- **C35.T4 negation witness for seed C35_c** …but with the seeded centre `par·(width/2)` the
point `(-7,-1)` is outside the rect. -/
theorem c35_rect_seeded_centre_false :
    ¬ Contains (edgeRectSeeded (0, 0) (3, 4) 5 ((0 : ℚ), (0 : ℚ)) [(3, 4), (-7, -1)]) (-7, -1) := by
  unfold Contains
  decide +kernel

end RtenVerif.PolyRect
