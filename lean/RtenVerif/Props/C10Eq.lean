import RtenVerif.Props.C10Zip

/-! # C10 — `Equal` folding to 1, and `Equal` as a homomorphism on operands whose `range` is sound -/
namespace RtenVerif.ShapeInfer

/-- The comparison of two nodes of a commutative operator `g` — operands equal in order or swapped —
given the induction hypotheses for the four operand pairs. -/
theorem eval_comm_of_beq {g : Int → Int → Int} (hg : ∀ x y, g x y = g y x) {p q r s : Bool}
    {ea eb ec ed : Option Int} (h : (p && q || r && s) = true)
    (h1 : p = true → ea = ec) (h2 : q = true → eb = ed) (h3 : r = true → ea = ed) (h4 : s = true → eb = ec) :
    (do let x ← ea; let y ← eb; pure (g x y)) = (do let x ← ec; let y ← ed; pure (g x y)) := by
  simp only [Bool.or_eq_true, Bool.and_eq_true] at h
  rcases h with ⟨hp, hq⟩ | ⟨hr, hs⟩
  · rw [h1 hp, h2 hq]
  · rw [h3 hr, h4 hs]
    cases ec <;> cases ed <;> simp [hg]

/-- `PartialEq for SymExpr` (names for variables, commutative operators modulo swapping) implies
equal evaluation under every assignment.  By induction along `beq`'s own recursion, whose last case
collects every pair of different constructors. -/
theorem eval_beq (σ : Env) (a b : Sym) : a.beq b = true → a.eval σ = b.eval σ := by
  fun_induction Sym.beq a b with
  | case1 x y => intro h; cases eq_of_beq h; rfl
  | case2 x _ y _ => intro h; cases eq_of_beq h; rfl
  | case3 a b ih => intro h; simp only [Sym.eval, ih h]
  | case4 a b c d ih1 ih2 ih3 ih4 => exact fun h => eval_comm_of_beq Int.add_comm h ih1 ih2 ih3 ih4
  | case5 a b c d ih1 ih2 ih3 ih4 => exact fun h => eval_comm_of_beq Int.mul_comm h ih1 ih2 ih3 ih4
  | case6 a b c d ih1 ih2 ih3 ih4 => exact fun h => eval_comm_of_beq Int.max_comm h ih1 ih2 ih3 ih4
  | case7 a b c d ih1 ih2 ih3 ih4 => exact fun h => eval_comm_of_beq Int.min_comm h ih1 ih2 ih3 ih4
  | case8 a b c d ih1 ih2 ih3 ih4 => exact fun h => eval_comm_of_beq (g := bcastI) Sym.bcastI_comm h ih1 ih2 ih3 ih4
  | case9 a b c d ih1 ih2 => intro h; simp only [Bool.and_eq_true] at h; simp only [Sym.eval, ih1 h.1, ih2 h.2]
  | case10 a b c d ih1 ih2 => intro h; simp only [Bool.and_eq_true] at h; simp only [Sym.eval, ih1 h.1, ih2 h.2]
  | case11 a b c d ih1 ih2 => intro h; simp only [Bool.and_eq_true] at h; simp only [Sym.eval, ih1 h.1, ih2 h.2]
  | case12 t x => intro h; cases h

/-- **C10.T1-equal (1 branch)**: when `Equal` folds to the constant 1 the operands evaluate to the
same number under every assignment (no hypothesis on `range`). -/
theorem c10_equal_one_sound (σ : Env) (x y : Sym) (vx vy : Int)
    (hx : x.eval σ = some vx) (hy : y.eval σ = some vy) (hi : eqOp x y = some (.val 1)) : vx = vy := by
  rcases eqOp_eq_some hi with ⟨hb, _⟩ | ⟨_, _, h⟩
  · exact Option.some.inj (hx ▸ hy ▸ eval_beq σ x y hb)
  · exact absurd h (by decide)

/-- `Equal`'s element rule is a homomorphism for the executed comparison (1 if equal else 0) on
operands whose `range()` is sound.  (`RangeSound` is not universally true — `rangeSound_not_universal`
— so it is a predicate on the inspected operands, discharged by `rangeSound_of_good`.) -/
theorem c10_equal_homOn (σ : Env) :
    OpHomOn σ (RangeSound σ) eqOp (fun a b => some (if a = b then 1 else 0)) := by
  intro x y r vx vy w hrx hry ho hx hy hf
  cases hf
  rcases eqOp_eq_some ho with ⟨_, rfl⟩ | ⟨hne, _, rfl⟩
  · rw [if_pos (c10_equal_one_sound σ x y vx vy hx hy ho)]; rfl
  · rw [if_neg (c10_equal_zero_sound σ x y vx vy hrx hry hx hy hne ho)]; rfl

theorem c10_equal_hom_good (σ : Env) :
    OpHomOn σ (fun e => good σ e = true) eqOp (fun a b => some (if a = b then 1 else 0)) :=
  fun x y r vx vy w hx hy => c10_equal_homOn σ x y r vx vy w (rangeSound_of_good σ x hx) (rangeSound_of_good σ y hy)

end RtenVerif.ShapeInfer
