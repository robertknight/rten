import RtenVerif.Lemmas.PlannerTotal
import RtenVerif.Lemmas.PlannerSort
import RtenVerif.Lemmas.PlannerComplete

/-!
# C03 — Execution plans are valid, complete and minimal

Property theorems over `RtenVerif.Model.Planner` (model of `src/graph/planner.rs`,
`Graph::execution_plan`) and the graph IR `RtenVerif.Model.Graph`.

*For any graph and any set of distinct input and output nodes, planning either reports
an error (cycle, missing input, duplicate or non-value node) or returns an operator
sequence in which every operator appears once, runs only after all values it depends on
(including subgraph captures) are available, every requested output is produced, and
every operator is needed by some requested output.  Planning always terminates.*

All theorems hold for **every** graph of the IR: cyclic ones, operators with repeated /
omitted inputs, several outputs, captures, values with more than one producer, values
that are both supplied and produced, ids that are not in the graph.  T1, T2b, T3 and T4 are the
parts of one statement about a well-formed request, `createPlan_total`; T2c (`c03_complete`) is
the converse of T2b on unique-producer graphs.
-/
namespace RtenVerif.Planner
open RtenVerif.Graph

theorem sort_terminates {g : Graph} {ins outs : List Nat} {opts : PlanOptions} {st : St}
    (hdfs : dfsPlan g ins outs opts = .ok st) (ham : opts.allowMissing = false) :
    ∃ out, sortPlanFuel g true st.plan.length st.plan
      (resolvedNew g ins opts.capturesAvailable) = some out := by
  obtain ⟨hinv, _⟩ := dfsPlan_spec hdfs
  rw [ham] at hinv
  obtain ⟨out, h, _⟩ := sortPlan_spec hinv
  exact ⟨out, h⟩

def ArgsOK (g : Graph) (ins outs : List Nat) : Prop :=
  outs.Nodup ∧ (∀ o ∈ outs, isValueOrConstant g o = true) ∧
    ins.Nodup ∧ (∀ i ∈ ins, isValueOrConstant g i = true)

theorem firstDup_isSome_iff (xs : List Nat) : (firstDup xs).isSome = true ↔ ¬xs.Nodup := by
  rw [← firstDup_none_iff]
  cases firstDup xs <;> simp

theorem firstDup_isSome_false {xs : List Nat} (h : xs.Nodup) : (firstDup xs).isSome = false := by
  rw [(firstDup_none_iff xs).mpr h]; rfl

/-- **C03.T2a** `create_plan` rejects exactly the malformed requests with an argument
error, checked in the order outputs-unique, outputs-kind, inputs-unique, inputs-kind. -/
theorem c03_argument_check (g : Graph) (ins outs : List Nat) (opts : PlanOptions) :
    (¬outs.Nodup → createPlan g ins outs opts = .error .dupOutput) ∧
    (outs.Nodup → ¬(∀ o ∈ outs, isValueOrConstant g o = true) →
        createPlan g ins outs opts = .error .badOutput) ∧
    (outs.Nodup → (∀ o ∈ outs, isValueOrConstant g o = true) → ¬ins.Nodup →
        createPlan g ins outs opts = .error .dupInput) ∧
    (outs.Nodup → (∀ o ∈ outs, isValueOrConstant g o = true) → ins.Nodup →
        ¬(∀ i ∈ ins, isValueOrConstant g i = true) →
        createPlan g ins outs opts = .error .badInput) := by
  refine ⟨?_, ?_, ?_, ?_⟩
  · intro h
    simp [createPlan, createPlanWith, (firstDup_isSome_iff outs).mpr h]
  · intro h1 h2
    simp [createPlan, createPlanWith, firstDup_isSome_false h1,
      Bool.eq_false_iff.mpr (mt List.all_eq_true.mp h2)]
  · intro h1 h2 h3
    simp [createPlan, createPlanWith, firstDup_isSome_false h1, List.all_eq_true.mpr h2,
      (firstDup_isSome_iff ins).mpr h3]
  · intro h1 h2 h3 h4
    simp [createPlan, createPlanWith, firstDup_isSome_false h1, List.all_eq_true.mpr h2,
      firstDup_isSome_false h3, Bool.eq_false_iff.mpr (mt List.all_eq_true.mp h4)]

theorem createPlan_err_of_not_argsOK {g : Graph} {ins outs : List Nat} (opts : PlanOptions)
    (h : ¬ArgsOK g ins outs) :
    ∃ e, createPlan g ins outs opts = .error e ∧
      (e = .dupOutput ∨ e = .badOutput ∨ e = .dupInput ∨ e = .badInput) := by
  obtain ⟨h1, h2, h3, h4⟩ := c03_argument_check g ins outs opts
  by_cases ho : outs.Nodup
  · by_cases hov : ∀ o ∈ outs, isValueOrConstant g o = true
    · by_cases hi : ins.Nodup
      · by_cases hiv : ∀ i ∈ ins, isValueOrConstant g i = true
        · exact absurd ⟨ho, hov, hi, hiv⟩ h
        · exact ⟨_, h4 ho hov hi hiv, .inr (.inr (.inr rfl))⟩
      · exact ⟨_, h3 ho hov hi, .inr (.inr (.inl rfl))⟩
    · exact ⟨_, h2 ho hov, .inr (.inl rfl)⟩
  · exact ⟨_, h1 ho, .inl rfl⟩

theorem mem_availAfter_perm {g : Graph} {r0 a b : List Nat} (hp : a.Perm b) :
    ∀ v, v ∈ availAfter g r0 a → v ∈ availAfter g r0 b := fun v hv =>
  mem_availAfter.mpr ((mem_availAfter.mp hv).imp_right fun ⟨i, hi, h⟩ => ⟨i, hp.subset hi, h⟩)

/-- The depth-first plan satisfies `PlanOK` (this is what `create_plan` returns with
`allow_missing_inputs`, or when the plan is empty). -/
theorem dfs_plan_ok {g : Graph} {ins outs : List Nat} {opts : PlanOptions} {st : St}
    (hd : dfsPlan g ins outs opts = .ok st) :
    PlanOK g opts.allowMissing (resolvedNew g ins opts.capturesAvailable) outs
      (st.plan.map (fun e => e.1)) := by
  obtain ⟨hinv, hav⟩ := dfsPlan_spec hd
  refine ⟨hinv.nodup, validIds_of_validFrom hinv.valid hinv.ops, ?_, ?_⟩
  · intro o ho
    have := hav o ho
    rw [hinv.res] at this
    simpa [availAfter, flatMap_outsOf_map hinv.ops] using this
  · intro i hi
    obtain ⟨e, he, rfl⟩ := List.mem_map.mp hi
    exact hinv.needed e he

/-- **What `create_plan` returns on a well-formed request**: an error with a genuine cause, or a
valid, complete and minimal plan that is a permutation of the depth-first one.  (The frontier loop
always finishes within its budget, `sortPlan_spec`, so an error is the traversal's error.) -/
theorem createPlan_total {g : Graph} {ins outs : List Nat} (opts : PlanOptions)
    (h : ArgsOK g ins outs) :
    (∀ e, createPlan g ins outs opts = .error e →
      ErrCause g opts (resolvedNew g ins opts.capturesAvailable) outs e) ∧
    ∀ plan, createPlan g ins outs opts = .ok plan →
      PlanOK g opts.allowMissing (resolvedNew g ins opts.capturesAvailable) outs plan ∧
      ∃ st, dfsPlan g ins outs opts = .ok st ∧ plan.Perm (st.plan.map (fun e => e.1)) ∧
        (opts.allowMissing = true → plan = st.plan.map (fun e => e.1)) := by
  obtain ⟨h1, h2, h3, h4⟩ := h
  simp only [createPlan, createPlanWith, firstDup_isSome_false h1, firstDup_isSome_false h3,
    List.all_eq_true.mpr h2, List.all_eq_true.mpr h4, Bool.false_eq_true, if_false, Bool.not_true,
    Option.getD_none]
  have ht := dfsPlan_total g ins outs opts
  cases hd : dfsPlan g ins outs opts with
  | error e =>
    rw [hd] at ht
    exact ⟨fun e' he => Except.error.inj he ▸ ht, fun _ he => nomatch he⟩
  | ok st =>
    have hdfs := dfs_plan_ok hd
    obtain ⟨hinv, _⟩ := dfsPlan_spec hd
    dsimp only
    split
    · exact ⟨fun _ he => (nomatch he),
        fun plan he => Except.ok.inj he ▸ ⟨hdfs, st, rfl, .refl _, fun _ => rfl⟩⟩
    · rename_i hcond
      have ham : opts.allowMissing = false :=
        Bool.eq_false_iff.mpr (fun h' => hcond (by rw [h']; rfl))
      rw [ham] at hinv hdfs ⊢
      obtain ⟨out, hout, hperm, hvalid⟩ := sortPlan_spec hinv
      rw [hout]
      refine ⟨fun _ he => (nomatch he), fun plan he => ?_⟩
      obtain rfl := Except.ok.inj he
      exact ⟨⟨hperm.nodup_iff.mpr hdfs.nodup, hvalid,
        fun o ho => (hdfs.outputs o ho).mono (mem_availAfter_perm hperm.symm),
        fun i hi => hdfs.minimal i (hperm.subset hi)⟩, st, rfl, hperm, fun h' => Bool.noConfusion h'⟩

/-- **C03.T1** Planning always terminates: the model's recursion budgets
(`g.nodes.length` nested `visit` calls, `plan.length` iterations of the frontier loop)
are never exhausted — for every graph (cyclic or not), request and option set.  Hence the
fuelled model coincides with the unbounded recursion/loop of the code, which therefore
terminates with recursion depth ≤ number of nodes and ≤ `plan.length` loop iterations. -/
theorem c03_terminates (g : Graph) (ins outs : List Nat) (opts : PlanOptions) :
    createPlan g ins outs opts ≠ .error .outOfFuel := by
  intro he
  by_cases h : ArgsOK g ins outs
  · -- no `ErrCause` speaks of `outOfFuel`
    exact nomatch (createPlan_total opts h).1 _ he
  · obtain ⟨e, he', hcls⟩ := createPlan_err_of_not_argsOK opts h
    rw [he] at he'
    rcases hcls with rfl | rfl | rfl | rfl <;> cases he'

/-- **C03.T2b** On a well-formed request every error has a genuine cause in the graph
(`ErrCause`): `cycle` — a needed operator lies on a dependency cycle through values that
were not supplied; `missingInput` — a needed operator depends on a value that is neither
available nor produced by any operator; `noSource` — the same for a requested output.
No other error is possible. -/
theorem c03_error_cause {g : Graph} {ins outs : List Nat} {opts : PlanOptions} {e : PlanError}
    (hargs : ArgsOK g ins outs) (h : createPlan g ins outs opts = .error e) :
    ErrCause g opts (resolvedNew g ins opts.capturesAvailable) outs e := by
  exact (createPlan_total opts hargs).1 e h

/-- Non-vacuity of `ArgsOK`/`ErrCause`: a two-operator cycle. -/
example : createPlan
    { nodes := [.value, .value, .operator { inputs := [some 1], outputs := [some 0] },
        .operator { inputs := [some 0], outputs := [some 1] }] } [] [0] {} = .error .cycle := by
  decide +kernel

/-- **C03.T4** The plan `create_plan` returns is a permutation of the plan found by the
depth-first traversal (identical to it with `allow_missing_inputs` or when empty). -/
theorem c03_sort_perm {g : Graph} {ins outs plan : List Nat} {opts : PlanOptions}
    (hargs : ArgsOK g ins outs) (h : createPlan g ins outs opts = .ok plan) :
    ∃ st, dfsPlan g ins outs opts = .ok st ∧ plan.Perm (st.plan.map (fun e => e.1)) ∧
      (opts.allowMissing = true → plan = st.plan.map (fun e => e.1)) := by
  exact ((createPlan_total opts hargs).2 plan h).2

/-- **C03.T3** Whenever planning succeeds on a well-formed request, the returned
sequence (a) lists every operator once, (b) runs each operator only after all of its
dependencies — inputs and subgraph captures — are available from the supplied inputs,
constants, graph captures (if `captures_available`) and outputs of earlier entries,
(c) makes every requested output available, and (d) contains only operators needed by a
requested output.  With `allow_missing_inputs`, "available" also accepts values that no
operator produces. -/
theorem c03_plan_ok {g : Graph} {ins outs plan : List Nat} {opts : PlanOptions}
    (hargs : ArgsOK g ins outs) (h : createPlan g ins outs opts = .ok plan) :
    PlanOK g opts.allowMissing (resolvedNew g ins opts.capturesAvailable) outs plan := by
  exact ((createPlan_total opts hargs).2 plan h).1

/-- **C03.T2c (`PlannerComplete`)** Converse of T2b on graphs where every value has at
most one producer: if *any* `PlanOK` plan `Q` exists for a well-formed request — i.e. the
request is satisfiable without a dependency cycle through unsupplied values and without a
needed value that nobody produces — then `create_plan` does not report an error: it returns
a plan, which is itself `PlanOK`.  Together with `c03_error_cause`: on unique-producer
graphs planning fails **iff** no valid, complete plan exists. -/
theorem c03_complete {g : Graph} {ins outs Q : List Nat} {opts : PlanOptions}
    (hu : UniqueProducer g) (hargs : ArgsOK g ins outs)
    (hQ : PlanOK g opts.allowMissing (resolvedNew g ins opts.capturesAvailable) outs Q) :
    ∃ plan, createPlan g ins outs opts = .ok plan ∧
      PlanOK g opts.allowMissing (resolvedNew g ins opts.capturesAvailable) outs plan := by
  cases h : createPlan g ins outs opts with
  | ok plan => exact ⟨plan, rfl, c03_plan_ok hargs h⟩
  | error e => exact absurd (c03_error_cause hargs h) (no_errCause_of_planOK hu hQ)

/-- On unique-producer graphs: planning fails iff no `PlanOK` plan exists. -/
theorem c03_error_iff_unsat {g : Graph} {ins outs : List Nat} {opts : PlanOptions}
    (hu : UniqueProducer g) (hargs : ArgsOK g ins outs) :
    (∃ e, createPlan g ins outs opts = .error e) ↔
      ¬∃ Q, PlanOK g opts.allowMissing (resolvedNew g ins opts.capturesAvailable) outs Q := by
  constructor
  · rintro ⟨e, he⟩ ⟨Q, hQ⟩
    obtain ⟨plan, hp, _⟩ := c03_complete (opts := opts) hu hargs hQ
    rw [he] at hp; cases hp
  · intro hno
    cases h : createPlan g ins outs opts with
    | ok plan => exact absurd ⟨plan, c03_plan_ok hargs h⟩ hno
    | error e => exact ⟨e, rfl⟩

/-- Why the hypothesis is about registered sources: with two producers of value 0
(operators 2 and 3; the later one, 3, is the registered source and depends on its own
output) the sequence `[2]` is dependency-closed and produces the requested output, yet the
traversal only follows registered sources and reports a cycle.  (`[2]` is not `PlanOK`:
`Needed` also follows registered sources, so it fails minimality.) -/
def twoProducers : Graph :=
  { nodes := [.value, .value,
      .operator { inputs := [some 1], outputs := [some 0] },
      .operator { inputs := [some 0], outputs := [some 0] }] }

theorem c03_complete_needs_uniqueProducer :
    createPlan twoProducers [1] [0] {} = .error .cycle ∧
      ValidIds twoProducers false [1] [2] ∧ 0 ∈ availAfter twoProducers [1] [2] := by
  refine ⟨by decide +kernel, ⟨⟨_, rfl, ?_⟩, trivial⟩, by decide +kernel⟩
  intro d hd
  have : d = 1 := by
    have h : opDeps twoProducers { inputs := [some 1], outputs := [some 0] } = [1] := by decide
    rw [h] at hd; simpa using hd
  subst this
  exact Or.inl (by decide)

/-- Non-vacuity of T3/T4: a diamond with an in-place-capable branch; the sort moves the
non-in-place operator 6 in front of the in-place-capable operator 5. -/
def diamond : Graph :=
  { nodes := [.value, .value, .value, .value,
      .operator { inputs := [some 0], outputs := [some 1] },
      .operator { inputs := [some 1], outputs := [some 2], inPlace := true },
      .operator { inputs := [some 1], outputs := [some 3] },
      .value,
      .operator { inputs := [some 2, some 3], outputs := [some 7] }] }

example : createPlan diamond [0] [7] {} = .ok [4, 6, 5, 8] := by decide +kernel
example : (dfsPlan diamond [0] [7] {}).toOption.map (fun st => st.plan.map (fun e => e.1)) =
    some [4, 5, 6, 8] := by decide +kernel
example : ArgsOK diamond [0] [7] := by
  refine ⟨by decide, by decide, by decide, by decide⟩

/-! `sort_plan` as it was before commit "fix: planner: never schedule an operator twice in sort_plan"
(`dedup = false`) violates T3, T4 and T1. -/

/-- Witness D: value 0 is supplied *and* produced by the planned two-output operator 4. -/
def witnessDup : Graph :=
  { nodes := [.value, .value, .value,
      .operator { inputs := [some 0], outputs := [some 1] },
      .operator { inputs := [], outputs := [some 0, some 2] }] }

/-- Before the fix, `sort_plan` scheduled operator 3 twice (reproduced on the real code:
`execution_plan` returned `[3, 4, 3]`), so "every operator appears once" / "permutation of
the depth-first plan" were false. -/
theorem c03_sort_orig_duplicates :
    createPlanWith witnessDup false (some 100) [0] [1, 2] {} = .ok [3, 4, 3] := by decide +kernel

/-- The same request with the code as it stands. -/
theorem c03_sort_fixed_witnessDup : createPlan witnessDup [0] [1, 2] {} = .ok [3, 4] := by decide +kernel

/-- Witness C: operators 3 and 4 form a cycle that the supplied value 0 cuts. -/
def witnessCyc : Graph :=
  { nodes := [.value, .value, .value,
      .operator { inputs := [some 2], outputs := [some 0, some 1] },
      .operator { inputs := [some 0], outputs := [some 2] }] }

/-- Before the fix the frontier loop re-scheduled operators 4 and 3 alternately: after 64
iterations (for a two-operator plan) it is still running.  On the real code the call never
returned and its plan vector grew without bound ("planning always terminates" was false). -/
theorem c03_sort_orig_diverges :
    createPlanWith witnessCyc false (some 64) [0] [1] {} = .error .outOfFuel := by decide +kernel

/-! The divergence is genuine, not an artefact of the budget 64: -/

def opX : OpNode := { inputs := [some 2], outputs := [some 0, some 1] }
def opR : OpNode := { inputs := [some 0], outputs := [some 2] }
def planCyc : List (Nat × OpNode) := [(4, opR), (3, opX)]

theorem cyc_loop (fuel : Nat) : ∀ (r em : List Nat),
    sortLoop witnessCyc false planCyc fuel [(4, opR)] r em = none ∧
    sortLoop witnessCyc false planCyc fuel [(3, opX)] r em = none := by
  induction fuel with
  | zero => exact fun _ _ => ⟨rfl, rfl⟩
  | succ f ih =>
    intro r em
    -- whatever `r` is, the outputs of either operator make the other one ready again
    have hX : depsResolved witnessCyc (r ++ opOutputs opR) opX = true :=
      depsResolved_iff.mpr fun d hd => rContains_of_mem (List.mem_append_right _ hd)
    have hR : depsResolved witnessCyc (r ++ opOutputs opX) opR = true :=
      depsResolved_iff.mpr fun d hd => rContains_of_mem
        (List.mem_append_right _ (List.mem_cons.mpr (Or.inl (List.mem_singleton.mp hd))))
    constructor
    · show sortLoop witnessCyc false planCyc f (pushCandidates witnessCyc false (r ++ opOutputs opR)
        (em ++ [4]) [(3, opX)] []) (r ++ opOutputs opR) (em ++ [4]) = none
      simp only [pushCandidates, List.any_nil, Bool.false_and, hX]
      exact (ih _ _).2
    · show sortLoop witnessCyc false planCyc f (pushCandidates witnessCyc false (r ++ opOutputs opX)
        (em ++ [3]) [(4, opR)] []) (r ++ opOutputs opX) (em ++ [3]) = none
      simp only [pushCandidates, List.any_nil, Bool.false_and, hR]
      exact (ih _ _).1

/-- Before the fix the frontier loop on witness C never ends: **no** budget is enough
(operators 4 and 3 re-schedule each other forever). -/
theorem c03_sort_orig_diverges_all (fuel : Nat) :
    createPlanWith witnessCyc false (some fuel) [0] [1] {} = .error .outOfFuel := by
  -- up to evaluation of the traversal, the call is the frontier loop started from `[(4, opR)]`
  show (match sortLoop witnessCyc false planCyc fuel [(4, opR)] (resolvedNew witnessCyc [0] true) [] with
    | some p => (Except.ok p : Except PlanError (List Nat))
    | none => .error .outOfFuel) = _
  rw [(cyc_loop fuel _ _).1]

/-- The same request with the code as it stands. -/
theorem c03_sort_fixed_witnessCyc : createPlan witnessCyc [0] [1] {} = .ok [4, 3] := by decide +kernel

/-- **`debug_assert!(!frontier.is_empty(), "initial frontier is empty")`
(planner.rs, `sort_plan`) never fires**: whenever `create_plan` reaches `sort_plan` (the
traversal succeeded, `allow_missing_inputs` is off and the plan is non-empty) at least one
planned operator has all its dependencies available from the start — the first entry of
the depth-first plan. -/
theorem c03_initial_frontier_nonempty {g : Graph} {ins outs : List Nat} {opts : PlanOptions}
    {st : St} (hd : dfsPlan g ins outs opts = .ok st) (ham : opts.allowMissing = false)
    (hne : st.plan ≠ []) :
    st.plan.filter
      (fun e => depsResolved g (resolvedNew g ins opts.capturesAvailable) e.2) ≠ [] := by
  obtain ⟨hinv, _⟩ := dfsPlan_spec hd
  rw [ham] at hinv
  cases hp : st.plan with
  | nil => exact absurd hp hne
  | cons e es =>
    have hv := hp ▸ hinv.valid
    exact List.ne_nil_of_mem (List.mem_filter.mpr ⟨List.mem_cons_self ..,
      depsResolved_iff.mpr fun d hd' => (hv.1 d hd').resolve_right fun h => Bool.noConfusion h.1⟩)

/-- Non-vacuity: `diamond` reaches `sort_plan` with initial frontier `[4]`. -/
example : (dfsPlan diamond [0] [7] {}).toOption.map (fun st =>
    (st.plan.filter (fun e => depsResolved diamond (resolvedNew diamond [0] true) e.2)).map
      (fun e => e.1)) = some [4] := by decide +kernel

theorem diamond_uniqueProducer : UniqueProducer diamond := uniqueProducer_of_upCheck (by decide)

theorem diamond_argsOK : ArgsOK diamond [0] [7] := ⟨by decide, by decide, by decide, by decide⟩

/-- A `PlanOK` plan for `diamond` that is *not* the one `createPlan` returns: the
depth-first order `[4,5,6,8]`. -/
theorem diamond_dfs_planOK : PlanOK diamond false [0] [7] [4, 5, 6, 8] := by
  have hd : dfsPlan diamond [0] [7] {} = .ok
      { resolved := [0, 1, 2, 3, 7],
        plan := [(4, { inputs := [some 0], outputs := [some 1] }),
          (5, { inputs := [some 1], outputs := [some 2], inPlace := true }),
          (6, { inputs := [some 1], outputs := [some 3] }),
          (8, { inputs := [some 2, some 3], outputs := [some 7] })],
        active := [] } := by decide +kernel
  exact dfs_plan_ok hd

/-- `c03_complete` instantiated: from the existence of the plan `[4,5,6,8]` it follows that
`createPlan` succeeds (it returns the different plan `[4,6,5,8]`). -/
example : ∃ plan, createPlan diamond [0] [7] {} = .ok plan ∧ PlanOK diamond false [0] [7] plan :=
  c03_complete (opts := {}) diamond_uniqueProducer diamond_argsOK diamond_dfs_planOK

/-- `c03_error_iff_unsat` instantiated in the other direction: without the input `0` the
request fails, hence **no** sequence of operators whatsoever is a `PlanOK` plan for it. -/
theorem diamond_unsat_without_input : ¬∃ Q, PlanOK diamond false [] [7] Q := by
  have hargs : ArgsOK diamond [] [7] := ⟨by decide, by decide, by decide, by decide⟩
  exact (c03_error_iff_unsat (opts := {}) diamond_uniqueProducer hargs).mp
    ⟨.missingInput, by decide +kernel⟩

/-- `.missingInput`, with the cause `c03_error_cause` extracts. -/
example : createPlan diamond [] [7] {} = .error .missingInput ∧
    ErrCause diamond {} [] [7] .missingInput :=
  ⟨by decide +kernel,
   c03_error_cause (g := diamond) (ins := []) (outs := [7]) (opts := {}) (e := .missingInput)
     ⟨by decide, by decide, by decide, by decide⟩ (by decide)⟩

/-- `.noSource`: the requested output 0 is a graph input that is not supplied. -/
example : createPlan diamond [] [0] {} = .error .noSource ∧
    ErrCause diamond {} [] [0] .noSource :=
  ⟨by decide +kernel,
   c03_error_cause (g := diamond) (ins := []) (outs := [0]) (opts := {}) (e := .noSource)
     ⟨by decide, by decide, by decide, by decide⟩ (by decide)⟩

/-- `allowMissing := true`: the same two requests succeed; the plan is the depth-first one
and the missing value counts as available (`Avail`'s second disjunct). -/
example : createPlan diamond [] [7] { allowMissing := true } = .ok [4, 5, 6, 8] := by decide +kernel
example : createPlan diamond [] [0] { allowMissing := true } = .ok [] := by decide +kernel
example : PlanOK diamond true [] [7] [4, 5, 6, 8] :=
  c03_plan_ok (g := diamond) (ins := []) (outs := [7]) (plan := [4, 5, 6, 8])
    (opts := { allowMissing := true })
    ⟨by decide, by decide, by decide, by decide⟩ (by decide)

/-- A subgraph operator (3) that captures value 1, and value 1 is also a capture of the
graph itself: available iff `capturesAvailable`. -/
def capGraph : Graph :=
  { nodes := [.value, .value, .value,
      .operator { inputs := [some 0], outputs := [some 2], captureIds := [1] }],
    captures := [1] }

example : opDeps capGraph { inputs := [some 0], outputs := [some 2], captureIds := [1] } = [0, 1] := by
  decide +kernel
example : createPlan capGraph [0] [2] {} = .ok [3] := by decide +kernel
example : createPlan capGraph [0] [2] { capturesAvailable := false } = .error .missingInput ∧
    ErrCause capGraph { capturesAvailable := false } [0] [2] .missingInput :=
  ⟨by decide +kernel,
   c03_error_cause (g := capGraph) (ins := [0]) (outs := [2])
     (opts := { capturesAvailable := false }) (e := .missingInput)
     ⟨by decide, by decide, by decide, by decide⟩ (by decide)⟩
/-- With the capture produced by another operator the producer is scheduled first. -/
example : createPlan
    { nodes := [.value, .value, .value,
        .operator { inputs := [some 0], outputs := [some 2], captureIds := [1] },
        .operator { inputs := [some 0], outputs := [some 1] }] } [0] [2] {} = .ok [4, 3] := by
  decide +kernel

end RtenVerif.Planner
