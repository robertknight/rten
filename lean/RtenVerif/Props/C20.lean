import RtenVerif.Lemmas.RtenHeader
import RtenVerif.Lemmas.ListBasics
import RtenVerif.Lemmas.F16Exact
import RtenVerif.Generated.ConverterHeader
import RtenVerif.Lemmas.F64ToF32
import RtenVerif.Generated.ConverterConsts

/-!
# C20 — A model converted to .rten behaves like the ONNX original  (PARTIAL)

The end-to-end claim (convert with `rten-convert`, load both files, compare outputs) is exercised
by the harness, which runs the real converter (its two missing third-party dependencies replaced
by shims) on thousands of generated models.  What is *proved* here is the part of the claim that
is logic shared by the two paths:

* the `.rten` V2 container written by the converter's `write_header` is exactly what
  `Header::from_buf` reads (layout equality re-checked against the converter source on every
  run, plus the round-trip theorem);
* integer constants narrowed to i32 saturate identically in both paths;
* every f16 bit pattern is converted to an f32 of exactly the same value (hence "nearest f32");
* the f64 → f32 conversion model is round-to-nearest, ties-to-even, with the IEEE overflow rule
  (second part of this file, namespace `RtenVerif.ConstNarrow`);
* bool constants become 0/1 identically, and the dtype → rule tables of the two loaders
  (regenerated from converter.py and onnx_loader.rs on every run) agree.
-/
namespace RtenVerif.RtenHeader
open RtenVerif.Generated

/-- A header whose fields fit their machine types and satisfy the bounds `from_buf` checks,
for a file of `n` bytes. -/
structure Header.WellFormed (h : Header) (n : Nat) : Prop where
  version : h.version = 2
  off_lo : headerLen ≤ h.modelOffset
  off_hi : h.modelOffset ≤ n
  len_ok : h.modelOffset + h.modelLen ≤ n
  td_lo : headerLen ≤ h.tensorDataOffset
  td_hi : h.tensorDataOffset ≤ n
  n_u64 : n < 2 ^ 64

theorem length_toBuf (h : Header) : (toBuf h).length = headerLen := by
  simp [toBuf, magic, length_leBytes, headerLen]

theorem fromBuf_of_take {buf : List Nat} {h : Header} (ht : buf.take headerLen = toBuf h)
    (wf : h.WellFormed buf.length) : fromBuf buf = .ok h := by
  obtain ⟨hv, h1, h2, h3, h4, h5, h6⟩ := wf
  obtain ⟨r0, r1, r2, r3, r4⟩ :=
    (reads_iff rfl (length_leBytes ..) (length_leBytes ..) (length_leBytes ..)).mpr
      (readN_zero_iff.mpr ⟨show 32 ≤ _ from Nat.le_trans h1 h2, ht⟩)
  have v1 : leValue (leBytes 4 h.version) = h.version := leValue_leBytes 4 _ (by omega)
  have v2 : leValue (leBytes 8 h.modelOffset) = h.modelOffset := leValue_leBytes 8 _ (by omega)
  have v3 : leValue (leBytes 8 h.modelLen) = h.modelLen := leValue_leBytes 8 _ (by omega)
  have v4 : leValue (leBytes 8 h.tensorDataOffset) = h.tensorDataOffset :=
    leValue_leBytes 8 _ (by omega)
  have hsat : ¬ satAdd64 h.modelOffset h.modelLen > buf.length := by
    unfold satAdd64 u64Max; split <;> omega
  unfold fromBuf
  simp only [r0, r1, r2, r3, r4, v2, v3, v4, hv]
  simp only [ne_eq, not_true_eq_false, if_false]
  have c1 : ¬ (h.modelOffset < headerLen ∨ h.modelOffset > buf.length) := by omega
  have c2 : ¬ (h.tensorDataOffset < headerLen ∨ h.tensorDataOffset > buf.length) := by omega
  simp only [c1, c2, hsat, if_false]
  cases h; simp_all

/-- What `Header::from_buf` accepts, for a file of bytes shorter than `u64::MAX`: exactly the
files whose first 32 bytes are the serialisation of a header whose offsets and length lie inside
the file over `Nat` (no wrap-around). -/
theorem fromBuf_ok_iff {buf : List Nat} {h : Header} (hb : ∀ b ∈ buf, b < 256)
    (hsz : buf.length < 2 ^ 64 - 1) :
    fromBuf buf = .ok h ↔ buf.take headerLen = toBuf h ∧ h.WellFormed buf.length := by
  refine ⟨?_, fun ⟨ht, wf⟩ => fromBuf_of_take ht wf⟩
  fun_cases fromBuf buf
  -- the one branch that returns `.ok`
  case case11 _ m hm hmagic vb hvb _ hver ob hob _ hoff lb hlb _ hlen tb htb _ htd =>
    rintro ⟨⟩
    show _ = toBuf ⟨leValue vb, leValue ob, leValue lb, leValue tb⟩ ∧
      Header.WellFormed ⟨leValue vb, leValue ob, leValue lb, leValue tb⟩ _
    rw [Decidable.not_not] at hmagic hver
    -- a field that was read is the serialisation of its value
    have le {x : List Nat} {p k : Nat} (hx : readN buf p k = some x) :
        leBytes k (leValue x) = x := by
      obtain ⟨_, e, l⟩ := readN_some hx
      exact l ▸ leBytes_leValue x fun b hbr =>
        hb b (List.mem_of_mem_drop (List.mem_of_mem_take (e ▸ hbr)))
    have h32 : headerLen = 32 := rfl
    have hsum : leValue ob + leValue lb ≤ buf.length := by
      unfold satAdd64 u64Max at hlen
      split at hlen <;> omega
    refine ⟨?_, hver, ?_, ?_, hsum, ?_, ?_, by omega⟩
    · rw [toBuf, le hvb, le hob, le hlb, le htb, ← hmagic]
      exact (readN_zero_iff.mp ((reads_iff (readN_some hm).2.2 (readN_some hvb).2.2
        (readN_some hob).2.2 (readN_some hlb).2.2).mp ⟨hm, hvb, hob, hlb, htb⟩)).2
    all_goals dsimp only; omega
  all_goals exact nofun

/-- **C20.T1a** `from_buf (to_buf h ++ rest) = Ok h` for every well-formed header and every
file body. -/
theorem c20_header_round_trip (h : Header) (rest : List Nat)
    (wf : h.WellFormed (headerLen + rest.length)) :
    fromBuf (toBuf h ++ rest) = .ok h :=
  fromBuf_of_take (List.take_left' (length_toBuf h))
    (by rw [List.length_append, length_toBuf]; exact wf)

/-- **C20.T1b** (also C05.T1) Everything `from_buf` accepts is in bounds over `Nat` — no
wrap-around: the model segment and the tensor-data offset lie inside the file. -/
theorem c20_header_accept_bounds (buf : List Nat) (h : Header) (hb : ∀ b ∈ buf, b < 256)
    (hsz : buf.length < 2 ^ 63)  -- a Rust slice never exceeds isize::MAX bytes
    (hok : fromBuf buf = .ok h) :
    h.version = 2 ∧ headerLen ≤ h.modelOffset ∧ h.modelOffset + h.modelLen ≤ buf.length ∧
    headerLen ≤ h.tensorDataOffset ∧ h.tensorDataOffset ≤ buf.length ∧
    buf.take headerLen = toBuf h :=
  let ⟨ht, wf⟩ := (fromBuf_ok_iff hb (by omega)).mp hok
  ⟨wf.version, wf.off_lo, wf.len_ok, wf.td_lo, wf.td_hi, ht⟩

/-- **C20.T2** The byte layout the converter's `write_header` emits (regenerated from
`converter.py` on every run) is the layout `from_buf` parses, and the version it writes is the
only one `from_buf` accepts. -/
theorem c20_converter_layout_matches : converterLayout = expectedLayout ∧ converterVersion = 2 := by
  decide

/-- The narrowing expression used by the converter for int64 constants is the one modelled
by `converterNarrow` (re-extracted on every run). -/
theorem c20_converter_narrow_expr :
    converterInt64Narrow = "data.clip(i32.min, i32.max).astype(np.int32)" := by decide

/-- **C20.T3** For every i64 value, the converter's `clip(...).astype(int32)` and the ONNX
loader's `saturating_cast_i64_to_i32` agree, and the result is the saturated value. -/
theorem c20_int64_narrowing_agrees (x : Int) (_h1 : -(2 ^ 63) ≤ x) (_h2 : x < 2 ^ 63) :
    converterNarrow x = satCastI64ToI32 x ∧ i32Min ≤ satCastI64ToI32 x ∧ satCastI64ToI32 x ≤ i32Max ∧
    (i32Min ≤ x → x ≤ i32Max → satCastI64ToI32 x = x) := by
  unfold converterNarrow satCastI64ToI32 npClip wrapI32 i32Min i32Max
  omega

/-- **C20.T4** `f16_to_f32` is exact: for every f16 bit pattern the produced f32 bit pattern
denotes the same extended real (same sign of zero, same infinity, NaN ↦ NaN).  An exact
conversion is in particular the nearest-f32 conversion that numpy's `astype(float32)` performs
in the converter path.  Proved field by field (zero, subnormal, normal, infinity, NaN) in
`Lemmas/F16Exact.lean`. -/
theorem c20_f16_to_f32_exact (i : Nat) (h : i < 65536) :
    codeF32 (f16ToF32Bits i) = codeF16 i :=
  codeF32_f16ToF32Bits i h

/-- Non-vacuity: a concrete well-formed header and body. -/
example : ({ version := 2, modelOffset := 32, modelLen := 8, tensorDataOffset := 40 } : Header).WellFormed
    (headerLen + (List.replicate 8 0).length) := by
  constructor <;> simp [headerLen]

/-- The value code is not degenerate: 0x3C00 is 1.0 (code 2^200), 0x0001 is the smallest
subnormal 2^-24, 0x7C00 is +inf, 0xFC00 is -inf, 0xFE00 is NaN, 0x8000 is -0 ≠ +0. -/
example : codeF16 0x3C00 = 2 ^ 200 ∧ codeF16 0x0001 = 2 ^ 176 ∧ codeF32 0x3F800000 = 2 ^ 200 ∧
    codeF16 0x7C00 = 2 ^ 512 ∧ codeF16 0xFC00 = 2 ^ 512 + 2 ^ 511 ∧ codeF16 0xFE00 = 2 * 2 ^ 512 ∧
    codeF16 0x8000 ≠ codeF16 0 := by decide +kernel

/-- Saturation really happens outside the i32 range (the guard `i32Min ≤ x ≤ i32Max` of the
identity clause is needed). -/
example : satCastI64ToI32 (2 ^ 40) = i32Max ∧ satCastI64ToI32 (-(2 ^ 63)) = i32Min := by decide

end RtenVerif.RtenHeader

namespace RtenVerif.ConstNarrow
open RtenVerif.Generated

/-- **C20.T5 (f64 → f32 is round-to-nearest-even).** For every finite f64 magnitude bit pattern
`b` (exponent field ≠ 2047) with result `r = f64ToF32Mag b`, values scaled by `2^1074`:
* if `r` is finite then no finite f32 `y` is closer to the exact value than `r`
  (`|x − r| ≤ |x − y|`), and whenever a *different* f32 value is exactly as close, `r`'s last
  mantissa bit is 0 (ties to even);
* `r` is infinity exactly when `x ≥ 2^128 − 2^103` (the midpoint between `f32::MAX` and
  `2^128`; IEEE 754 overflow rule for round-to-nearest);
* `r` never exceeds the bit pattern of infinity (finite inputs never produce NaN). -/
theorem c20_f64_to_f32_nearest (b y : Nat) (hb : b / 2 ^ 52 ≠ 2047) (_hy : y < f32Inf) :
    (f64ToF32Mag b < f32Inf →
      absDiff (f64MagValue b) (f32MagValue (f64ToF32Mag b)) ≤ absDiff (f64MagValue b) (f32MagValue y) ∧
      (f32MagValue (f64ToF32Mag b) ≠ f32MagValue y →
        absDiff (f64MagValue b) (f32MagValue (f64ToF32Mag b)) = absDiff (f64MagValue b) (f32MagValue y) →
        f64ToF32Mag b % 2 = 0)) ∧
    (f64ToF32Mag b = f32Inf ↔ (2 ^ 25 - 1) * 2 ^ 1177 ≤ f64MagValue b) ∧
    f64ToF32Mag b ≤ f32Inf := by
  have hdef : f64ToF32Mag b = f32OfScaled (f64Sig b) (f64Exp b) := by
    unfold f64ToF32Mag; simp [hb]
  rw [hdef, f64MagValue_eq]
  refine ⟨?_, f32OfScaled_overflow _ _, f32OfScaled_le_inf _ _⟩
  intro hfin
  obtain ⟨n, c, hv, hn, hc⟩ := f32_finite_form y
  rw [hv]
  exact f32OfScaled_nearest _ _ n c hc hn hfin

/-- **C20.T5b (specials).** Infinity maps to infinity, every NaN to a NaN, the sign bit is
copied, for every bit pattern `b` (`b < 2^64` for an actual f64). -/
theorem c20_f64_to_f32_special (b : Nat) :
    f64ToF32Bits b / 2 ^ 31 = b / 2 ^ 63 ∧
    ((b % 2 ^ 63) / 2 ^ 52 = 2047 → (b % 2 ^ 63) % 2 ^ 52 = 0 → f64ToF32Bits b % 2 ^ 31 = f32Inf) ∧
    (isNaN64 b = true → isNaN32 (f64ToF32Bits b) = true) := by
  have hmag : f64ToF32Mag (b % 2 ^ 63) < 2 ^ 31 := by
    unfold f64ToF32Mag
    split
    · split
      · unfold f32Inf; omega
      · have := Nat.mod_lt (b % 2 ^ 63 % 2 ^ 52 / 2 ^ 29) (Nat.two_pow_pos 22)
        omega
    · have := f32OfScaled_le_inf (f64Sig (b % 2 ^ 63)) (f64Exp (b % 2 ^ 63))
      unfold f32Inf at this; omega
  refine ⟨?_, ?_, ?_⟩
  · unfold f64ToF32Bits
    omega
  · intro h1 h2
    unfold f64ToF32Bits f64ToF32Mag
    rw [if_pos h1, if_pos h2]
    unfold f32Inf; omega
  · intro hn
    obtain ⟨h1, h2⟩ : b % 2 ^ 63 / 2 ^ 52 = 2047 ∧ b % 2 ^ 52 ≠ 0 := by simpa [isNaN64] using hn
    have h3 : b % 2 ^ 63 % 2 ^ 52 = b % 2 ^ 52 := Nat.mod_mod_of_dvd b (Nat.pow_dvd_pow 2 (by omega))
    have hlt := Nat.mod_lt (b % 2 ^ 52 / 2 ^ 29) (Nat.two_pow_pos 22)
    unfold isNaN32 f64ToF32Bits f64ToF32Mag
    rw [if_pos h1, h3, if_neg h2]
    simp only [decide_eq_true_eq]
    omega

/-- The scaled value used for f64 → f32 (`f32MagValue`, unit `2^-1074`) and the value code used
for f16 → f32 (`codeF32`, unit `2^-200`) denote the same number for every finite non-negative
f32 bit pattern: one notion of "value of an f32" across C20's theorems. -/
theorem c20_f32_value_scales_agree (y : Nat) (hy : y < f32Inf) : f32MagValue y = RtenVerif.RtenHeader.codeF32 y * 2 ^ 874 := by
  obtain ⟨e, m, he, hm, rfl⟩ : ∃ e m, e < 255 ∧ m < 2 ^ 23 ∧ y = (0 * 2 ^ 8 + e) * 2 ^ 23 + m :=
    ⟨y / 2 ^ 23, y % 2 ^ 23, by unfold f32Inf at hy; omega, Nat.mod_lt _ (Nat.two_pow_pos 23), by omega⟩
  rw [RtenVerif.RtenHeader.codeF32_fields 0 e m (by omega) (by omega) hm, if_neg (by omega)]
  unfold f32MagValue
  rw [show ((0 * 2 ^ 8 + e) * 2 ^ 23 + m) / 2 ^ 23 = e by omega,
    show ((0 * 2 ^ 8 + e) * 2 ^ 23 + m) % 2 ^ 23 = m by omega]
  simp only [Nat.zero_mul, Nat.zero_add]
  by_cases h0 : e = 0
  · have hp := Nat.pow_sub_mul_pow 2 (show 874 ≤ 925 by omega)
    rw [show 925 - 874 = 51 by omega] at hp
    rw [if_pos h0, if_pos h0, Nat.mul_assoc, hp]
  · rw [if_neg h0, if_neg h0, show e - 1 + 925 = e + 50 + 874 by omega, Nat.pow_add, Nat.mul_assoc]

/-- **C20.T6 (bool).** A bool constant byte / `int32_data` element becomes 0 or 1, identically in
the loader (`!= 0`) and in the converter (numpy bool view + `astype(int32)`). -/
theorem c20_bool_narrowing_agrees (x : Int) :
    numpyBoolAsInt32 x = loaderBool x ∧ (loaderBool x = 0 ∨ loaderBool x = 1) ∧ (loaderBool x = 0 ↔ x = 0) := by
  unfold numpyBoolAsInt32 loaderBool
  by_cases h : x = 0 <;> simp [h]

/-- **C20.T7 (rule tables).** The dtype → conversion-rule table extracted from the ONNX loader's
`load_constant` has exactly the eight expected arms, each with the expected rule (the translator
compares every arm, and every helper function the arms call, with its exact text; an arm it
cannot cut out or classify makes it fail before this theorem is even checked); the converter's
`constant_node_from_onnx_initializer` applies the same rule to every dtype the loader supports,
its table is fixed entry by entry as well (int16 is the only extra dtype), its frame
(`to_array`, the match, `ConstantNode(..)`, a single final wildcard `raise`) is the expected one;
nothing wraps or is unrecognised; and the loader's saturating cast is the clamp the model
`satCastI64ToI32` describes. -/
theorem c20_const_rules_agree :
    loaderConstRules = [("FLOAT", .keepF32), ("INT32", .keepI32), ("UINT8", .keepU8), ("INT8", .keepI8),
      ("INT64", .satI64), ("BOOL", .boolToI32), ("DOUBLE", .f64ToF32), ("FLOAT16", .f16ToF32)] ∧
    loaderConstRules.map (·.1) = ["FLOAT", "INT32", "UINT8", "INT8", "INT64", "BOOL", "DOUBLE", "FLOAT16"] ∧
    (∀ p ∈ loaderConstRules, p.2 ≠ .unrecognised ∧ p.2 ≠ .wrapI64 ∧ ruleOf converterConstRules p.1 = p.2) ∧
    (∀ p ∈ converterConstRules, p.2 ≠ .unrecognised ∧ p.2 ≠ .wrapI64 ∧
      (ruleOf loaderConstRules p.1 = p.2 ∨ p = ("INT16", .widenI16))) ∧
    (converterConstRules.map (·.1)).length = 9 ∧ (converterConstRules.map (·.1)).eraseDups.length = 9 ∧
    converterFrameRecognised = true ∧
    loaderHelpersRecognised = [("saturating_cast_i64_to_i32", true), ("make_constant", true),
      ("convert_constant", true), ("convert_f16_constant", true), ("elements_from_le_bytes", true)] ∧
    loaderSatCastBody = "x.clamp(i32::MIN as i64, i32::MAX as i64) as i32" := by
  decide

/-- The converter accepts one dtype more than the loader (int16, widened to i32): for such a
constant there is no reference behaviour to compare with. -/
example : ruleOf converterConstRules "INT16" = .widenI16 ∧ ruleOf loaderConstRules "INT16" = .unsupported := by
  decide

/-- Non-vacuity / sanity of the conversion model on concrete patterns: 1.0; the smallest f64
above 1.0 (rounds down); the halfway point between 1.0 and its f32 successor (tie → even = 1.0);
halfway between the next two (tie → even = upper); just below `2^128 − 2^103` → `f32::MAX`,
exactly there → infinity; `2^-150` (tie between 0 and the smallest subnormal → 0); just above →
smallest subnormal; a quiet NaN. -/
example : f64ToF32Mag 0x3FF0000000000000 = 0x3F800000 ∧ f64ToF32Mag 0x3FF0000000000001 = 0x3F800000 ∧
    f64ToF32Mag 0x3FF0000010000000 = 0x3F800000 ∧ f64ToF32Mag 0x3FF0000030000000 = 0x3F800002 ∧
    f64ToF32Mag 0x47EFFFFFEFFFFFFF = 0x7F7FFFFF ∧ f64ToF32Mag 0x47EFFFFFF0000000 = 0x7F800000 ∧
    f64ToF32Mag 0x3690000000000000 = 0 ∧ f64ToF32Mag 0x3690000000000001 = 1 ∧
    f64ToF32Mag 0x7FF8000000000000 = 0x7FC00000 := by decide +kernel

/-- The hypotheses of `c20_f64_to_f32_nearest` are met by ordinary values, and its tie clause is
not vacuous: for `x` halfway between 1.0 and the next f32, `y = 0x3F800001` is a different value
at exactly the same distance, and the result `0x3F800000` is even. -/
example : (0x3FF0000010000000 : Nat) / 2 ^ 52 ≠ 2047 ∧ (0x3F800001 : Nat) < f32Inf ∧
    absDiff (f64MagValue 0x3FF0000010000000) (f32MagValue 0x3F800000) =
      absDiff (f64MagValue 0x3FF0000010000000) (f32MagValue 0x3F800001) ∧
    f32MagValue 0x3F800000 ≠ f32MagValue 0x3F800001 := by decide +kernel

end RtenVerif.ConstNarrow
