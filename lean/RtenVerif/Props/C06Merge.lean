import RtenVerif.Props.C06Perm

/-!
# C06 — `merge_axes` and `squeezed` keep the safety invariant

On C09's model (`Layout.mergeAxes`, `Layout.squeezed`, diffed against the real code by C09's
check).  Both are sequences of the abstract view steps (`viewClosed_mergeAxes`,
`viewClosed_squeezed` in `Props/C08Views.lean`), along each of which `VSafe` is inherited
(`vsafe_viewClosed`); for a merge of `(osz, ost)` into `(isz, ist)`
the merged index `J` stands for the pair `(J / isz, J % isz)` at the same offset
(`Embeds.dim_merge`).
-/
namespace RtenVerif.TensorBounds
open RtenVerif.Overlap RtenVerif.Layout

/-- **C06.T2aa** `merge_axes` (views and owned tensors) keeps `VSafe`. -/
theorem c06_T2_mergeAxes {m : Bool} {d : List (Nat × Nat)} {n : Nat} (hs : VSafe m d n) :
    VSafe m (mergeAxes d) n :=
  viewClosed_mergeAxes (vsafe_viewClosed m n) ⟨0, 0, d⟩ hs

/-- Non-vacuity: a contiguous 2×3×4 layout merges into one dimension, a sliced one only
partly. -/
example : mergeAxes [(2, 12), (3, 4), (4, 1)] = [(24, 1)] ∧
    mergeAxes [(2, 12), (2, 4), (4, 1)] = [(2, 12), (8, 1)] := by decide +kernel

/-- **C06.T2ab** `squeezed` (drop all size-1 dimensions; C09's `Layout.squeezed`) keeps `VSafe`. -/
theorem c06_T2_squeezed {m : Bool} (v : Layout.View) {n : Nat} (hs : VSafe m v.dims n) :
    VSafe m (Layout.squeezed v).dims n :=
  viewClosed_squeezed (vsafe_viewClosed m n) v hs

end RtenVerif.TensorBounds
