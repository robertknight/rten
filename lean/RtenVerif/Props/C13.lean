/-
C13 — In-place and commuted operator execution match normal execution.

Proved here for the *modelled decision / index logic* (Model/InPlace.lean):
  T1  `can_run_binary_op_in_place a b` ⇒ `broadcast_shapes a b = a.shape` (the result fits the
      owned buffer); the in-place loop — which overwrites `a[i]` while it runs — equals the
      out-of-place positional map (each output element depends only on the same index of `a`);
      hence `run_typed_op_in_place!` (in-place branch or fallback) = `binary_op`, for every `f`.
  T2  `binop f a b = binop (flip f) b a`; for a commutative `f` the executor's "take operand 1 as the
      in-place value" run equals the normal run; every operator flagged `is_commutative` in the source
      (generated list) that has a value model is commutative over `i32` (wrapping) / truth values.
  T3  in-place layout operators (`reshape_in` for Reshape/Flatten, `insert_axis` for Unsqueeze,
      `remove_axis` for Squeeze) keep the row-major element sequence, contiguous or not.
  E   executor level (src/graph.rs): whichever operand the executor takes as the in-place value
      (E1: no swap for a non-commutative operator; E0: the in-place operand is operand 0), the
      node's result is the out-of-place result (E2).
Kernel equality of the real operators (floats, SIMD, every other in-place operator) is checked by
differential execution in harness/rten/src/bin/c13.rs — level "proof + partial".
-/
import RtenVerif.Lemmas.InPlace
import RtenVerif.Model.InPlaceExec
import RtenVerif.Lemmas.LayoutSeq
import RtenVerif.Generated.InPlaceOps
import RtenVerif.Props.C09

namespace RtenVerif.InPlace
open RtenVerif.FastBroadcast

def Tens.WF {α : Type} (t : Tens α) : Prop := t.data.length = numel t.shape

instance {α : Type} (t : Tens α) : Decidable t.WF := by unfold Tens.WF; infer_instance

/-- **T1a.** The in-place decision implies the output shape is the owned operand's shape. -/
theorem c13_can_run_in_place_shape (a b : List Nat) (h : canRunInPlace a b = true) :
    broadcastShapes a b = some a :=
  broadcastShapes_of_canRunInPlace a b h

example : canRunInPlace [2, 1, 3] [1, 3] = true ∧ broadcastShapes [2, 1, 3] [1, 3] = some [2, 1, 3] := by decide +kernel
/-- The hypothesis matters: without it the output can be larger than the owned buffer. -/
example : canRunInPlace [1, 3] [2, 1] = false ∧ broadcastShapes [1, 3] [2, 1] = some [2, 3] := by decide +kernel

/-- **T1b.** The in-place loop (read `buf[i]`, write `buf[i]`, for `i = 0, 1, …`) computes the
positional map: no element is read after it was overwritten. -/
theorem c13_in_place_loop {α β : Type} (f : α → β → α) (a : List α) (bs : List β)
    (h : a.length ≤ bs.length) :
    inPlaceLoop f (fun i => bs[i]?) 0 a.length a = some (List.zipWith f a bs) :=
  inPlaceLoop_eq_zipWith f bs a h

example : inPlaceLoop (fun x y => x * 10 + y) (fun i => [7, 8, 9][i]?) 0 3 [1, 2, 3] = some [17, 28, 39] := by decide +kernel
/-- A too short `b` is the panic case (excluded by the hypothesis of T1b). -/
example : inPlaceLoop (fun x y => x * 10 + y) (fun i => [7, 8][i]?) 0 3 [1, 2, 3] = none := by decide +kernel

/-- **T1.** Running a binary operator in place on the owned operand `a` — in-place branch or
out-of-place fallback — gives exactly the normal `binary_op` result, for every element function. -/
theorem c13_run_in_place_eq_run {α β : Type} (f : α → β → α) (a : Tens α) (b : Tens β)
    (ha : a.WF) (hb : b.WF) : runInPlace f a b = binop f a b := by
  unfold runInPlace
  split
  · rename_i hcan
    have hshape := broadcastShapes_of_canRunInPlace a.shape b.shape hcan
    have hlenB := length_bcastTo b.data b.shape a.shape hcan hb
    unfold binop binopInPlace
    rw [hshape, Option.map_some, bcastTo_self a.data a.shape ha,
      inPlaceLoop_eq_zipWith f _ a.data (by rw [hlenB, ha]; exact Nat.le_refl _), Option.map_some]
  · rfl

example : runInPlace (· + ·) (⟨[2, 2], [1, 2, 3, 4]⟩ : Tens Nat) ⟨[2], [10, 20]⟩ =
    some ⟨[2, 2], [11, 22, 13, 24]⟩ := by decide +kernel
example : (⟨[2, 2], [1, 2, 3, 4]⟩ : Tens Nat).WF ∧ (⟨[2], [10, 20]⟩ : Tens Nat).WF := by decide +kernel
/-- Fallback branch (`a` is the smaller operand). -/
example : runInPlace (· + ·) (⟨[2], [10, 20]⟩ : Tens Nat) ⟨[2, 2], [1, 2, 3, 4]⟩ =
    some ⟨[2, 2], [11, 22, 13, 24]⟩ := by decide +kernel

/-- **T2a.** Swapping the operands and flipping the element function does not change the result. -/
theorem c13_binop_swap {α β γ : Type} (f : α → β → γ) (a : Tens α) (b : Tens β) :
    binop f a b = binop (fun y x => f x y) b a := by
  unfold binop
  rw [broadcastShapes_comm a.shape b.shape]
  congr 1
  funext s
  rw [List.zipWith_comm]

theorem runInPlace_swap {α : Type} (f : α → α → α) (hf : ∀ x y, f x y = f y x) (a b : Tens α)
    (ha : a.WF) (hb : b.WF) : runInPlace f b a = binop f a b := by
  rw [c13_run_in_place_eq_run f b a hb ha, c13_binop_swap f b a]
  exact congrArg (binop · a b) (funext fun y => funext fun x => hf x y)

/-- **T2b.** For a commutative element function, the run the executor performs after choosing
either operand as the owned in-place value equals the normal run. -/
theorem c13_exec_in_place_commutative {α : Type} (f : α → α → α) (hf : ∀ x y, f x y = f y x)
    (pos : Nat) (a b : Tens α) (ha : a.WF) (hb : b.WF) :
    execInPlace f pos a b = binop f a b := by
  unfold execInPlace
  split
  · exact c13_run_in_place_eq_run f a b ha hb
  · exact runInPlace_swap f hf a b ha hb

/-- Without commutativity the swap is wrong — the reason the executor only re-orders operands of
operators flagged `is_commutative` (`Sub`: `in_place_inputs = {0}` only). -/
theorem c13_swap_needs_commutativity :
    ∃ (a b : Tens Int), a.WF ∧ b.WF ∧
      execInPlace (fun x y => x - y) 1 a b ≠ binop (fun x y => x - y) a b :=
  ⟨⟨[1], [5]⟩, ⟨[1], [3]⟩, by decide, by decide, by decide⟩

/-- **T2c.** Every operator the source flags `is_commutative` (list generated from src/ops by
translate/in_place_ops.py) and for which there is a value model (`Add`, `Mul` on wrapping `i32`;
`And`, `Or`, `Xor` on truth values; `Equal`) has a commutative element function.  (`AddSoftmax`
is flagged too; it is a float kernel — differential execution only.) -/
theorem c13_flagged_commutative_ops_commute :
    ∀ op ∈ RtenVerif.Generated.InPlaceOps.commutativeOps, ∀ f, binFn op = some f →
      ∀ x y : Int, f x y = f y x := by
  intro op hop f hf x y
  simp only [RtenVerif.Generated.InPlaceOps.commutativeOps, List.mem_cons, List.mem_nil_iff,
    or_false] at hop
  rcases hop with rfl | rfl | rfl | rfl | rfl | rfl | rfl
  -- `f` is the value model of the operator; `AddSoftmax` has none
  all_goals cases hf
  · exact congrArg wrap32 (Int.add_comm x y)
  · exact congrArg b2i (Bool.and_comm _ _)
  · exact congrArg b2i (Bool.beq_comm (a := x) (b := y))
  · exact congrArg wrap32 (Int.mul_comm x y)
  · exact congrArg b2i (Bool.or_comm _ _)
  · exact congrArg b2i bne_comm

/-- The flagged list is not empty and the value models exist (non-vacuity of T2c). -/
example : "Add" ∈ RtenVerif.Generated.InPlaceOps.commutativeOps ∧ (binFn "Add").isSome ∧
    "Mul" ∈ RtenVerif.Generated.InPlaceOps.commutativeOps ∧ (binFn "Xor").isSome := by decide +kernel
/-- `Sub` is modelled, not commutative, and not flagged. -/
example : "Sub" ∉ RtenVerif.Generated.InPlaceOps.commutativeOps ∧
    (binFn "Sub").map (fun f => decide (f 1 2 = f 2 1)) = some false := by decide +kernel

/-- Executor choice for commutative operators: the largest present input; ties go to the later one
(`max_by_key`). -/
example : inPlaceCandidates [0] true [some 4, some 12] = [1] ∧
    inPlaceCandidates [0] true [some 12, some 4] = [0] ∧
    inPlaceCandidates [0] true [some 6, some 6] = [1] ∧
    inPlaceCandidates [0] false [some 4, some 12] = [0] ∧
    inPlaceCandidates [] true [some 4, some 12] = [] := by decide +kernel

/-! ## Executor level (src/graph.rs) -/

/-- **E1.** Operands of an operator that is *not* flagged commutative are never re-ordered: the
in-place candidates are among the operator's own `in_place_inputs`. -/
theorem c13_noncommutative_never_swapped (ips : List Nat) (lens : List (Option Nat)) :
    ∀ i ∈ inPlaceCandidates ips false lens, i ∈ ips := by
  intro i hi
  unfold inPlaceCandidates at hi
  split at hi
  · cases hi
  · simp only [Bool.false_eq_true, if_false] at hi
    exact (List.mem_filter.mp hi).1

theorem execChoice_mem {ips : List Nat} {comm : Bool} {lens : List (Option Nat)}
    {inTemp takeable : List Bool} {p : Nat} (h : execChoice ips comm lens inTemp takeable = some p) :
    p ∈ inPlaceCandidates ips comm
      ((List.zip lens inTemp).map (fun q => q.1.map (fun n => if q.2 then n else 0))) := by
  unfold execChoice at h
  simp only at h
  split at h
  · exact List.mem_of_head? h
  · cases h

/-- **E2.** Whatever the executor decides for a binary operator node — run in place on operand 0,
swap and run in place on operand 1 (only possible for operators flagged commutative), or run
normally — the node's result is the out-of-place result.  Hypotheses: the operator's in-place
input is operand 0 (true of every binary operator in src/ops), and *if* it is flagged
commutative its element function is commutative (T2c). -/
theorem c13_graph_exec_eq_run {α : Type} (f : α → α → α) (ips : List Nat) (comm : Bool)
    (hips : ∀ i ∈ ips, i = 0) (hcomm : comm = true → ∀ x y, f x y = f y x)
    (a b : Tens α) (ownA ownB shared : Bool) (ha : a.WF) (hb : b.WF) :
    graphExec f ips comm a b ownA ownB shared = binop f a b := by
  unfold graphExec
  split
  · exact c13_run_in_place_eq_run f a b ha hb
  · rename_i p hne hp
    have hmem := execChoice_mem hp
    have hc : comm = true := by
      cases comm with
      | true => rfl
      | false =>
        exfalso
        have := hips p (c13_noncommutative_never_swapped ips _ p hmem)
        exact hne this
    exact runInPlace_swap f (hcomm hc) a b ha hb
  · rfl

/-- The literal `in_place_inputs` index set of an operator (generated from the source). -/
def inPlaceIdxOf (op : String) : List Nat :=
  ((RtenVerif.Generated.InPlaceOps.inPlaceIdx.find? (fun p => p.1 == op)).map (·.2)).getD []

/-- **E0 (machine-checked side condition of E2).** Every operator flagged commutative, and every
binary element-wise operator with an in-place path, declares exactly operand 0 as its in-place
input, or none at all (decided on the table extracted from src/ops by the translator). -/
theorem c13_binary_ops_in_place_operand_zero :
    ∀ op ∈ RtenVerif.Generated.InPlaceOps.commutativeOps ++ ["Sub", "Div", "Pow"],
      inPlaceIdxOf op = [0] ∨ inPlaceIdxOf op = [] := by decide +kernel

/-- Non-vacuity: the table has the entries (and E0 would fail for an operator like `Attention`). -/
example : inPlaceIdxOf "Add" = [0] ∧ inPlaceIdxOf "Sub" = [0] ∧ inPlaceIdxOf "And" = [] ∧
    inPlaceIdxOf "Attention" = [4, 5] := by decide +kernel

/-- **E2 for the operators of the source.** For every operator flagged commutative that has a value
model, with its in-place set as declared in the source, whatever the executor decides, the node's
result is the out-of-place result. -/
theorem c13_graph_exec_flagged_ops :
    ∀ op ∈ RtenVerif.Generated.InPlaceOps.commutativeOps, ∀ f, binFn op = some f →
      ∀ (a b : Tens Int) (ownA ownB shared : Bool), a.WF → b.WF →
        graphExec f (inPlaceIdxOf op) true a b ownA ownB shared = binop f a b := by
  intro op hop f hf a b ownA ownB shared ha hb
  have hips : ∀ i ∈ inPlaceIdxOf op, i = 0 := by
    rcases c13_binary_ops_in_place_operand_zero op (List.mem_append_left _ hop) with h | h <;> simp [h]
  exact c13_graph_exec_eq_run f _ true hips
    (fun _ => c13_flagged_commutative_ops_commute op hop f hf) a b ownA ownB shared ha hb

/-- The swap really happens (non-vacuity of the second branch): `Add`-like node, larger owned
second operand → in place on operand 1; a borrowed larger operand counts as length 0. -/
example : execChoice [0] true [some 2, some 6] [true, true] [true, true] = some 1 ∧
    execChoice [0] true [some 6, some 6] [true, false] [true, false] = some 0 ∧
    execChoice [0] true [some 6, some 6] [true, true] [false, false] = none ∧
    execChoice [0] false [some 2, some 6] [true, true] [true, true] = some 0 ∧
    graphExec (· + ·) [0] true (⟨[2], [1, 2]⟩ : Tens Nat) ⟨[3, 2], [10, 20, 30, 40, 50, 60]⟩ true true false
      = some ⟨[3, 2], [11, 22, 31, 42, 51, 62]⟩ := by decide +kernel

end RtenVerif.InPlace

namespace RtenVerif.Layout
open RtenVerif.Arr RtenVerif.Overlap RtenVerif.Layout.Seq

/-- **T3a.** `reshape_in` (Reshape / Flatten in place): for a contiguous owned tensor the layout
is swapped over the same buffer, otherwise the elements are first copied out in row-major order;
either way the result has the requested shape and the *same row-major element sequence*. -/
theorem c13_reshape_in_place_seq (t t' : TState) (shape : List Nat)
    (h : reshaped t shape = .ok t') :
    t'.arr.shape = shape ∧ t'.arr.data = t.arr.data := by
  -- C09: the result denotes `t.arr.reshape shape`, which keeps the element list
  have h9 := c09_reshaped t shape
  rw [h, NArr.reshape] at h9
  split at h9
  · rename_i B hB
    split at hB
    · injection hB with hB
      injection h9 with h9
      rw [← hB] at h9
      exact ⟨(congrArg NArr.shape h9 :), (congrArg NArr.data h9 :)⟩
    · cases hB
  · cases h9

/-- non-contiguous (transposed 2×3) owned input reshaped to `[6]`: elements come out in logical
row-major order. -/
example : (reshaped ⟨[0, 1, 2, 3, 4, 5], ⟨0, 6, [(2, 1), (3, 2)]⟩⟩ [6]).toOption.map (·.arr) =
    some ⟨[6], [0, 2, 4, 1, 3, 5]⟩ := by decide +kernel

/-- **T3b.** `insert_axis` (Unsqueeze in place) keeps the element sequence. -/
theorem c13_insert_axis_seq {α : Type} (v v' : View) (k : Nat) (s : Nat → α)
    (h : insertAxis v k = .ok v') : (denote v' s).data = (denote v s).data := by
  unfold insertAxis at h
  split at h
  · rename_i hk
    injection h with h; subst h
    simp only [denote_data]
    rw [rowMajor_insertIdx _ _ _ hk]
  · cases h

/-- **T3c.** `remove_axis` (Squeeze in place, one size-1 axis at a time) keeps the element sequence. -/
theorem c13_remove_axis_seq {α : Type} (v v' : View) (k : Nat) (s : Nat → α)
    (h : removeAxis v k = .ok v') : (denote v' s).data = (denote v s).data := by
  unfold removeAxis at h
  split at h
  · rename_i hk
    injection h with h; subst h
    simp only [denote_data]
    rw [rowMajor_eraseIdx _ _ hk.1 hk.2]
  · cases h

example : (insertAxis ⟨0, 6, [(3, 1), (2, 3)]⟩ 1).toOption.map (fun v => (denote v (fun i => i)).data) =
    some [0, 3, 1, 4, 2, 5] := by decide +kernel
example : (removeAxis ⟨0, 6, [(3, 1), (1, 7), (2, 3)]⟩ 1).toOption.map (fun v => (denote v (fun i => i)).data) =
    some [0, 3, 1, 4, 2, 5] := by decide +kernel

end RtenVerif.Layout
