/-
C13 T1 for view-based owned operands: `binary_op_in_place` on a non-contiguous (permuted /
strided / spare-capacity) owned tensor — fast path or general path — leaves in the owned
tensor's storage exactly the out-of-place result, as seen through the tensor's own layout.
Uses the C14 results `c14_fast_broadcast_sound` (cycles/repeats = reference broadcast) and
`bcastViewElems_eq` (broadcast strides read the reference broadcast).
-/
import RtenVerif.Props.C13
import RtenVerif.Props.C14
import RtenVerif.Model.InPlaceView
import RtenVerif.Lemmas.IterDistinct

namespace RtenVerif.Layout
open RtenVerif.Overlap RtenVerif.FastBroadcast RtenVerif.InPlace RtenVerif.Layout.Seq
open RtenVerif.Iter (rowMajor rowMajor_length)

/-- **C13 T1 (views).** Let the owned operand be any view of its storage whose offsets are pairwise
distinct (true of every owned tensor: `from_data_with_strides` refuses overlap; C08), and let
`can_run_binary_op_in_place` hold.  After `binary_op_in_place` — `apply_fast` on the two slices
or the strided element-by-element path — the owned tensor, read through its own (unchanged)
layout, holds `f` applied to its old elements and the reference broadcast of `b`'s logical
elements: the out-of-place result. -/
theorem c13_view_in_place_eq_run {α β : Type} (f : α → β → α) (a : View) (sa : Nat → α)
    (b : View) (sb : Nat → β)
    (hcan : canRunInPlace (sizes a.dims) (sizes b.dims) = true)
    (hnd : ((rowMajor a.dims).map (a.base + ·)).Nodup) :
    some (tensOf a (binaryOpInPlaceView f a sa b sb)) = binop f (tensOf a sa) (tensOf b sb) := by
  obtain ⟨hle, hc⟩ := (canBroadcastTo_iff (sizes b.dims) (sizes a.dims)).mp hcan
  have hshape := broadcastShapes_of_canRunInPlace _ _ hcan
  have hB : (bcastTo (tensOf b sb).data (sizes b.dims) (sizes a.dims)).length =
      (rowMajor a.dims).length := by
    rw [length_bcastTo _ _ _ hcan (tensOf_data_length b sb), rowMajor_length, total_eq_numel]
    rfl
  -- whichever path: the written slots are a's offsets, the written values the reference broadcast of b
  have hst : binaryOpInPlaceView f a sa b sb = writeLoop f (List.zip ((rowMajor a.dims).map (a.base + ·))
      (bcastTo (tensOf b sb).data (sizes b.dims) (sizes a.dims))) sa := by
    unfold binaryOpInPlaceView
    simp only
    split
    · rename_i ws hfast
      split at hfast
      · rename_i bd hvd
        split at hfast
        · rename_i c r hfb
          split at hfast
          · rename_i hca
            injection hfast with hfast
            rw [← hfast, ← rowMajor_of_isContiguous _ hca, viewData_eq b sb bd hvd,
              c14_fast_broadcast_sound _ _ c r _ hfb hle (tensOf_data_length b sb)]
          · cases hfast
        · cases hfast
      · cases hfast
    · rw [bcastViewElems_eq b _ sb hle hc]
  have hread := writeLoop_read f ((rowMajor a.dims).map (a.base + ·)) _ sa hnd
    (by rw [List.length_map, hB])
  rw [List.map_map, List.map_map] at hread
  unfold binop
  rw [hst, show (tensOf a sa).shape = sizes a.dims from rfl,
    show (tensOf b sb).shape = sizes b.dims from rfl, hshape, Option.map_some,
    bcastTo_self (tensOf a sa).data (sizes a.dims) (tensOf_data_length a sa)]
  exact congrArg (fun d => some (Tens.mk (sizes a.dims) d)) hread

/-- **C13 T1 (views), with the owned-tensor invariant instead of the raw hypothesis.** Owned tensors
are built through `from_data_with_strides` / `from_shape_and_strides(DisallowOverlap)`, i.e. their
layout passes `may_have_internal_overlap = false`; by C08 (`accepted_injective`, through `rowMajor_nodup`
of `Lemmas/IterDistinct`) their offsets are pairwise distinct, which is the `hnd` hypothesis above. -/
theorem c13_view_in_place_eq_run_no_overlap {α β : Type} (f : α → β → α) (a : View) (sa : Nat → α)
    (b : View) (sb : Nat → β)
    (hcan : canRunInPlace (sizes a.dims) (sizes b.dims) = true)
    (hno : mayOverlap a.dims = false) :
    some (tensOf a (binaryOpInPlaceView f a sa b sb)) = binop f (tensOf a sa) (tensOf b sb) := by
  apply c13_view_in_place_eq_run f a sa b sb hcan
  have h := RtenVerif.Iter.rowMajor_nodup a.dims hno
  unfold List.Nodup at h ⊢
  rw [List.pairwise_map]
  exact h.imp (fun hne heq => hne (Nat.add_left_cancel heq))

/-- A transposed 2×3 owned operand (offsets 0,2,4,1,3,5: distinct) plus a row vector; general
path; the storage is updated in place and reads back as the out-of-place result. -/
example :
    let a : View := ⟨0, 6, [(2, 1), (3, 2)]⟩
    let b : View := ⟨0, 3, [(3, 1)]⟩
    canRunInPlace (sizes a.dims) (sizes b.dims) = true ∧
    ((rowMajor a.dims).map (a.base + ·)).Nodup ∧
    (tensOf a (binaryOpInPlaceView (· + ·) a (fun i => i) b (fun i => 10 * (i + 1)))).data =
      [10, 22, 34, 11, 23, 35] := by decide +kernel

end RtenVerif.Layout
