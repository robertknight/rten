import RtenVerif.Lemmas.RunPurity
/-!
# C25 — Model runs are deterministic and leave model and inputs unchanged

Theorems over `RtenVerif.Model.RunPurity` (model of `Graph::run_plan`, `CaptureEnv`,
`get_cached_plan`).  Operators are abstract and adversarial: `Ops.run` may return anything,
`Ops.dirty` may leave anything in a buffer it was given mutably.

* **T1** (immutability): for every graph, plan (valid or not), request, owned/borrowed split,
  capture environment and every execution prefix, every value handed out mutably was removed
  from `temp_values` (or from the by-value map of the capture environment), `temp_values`
  only ever holds owned inputs and operator outputs, hence the storage of constants and the
  buffers lent by the caller are exactly as before the run — also when the run fails half way;
  outputs that name a constant, a borrowed input or a capture are clones.
* **T3** (by-value captures): what is moved
  into a subgraph's environment was removed from `temp_values` of the running graph or
  from the by-value map of its own environment, and by induction over the nesting every by-value
  capture at any depth was removed from the `temp_values` of an enclosing run.
* **T2** (independence of runs) and the negation witnesses for the mutant `Variant.viewsTakeable`
  (not the code) are in `Props/C25Seq.lean`; T2 on the models of the code's planner, plan cache and
  executor is in `Props/C25Exec.lean`.
-/
namespace RtenVerif.RunPurity

variable {V : Type}

/-! ## T1 -/

/-- **C25.T1 (invariant over every execution prefix).** After executing any prefix `pre` of
any plan — whether or not a step failed — every operand handed out mutably so far was
taken from `temp_values` or is the value the capture environment held by value, and every entry
of `temp_values` is an owned input of this run or the output of an operator of the graph. -/
theorem c25_T1_prefix (ops : Ops V) (r : Run V) (plan outs : List Nat) (st0 : St V)
    (h0 : initSt r plan outs = some st0) (pre suf : List Nat) (_hp : plan = pre ++ suf) :
    (∀ s, s ∈ (steps .code ops r st0 0 pre).1.recs → ∀ t, t ∈ s.takes → TakeOK r t) ∧
    (∀ e, e ∈ (steps .code ops r st0 0 pre).1.temps → EntryOK r e) :=
  let h := steps_inv ops pre st0 0 (initSt_inv h0)
  ⟨h.takes, h.temps⟩

/-- Executing the whole plan is executing a prefix and, if that did not fail, then the rest (so the
states of `c25_T1_prefix` are the states the full run goes through). -/
theorem c25_T1_prefix_reached (ops : Ops V) (r : Run V) (st0 : St V) (pre suf : List Nat)
    (hok : (steps .code ops r st0 0 pre).2 = none) :
    steps .code ops r st0 0 (pre ++ suf) =
      steps .code ops r (steps .code ops r st0 0 pre).1 (0 + pre.length) suf :=
  steps_append .code ops r pre suf st0 0 hok

/-- **C25.T1.** No constant and no borrowed input is ever handed out mutably — neither as an
in-place operand nor moved into a subgraph — for every graph, plan, request and split. -/
theorem c25_T1_no_const_no_borrowed (ops : Ops V) (r : Run V) (plan outs : List Nat) :
    ∀ t, t ∈ allTakes (runPlan .code ops r plan outs).recs →
      (∀ id, t.loc ≠ .const id) ∧ (∀ id, t.loc ≠ .borrowed id) := by
  intro t ht
  unfold allTakes at ht
  obtain ⟨s, hs, hts⟩ := List.mem_flatMap.mp ht
  have ho := (runPlan_takesOwned ops r plan outs s hs t hts).owned
  constructor <;> intro id hid <;> rw [hid] at ho <;> cases ho

/-- **C25.T1 (memory).** Whatever the operators write into the buffers they are given
mutably, the constants and the lent buffers are the same after the run as before —
successful or not. -/
theorem c25_T1_memory (ops : Ops V) (r : Run V) (plan outs : List Nat) (m : Mem V) :
    memAfter ops m (runPlan .code ops r plan outs).recs = m :=
  memAfter_owned ops _ m (fun s hs t ht => (runPlan_takesOwned ops r plan outs s hs t ht).owned)

/-- **C25.T1 (outputs).** A requested output that names a constant or a borrowed input is a
clone (`to_owned`); only values that are neither are moved out of `temp_values`. -/
theorem c25_T1_outputs (ops : Ops V) (r : Run V) (plan outs : List Nat)
    (os : List (Nat × OutSrc × V)) (h : (runPlan .code ops r plan outs).outcome = .ok os) :
    ∀ e, e ∈ os →
      (∃ l, e.2.1 = .cloned l) ∨
      (∃ org, e.2.1 = .moved org ∧ r.g.node e.1 ≠ .constant ∧ r.borrowed e.1 = none) := by
  unfold runPlan at h
  split at h
  · cases h
  · split at h
    · cases h
    · split at h
      · cases h
      · next os' hco =>
        cases h
        refine collectOutputs_forall r _ (fun _ _ _ => .inl ⟨_, rfl⟩) (fun _ org _ hl => ?_) outs _ os hco
        obtain ⟨hn, hb⟩ := constOrInput_missing hl
        exact .inr ⟨org, rfl, by rw [hn]; exact Node.noConfusion, hb⟩

/-! ## T3 -/

/-- **C25.T3.** Every value moved into the environment of a subgraph (`pos = none`) — and every
in-place operand — was removed from `temp_values` of the running graph, or is the value the
graph's own capture environment held *by value* under that id (`CaptureEnv::take_input` only
looks at the by-value map). Never a constant, a borrowed input or a by-reference capture. -/
theorem c25_T3_by_value_from_temps (ops : Ops V) (r : Run V) (plan outs : List Nat) :
    ∀ s, s ∈ (runPlan .code ops r plan outs).recs → ∀ t, t ∈ s.takes →
      (∃ id, t.loc = .temp id) ∨ (∃ id, t.loc = .capVal id ∧ r.envTake id = some t.val) :=
  runPlan_takesOwned ops r plan outs

/-- `CaptureEnv::new(parent env, graph, inputs_by_id, temp_values, by_value)` as seen from a
subgraph: capture `c` of the subgraph is takeable iff its name resolves (`res`) to a node of
the parent graph that is in the by-value map. -/
def childTake (byValue : List (Take V)) (res : Nat → Option Nat) (c : Nat) : Option V :=
  match res c with
  | none => none
  | some p => (byValue.find? (fun t => t.id == p)).map (·.val)

theorem childTake_some {byValue : List (Take V)} {res : Nat → Option Nat} {c : Nat} {v : V}
    (h : childTake byValue res c = some v) : ∃ t, t ∈ byValue ∧ t.val = v := by
  unfold childTake at h
  split at h
  · cases h
  · obtain ⟨t, hf, rfl⟩ := Option.map_eq_some_iff.mp h
    exact ⟨t, List.mem_of_find?_eq_some hf, rfl⟩

/-- Runs reachable by nesting: a top-level run has no capture environment; a run started by a
subgraph operator at a recorded step of a nested run sees that step's by-value moves. -/
inductive Nested (ops : Ops V) : Run V → Prop where
  | top (r : Run V) (h : ∀ c, r.envTake c = none) : Nested ops r
  | sub (r r' : Run V) (plan outs : List Nat) (s : StepRec V) (res : Nat → Option Nat)
      (hr : Nested ops r) (hs : s ∈ (runPlan .code ops r plan outs).recs)
      (henv : r'.envTake = childTake (s.takes.filter (fun t => t.pos.isNone)) res) : Nested ops r'

/-- **C25.T3 (nesting).** At any nesting depth, a value that can be taken from the capture
environment (and hence mutated in the subgraph) was removed from the `temp_values` of an
enclosing run — it is never a constant or a borrowed input of any enclosing graph. -/
theorem c25_T3_nested (ops : Ops V) (r : Run V) (hn : Nested ops r) :
    ∀ c v, r.envTake c = some v →
      ∃ (r0 : Run V) (plan outs : List Nat) (s : StepRec V) (t : Take V) (id : Nat),
        Nested ops r0 ∧ s ∈ (runPlan .code ops r0 plan outs).recs ∧ t ∈ s.takes ∧
        t.loc = .temp id ∧ t.val = v := by
  induction hn with
  | top r h => intro c v hv; rw [h c] at hv; cases hv
  | sub r r' plan outs s res hr hs henv ih =>
    intro c v hv
    rw [henv] at hv
    obtain ⟨t, ht, rfl⟩ := childTake_some hv
    have hmem : t ∈ s.takes := (List.mem_filter.mp ht).1
    rcases runPlan_takesOwned ops r plan outs s hs t hmem with ⟨id, hl⟩ | ⟨id, _, hl⟩
    · exact ⟨r, plan, outs, s, t, id, hr, hs, hmem, hl, rfl⟩
    · exact ih id _ hl

/-! ## Non-vacuity: a subgraph operator capturing an owned / a borrowed input -/

section Examples

/-- node 0: graph input `x`; node 1: a subgraph operator (`If`-like) whose branches capture `x`;
node 2: its output. -/
def exSubG : G :=
  { nodes := [.value,
              .op { inputs := [], outputs := [some 2], inPlace := [], commutative := false,
                    capDeps := [0], subgraph := true },
              .value],
    captures := [] }

def exSubOps : Ops Nat := { len := fun _ => 1, run := fun _ _ _ _ _ _ => some [5], dirty := fun _ _ v => v }

def exSubRun (owned : Bool) : Run Nat :=
  { g := exSubG, consts := fun _ => 0,
    borrowed := fun id => if !owned && id = 0 then some 3 else none,
    owned := if owned then [(0, 3)] else [],
    envView := fun _ => none, envTake := fun _ => none }

/-- An owned input whose only user is the subgraph operator is moved into the subgraph's
environment — out of `temp_values`. -/
example :
    (runPlan .code exSubOps (exSubRun true) [1] [2]).recs =
      [{ step := 0, op := 1, inPlace := false, takes := [{ pos := none, id := 0, loc := .temp 0, val := 3 }] }] := by
  decide +kernel

/-- The same input passed as a view is captured by reference: nothing is handed out. -/
example : (runPlan .code exSubOps (exSubRun false) [1] [2]).recs.map (·.takes.length) = [0] := by decide +kernel

/-- `Nested` is inhabited beyond `top`: the run of the branch sees `x` (its capture node 7
resolves to the parent's node 0) as a takeable capture, and `c25_T3_nested` applies to it. -/
example : ∃ r' : Run Nat, Nested exSubOps r' ∧ r'.envTake 7 = some 3 := by
  let s : StepRec Nat :=
    { step := 0, op := 1, inPlace := false, takes := [{ pos := none, id := 0, loc := .temp 0, val := 3 }] }
  refine ⟨{ g := exSubG, consts := fun _ => 0, borrowed := fun _ => none, owned := [],
            envView := fun _ => none,
            envTake := childTake (s.takes.filter (fun t => t.pos.isNone))
              (fun c => if c = 7 then some 0 else none) }, ?_, by decide⟩
  refine Nested.sub (exSubRun true) _ [1] [2] s _ (Nested.top _ (fun _ => rfl)) ?_ rfl
  have h : (runPlan .code exSubOps (exSubRun true) [1] [2]).recs = [s] := by decide +kernel
  rw [h]
  exact List.mem_cons_self

end Examples

end RtenVerif.RunPurity
