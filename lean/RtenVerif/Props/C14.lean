/-
C14 — Operator results do not depend on input memory layout.

Proved here for the modelled layout-sensitive logic:
  T1  `fast_broadcast_cycles_repeats from to = Some((c, r))` ⇒ the reference broadcast (index maps,
      Model/FastBroadcast.lean `bcast`) of `x` to `to` is "every element `r` times, the whole `c`
      times" — exactly what `apply_fast` reads — i.e. element `i` is `x[(i / r) mod |x|]`, and the
      total length is `c·r·|x|`.
  T2  the denotation (index ↦ element) of a tensor is invariant under `to_contiguous` (permuted,
      stepped, broadcast … views alike), hence every operator that is a function of its inputs'
      denotations gives the same result on any layout of the same logical tensor.
  T3  `TransformInputs(permute k by p, op).run xs = op.run (xs with xs[k] := Transpose(p).run xs[k])`
      for such operators, including the error / panic paths.
  D   the layout-handling glue itself, on its own models: the dispatch of `binary_op` /
      `unary_op`, lists of transforms and `TransformInputs` in place, the paths of `reduce`,
      `copy_blocked`, the im2col tables.
That each real kernel *is* a function of the denotation (fast paths included) is established by
differential execution in harness/rten/src/bin/c14.rs — level "proof + partial".
-/
import RtenVerif.Lemmas.FastBroadcast
import RtenVerif.Lemmas.LayoutSeq
import RtenVerif.Lemmas.InPlace
import RtenVerif.Lemmas.BinaryDispatch
import RtenVerif.Lemmas.ReduceDispatch
import RtenVerif.Lemmas.BlockedCopy
import RtenVerif.Lemmas.Im2Col
import RtenVerif.Props.C09

namespace RtenVerif.FastBroadcast

/-- **C14 T1 (list form).** Whenever `fast_broadcast_cycles_repeats(from, to)` returns
`Some((cycles, repeats))`, the reference broadcast of `x` (shape `from`) to shape `to` is exactly
what `apply_fast` reads: each element `repeats` times, the whole sequence `cycles` times. -/
theorem c14_fast_broadcast_sound {α : Type} (frm to : List Nat) (c r : Nat) (x : List α)
    (hfb : fastBroadcast frm to = .some c r) (hrank : frm.length ≤ to.length)
    (hx : x.length = numel frm) :
    bcastTo x frm to = cycleRepeat c r x := by
  have hfst := map_fst_pairsTo frm to hrank
  have hsnd := map_snd_pairsTo frm to hrank
  revert hfb
  fun_cases fastBroadcast frm to
  case case1 heq =>
    -- equal shapes
    rintro ⟨⟩
    subst heq
    rw [RtenVerif.InPlace.bcastTo_self x frm hx, cycleRepeat_one_one]
  case case2 heq h1 =>
    -- single source element: every axis has source size 1
    rintro ⟨⟩
    have hO : Ones (pairsTo frm to) := by
      intro p hp
      have hm : p.1 ∈ padFrom frm to := by
        rw [← hfst]; exact List.mem_map_of_mem hp
      rcases List.mem_append.mp hm with h | h
      · exact (List.mem_replicate.mp h).2
      · exact numel_eq_one h1 _ h
    have := bcast_lead_mid_trail (L := []) (M := []) (fun _ h => nomatch h) (fun _ h => nomatch h)
      hO x (hx.trans h1)
    rw [hsnd] at this
    exact this
  case case3 => nofun
  case case4 heq h1 _ ps lead trail mid hmid =>
    rintro ⟨⟩
    -- some axis stops the scans, since not every source size is 1
    have hbad : ∃ p ∈ pairsTo frm to, good p = false := by
      apply Classical.byContradiction
      intro hno
      apply h1
      have hO : Ones (pairsTo frm to) := by
        intro p hp
        apply good_fst
        cases hg : good p
        · exact absurd ⟨p, hp, hg⟩ hno
        · rfl
      rw [← numel_padFrom frm to, ← hfst]
      exact numel_fst_ones hO
    have hlen : (pairsTo frm to).length = to.length := by
      rw [pairsTo, List.length_zip, length_padFrom frm to hrank, Nat.min_self]
    rw [bcastTo, bcast_scan (pairsTo frm to) to.length hlen x hbad hmid
      (by rw [hx, hfst, numel_padFrom])]
  case case5 => nofun

/-- **C14 T1 (index form).** Under the same hypotheses element `i` of the broadcast is
`x[(i / repeats) mod |x|]`, and the broadcast has `cycles·repeats·|x|` elements. -/
theorem c14_fast_broadcast_index {α : Type} (frm to : List Nat) (c r : Nat) (x : List α)
    (hfb : fastBroadcast frm to = .some c r) (hrank : frm.length ≤ to.length)
    (hx : x.length = numel frm) :
    (bcastTo x frm to).length = c * r * x.length ∧
      ∀ i, i < c * r * x.length → (bcastTo x frm to)[i]? = x[(i / r) % x.length]? := by
  rw [c14_fast_broadcast_sound frm to c r x hfb hrank hx]
  exact ⟨length_cycleRepeat c r x, fun i hi => getElem?_cycleRepeat c r x i hi⟩

/-- **C14 T1 (reference).** The nested reference `bcast` used above *is* the broadcast defined by
index maps: for shapes accepted by `can_broadcast_to`, output element `idx` (row-major position
of `idx` in `to`) is source element `bcIdx idx` — 0 on stretched axes — (row-major position in
`from`). -/
theorem c14_reference_is_index_map {α : Type} (frm to : List Nat) (x : List α)
    (h : RtenVerif.InPlace.canBroadcastTo frm to = true) (hx : x.length = numel frm) :
    (bcastTo x frm to).map some = bcastIdx (pairsTo frm to) x := by
  obtain ⟨hle, hc⟩ := (RtenVerif.InPlace.canBroadcastTo_iff frm to).mp h
  exact RtenVerif.InPlace.bcast_eq_bcastIdx _ _ hc
    (by rw [map_fst_pairsTo _ _ hle, numel_padFrom, hx]; exact Nat.le_refl _)

/-- Non-vacuity: leading + trailing broadcast around a kept axis. -/
example : fastBroadcast [3, 1] [2, 3, 2] = .some 2 2 ∧
    bcastTo [10, 20, 30] [3, 1] [2, 3, 2] = [10, 10, 20, 20, 30, 30, 10, 10, 20, 20, 30, 30] := by decide +kernel
/-- A middle axis that needs stretching cannot use the fast path. -/
example : fastBroadcast [2, 1, 2] [2, 3, 2] = .none := by decide +kernel
/-- The reference agrees with the element-by-element multi-index definition (`out[idx] = x[bcIdx idx]`)
on a sample (a test, not a proof). -/
example : (bcast (pairsTo [3, 1] [2, 3, 2]) [10, 20, 30]).map some =
    bcastIdx (pairsTo [3, 1] [2, 3, 2]) [10, 20, 30] := by decide +kernel
/-- The rank hypothesis is what the code asserts. -/
example : fastBroadcast [2, 2, 2] [2, 2] = .panic := by decide +kernel
/-- Without the rank hypothesis the single-element early return would be wrong about lengths:
`from = [1, 1]`, `to = [5]` answers `(1, 5)` although the broadcast result has shape `[1, 5]`;
callers only ask when `to` is the broadcast shape. -/
example : fastBroadcast [1, 1] [5] = .some 1 5 := by decide +kernel

end RtenVerif.FastBroadcast

namespace RtenVerif.Layout
open RtenVerif.Arr RtenVerif.Overlap RtenVerif.Layout.Seq

/-- **C14 T2.** `to_contiguous` (borrow when already contiguous, copy in row-major order
otherwise) does not change what a tensor denotes. -/
theorem c14_to_contiguous_denote (t : TState) : (toContiguous t).arr = t.arr :=
  c09_to_contiguous t

/-- An operator *defined on the denotation*: a function of the arrays its inputs denote. -/
def liftOp {β : Type} (op : List (NArr Nat) → β) (ts : List TState) : β := op (ts.map TState.arr)

/-- **C14 T2 (corollary).** Such an operator returns the same result whether its inputs are given
as they are (permuted / stepped / broadcast views …) or made contiguous first. -/
theorem c14_layout_independent {β : Type} (op : List (NArr Nat) → β) (ts : List TState) :
    liftOp op (ts.map toContiguous) = liftOp op ts := by
  unfold liftOp
  rw [List.map_map]
  congr 1
  apply List.map_congr_left
  intro t _
  exact c14_to_contiguous_denote t

/-- permuted (transposed 2×3), stepped (every 2nd of 5) and broadcast (stride 0) views: the
contiguous copy denotes the same array but has a different layout (non-vacuity). -/
example :
    let t : TState := ⟨[0, 1, 2, 3, 4, 5], ⟨0, 6, [(3, 1), (2, 3)]⟩⟩
    (toContiguous t).arr = t.arr ∧ (toContiguous t).view.dims ≠ t.view.dims ∧
      t.arr = ⟨[3, 2], [0, 3, 1, 4, 2, 5]⟩ := by decide +kernel
example :
    let t : TState := ⟨[0, 1, 2, 3, 4], ⟨0, 5, [(3, 2)]⟩⟩
    (toContiguous t).arr = t.arr ∧ t.arr = ⟨[3], [0, 2, 4]⟩ ∧ (toContiguous t).store = [0, 2, 4] := by decide +kernel
example :
    let t : TState := ⟨[7, 8], ⟨0, 2, [(3, 0), (2, 1)]⟩⟩
    (toContiguous t).arr = t.arr ∧ t.arr = ⟨[3, 2], [7, 8, 7, 8, 7, 8]⟩ := by decide +kernel

/-- `Transpose { perm }`: `init_from(input.permuted(perm))` into a fresh contiguous tensor; an
invalid permutation panics in `permute`. -/
def transposeOp (t : TState) (p : List Nat) : Except Err TState :=
  (permuted t.view p).map fun v => TState.ofArr (denote v (fun i => t.store.getD i 0))

/-- `TransformInputs::run` with one `Permute` transform on input `k`: the input's *view* is
permuted (no copy), then the inner operator runs; a missing input is `OpError::MissingInputs`. -/
def transformInputsRun {β : Type} (k : Nat) (p : List Nat) (inner : List TState → β)
    (ts : List TState) : Except Err β :=
  match ts[k]? with
  | none => .error .err
  | some t => (permuted t.view p).map fun v => inner (ts.set k { t with view := v })

/-- **C14 T3.** For an inner operator defined on the denotation, the fused wrapper equals running
the inner operator on the explicitly transposed (copied) input — on the success path and on the
panic path alike. -/
theorem c14_transform_inputs {β : Type} (op : List (NArr Nat) → β) (k : Nat) (p : List Nat)
    (ts : List TState) (t : TState) (hk : ts[k]? = some t) :
    transformInputsRun k p (liftOp op) ts =
      (transposeOp t p).map (fun t' => liftOp op (ts.set k t')) := by
  unfold transformInputsRun transposeOp
  rw [hk]
  simp only
  cases hperm : permuted t.view p with
  | error e => rfl
  | ok v =>
    simp only [Except.map]
    congr 1
    unfold liftOp
    rw [List.map_set, List.map_set]
    congr 2
    rw [ofArr_denote_arr]
    rfl

example :
    let t : TState := ⟨[0, 1, 2, 3, 4, 5], ⟨0, 6, [(2, 3), (3, 1)]⟩⟩
    (transposeOp t [1, 0]).toOption.map (·.arr) = some ⟨[3, 2], [0, 3, 1, 4, 2, 5]⟩ ∧
      (transformInputsRun 0 [1, 0] (liftOp (fun as => as.map (·.data))) [t]).toOption =
        some [[0, 3, 1, 4, 2, 5]] := by decide +kernel

/-! ## D: the layout-handling glue of element-wise operators (Model/BinaryDispatch.lean) -/

section Dispatch
open RtenVerif.FastBroadcast RtenVerif.InPlace
open RtenVerif.Iter (rowMajor)

/-- **C14 D1.** `binary_op` on views — fast path (contiguous operands + cycles/repeats) or general
path (broadcast strides, element by element) — returns `f` mapped over the logical broadcast
elements of its operands, for every shape and every stride pattern (permuted, stepped, stride-0
broadcast inputs included): it is the layout-free `binop` of the operands' logical contents. -/
theorem c14_binary_op_layout_independent {α β γ : Type} (f : α → β → γ)
    (a : View) (sa : Nat → α) (b : View) (sb : Nat → β) :
    binaryOp f a sa b sb = binop f (tensOf a sa) (tensOf b sb) := by
  unfold binaryOp binop
  have hsa : (tensOf a sa).shape = sizes a.dims := rfl
  have hsb : (tensOf b sb).shape = sizes b.dims := rfl
  rw [hsa, hsb]
  cases hbs : broadcastShapes (sizes a.dims) (sizes b.dims) with
  | none => rfl
  | some out =>
    obtain ⟨hla, hca⟩ := compat_of_broadcastShapes _ _ _ hbs
    obtain ⟨hlb, hcb⟩ := compat_of_broadcastShapes _ _ _ (broadcastShapes_comm _ _ ▸ hbs)
    simp only [Option.map_some]
    split
    · rename_i d hfast
      congr 2
      split at hfast
      · rename_i hout
        split at hfast
        · rename_i ad bd had hbd
          split at hfast
          · rename_i c r hfb
            injection hfast with hfast
            subst hout hfast
            rw [viewData_eq a sa ad had, viewData_eq b sb bd hbd,
              bcastTo_self _ (sizes a.dims) (tensOf_data_length a sa),
              c14_fast_broadcast_sound _ _ c r _ hfb hlb (tensOf_data_length b sb)]
          · cases hfast
        · cases hfast
      · cases hfast
    · rw [bcastViewElems_eq a out sa hla hca, bcastViewElems_eq b out sb hlb hcb]


/-- Non-vacuity: fast path (both contiguous, trailing broadcast), general path (transposed LHS,
stride-0 RHS) and the incompatible case; the results do not depend on the path taken. -/
example :
    binaryOp (· + ·) ⟨0, 6, [(2, 3), (3, 1)]⟩ (fun i => 10 * i) ⟨0, 2, [(2, 1), (1, 1)]⟩ (fun i => i + 1) =
      some ⟨[2, 3], [1, 11, 21, 32, 42, 52]⟩ ∧
    binaryOp (· + ·) ⟨0, 6, [(2, 1), (3, 2)]⟩ (fun i => 10 * i) ⟨1, 1, [(1, 0)]⟩ (fun i => i) =
      some ⟨[2, 3], [1, 21, 41, 11, 31, 51]⟩ ∧
    binaryOp (· + ·) ⟨0, 6, [(2, 3), (3, 1)]⟩ (fun i => i) ⟨0, 2, [(2, 1)]⟩ (fun i => i) = none := by
  decide +kernel

/-- **C14 D2.** `unary_op` (map over the contiguous slice, or over the row-major copy made by
`to_contiguous`) returns `f` mapped over the logical elements, whatever the layout — injective
(permuted / stepped) or not (broadcast). -/
theorem c14_unary_op_layout_independent {α β : Type} (f : α → β) (v : View) (s : Nat → α) :
    unaryOp f v s = ⟨(tensOf v s).shape, (tensOf v s).data.map f⟩ := by
  unfold unaryOp
  split
  · rename_i d hd
    rw [viewData_eq v s d hd]; rfl
  · rfl

example : unaryOp (· * 2) ⟨0, 6, [(3, 1), (2, 3)]⟩ (fun i => i) = ⟨[3, 2], [0, 6, 2, 8, 4, 10]⟩ ∧
    unaryOp (· * 2) ⟨4, 1, [(2, 0), (2, 0)]⟩ (fun i => i) = ⟨[2, 2], [8, 8, 8, 8]⟩ := by decide +kernel

end Dispatch

/-- Array-level meaning of one transform. -/
def permArr (A : NArr Nat) : Option (List Nat) → Except Err (NArr Nat)
  | some p => A.permute p
  | none => .ok A.transpose

/-- Array-level meaning of the transform list: the unfused graph seen through denotations. -/
def specTransforms : List PermuteSpec → List (NArr Nat) → Except Err (List (NArr Nat))
  | [], as => .ok as
  | sp :: rest, as =>
    match as[sp.index]? with
    | none => .error .err
    | some A =>
      match permArr A sp.perm with
      | .error e => .error e
      | .ok A' => specTransforms rest (as.set sp.index A')

theorem applyPerm_denote (t : TState) (sp : Option (List Nat)) :
    (applyPerm t.view sp).map (fun v => denote v (fun i => t.store.getD i 0)) = permArr t.arr sp := by
  cases sp with
  | some p => exact c09_permute t.view p _
  | none => simp only [applyPerm, permArr, Except.map]; rw [c09_transpose]; rfl

theorem applyTransforms_spec : ∀ (specs : List PermuteSpec) (ts : List TState),
    (applyTransforms specs ts).map (fun l => l.map TState.arr) = specTransforms specs (ts.map TState.arr)
  | [], ts => rfl
  | sp :: rest, ts => by
    unfold applyTransforms specTransforms
    rw [List.getElem?_map]
    cases ts[sp.index]? with
    | none => rfl
    | some t =>
      simp only [Option.map_some]
      rw [← applyPerm_denote t sp.perm]
      cases applyPerm t.view sp.perm with
      | error e => rfl
      | ok v => exact (applyTransforms_spec rest _).trans (by rw [List.map_set]; rfl)

theorem explicitTransposes_spec : ∀ (specs : List PermuteSpec) (ts : List TState),
    (explicitTransposes specs ts).map (fun l => l.map TState.arr) = specTransforms specs (ts.map TState.arr)
  | [], ts => rfl
  | sp :: rest, ts => by
    unfold explicitTransposes specTransforms
    rw [List.getElem?_map]
    cases ts[sp.index]? with
    | none => rfl
    | some t =>
      simp only [Option.map_some]
      rw [← applyPerm_denote t sp.perm]
      cases applyPerm t.view sp.perm with
      | error e => rfl
      | ok v =>
        exact (explicitTransposes_spec rest _).trans (by rw [List.map_set, ofArr_denote_arr]; rfl)

/-- **C14 D3.** `TransformInputs` with an arbitrary list of permute transforms (several inputs,
repeated inputs, `None` = reverse) equals the unfused graph — explicit `Transpose` copies in front
of the inner operator — for every inner operator defined on the denotation, error and panic
paths included. -/
theorem c14_transform_inputs_list {β : Type} (op : List (NArr Nat) → β) (specs : List PermuteSpec)
    (ts : List TState) :
    transformInputsRunAll specs (liftOp op) ts = (explicitTransposes specs ts).map (liftOp op) := by
  unfold transformInputsRunAll
  have h1 := applyTransforms_spec specs ts
  have h2 := explicitTransposes_spec specs ts
  have key : ∀ (e : Except Err (List TState)), e.map (liftOp op) = (e.map (fun l => l.map TState.arr)).map op := by
    intro e; cases e <;> rfl
  rw [key, key, h1, h2]


example :
    let t : TState := ⟨[0, 1, 2, 3, 4, 5], ⟨0, 6, [(2, 3), (3, 1)]⟩⟩
    (transformInputsRunAll [⟨0, some [1, 0]⟩, ⟨1, none⟩, ⟨0, none⟩]
        (liftOp (fun as => as.map (·.data))) [t, t]).toOption =
      some [[0, 1, 2, 3, 4, 5], [0, 3, 1, 4, 2, 5]] ∧
    (transformInputsRunAll [⟨2, none⟩] (liftOp (fun as => as.map (·.data))) [t, t]).toOption = none := by
  decide +kernel

section Reduce
open RtenVerif.Iter (rowMajor rowMajor_nil)

/-- **C14 D4.** For reductions over the innermost axes, `reduce`'s paths — rank-0 item, empty
input, contiguous chunks fast path, general path — all compute the kernel of each inner slice read
in row-major order, one per outer index in row-major order: the result does not depend on which
path the layout selects. -/
theorem c14_reduce_inner_paths_agree {α β : Type} (kernel : List α → β) (O I : Dims) (base : Nat)
    (s : Nat → α) : reduceInnerOp kernel O I base s = reduceSlices kernel O I base s := by
  unfold reduceInnerOp
  simp only
  split
  · rename_i h0
    obtain ⟨rfl, rfl⟩ := List.append_eq_nil_iff.mp (List.length_eq_zero_iff.mp h0)
    rfl
  · split
    · rename_i _ hn
      rw [numel_sizes_append] at hn
      unfold reduceSlices
      rcases Nat.mul_eq_zero.mp hn with hO | hI
      · have : rowMajor O = [] := List.eq_nil_of_length_eq_zero (by rw [rowMajor_length', hO])
        rw [this, hO]; rfl
      · have : rowMajor I = [] := List.eq_nil_of_length_eq_zero (by rw [rowMajor_length', hI])
        rw [this]
        simp only [List.map_nil]
        rw [← rowMajor_length' O, List.map_const']
    · split
      · rename_i _ hn hc
        rw [numel_sizes_append] at hn
        rw [← rowMajor_of_isContiguous _ hc, map_rowMajor_append,
          chunks_blocks _ (Nat.pos_of_ne_zero fun h => hn (by rw [h, Nat.mul_zero])) _ _ _
            (by intro x _; rw [List.length_map, rowMajor_length'])
            (by rw [rowMajor_length', numel_sizes_append]; exact Nat.le_refl _)]
        unfold reduceSlices
        rw [List.map_map]; rfl
      · rfl


/-- contiguous 2×3 (fast path) and its transposed-storage twin (general path): same row sums;
empty inner axis: the kernel's identity per outer index. -/
example :
    reduceInnerOp List.sum [(2, 3)] [(3, 1)] 0 (fun i => i) = [3, 12] ∧
    reduceInnerOp List.sum [(2, 1)] [(3, 2)] 0 (fun i => [0, 3, 1, 4, 2, 5].getD i 0) = [3, 12] ∧
    reduceInnerOp List.sum [(2, 0)] [(0, 1)] 0 (fun i => i) = [0, 0] := by decide +kernel

/-- As coded, the fast path is reachable for one innermost axis only (the sorted axes of a
multi-axis innermost reduction fail the `axes[i] == ndim - 1 - i` test); D4 covers the general
condition, of which this is a special case. -/
example : reducedInnerDims 3 [2] = some 1 ∧ reducedInnerDims 3 [1, 2] = none ∧
    reducedInnerDims 3 [0, 1, 2] = none ∧ reducedInnerDims 1 [0] = some 1 := by decide +kernel

end Reduce

/-- **C14 D5.** `TransformInputs::in_place_inputs` only ever offers inputs the inner operator
offers and — below position 16, where rten's in-place inputs live and the only positions the code's
test looks at — that no transform touches; hence in `run_in_place` (whose transform loop sees `None`
at the in-place positions and would fail with `MissingInputs`) the transforms never hit an
in-place slot, and the owned value handed to the inner operator is exactly the caller's. -/
theorem c14_transform_in_place_disjoint (ips : List Nat) (specs : List PermuteSpec) :
    ∀ i ∈ transformInPlaceInputs ips specs, i ∈ ips ∧ (i < 16 → ∀ sp ∈ specs, sp.index ≠ i) := by
  intro i hi
  unfold transformInPlaceInputs at hi
  split at hi
  · cases hi
  · rename_i hany
    refine ⟨hi, ?_⟩
    intro hlt sp hsp heq
    apply hany
    rw [List.any_eq_true]
    exact ⟨sp, hsp, by simp [heq, hlt, hi]⟩

example : transformInPlaceInputs [0] [⟨1, none⟩] = [0] ∧ transformInPlaceInputs [0] [⟨1, none⟩, ⟨0, some [1, 0]⟩] = [] ∧
    transformInPlaceInputs [4, 5] [⟨0, none⟩, ⟨17, none⟩] = [4, 5] := by decide +kernel

end RtenVerif.Layout

/-! ## D6: the blocked transpose copy behind `to_contiguous` -/
namespace RtenVerif.BlockedCopy

/-- **C14 D6.** `copy_blocked` — 64-blocks, 4×4 tiles (transposing or not), narrow edge tiles, short
edge rows — fills the contiguous destination with the source in logical row-major order:
`dest[y * cols + x] = src[y, x]` for every index, for every matrix size (every slot is written,
only in-range slots are written, and every write carries the element of its own index). -/
theorem c14_blocked_copy_row_major {α : Type} (rows cols B T : Nat) (hB : 0 < B) (hT : 0 < T)
    (src : Nat → Nat → α) (dest0 : List α) (hlen : dest0.length = rows * cols) :
    blockedCopy rows cols B T src dest0 =
      (List.range (rows * cols)).map (fun p => src (p / cols) (p % cols)) :=
  blockedCopy_row_major rows cols B T hB src dest0 hlen

/-- 5×6 with blocks of 4 and tiles of 2 (full tiles, narrow edge, short edge rows all occur). -/
example : blockedCopy 5 6 4 2 (fun y x => 10 * y + x) (List.replicate 30 0) =
    (List.range 30).map (fun p => 10 * (p / 6) + p % 6) := by decide +kernel
/-- Every index pair is visited exactly once here (no double writes in this instance). -/
example : (blockedVisits 5 6 4 2).length = 30 := by decide +kernel

end RtenVerif.BlockedCopy

/-! ## D7: the im2col offset tables of the general convolution path -/
namespace RtenVerif.Im2Col

/-- **C14 D7.** The im2col offset tables are layout independent: for every image stride triple
`(sc, sth, stw)`, row `(chan, k_y, k_x)` and column `(patch_y, patch_x)`, the tables give
`chan·sc`, `iy·sth` and `ix·stw` where `(iy, ix) = (patch_y·stride_h − pad_top + k_y·dil_y,
patch_x·stride_w − pad_left + k_x·dil_x)` is the coordinate in the logical (padded) image — i.e.
reading through the tables is reading logical element `(chan, iy, ix)` of the view, whatever its
strides. -/
theorem c14_im2col_offsets_layout_independent (p : Params) (yP xP c ky kx py px : Nat)
    (hc : c < p.chans) (hky : ky < p.kh) (hkx : kx < p.kw) (hy : py < yP) (hx : px < xP) :
    ∃ rc ry rx cy cx : Int,
      (rowChanMain p)[(c * p.kh + ky) * p.kw + kx]? = some rc ∧
      (rowYMain p)[(c * p.kh + ky) * p.kw + kx]? = some ry ∧
      (rowXMain p)[(c * p.kh + ky) * p.kw + kx]? = some rx ∧
      (colYMain p yP xP)[py * xP + px]? = some cy ∧
      (colXMain p yP xP)[py * xP + px]? = some cx ∧
      rc = (c : Int) * p.sc ∧
      ry + cy = ((py : Int) * p.strideH - p.padTop + (ky : Int) * p.dilY) * p.sth ∧
      rx + cx = ((px : Int) * p.strideW - p.padLeft + (kx : Int) * p.dilX) * p.stw := by
  refine ⟨_, _, _, _, _, rowChan_get p c ky kx hc hky hkx, rowY_get p c ky kx hc hky hkx,
    rowX_get p c ky kx hc hky hkx, colY_get p yP xP py px hy hx, colX_get p yP xP py px hy hx, rfl,
    row_add_col _ _ _ _, row_add_col _ _ _ _⟩


/-- Non-vacuity: 3-channel 4×5 image stored NHWC (strides 1, 15, 3), 3×3 kernel, pads 1/2,
stride 2/1, dilation 1/2: row (chan 2, k_y 1, k_x 2) and column (patch 1, patch 3). -/
example :
    (buildIm2col ⟨3, 4, 5, 3, 3, 1, 2, 1, 2, 2, 1, 1, 2, 1, 15, 3⟩ 1 1).map
      (fun t => [t.rowChan[23]?, t.rowY[23]?, t.rowX[23]?, t.colY[8]?, t.colX[8]?]) =
      some [some (2 : Int), some 15, some 12, some 15, some 3] ∧
    (buildIm2col ⟨3, 4, 5, 3, 3, 1, 2, 1, 2, 2, 1, 1, 2, 1, 15, 3⟩ 1 1).map (fun t => (t.nRows, t.nCols)) =
      some (27, 10) := by decide +kernel

/-- The seeded variant C14_c (left padding not scaled by the image's W stride) coincides with the
code whenever the W stride is 1 or there is no left padding — which is why contiguous inputs,
or padded inputs without a strided W axis, cannot tell them apart … -/
theorem c14_im2col_seeded_variant_agrees_on_unit_stride (p : Params) (yP xP : Nat)
    (h : p.stw = 1 ∨ p.padLeft = 0) : colXMainSeeded p yP xP = colXMain p yP xP := by
  unfold colXMainSeeded colXMain
  congr 1
  funext _
  apply List.map_congr_left
  intro px _
  rcases h with h | h
  · rw [h]; simp
  · rw [h]; simp [Int.mul_assoc]

/-- … and differs as soon as both hold: it is refuted as a layout-independent table (W stride 2,
left padding 1: the code reads offset −2 = one *pixel* left of the image, the variant −1). -/
theorem c14_im2col_seeded_variant_refuted :
    ∃ (p : Params) (yP xP : Nat), colXMainSeeded p yP xP ≠ colXMain p yP xP ∧
      (colXMain p yP xP)[0]? = some (((0 : Int) * p.strideW - p.padLeft) * p.stw) := by
  exact ⟨⟨1, 1, 3, 1, 2, 0, 1, 0, 0, 1, 1, 1, 1, 6, 6, 2⟩, 1, 3, by decide, by decide⟩

/-- **C14 D7b.** The padding test is layout independent for positive strides: with `st > 0` the
offset `i·st` passes the test exactly when the logical coordinate `i` is inside the image. -/
theorem c14_im2col_padding_test_layout_independent (size st : Nat) (i : Int) (hs : 0 < size) (hst : 0 < st) :
    inImage size st (i * st) = true ↔ (0 ≤ i ∧ i ≤ (size : Int) - 1) := by
  unfold inImage
  have hstI : (0 : Int) < (st : Int) := by exact_mod_cast hst
  have hcast : (((size - 1) * st : Nat) : Int) = ((size : Int) - 1) * st := by
    rw [Int.natCast_mul, Int.natCast_sub hs]; rfl
  simp only [Bool.and_eq_true, decide_eq_true_eq, hcast]
  constructor
  · rintro ⟨h1, h2⟩
    refine ⟨?_, Int.le_of_mul_le_mul_right h2 hstI⟩
    by_cases hneg : i < 0
    · exact absurd (Int.mul_neg_of_neg_of_pos hneg hstI) (Int.not_lt.mpr h1)
    · exact Int.not_lt.mp hneg
  · rintro ⟨h1, h2⟩
    exact ⟨Int.mul_nonneg h1 (Int.le_of_lt hstI), Int.mul_le_mul_of_nonneg_right h2 (Int.le_of_lt hstI)⟩

/-- For a stride-0 (broadcast) axis the test accepts every coordinate, padding included: the
positive-stride hypothesis is necessary.  Before fix 4888f23 the real Conv did return image values
in the padding region for such views (finding C14-conv-broadcast-padding-{h,w}); since the fix
`conv_impl` copies an input with a zero spatial stride to a contiguous tensor before calling
`build_im2col` whenever padding is used, so `build_im2col` only sees positive strides there. -/
theorem c14_im2col_padding_test_fails_for_stride_zero :
    inImage 3 0 ((-1 : Int) * (0 : Nat)) = true ∧ ¬ ((0 : Int) ≤ -1) := by decide +kernel

/-- **C14 D7 on the driven function.** The tables returned by `buildIm2col` (what the `im2col`
requests compare with the real `build_im2col`), padded to any row / column step, hold for every used
row `(chan, k_y, k_x)` and used column `(patch_y, patch_x)` the stride-scaled logical coordinates. -/
theorem c14_im2col_tables_layout_independent (p : Params) (cs rs : Nat) (t : Tables) (yP xP : Nat)
    (ht : buildIm2col p cs rs = some t)
    (hyP : outSize p.h p.kh p.strideH p.padTop p.padBottom p.dilY = some yP)
    (hxP : outSize p.w p.kw p.strideW p.padLeft p.padRight p.dilX = some xP)
    (c ky kx py px : Nat) (hc : c < p.chans) (hky : ky < p.kh) (hkx : kx < p.kw) (hy : py < yP) (hx : px < xP) :
    t.nRows = p.chans * p.kh * p.kw ∧ t.nCols = xP * yP ∧
    t.rowChan[(c * p.kh + ky) * p.kw + kx]? = some ((c : Int) * p.sc) ∧
    t.rowY[(c * p.kh + ky) * p.kw + kx]? = some ((p.sth : Int) * ky * p.dilY) ∧
    t.rowX[(c * p.kh + ky) * p.kw + kx]? = some ((p.stw : Int) * kx * p.dilX) ∧
    t.colY[py * xP + px]? = some (((py : Int) * p.strideH - p.padTop) * p.sth) ∧
    t.colX[py * xP + px]? = some (((px : Int) * p.strideW - p.padLeft) * p.stw) := by
  unfold buildIm2col at ht
  split at ht
  · cases ht
  · rw [hyP, hxP] at ht
    simp only [Option.some.injEq] at ht
    subst ht
    exact ⟨rfl, rfl, getElem?_append_some (rowChan_get p c ky kx hc hky hkx),
      getElem?_append_some (rowY_get p c ky kx hc hky hkx),
      getElem?_append_some (rowX_get p c ky kx hc hky hkx),
      getElem?_append_some (colY_get p yP xP py px hy hx),
      getElem?_append_some (colX_get p yP xP py px hy hx)⟩

/-- **C14 D7 (element form).** For an image view with positive row and column strides, element
`(row (chan,k_y,k_x), column (patch_y,patch_x))` of the virtual im2col matrix built from
`buildIm2col`'s tables is the element of the *logical zero-padded image* at
`(chan, iy, ix) = (chan, patch_y·stride_h − pad_top + k_y·dil_y, patch_x·stride_w − pad_left + k_x·dil_x)`:
the image element at its strided offset when `(iy, ix)` is inside the image, zero otherwise —
whatever the strides. -/
theorem c14_im2col_elem_layout_independent {α : Type} (p : Params) (cs rs : Nat) (t : Tables) (yP xP : Nat)
    (ht : buildIm2col p cs rs = some t)
    (hyP : outSize p.h p.kh p.strideH p.padTop p.padBottom p.dilY = some yP)
    (hxP : outSize p.w p.kw p.strideW p.padLeft p.padRight p.dilX = some xP)
    (hsth : 0 < p.sth) (hstw : 0 < p.stw) (img : Int → α) (zero : α)
    (c ky kx py px : Nat) (hc : c < p.chans) (hky : ky < p.kh) (hkx : kx < p.kw) (hy : py < yP) (hx : px < xP) :
    let iy : Int := (py : Int) * p.strideH - p.padTop + (ky : Int) * p.dilY
    let ix : Int := (px : Int) * p.strideW - p.padLeft + (kx : Int) * p.dilX
    im2colElem t p.h p.w p.sth p.stw img zero ((c * p.kh + ky) * p.kw + kx) (py * xP + px) =
      some (if (0 ≤ iy ∧ iy ≤ (p.h : Int) - 1) ∧ (0 ≤ ix ∧ ix ≤ (p.w : Int) - 1)
        then img ((c : Int) * p.sc + iy * p.sth + ix * p.stw) else zero) := by
  intro iy ix
  obtain ⟨hn, _, h1, h2, h3, h4, h5⟩ :=
    c14_im2col_tables_layout_independent p cs rs t yP xP ht hyP hxP c ky kx py px hc hky hkx hy hx
  have hpos : 0 < p.h ∧ 0 < p.w := by
    unfold buildIm2col at ht
    split at ht
    · cases ht
    · rename_i hg
      constructor <;> (apply Nat.pos_of_ne_zero; intro h0; exact hg (by simp [h0]))
  unfold im2colElem
  have hr : ¬ ((c * p.kh + ky) * p.kw + kx ≥ t.nRows) := by
    rw [hn]; exact Nat.not_le.mpr (mul_add_lt (mul_add_lt hc hky) hkx)
  rw [if_neg hr, h1, h2, h3, h4, h5]
  simp only [row_add_col]
  have hin : (inImage p.h p.sth (iy * p.sth) && inImage p.w p.stw (ix * p.stw)) = true ↔
      (0 ≤ iy ∧ iy ≤ (p.h : Int) - 1) ∧ (0 ≤ ix ∧ ix ≤ (p.w : Int) - 1) := by
    rw [Bool.and_eq_true, c14_im2col_padding_test_layout_independent p.h p.sth iy hpos.1 hsth,
      c14_im2col_padding_test_layout_independent p.w p.stw ix hpos.2 hstw]
  by_cases h : (0 ≤ iy ∧ iy ≤ (p.h : Int) - 1) ∧ (0 ≤ ix ∧ ix ≤ (p.w : Int) - 1)
  · rw [if_pos h, if_pos (hin.mpr h), Int.add_assoc]
  · rw [if_neg h, if_neg (mt hin.mp h)]

/-- Non-vacuity of the element theorem's hypotheses and of the padded tables: 3×3 image, 3×3
kernel, pads 1, row step 4: 9 used rows, 12 table rows; the K-padding rows are never read
(`im2colElem` returns zero for them, as the int8 packer does; the f32 path has row step 1). -/
example :
    (buildIm2col ⟨1, 3, 3, 3, 3, 1, 1, 1, 1, 1, 1, 1, 1, 9, 3, 1⟩ 1 4).map
      (fun t => (t.nRows, t.rowY.length, im2colElem t 3 3 3 1 (fun o => o) (-1) 10 0,
        im2colElem t 3 3 3 1 (fun o => o) (-1) 4 0, im2colElem t 3 3 3 1 (fun o => o) (-1) 0 0)) =
      some (9, 12, some (-1), some 0, some (-1)) := by decide +kernel

end RtenVerif.Im2Col

namespace RtenVerif.Layout
open RtenVerif.Arr (Err)

/-- What `run_in_place` sees in `ctx.inputs()`: the in-place positions are `None`. -/
def maskFrom (ips : List Nat) : Nat → List TState → List (Option TState)
  | _, [] => []
  | k, t :: ts => (if ips.contains k then none else some t) :: maskFrom ips (k + 1) ts

theorem maskFrom_getElem? (ips : List Nat) : ∀ (ts : List TState) (k i : Nat),
    (maskFrom ips k ts)[i]? = (ts[i]?).map (fun t => if ips.contains (k + i) then none else some t)
  | [], _, _ => by simp [maskFrom]
  | t :: ts, k, 0 => by simp [maskFrom]
  | t :: ts, k, i + 1 => by
    simp only [maskFrom, List.getElem?_cons_succ]
    rw [maskFrom_getElem? ips ts (k + 1) i]
    congr 2; funext t; rw [Nat.add_assoc, Nat.add_comm 1 i]

theorem maskFrom_set (ips : List Nat) : ∀ (ts : List TState) (k i : Nat) (t' : TState),
    k + i ∉ ips →
    maskFrom ips k (ts.set i t') = (maskFrom ips k ts).set i (some t')
  | [], _, _, _, _ => by simp [maskFrom]
  | t :: ts, k, 0, t', h => by
    have h' : k ∉ ips := by simpa using h
    simp [maskFrom, h']
  | t :: ts, k, i + 1, t', h => by
    simp only [List.set_cons_succ, maskFrom]
    rw [maskFrom_set ips ts (k + 1) i t' (by rw [Nat.add_assoc, Nat.add_comm 1 i]; exact h)]

/-- **C14 D5b.** When no transform touches an in-place position (which `in_place_inputs` guarantees
for the positions below 16 of the set it offers, D5), the transform loop of `run_in_place` — over the
inputs with the in-place positions masked out — does exactly what the loop of `run` does on the other
inputs, error and panic paths included. -/
theorem c14_transform_run_in_place_loop (ips : List Nat) : ∀ (specs : List PermuteSpec) (ts : List TState),
    (∀ sp ∈ specs, sp.index ∉ ips) →
    applyTransformsOpt specs (maskFrom ips 0 ts) = (applyTransforms specs ts).map (maskFrom ips 0)
  | [], ts, _ => rfl
  | sp :: rest, ts, h => by
    have hsp : sp.index ∉ ips := h sp (by simp)
    unfold applyTransformsOpt applyTransforms
    rw [maskFrom_getElem? ips ts 0 sp.index, Nat.zero_add]
    cases hk : ts[sp.index]? with
    | none => rfl
    | some t =>
      simp only [Option.map_some, List.contains_iff_mem, hsp, if_false]
      cases hv : applyPerm t.view sp.perm with
      | error e => rfl
      | ok v =>
        simp only
        rw [← maskFrom_set ips ts 0 sp.index _ (by rw [Nat.zero_add]; exact hsp)]
        exact c14_transform_run_in_place_loop ips rest _ (fun q hq => h q (by simp [hq]))

/-- A transform aimed at an in-place position fails with `MissingInputs` (the reason
`in_place_inputs` must not offer such a position). -/
theorem c14_transform_run_in_place_missing (ips : List Nat) (sp : PermuteSpec) (rest : List PermuteSpec)
    (ts : List TState) (h : sp.index ∈ ips) :
    applyTransformsOpt (sp :: rest) (maskFrom ips 0 ts) = .error .err := by
  unfold applyTransformsOpt
  rw [maskFrom_getElem? ips ts 0 sp.index, Nat.zero_add]
  cases ts[sp.index]? with
  | none => rfl
  | some t => simp [h]


example :
    let t : TState := ⟨[0, 1, 2, 3, 4, 5], ⟨0, 6, [(2, 3), (3, 1)]⟩⟩
    (applyTransformsOpt [⟨1, none⟩] (maskFrom [0] 0 [t, t])).toOption.map (fun l => l.map (fun o => o.map (·.view.dims))) =
      some [none, some [(3, 1), (2, 3)]] ∧
    (applyTransformsOpt [⟨0, none⟩] (maskFrom [0] 0 [t, t])).toOption = none := by decide +kernel

end RtenVerif.Layout
