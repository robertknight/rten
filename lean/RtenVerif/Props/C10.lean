import RtenVerif.Lemmas.ShapeInferRange

/-!
# C10 — Shape inference never contradicts execution (partial)

Model: `RtenVerif/Model/ShapeInfer.lean`.  `Agrees σ inferred executed` is the property's
predicate: a scalar / vector result claims the rank and every element, a shape result claims the
rank and every dimension (each symbolic expression evaluated under the assignment `σ`).

T1 (one theorem per rule) is spread over the `C10*` files, one clause each.  Here: the element
rules of `Add`/`Sub`/`Mul`/`Div` as homomorphisms, the scalar ∘ scalar and left-cycling cases, `Equal`'s
fold to 0 (given a sound `range`), one element of `Where`, `Unsqueeze`/`Squeeze` between scalars and
length-1 vectors, and T2 for plans of arbitrary sound nodes.
Stated false with witnesses: `Where` with the pre-fix `== 1` test, `Where` on three scalars before the
fix (rank), the broadcast rule on a zero-sized dimension under the pre-fix `max` evaluation.
What no `C10*` file proves — every other rule, and the branches of `Gather`, `Concat`, `Squeeze`,
`Unsqueeze`, `Pool`, `Conv` outside the proved paths — is tied by differential execution only (see
`checks/C10.json`).
-/
namespace RtenVerif.ShapeInfer

/-- **C10.T1-binary (scalars)**: a scalar ∘ scalar result agrees with the executed scalar. -/
theorem c10_binary_scalar_sound (σ : Env) (op) (f) (h : OpHom σ op f) (x y : Sym) (ca cb cr : CT) (r : STn)
    (ha : Agrees σ (.scalar x) ca) (hb : Agrees σ (.scalar y) cb)
    (hi : symBinary op (.scalar x) (.scalar y) = some r)
    (he : execBinary f ca cb = some cr) : Agrees σ r cr := by
  obtain ⟨vx, rfl, hx⟩ := ha
  obtain ⟨vy, rfl, hy⟩ := hb
  exact scalar_binary_agrees (h.on fun _ => True) trivial trivial hx hy hi he

/-- **C10.T1-binary (length-1 cycling, left)**: `[x] ∘ r` (a scalar or a length-1 vector on the
left, a vector of any length on the right) infers `[x ∘ r₀, x ∘ r₁, …]`, which is what NumPy
broadcasting executes. -/
theorem c10_binary_cycle_left_sound (σ : Env) (op) (f) (h : OpHom σ op f) (x : Sym) (vx : Int)
    (rs : List Sym) (vrs : List Int) (out : List Sym) (w : List Int)
    (hx : x.eval σ = some vx) (hr : evalList σ rs = some vrs)
    (hi : zipCycle op [x] rs = some out) (he : czip f [vx] vrs = some w) :
    Agrees σ (.vector out) (.vector w) := by
  exact ⟨w, rfl, mapO_lift (fun y _ o vy b ho hy hb => h x y o vx vy b ho hx hy hb) hi hr he⟩

/-- The element rules of `Add`, `Sub`, `Mul`, `Div` are homomorphisms for integer `+ - *` and
truncating division (division by zero has no executed result). Unbounded integers: `i32`
wrap-around of the folded constants is outside this model. -/
theorem c10_add_hom (σ : Env) : OpHom σ addOp (fun a b => some (a + b)) := by
  intro x y r vx vy w ho hx hy hf
  cases hf
  unfold addOp at ho
  split at ho <;> cases ho
  · cases hx; cases hy; rfl
  · simp only [Sym.eval, hx, hy]; rfl

theorem c10_sub_hom (σ : Env) : OpHom σ subOp (fun a b => some (a - b)) := by
  intro x y r vx vy w ho hx hy hf
  cases hf
  unfold subOp at ho
  split at ho <;> cases ho
  · cases hx; cases hy; rfl
  · simp only [Sym.eval, hx, hy]; rfl

theorem c10_mul_hom (σ : Env) : OpHom σ mulOp (fun a b => some (a * b)) := by
  intro x y r vx vy w ho hx hy hf
  cases hf
  unfold mulOp at ho
  split at ho <;> cases ho
  · cases hx; cases hy; rfl
  · simp only [Sym.eval, hx, hy]; rfl

theorem c10_div_hom (σ : Env) : OpHom σ divOp (fun a b => if b = 0 then none else some (tdiv a b)) := by
  intro x y r vx vy w ho hx hy hf
  dsimp only at hf
  split at hf
  · cases hf
  rename_i hz
  cases hf
  unfold divOp at ho
  split at ho
  · cases hx; cases hy
    split at ho <;> cases ho
    · rfl
    · exact absurd hz ‹_›
  · cases ho
    rw [Sym.eval, hx, hy]
    exact if_neg hz

/-- Non-vacuity: `[$n] + [2, -3]` with `n = 5` infers `[n + 2, n + -3]`, executes to `[7, 2]`. -/
example : zipCycle addOp [.var "n" true] [.val 2, .val (-3)] = some [.add (.var "n" true) (.val 2), .add (.var "n" true) (.val (-3))] ∧
    czip (fun a b => some (a + b)) [5] [2, -3] = some [7, 2] := by decide

theorem eqOp_eq_some {x y r : Sym} (h : eqOp x y = some r) :
    (x.beq y = true ∧ r = .val 1) ∨
      (x.beq y = false ∧ (x.range.2 < y.range.1 ∨ y.range.2 < x.range.1) ∧ r = .val 0) := by
  unfold eqOp at h
  split at h
  · exact .inl ⟨‹_›, (Option.some.inj h).symm⟩
  · rename_i hb
    split at h
    · rename_i hd
      simp only [Bool.or_eq_true, decide_eq_true_eq] at hd
      exact .inr ⟨(Bool.not_eq_true _).mp hb, hd, (Option.some.inj h).symm⟩
    · cases h

/-- **C10.T1-equal (0 branch)**: when `Equal` folds to the constant 0 because the ranges are
disjoint, and the ranges are sound, the executed comparison is 0 (the operands differ). -/
theorem c10_equal_zero_sound (σ : Env) (x y : Sym) (vx vy : Int)
    (hrx : RangeSound σ x) (hry : RangeSound σ y)
    (hx : x.eval σ = some vx) (hy : y.eval σ = some vy)
    (hne : x.beq y = false) (hi : eqOp x y = some (.val 0)) : vx ≠ vy := by
  rcases eqOp_eq_some hi with ⟨hb, _⟩ | ⟨_, hd, _⟩
  · exact absurd (hne.symm.trans hb) Bool.false_ne_true
  · have h1 := hrx vx hx
    have h2 := hry vy hy
    omega

/-- The hypothesis is needed — this is exactly the pre-`f73ff8c` defect: with the old
`range (Neg x) = (-hi, -lo)` computed from an unsound operand range, `Equal(-x, 0)` folded to 0
although `x = 0` makes it 1.  With the current `range` the fold does not happen: -/
example : eqOp (.neg (.var "x" true)) (.val 0) = none := by decide

/-- `Equal` on a symbol and the same symbol folds to 1 (same name ⇒ same value). -/
example : eqOp (.var "x" true) (.var "x" true) = some (.val 1) := by decide

/-- **C10.T1-where (element)**: with the kernel's truth test (`c ≠ 0`) a decided element is the
executed element. -/
theorem c10_where_elem_sound (σ : Env) (c x y r : Sym) (vc vx vy : Int)
    (hc : c.eval σ = some vc) (hx : x.eval σ = some vx) (hy : y.eval σ = some vy)
    (hi : whereElem (fun v => v != 0) c x y = some r) :
    r.eval σ = some (if vc ≠ 0 then vx else vy) := by
  unfold whereElem at hi
  split at hi
  · rename_i v
    simp only [Sym.eval] at hc; cases hc
    cases hi
    by_cases hv : vc = 0
    · simp [hv, hy]
    · simp [hv, hx]
  · cases hi

/-- **Finding (fixed)**: the rule before the fix tested `c == 1`. For the condition `[2]` it
selects `y` although the kernel (`cond != 0`) selects `x`: inference claimed the value 7, execution
produced 5. -/
theorem c10_where_eq1_false :
    ∃ (c x y r : Sym) (σ : Env), whereElem (fun v => v == 1) c x y = some r ∧
      r.eval σ = some 7 ∧ (if (2 : Int) ≠ 0 then (5 : Int) else 7) = 5 ∧
      c.eval σ = some 2 ∧ x.eval σ = some 5 ∧ y.eval σ = some 7 :=
  ⟨.val 2, .val 5, .val 7, .val 7, fun _ => none, by decide, by decide, by decide, by decide, by decide, by decide⟩

/-- **Finding (fixed)**: `Where` on three scalars inferred a length-1 *vector* before the fix
(`allScalarFix = false`) although the executed result is a scalar — a wrong rank claim; with the
fix the result is a scalar. -/
theorem c10_where_scalar_rank :
    (whereInfer (fun v => v != 0) false (.scalar (.val 1)) (.scalar (.val 5)) (.scalar (.val 7))).toOption = some (.vector [.val 5]) ∧
    (whereInfer (fun v => v != 0) true (.scalar (.val 1)) (.scalar (.val 5)) (.scalar (.val 7))).toOption = some (.scalar (.val 5)) ∧
    ¬ Agrees (fun _ => none) (.vector [.val 5]) (.scalar 5) := by
  refine ⟨by decide, by decide, ?_⟩
  rintro ⟨vs, h, _⟩
  cases h

/-- **C10.T1-unsqueeze**: `Unsqueeze(scalar, axes=[0])` infers `[e]`; executed `[v]`. -/
theorem c10_unsqueeze_sound (σ : Env) (a r : STn) (v : Int)
    (ha : Agrees σ a (.scalar v)) (hi : unsqueezeScalar a = some r) : Agrees σ r (.vector [v]) := by
  cases a <;> cases hi
  obtain ⟨_, h, he⟩ := ha
  cases h
  exact ⟨[v], rfl, (evalList_singleton σ _ v).mpr he⟩

/-- **C10.T1-squeeze**: `Squeeze` of a length-1 vector infers the scalar; executed `v`. -/
theorem c10_squeeze_sound (σ : Env) (a r : STn) (v : Int)
    (ha : Agrees σ a (.vector [v])) (hi : squeezeVector a = some r) : Agrees σ r (.scalar v) := by
  unfold squeezeVector at hi
  split at hi
  · cases hi
    obtain ⟨_, h, he⟩ := ha
    cases h
    exact ⟨v, rfl, (evalList_singleton σ _ v).mp he⟩
  · cases hi

/-- **Finding `C10-broadcast-zero-dim` (fixed by a4a397a, together with C11-broadcast-zero-one)**: two
distinct symbolic dimensions broadcast to `Broadcast(a, b)`. `eval` used to compute it as `max`,
which is 1 for `a = 1, b = 0` although the executed (NumPy) dimension is 0; the fixed evaluation
`bcastI` gives 0. -/
theorem c10_broadcast_zero_dim_false :
    (bdim (.var "a" true) (.var "b" true)).toOption = some (.bcast (.var "a" true) (.var "b" true)) ∧
    Max.max (1 : Int) 0 = 1 ∧
    (Sym.bcast (.var "a" true) (.var "b" true)).eval (fun n => if n = "a" then some 1 else some 0) = some 0 := by
  decide

/-- One node of a plan: the inferred tensor of its output is computed from the inferred tensors
of earlier values, the executed tensor from the executed ones. -/
structure PNode where
  out : Nat
  infer : (Nat → STn) → STn
  exec : (Nat → Option CT) → Option CT

def upd {α} (m : Nat → α) (k : Nat) (v : α) : Nat → α := fun i => if i = k then v else m i

def runPlan : List PNode → (Nat → STn) → (Nat → Option CT) → (Nat → STn) × (Nat → Option CT)
  | [], s, c => (s, c)
  | n :: ns, s, c => runPlan ns (upd s n.out (n.infer s)) (upd c n.out (n.exec c))

def AllAgree (σ : Env) (s : Nat → STn) (c : Nat → Option CT) : Prop :=
  ∀ id ct, c id = some ct → Agrees σ (s id) ct

/-- T1 for a node, in the form the composition needs. -/
def NodeSound (σ : Env) (n : PNode) : Prop :=
  ∀ s c, AllAgree σ s c → ∀ ct, n.exec c = some ct → Agrees σ (n.infer s) ct

theorem AllAgree.upd {σ : Env} {s : Nat → STn} {c : Nat → Option CT} (h : AllAgree σ s c) (k : Nat)
    {t : STn} {v : Option CT} (hv : ∀ ct, v = some ct → Agrees σ t ct) :
    AllAgree σ (upd s k t) (upd c k v) := by
  intro id ct hc
  unfold ShapeInfer.upd at hc ⊢
  split
  · rw [if_pos ‹_›] at hc
    exact hv ct hc
  · rw [if_neg ‹_›] at hc
    exact h id ct hc

/-- **C10.T2** If every node's rule satisfies T1 and the inputs agree, then after any plan every
executed value agrees with its inferred tensor. -/
theorem c10_plan_sound (σ : Env) : ∀ (plan : List PNode) (s : Nat → STn) (c : Nat → Option CT),
    (∀ n ∈ plan, NodeSound σ n) → AllAgree σ s c →
    AllAgree σ (runPlan plan s c).1 (runPlan plan s c).2 := by
  intro plan
  induction plan with
  | nil => intro s c _ h; exact h
  | cons n ns ih =>
    intro s c hall h
    exact ih _ _ (fun m hm => hall m (List.mem_cons_of_mem _ hm))
      (h.upd n.out (hall n (List.mem_cons_self ..) s c h))

/-! Non-vacuity of T2: closed instances of every hypothesis of the graph-level theorem are in
`Props/C10Plan.lean` (`demo_hyps`, `demo_inputs_agree`, and the instance of `c10_plan_sound_kinds`). -/

end RtenVerif.ShapeInfer
