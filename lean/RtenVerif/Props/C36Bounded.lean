import RtenVerif.Props.C36Line

/-!
# C36 — statements over complete finite scopes, as instances of the general theorems

Also the contour oracle `contoursOk` and `findContours_spec` in its terms (`contoursOk_all`), of
which the scopes here are instances.
-/
namespace RtenVerif.Contours

def bboxOk (s e : Pt) : Bool :=
  (bresenham s e).all fun p =>
    decide (min s.1 e.1 ≤ p.1 ∧ p.1 ≤ max s.1 e.1 ∧ min s.2 e.2 ≤ p.2 ∧ p.2 ≤ max s.2 e.2)

/-- **C36.T2b (bounded)** For all 625 lines with endpoints in `[0,4]²` every Bresenham point
lies in the bounding box of the endpoints: an instance of `c36_bresenham_bbox`. -/
theorem c36_bresenham_bbox_bounded :
    ∀ y0 : Fin 5, ∀ x0 : Fin 5, ∀ y1 : Fin 5, ∀ x1 : Fin 5,
      bboxOk ((y0.1 : Int), (x0.1 : Int)) ((y1.1 : Int), (x1.1 : Int)) = true :=
  fun _ _ _ _ => List.all_eq_true.mpr fun p hp => decide_eq_true (c36_bresenham_bbox _ _ p hp)

/-- The oracle for one mask.  `maskAt` is false outside the image too, so the last clause reads:
a background pixel or the image edge in the 8-neighbourhood. -/
def contoursOk (rows cols : Nat) (mask : List Bool) (outerOnly : Bool) : Bool :=
  match findContours rows cols mask outerOnly with
  | .ok cs => cs.all fun c => !c.isEmpty && c.all fun p =>
      maskAt rows cols mask p && (neighbors p).any fun q => !maskAt rows cols mask q
  | _ => false

def bitsOf (n : Nat) (code : Nat) : List Bool :=
  (List.range n).map fun i => code / 2 ^ i % 2 == 1

/-- **C36.T1/S5 for every size, mask and mode**: `findContours_spec` in terms of the oracle. -/
theorem contoursOk_all (rows cols : Nat) (mask : List Bool) (o : Bool) :
    contoursOk rows cols mask o = true := by
  obtain ⟨cs, h, hc⟩ := findContours_spec rows cols mask o
  simp only [contoursOk, h, List.all_eq_true, Bool.and_eq_true, Bool.not_eq_true',
    List.isEmpty_eq_false_iff, List.any_eq_true]
  exact fun c hcm => ⟨(hc c hcm).1, (hc c hcm).2⟩

/-- **C36.T1/S5 (bounded)** For all masks of size `rows × cols` with `rows, cols ≤ 3` and
`rows·cols ≤ 6` (incl. the degenerate sizes with 0 rows or columns), both retrieval modes:
`find_contours` returns within the fuel bound `8·padded pixels + 8` and every contour point is
a foreground pixel inside the image that is adjacent to the background or the image edge.
An instance of `contoursOk_all`. -/
theorem c36_contours_bounded_small :
    ∀ rows : Fin 4, ∀ cols : Fin 4, rows.1 * cols.1 ≤ 6 → ∀ code : Fin 64, ∀ mode : Bool,
      contoursOk rows.1 cols.1 (bitsOf (rows.1 * cols.1) code.1) mode = true :=
  fun _ _ _ _ _ => contoursOk_all ..

/-- **C36.T1/S5 (bounded, 3×3)** 3×3 is the smallest size with a pixel (the centre) whose 8 neighbours are all
inside the image, i.e. the smallest size where "adjacent to the background or the image edge" can
fail.  For the 3×3 masks with code `0..127` (bit `i` = pixel `i` in row-major order), both
retrieval modes: `find_contours` returns within the fuel bound and every contour point is a
foreground pixel inside the image with a background pixel or the image edge in its
8-neighbourhood. -/
theorem c36_contours_bounded_3x3_a :
    ∀ hi : Fin 8, ∀ lo : Fin 16, ∀ mode : Bool,
      contoursOk 3 3 (bitsOf 9 ((0 * 8 + hi.1) * 16 + lo.1)) mode = true :=
  fun _ _ _ => contoursOk_all ..

/-- The same for the codes `128..255`. -/
theorem c36_contours_bounded_3x3_b :
    ∀ hi : Fin 8, ∀ lo : Fin 16, ∀ mode : Bool,
      contoursOk 3 3 (bitsOf 9 ((1 * 8 + hi.1) * 16 + lo.1)) mode = true :=
  fun _ _ _ => contoursOk_all ..

/-- The same for the codes `256..383`. -/
theorem c36_contours_bounded_3x3_c :
    ∀ hi : Fin 8, ∀ lo : Fin 16, ∀ mode : Bool,
      contoursOk 3 3 (bitsOf 9 ((2 * 8 + hi.1) * 16 + lo.1)) mode = true :=
  fun _ _ _ => contoursOk_all ..

/-- The same for the codes `384..511`. -/
theorem c36_contours_bounded_3x3_d :
    ∀ hi : Fin 8, ∀ lo : Fin 16, ∀ mode : Bool,
      contoursOk 3 3 (bitsOf 9 ((3 * 8 + hi.1) * 16 + lo.1)) mode = true :=
  fun _ _ _ => contoursOk_all ..

/-- Non-vacuity: a ring gives its outer border; an isolated pixel a one-point contour. -/
example : findContours 3 3 (bitsOf 9 0b111101111) false =
    .ok [[(0, 0), (1, 0), (2, 0), (2, 1), (2, 2), (1, 2), (0, 2), (0, 1)]] := by decide +kernel
example : findContours 1 3 [false, true, false] true = .ok [[(0, 1)]] := by decide +kernel

end RtenVerif.Contours
