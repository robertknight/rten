import RtenVerif.Lemmas.Bresenham
import RtenVerif.Props.C36

/-!
# C36.T2 — Bresenham stays in the bounding box of its endpoints (general); `draw_line` of
width 1 never panics on a non-empty image and only writes inside the box of the clamped
endpoints, and so `draw_polygon` of width 1 never panics either
-/
namespace RtenVerif.Contours

theorem bresenham_pos (s e : Pt) :
    ∀ p ∈ bresenham s e,
      Pos s (sgn (e.2 - s.2)) (sgn (e.1 - s.1)) (iabs (e.2 - s.2)) (iabs (e.1 - s.1)) p := by
  intro p hp
  change p ∈ Bres.run (Bres.new s e).remaining (Bres.new s e) at hp
  have hdx := iabs_nonneg (e.2 - s.2)
  have hdy := iabs_nonneg (e.1 - s.1)
  have hrem := Bres.new_remaining s e
  by_cases hmaj : iabs (e.2 - s.2) ≥ iabs (e.1 - s.1)
  · rw [if_pos hmaj] at hrem
    by_cases hpos : 0 < iabs (e.2 - s.2)
    · refine run_xmajor (sgn_ne_zero hpos) iabs_eq_zero_of_sgn hmaj hdy _ (Bres.new s e) 0 0
        ⟨rfl, rfl, Int.mul_comm _ _, Int.mul_comm _ _, ?_, ?_⟩ (Int.le_refl 0) (by omega)
        (Int.le_refl 0) hdy p hp
      · rw [Int.zero_mul, Int.zero_mul, Int.add_zero, Int.add_zero]; rfl
      · show (if _ then _ else _) = _
        rw [if_pos hmaj]; omega
    · rw [show (Bres.new s e).remaining = 0 by omega] at hp
      cases hp
  · rw [if_neg hmaj] at hrem
    -- a y-major or vertical line: the x-major line between the transposed endpoints
    have hy : ¬ (Bres.new s e).yStep = 0 := sgn_ne_zero (by omega)
    have hm : ¬ (Bres.new s e).dx ≥ (Bres.new s e).dy := by
      show ¬ iabs (e.2 - s.2) * 2 ≥ iabs (e.1 - s.1) * 2; omega
    have hp' : p.swap ∈ Bres.run (Bres.new s e).remaining (Bres.new s e).transpose := by
      rw [run_transpose _ _ hy hm]; exact List.mem_map_of_mem hp
    refine (run_xmajor (s := s.swap) hy iabs_eq_zero_of_sgn (by omega) hdx _ _ 0 0
      ⟨rfl, rfl, Int.mul_comm _ _, Int.mul_comm _ _, ?_, ?_⟩ (Int.le_refl 0) (by omega)
      (Int.le_refl 0) hdx _ hp').swap
    · rw [Int.zero_mul, Int.zero_mul, Int.add_zero, Int.add_zero]; rfl
    · show (if _ then _ else _) = _
      rw [if_neg hmaj]; omega

/-- **C36.T2b (general)** Every point `BreshamPoints` yields lies in the bounding box of the two
endpoints — for all endpoints. -/
theorem c36_bresenham_bbox (s e : Pt) :
    ∀ p ∈ bresenham s e, min s.1 e.1 ≤ p.1 ∧ p.1 ≤ max s.1 e.1 ∧
      min s.2 e.2 ≤ p.2 ∧ p.2 ≤ max s.2 e.2 := by
  intro p hp
  obtain ⟨kx, ky, rfl, h1, h2, h3, h4⟩ := bresenham_pos s e p hp
  obtain ⟨a1, a2⟩ := axis_bound s.1 e.1 ky h3 h4
  obtain ⟨b1, b2⟩ := axis_bound s.2 e.2 kx h1 h2
  exact ⟨a1, a2, b1, b2⟩

/-- **C36.T2d** `draw_line` with width 1 on a non-empty image never panics and only writes
pixels of the bounding box of the *clamped* endpoints (which lies inside the image) — for any
endpoints, inside or outside the image.  This uses the clamp (`c36_clamp_in_image`) and the
Bresenham invariant; it is not a consequence of the checked-write guard. -/
theorem c36_drawLine1_no_panic (h w : Int) (s e : Pt) (hh : 0 < h) (hw : 0 < w) :
    (drawLine1 h w s e).2 = false ∧
    (drawLine1 h w s e).1 = bresenham (clampToBounds s h w) (clampToBounds e h w) ∧
    ∀ p ∈ (drawLine1 h w s e).1,
      min (clampToBounds s h w).1 (clampToBounds e h w).1 ≤ p.1 ∧
      p.1 ≤ max (clampToBounds s h w).1 (clampToBounds e h w).1 ∧
      min (clampToBounds s h w).2 (clampToBounds e h w).2 ≤ p.2 ∧
      p.2 ≤ max (clampToBounds s h w).2 (clampToBounds e h w).2 := by
  have hs := c36_clamp_in_image h w s hh hw
  have he := c36_clamp_in_image h w e hh hw
  simp only [inImage, decide_eq_true_eq] at hs he
  have hall : ∀ p ∈ bresenham (clampToBounds s h w) (clampToBounds e h w), inImage h w p = true := by
    intro p hp
    have := c36_bresenham_bbox _ _ p hp
    exact decide_eq_true (by omega)
  obtain ⟨_, w2, w3⟩ := writeAll_spec h w (bresenham (clampToBounds s h w) (clampToBounds e h w))
  have hnp : (drawLine1 h w s e).2 = false := w2.mpr hall
  refine ⟨hnp, w3 hnp, fun p hp => c36_bresenham_bbox _ _ p ?_⟩
  rwa [show (drawLine1 h w s e).1 = _ from w3 hnp] at hp

/-- **C36.T4f** `draw_polygon` with width 1 on a non-empty image never panics, for any vertices. -/
theorem c36_drawPolygon1_no_panic (h w : Int) (es : List (Pt × Pt)) (hh : 0 < h) (hw : 0 < w) :
    (drawPolygon1 h w es).2 = false := by
  rw [drawPolygon1_eq]
  refine (writeAll_spec h w _).2.1.mpr fun p hp => ?_
  obtain ⟨e, _, hpe⟩ := List.mem_flatMap.mp hp
  exact c36_drawLine1_in_image h w e.1 e.2 p ((c36_drawLine1_no_panic h w e.1 e.2 hh hw).2.1 ▸ hpe)

/-- Non-vacuity: a line from far outside the image on both sides. -/
example : drawLine1 4 6 (-7, -3) (9, 20) = ([(0, 0), (1, 1), (1, 2), (2, 3), (2, 4)], false) := by
  decide

end RtenVerif.Contours
