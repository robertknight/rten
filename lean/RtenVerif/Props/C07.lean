import RtenVerif.Lemmas.IterNew
import RtenVerif.Lemmas.IterMap
import RtenVerif.Lemmas.IterSched
import RtenVerif.Lemmas.IterChunks
import RtenVerif.Lemmas.IterLane
import RtenVerif.Lemmas.IterDistinct

/-!
# C07 — Tensor iterators yield exactly the logical elements in order

Property theorems over `RtenVerif.Model.Iter` (model of `rten-tensor/src/iterators.rs`,
`iterators/parallel.rs` and `merge_axes`).  A layout `dims` is the list of `(size, stride)`
pairs, outermost first; `rowMajor dims` is the specification (offsets of all valid indices in
lexicographic order); `listOps` is a deque; `run ops h s` are the observations of the history
tree `h` (any interleaving of `next`, `next_back`, `nth k`, `len`, `split_at k` with *both*
halves continued, ending in `fold`, reverse draining, or drop).

Full statement of C07: for every layout and history, every iterator kind observes what the
deque over its logical item list observes.  Proved here, at full strength, for all modelled
kinds on the current (fixed) code: the element iterators (`Iter`/`IterMut`, both the
contiguous `Range` path and the `Indexing` path incl. `merge_axes`), `Lanes`/`LanesMut`,
`InnerIter`/`InnerIterMut`, `AxisIter`/`AxisIterMut` and `AxisChunks`/`AxisChunksMut`.  Three
of the pre-fix defects (`OffsetsBase::next_back`, `AxisIter::split_at`, `AxisChunks::next_back`)
have `decide`d negation witnesses below.
-/
namespace RtenVerif.Iter
open OffsetsBase

/-- **C07.T1 (state level)** For every state of the offsets iterator satisfying the
invariant — in particular every state reachable from `Offsets::new` by any history, since
every operation preserves it (`offsets_refines`) — and every further history, the
observations equal those of a deque over the offsets still to be yielded. -/
theorem c07_offsets_history (h : Hist) (s : Offsets) (hs : OffInv s) :
    run Offsets.ops h s = run (listOps Nat) h (absO s) :=
  run_refines offsets_refines h s hs

/-- **C07.T1** `iter()` / `iter_mut()`: for every layout (any rank, sizes, strides — contiguous,
permuted, stepped, broadcast, empty) and every history, the yielded offsets, lengths, fold
contents and split halves are exactly those of a deque over the row-major offset list: each
logical element once, in order from the front and in reverse from the back. -/
theorem c07_iter_history (dims : List (Nat × Nat)) (h : Hist) :
    run Offsets.ops h (Offsets.new dims) = run (listOps Nat) h (rowMajor dims) := by
  obtain ⟨hinv, habs⟩ := offsets_new dims
  rw [c07_offsets_history h _ hinv, habs]

/-- **C07.T2** `merge_axes` preserves the row-major offset sequence. -/
theorem c07_merge_axes_rowMajor (dims : List (Nat × Nat)) :
    rowMajor (mergeAxes dims) = rowMajor dims := mergeAxes_rowMajor dims

/-- Logical lane list: one lane per index of the other dimensions, in row-major order
(none if the tensor is empty). -/
def lanesSpec (dims : List (Nat × Nat)) (dim : Nat) : List Item :=
  if total dims = 0 then []
  else (rowMajor (dims.eraseIdx dim)).map
    (laneItem (dims.getD dim (0, 0)).1 (dims.getD dim (0, 0)).2)

/-- **C07.T3a** `lanes(dim)` / `lanes_mut(dim)`: whenever the constructor does not panic
(`lanesNew? = some s`: valid `dim`; for `lanes_mut`, not `is_broadcast`), every history
observes the deque over the logical lane list. -/
theorem c07_lanes_history (dims : List (Nat × Nat)) (dim : Nat) (mutable : Bool) (s : Offsets)
    (hs : lanesNew? dims dim mutable = some s) (h : Hist) :
    run (lanesOps dims dim) h s = run (listOps Item) h (lanesSpec dims dim) := by
  obtain ⟨_, ⟨⟩⟩ := Option.ite_none_right_eq_some.mp hs
  unfold lanesOps lanesNew lanesSpec
  by_cases hz : total dims = 0
  · obtain ⟨hinv, habs⟩ := offsets_new dims
    simp only [hz, if_true]
    rw [mapOps_history _ h _ hinv, habs]
    have : rowMajor dims = [] := List.length_eq_zero_iff.mp (by rw [rowMajor_length, hz])
    rw [this]; rfl
  · obtain ⟨hinv, habs⟩ := offsets_new (dims.eraseIdx dim)
    simp only [hz, if_false]
    rw [mapOps_history _ h _ hinv, habs]

/-- Non-vacuity and the modelled constructor panics: a valid mutable case; an invalid `dim`;
`lanes_mut` on a layout with a zero stride (even on a size-1 dim) panics. -/
example : (lanesNew? [(2, 3), (3, 1)] 0 true).isSome = true ∧ lanesNew? [(2, 3), (3, 1)] 2 false = none ∧
    lanesNew? [(1, 0), (3, 1)] 1 true = none ∧ (lanesNew? [(1, 0), (3, 1)] 1 false).isSome = true := by
  decide

/-- **C07.T3a-lane** `Lane` (the element iterator over one lane; not a `SplitIterator`): every
split-free history of next / next_back / nth / len / fold / rev observes the deque over the
lane's element offsets. -/
theorem c07_lane_history (size stride start : Nat) (h : Hist) (hn : h.noSplit = true) :
    run LaneIt.ops h (LaneIt.new size stride start) =
      run (listOps Nat) h (laneItem size stride start).2 := by
  rw [lane_history h hn, lane_new]

/-- **C07.T3a-lanemut** `LaneMut`, including its `nth` override
(`index.saturating_add(n).min(end)`). -/
theorem c07_lane_mut_history (size stride start : Nat) (h : Hist) (hn : h.noSplit = true) :
    run LaneIt.opsMut h (LaneIt.new size stride start) =
      run (listOps Nat) h (laneItem size stride start).2 := by
  rw [laneMut_history h hn, lane_new]

example : (Hist.nth 1 (.back (.next (.len .rev)))).noSplit = true := by decide

/-- Logical inner-view list for `inner_iter(n)`: one view per index of the outer dims (outer
strides are irrelevant, and zeroed by the code, when the inner views are empty). -/
def innerSpec (dims : List (Nat × Nat)) (n : Nat) : List Item :=
  let outer := dims.take (dims.length - n)
  let inner := dims.drop (dims.length - n)
  (rowMajor (if minDataLen inner = 0 then outer.map (fun d => (d.1, 0)) else outer)).map
    (innerItem inner)

/-- **C07.T3b** `inner_iter(n)` / `inner_iter_mut(n)`: whenever the constructor does not panic
(`innerNew? = some s`, i.e. `n ≤ ndim`), every history observes the deque over the logical
inner-view list. -/
theorem c07_inner_history (dims : List (Nat × Nat)) (n : Nat) (s : Offsets)
    (hs : innerNew? dims n = some s) (h : Hist) :
    run (innerOps dims n) h s = run (listOps Item) h (innerSpec dims n) := by
  obtain ⟨_, ⟨⟩⟩ := Option.ite_none_right_eq_some.mp hs
  unfold innerOps innerNew innerSpec
  simp only
  obtain ⟨hinv, habs⟩ := offsets_new
    (if minDataLen (dims.drop (dims.length - n)) = 0
      then (dims.take (dims.length - n)).map (fun d => (d.1, 0)) else dims.take (dims.length - n))
  rw [mapOps_history _ h _ hinv, habs]

example : (innerNew? [(2, 3), (3, 1)] 2).isSome = true ∧ innerNew? [(2, 3), (3, 1)] 3 = none := by decide

/-- **C07.T1-par** Whatever split tree a parallel scheduler chooses (valid split points, i.e.
no `split_at` panics), folding every leaf and concatenating in leaf order gives exactly the
row-major offset list: each element once, in order. -/
theorem c07_iter_par_schedule (dims : List (Nat × Nat)) (T : Sched)
    (hp : Obs.panic ∉ run Offsets.ops T.toHist (Offsets.new dims)) :
    collected (run Offsets.ops T.toHist (Offsets.new dims)) = rowMajor dims := by
  rw [c07_iter_history] at hp ⊢
  exact sched_list T _ hp

/-- Non-vacuity: a 3-leaf schedule on the transposed 3×3 tensor does not panic. -/
example : Obs.panic ∉ run Offsets.ops (Sched.node 5 (.node 2 .leaf .leaf) .leaf).toHist
    (Offsets.new [(3, 1), (3, 3)]) := by decide

/-- The split point is `ndim - n` truncated at 0: for `n > ndim` the one "inner view" is the whole layout. -/
theorem inner_partition (dims : List (Nat × Nat)) (n : Nat)
    (hne : minDataLen (dims.drop (dims.length - n)) ≠ 0) :
    (innerSpec dims n).flatMap (·.2) = rowMajor dims := by
  unfold innerSpec
  simp only [hne, if_false, List.flatMap_map, innerItem]
  rw [← rowMajor_append, List.take_append_drop]

/-- **C07.T3c** The inner views of `inner_iter(n)` partition the tensor: when the inner views
are non-empty, concatenating the element offsets of the logical inner-view list gives the
row-major offset list of the whole layout (each element in exactly one view, in order). -/
theorem c07_inner_partition (dims : List (Nat × Nat)) (n : Nat) (_hn : n ≤ dims.length)
    (hne : minDataLen (dims.drop (dims.length - n)) ≠ 0) :
    (innerSpec dims n).flatMap (·.2) = rowMajor dims :=
  inner_partition dims n hne

example : 2 ≤ [(2, 6), (3, 2), (2, 1)].length ∧ minDataLen ([(2, 6), (3, 2), (2, 1)].drop (3 - 2)) ≠ 0 := by
  decide

/-- **C07.T3d** `axis_iter(axis)` / `axis_iter_mut(axis)`: whenever the constructor does not panic
(`AxisIter.new? = some s`: valid axis; for `axis_iter_mut`, not `is_broadcast`), for every history
(incl. `split_at` after partial consumption from either end), the yielded
sub-views are exactly those of a deque over `[index_axis(axis, i) | i < size(axis)]`. -/
theorem c07_axis_history (v : View) (axis : Nat) (mutable : Bool) (s : AxisIter)
    (hs : AxisIter.new? v axis mutable = some s) (h : Hist) :
    run AxisIter.ops h s = run (listOps Item) h (axisSpec v axis) := by
  obtain ⟨hc, ⟨⟩⟩ := Option.ite_none_right_eq_some.mp hs
  obtain ⟨hinv, habs⟩ := axis_new v axis hc.1
  rw [axis_history h _ hinv, habs]

/-- **C07.T4** `axis_chunks(axis, c)` / `axis_chunks_mut(axis, c)`: whenever the constructor does
not panic (`AxisChunks.new? = some s`: valid axis, chunk size `c > 0`; for `axis_chunks_mut`, not
`is_broadcast`), for every history the yielded sub-views are exactly those of a deque over
the logical chunks `[k*c, min((k+1)*c, size))`, `k < ceil(size / c)` — front items in order,
back items in reverse, exact lengths, `split_at` on chunk boundaries. -/
theorem c07_chunks_history (v : View) (axis c : Nat) (mutable : Bool) (s : AxisChunks)
    (hs : AxisChunks.new? v axis c mutable = some s) (h : Hist) :
    run AxisChunks.ops h s = run (listOps Item) h (chunksSpec v axis c) := by
  obtain ⟨hc, ⟨⟩⟩ := Option.ite_none_right_eq_some.mp hs
  obtain ⟨hinv, habs⟩ := chunks_new v axis c hc.1 hc.2.1
  rw [chunks_history h _ hinv, habs]

/-- **C07.T4 (cover)** The logical chunks partition the axis: their index ranges, concatenated
in order, are exactly `0 .. size` — every index of the axis lies in exactly one chunk. -/
theorem c07_chunks_cover (size c : Nat) (hc : 0 < c) :
    (List.range (nChunks size c)).flatMap (chunkRange size c) = List.range size := by
  have hmono : ∀ j k, j ≤ k → min (j * c) size ≤ min (k * c) size := fun j k h => by
    have := Nat.mul_le_mul_right c h
    omega
  have hend : min (nChunks size c * c) size = size :=
    Nat.min_eq_right (Nat.le_of_not_lt fun h => Nat.lt_irrefl _ ((lt_nChunks hc _).mpr h))
  have h := flatMap_range'_steps (fun k => min (k * c) size) hmono (nChunks size c)
  simp only [Nat.zero_mul, Nat.zero_min, Nat.sub_zero, hend] at h
  rw [List.range_eq_range' (n := size), ← h]
  apply flatMap_congr'
  intro k hk
  rw [chunkRange, Nat.min_eq_left (Nat.le_of_lt ((lt_nChunks hc k).mp (List.mem_range.mp hk)))]

/-- Non-vacuity of the hypotheses (a 2×5×3 view, axis 1, chunks of 2), and the modelled
constructor panics (invalid axis, chunk size 0, mutable iteration over a zero-stride layout). -/
example : (AxisIter.new? ⟨0, [(2, 15), (5, 3), (3, 1)]⟩ 1 true).isSome = true ∧
    (AxisChunks.new? ⟨0, [(2, 15), (5, 3), (3, 1)]⟩ 1 2 true).isSome = true ∧
    AxisIter.new? ⟨0, [(2, 15), (5, 3), (3, 1)]⟩ 3 false = none ∧
    AxisChunks.new? ⟨0, [(2, 15), (5, 3), (3, 1)]⟩ 1 0 false = none ∧
    AxisChunks.new? ⟨0, [(2, 15), (5, 3), (3, 1)]⟩ 3 2 false = none ∧
    AxisIter.new? ⟨0, [(1, 0), (3, 1)]⟩ 1 true = none ∧
    (AxisIter.new? ⟨0, [(1, 0), (3, 1)]⟩ 1 false).isSome = true := by decide

/-- **C07.M1** `iter_mut()`: for every layout accepted by the overlap check that `TensorViewMut`
constructors apply (`may_have_internal_overlap = false`, C08) and every history — including
fold / reverse-drain terminals and both halves of every `split_at` — all offsets handed out are
pairwise distinct: no element is handed out twice. -/
theorem c07_iter_mut_distinct (dims : List (Nat × Nat)) (h : Hist)
    (hno : RtenVerif.Overlap.mayOverlap dims = false) :
    (yielded (run Offsets.ops h (Offsets.new dims))).Nodup := by
  rw [c07_iter_history]
  exact yielded_nodup h _ (rowMajor_nodup dims hno)

/-- **C07.M2** `inner_iter_mut(n)`: the element offsets of all inner views handed out over any
history are pairwise distinct (non-overlapping layout, non-empty inner views). -/
theorem c07_inner_mut_disjoint (dims : List (Nat × Nat)) (n : Nat) (s : Offsets)
    (hs : innerNew? dims n = some s) (h : Hist)
    (hne : minDataLen (dims.drop (dims.length - n)) ≠ 0)
    (hno : RtenVerif.Overlap.mayOverlap dims = false) :
    ((yielded (run (innerOps dims n) h s)).flatMap (·.2)).Nodup := by
  rw [c07_inner_history dims n s hs h]
  apply yielded_flat_nodup
  rw [inner_partition dims n hne]
  exact rowMajor_nodup dims hno

/-- **C07.M3** `LaneMut`: the offsets handed out by one mutable lane over any split-free history
are pairwise distinct when the lane's stride is non-zero. -/
theorem c07_lane_mut_distinct (size stride start : Nat) (h : Hist) (hn : h.noSplit = true)
    (hst : 0 < stride) :
    (yielded (run LaneIt.opsMut h (LaneIt.new size stride start))).Nodup := by
  rw [c07_lane_mut_history size stride start h hn]
  apply yielded_nodup
  simp only [laneItem]
  unfold List.Nodup
  rw [List.pairwise_map]
  refine (List.nodup_range (n := size)).imp ?_
  intro a b hab heq
  have : a * stride = b * stride := by omega
  exact hab (Nat.eq_of_mul_eq_mul_right hst this)

/-- **C07.M4** Item level: over any history the sub-views handed out by
`lanes(_mut)`, `axis_iter(_mut)` and `axis_chunks(_mut)` are a permutation of a sublist of the
logical item list — each lane / axis slice / chunk at most once. -/
theorem c07_items_at_most_once (h : Hist) :
    (∀ dims dim m s, lanesNew? dims dim m = some s →
      SubPerm (yielded (run (lanesOps dims dim) h s)) (lanesSpec dims dim)) ∧
    (∀ v axis m s, AxisIter.new? v axis m = some s →
      SubPerm (yielded (run AxisIter.ops h s)) (axisSpec v axis)) ∧
    (∀ v axis c m s, AxisChunks.new? v axis c m = some s →
      SubPerm (yielded (run AxisChunks.ops h s)) (chunksSpec v axis c)) := by
  refine ⟨?_, ?_, ?_⟩
  · intro dims dim m s hs
    rw [c07_lanes_history dims dim m s hs h]; exact yielded_subperm h _
  · intro v axis m s hs
    rw [c07_axis_history v axis m s hs h]; exact yielded_subperm h _
  · intro v axis c m s hs
    rw [c07_chunks_history v axis c m s hs h]; exact yielded_subperm h _

/-- Non-vacuity: the transposed 3×3 layout is accepted by the overlap check. -/
example : RtenVerif.Overlap.mayOverlap [(3, 1), (3, 3)] = false := by decide

/-- The transposed 3×3 layout goes through the `Indexing` path and `merge_axes`. -/
example :
    run Offsets.ops (.next (.back (.nth 1 (.len (.split 2 .fold .rev))))) (Offsets.new [(3, 1), (3, 3)])
      = [.item (some 0), .item (some 8), .item (some 6), .len 5, .folded [1, 4], .reved [5, 2, 7]] := by
  decide

example : RtenVerif.Overlap.isContiguous [(3, 1), (3, 3)] = false ∧ rowMajor [(3, 1), (3, 3)] = [0, 3, 6, 1, 4, 7, 2, 5, 8] := by
  decide

def witnessState : OffsetsBase := (OffsetsBase.new [(3, 1), (3, 3)]).next.2

/-- **Pre-fix `OffsetsBase::next_back` is wrong** (`index = len - 1` used as an absolute
index): after `next()` it returns offset 5 (observed on the real code: `next_back()` = 5) instead of the
last element, offset 8.  The refinement statement `next_back = getLast?` is false of the old code. -/
theorem c07_next_back_v0_false :
    ¬ (∀ s : OffsetsBase, Inv s → s.nextBackV0.1 = (absB s).getLast?) := by
  intro h
  have := h witnessState (next_spec (base_new [(3, 1), (3, 3)]).1).2.2
  revert this
  decide

/-- The same state on the fixed code (instance of `nextBack_spec`). -/
example : witnessState.nextBack.1 = some 8 ∧ witnessState.nextBackV0.1 = some 5 := by decide

/-- **Pre-fix `AxisIter::split_at` is wrong**: it ignored the consumed prefix, so after
`next()` the left half re-yields row 0 (for `AxisIterMut`: a second `&mut` view of row 0). -/
theorem c07_axis_split_v0_false :
    run { AxisIter.ops with splitAt := AxisIter.splitAtV0 } (.next (.split 1 .fold .fold))
        (AxisIter.new ⟨0, [(3, 3), (3, 1)]⟩ 0)
      ≠ run (listOps Item) (.next (.split 1 .fold .fold)) (axisSpec ⟨0, [(3, 3), (3, 1)]⟩ 0) := by
  decide

/-- The fixed `split_at` on the same input (kernel-evaluated instance of `c07_axis_history`). -/
example :
    run AxisIter.ops (.next (.split 1 .fold .fold)) (AxisIter.new ⟨0, [(3, 3), (3, 1)]⟩ 0)
      = run (listOps Item) (.next (.split 1 .fold .fold)) (axisSpec ⟨0, [(3, 3), (3, 1)]⟩ 0) := by
  decide

/-- **Pre-fix `AxisChunks::next_back` is wrong**: on an axis of 5 with chunks of 2 it yields
`[3,4]` from the back, which is not a chunk of the forward sequence `[0,1] [2,3] [4]`. -/
theorem c07_chunks_next_back_v0_false :
    run { AxisChunks.ops with nextBack := AxisChunks.nextBackV0 } (.back .drop)
        (AxisChunks.new ⟨0, [(5, 1)]⟩ 0 2)
      ≠ run (listOps Item) (.back .drop) (chunksSpec ⟨0, [(5, 1)]⟩ 0 2) := by
  decide

/-- Fixed `AxisChunks` on the same layout, mixed history incl. `split_at` (kernel-evaluated
instance of `c07_chunks_history`). -/
example :
    run AxisChunks.ops (.back (.len (.split 2 .fold (.next .drop)))) (AxisChunks.new ⟨0, [(5, 1)]⟩ 0 2)
      = run (listOps Item) (.back (.len (.split 2 .fold (.next .drop)))) (chunksSpec ⟨0, [(5, 1)]⟩ 0 2) := by
  decide

end RtenVerif.Iter
