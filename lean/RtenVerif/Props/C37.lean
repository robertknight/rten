import RtenVerif.Lemmas.BlockQuant
import RtenVerif.Lemmas.NearestInt
import RtenVerif.Lemmas.ListBasics

/-!
# C37 — Block-quantized matrix multiplication equals dequantize-then-multiply

Property theorems over `RtenVerif.Model.BlockQuant` (model of `rten-gemm/src/block_quant.rs`,
`packing.rs::BlockQuantizedMatrixPacker`, MatMulNBits).

Level: proof of the algebra and of the index logic over an arbitrary commutative ring
(`Lean.Grind.CommRing`) / *partial*: nothing is claimed about f32 rounding (the property's "within
floating-point tolerance" part is tested by the harness, not proved), and the semantics of the SIMD
instructions is assumed; only this host's ISAs are exercised.
-/
namespace RtenVerif.BlockQuant
open Lean.Grind

variable {R : Type} [CommRing R]

/-- **C37.T1** For every block size, every number of blocks, LHS and weights of any common length
(the final block may be partial) and all scales: dequantise-then-multiply
`Σ_k a_k · (scale_{k / bs} · (q_k − 8))` equals the factored per-block form
`Σ_blocks scale · (Σ_{k∈block} a_k q_k − 8 · Σ_{k∈block} a_k)` (pure algebra; the per-block form is what
the Int8 kernel's unsigned-LHS trick evaluates, the Float kernel dequantises element-wise — the
kernels themselves are `floatKernelDot` / `int8KernelDot`, Props/C37Index.lean). -/
theorem c37_factored_eq_dequantize (bs : Nat) (scales a q : List R) (h : a.length = q.length) :
    factoredBlocks bs scales a q = refDot bs scales a q :=
  (refDot_eq_factoredBlocks bs scales a q (Nat.le_of_eq h)).symm

/-- The reference really uses `block index = k / bs`: the per-element scale list it multiplies with
has `scales[k / bs]` at position `k`. -/
theorem c37_scale_of_element (bs : Nat) (hbs : 0 < bs) (scales : List R) (k : Nat) :
    (expandScales bs scales).getD k 0 = scales.getD (k / bs) 0 :=
  expandScales_getD bs hbs 0 scales k

/-- Non-vacuity over `Int`: two blocks of size 4, the second one partial (3 elements). -/
example : factoredBlocks (R := Int) 4 [2, -3] [1, -2, 3, 4, 5, -6, 7] [0, 15, 8, 7, 1, 9, 12] =
    refDot 4 [2, -3] [1, -2, 3, 4, 5, -6, 7] [0, 15, 8, 7, 1, 9, 12] ∧
    refDot (R := Int) 4 [2, -3] [1, -2, 3, 4, 5, -6, 7] [0, 15, 8, 7, 1, 9, 12] = -13 := by decide

/-- **C37.T2a** Nibble unpacking is the inverse of packing: for every byte, and for every pair of
nibbles. -/
theorem c37_nibble_roundtrip :
    (∀ b, b < 256 → packByte (loNibble b) (hiNibble b) = b) ∧
    (∀ lo hi, lo < 16 → hi < 16 →
      loNibble (packByte lo hi) = lo ∧ hiNibble (packByte lo hi) = hi) :=
  ⟨unpack_pack_byte, pack_unpack_nibbles⟩

/-- T2a at every byte, with both nibbles in range. -/
theorem c37_nibble_roundtrip_all_bytes :
    ∀ b : Fin 256, packByte (loNibble b.val) (hiNibble b.val) = b.val ∧
      loNibble b.val < 16 ∧ hiNibble b.val < 16 := fun b =>
  ⟨unpack_pack_byte b.val b.isLt, by have := b.isLt; unfold loNibble hiNibble; omega⟩

/-- T2a for whole columns of bytes. -/
theorem c37_unpack_then_pack (bytes : List Nat) (h : ∀ b ∈ bytes, b < 256) :
    packNibbles (unpackBytes bytes) = bytes :=
  packNibbles_unpackBytes bytes h

/-- **C37.T2b** The element → (block, byte, nibble) index map is a bijection between `[0, nb·bs)`
and `{(blk, byte, nib) | blk < nb, byte < bs/2, nib < 2}` for every even block size. -/
theorem c37_index_map_bijection (bs nb : Nat) (hbs : 0 < bs) (heven : bs % 2 = 0) :
    (∀ k, posElem bs (elemPos bs k) = k) ∧
    (∀ k, k < nb * bs →
      (elemPos bs k).1 < nb ∧ (elemPos bs k).2.1 < bs / 2 ∧ (elemPos bs k).2.2 < 2) ∧
    (∀ blk byte nib, byte < bs / 2 → nib < 2 →
      elemPos bs (posElem bs (blk, byte, nib)) = (blk, byte, nib)) ∧
    (∀ blk byte nib, blk < nb → byte < bs / 2 → nib < 2 →
      posElem bs (blk, byte, nib) < nb * bs) := by
  refine ⟨?_, ?_, ?_, ?_⟩
  · intro k
    simp only [posElem, elemPos]
    have h1 := Nat.div_add_mod k bs
    have h2 : k % 2 = (k % bs) % 2 := by
      rw [Nat.mod_mod_of_dvd k (Nat.dvd_of_mod_eq_zero heven)]
    have h3 := Nat.div_add_mod (k % bs) 2
    rw [Nat.mul_comm] at h1
    omega
  · intro k hk
    have := Nat.mod_lt k hbs
    exact ⟨(Nat.div_lt_iff_lt_mul hbs).mpr hk, by simp only [elemPos]; omega, by simp only [elemPos]; omega⟩
  · intro blk byte nib hb hn
    obtain ⟨h, rfl⟩ : ∃ h, bs = 2 * h := ⟨bs / 2, by omega⟩
    have hr : 2 * byte + nib < 2 * h := by omega
    -- `blk·bs + r` with `r = 2·byte + nib < bs`: quotient `blk`, remainder `r`, parity that of `r`
    simp only [posElem, elemPos]
    rw [Nat.add_assoc, (mul_add_div_mod blk hr).1, (mul_add_div_mod blk hr).2, Nat.mul_comm blk,
      Nat.mul_assoc, Nat.mul_add_mod,
      (by omega : (2 * byte + nib) / 2 = byte), (by omega : (2 * byte + nib) % 2 = nib)]
  · intro blk byte nib hblk hb hn
    simp only [posElem]
    have h1 : (blk + 1) * bs ≤ nb * bs := Nat.mul_le_mul_right bs hblk
    rw [Nat.add_mul, Nat.one_mul] at h1
    omega

/-- **C37.T2c** Reading element `k` through the index map (as the reference implementations do)
agrees with the sequential low-nibble-first unpacking of the column's bytes (as the kernels do). -/
theorem c37_index_map_agrees_with_unpack (bs : Nat) (hbs : 0 < bs) (heven : bs % 2 = 0)
    (bytes : List Nat) (k : Nat) :
    elemAt bs bytes k = (unpackBytes bytes).getD k 0 := by
  obtain ⟨h, rfl⟩ : ∃ h, bs = 2 * h := ⟨bs / 2, by omega⟩
  rw [unpackBytes_getD, elemAt, elemPos]
  simp only []
  rw [Nat.mul_div_cancel_left h (by decide), Nat.mul_comm 2 h, div_split]

example : elemAt 16 [0x21, 0x43, 0x65, 0x87, 0xA9, 0xCB, 0xED, 0x0F, 0x10] 17 = 1 ∧
    unpackBytes [0x21, 0x43] = [1, 2, 3, 4] := by decide

/-- **C37.T3** Int8 compute mode equals the reference of T1 on the de-quantised LHS
`ã_k = row_scale_{k / bs} · l_k`, for both dot-product flavours (unsigned-LHS trick of x86 and the
signed form), every block size and a possibly partial last block. -/
theorem c37_int8_mode_eq_dequantize (u : Bool) (bs : Nat) (cs rs l q : List R)
    (h : l.length = q.length) :
    int8Blocks u bs cs rs l q = refDot bs cs (scaleLhs bs rs l) q := by
  rw [int8Blocks_eq_refDot u bs cs rs l q (Nat.le_of_eq h), refDot_scaleLhs]

/-- Corollary (error of Int8 mode is exactly the LHS quantisation error propagated through the
reference): `ref(a) − int8(l) = ref(a − ã)`. -/
theorem c37_int8_error_is_quantization_error (u : Bool) (bs : Nat) (cs rs l q a : List R)
    (h : l.length = q.length) (ha : a.length = (scaleLhs bs rs l).length) :
    refDot bs cs a q - int8Blocks u bs cs rs l q =
      refDot bs cs (List.zipWith (· - ·) a (scaleLhs bs rs l)) q := by
  rw [c37_int8_mode_eq_dequantize u bs cs rs l q h]
  unfold refDot
  rw [dot3_sub a _ _ q ha]

/-- Non-vacuity over `Int`: block size 4, two blocks, both flavours agree with the reference. -/
example :
    int8Blocks (R := Int) true 4 [2, 3] [1, 2] [127, -5, 0, 64, -127, 1, 2, 3] [0, 15, 8, 7, 1, 9, 12, 3] =
      refDot 4 [2, 3] (scaleLhs 4 [1, 2] [127, -5, 0, 64, -127, 1, 2, 3]) [0, 15, 8, 7, 1, 9, 12, 3] ∧
    int8Blocks (R := Int) false 4 [2, 3] [1, 2] [127, -5, 0, 64, -127, 1, 2, 3] [0, 15, 8, 7, 1, 9, 12, 3] =
      int8Blocks (R := Int) true 4 [2, 3] [1, 2] [127, -5, 0, 64, -127, 1, 2, 3] [0, 15, 8, 7, 1, 9, 12, 3] := by
  decide

theorem unpackBytes_packNibbles : ∀ (l : List Nat), l.length % 2 = 0 → (∀ x ∈ l, x < 16) →
    unpackBytes (packNibbles l) = l
  | [], _, _ => rfl
  | [_], h, _ => by simp at h
  | lo :: hi :: rest, h, hb => by
    have hlo : lo < 16 := hb lo (by simp)
    have hhi : hi < 16 := hb hi (by simp)
    have := pack_unpack_nibbles lo hi hlo hhi
    simp only [packNibbles, unpackBytes, this.1, this.2]
    rw [unpackBytes_packNibbles rest (by simp only [List.length_cons] at h; omega)
      (fun x hx => hb x (by simp [hx]))]

/-- **C37.T2d** For every column of signed 4-bit weights (`−8 ≤ w ≤ 7`, even length): unpacking the
packed bytes low-nibble-first and subtracting the zero point 8 returns the weights — the block
layout `[N, k_blocks, block_size/2]` is just this byte list cut into blocks (see
`c37_index_map_agrees_with_unpack`). -/
theorem c37_dequantize_unpack_pack (ws : List Int) (hlen : ws.length % 2 = 0)
    (hr : ∀ w ∈ ws, -8 ≤ w ∧ w ≤ 7) : unpackWeights (packWeights ws) = ws := by
  unfold unpackWeights packWeights
  rw [unpackBytes_packNibbles _ (by simpa using hlen) (by
    simp only [List.mem_map, forall_exists_index, and_imp, forall_apply_eq_imp_iff₂]
    intro w hw
    have := hr w hw
    unfold nibbleOfWeight
    omega), List.map_map]
  conv => rhs; rw [← List.map_id ws]
  exact List.map_congr_left fun w hw => by
    have := hr w hw
    simp only [Function.comp, nibbleOfWeight, id]
    omega

/-- `pack_4bit_elements` yields bytes, whatever `lo` and `hi`. -/
theorem c37_packed_bytes_lt_256 (lo hi : Nat) : packByte lo hi < 256 := by
  unfold packByte; omega

example : packWeights [-8, 7, 0, -1] = [0xF0, 0x78] ∧ unpackWeights [0xF0, 0x78] = [-8, 7, 0, -1] := by
  decide

/-- T2d at all 256 (even, odd) weight pairs. -/
theorem c37_dequantize_unpack_pack_all_pairs :
    ∀ a b : Fin 16, unpackWeights (packWeights [(a.val : Int) - 8, (b.val : Int) - 8]) =
      [(a.val : Int) - 8, (b.val : Int) - 8] := fun a b =>
  c37_dequantize_unpack_pack _ (by simp) (by
    intro w hw
    simp only [List.mem_cons, List.not_mem_nil, or_false] at hw
    have := a.isLt
    have := b.isLt
    rcases hw with rfl | rfl <;> omega)

/-- **C37.T3b** (only the range part is derived; the half-step part *is* the hypothesis `NearestQ`,
which the harness checks on the real `quantize` through `verif::quantize_row`, ε-weakened for
f32).  For any nearest-integer rounding: the quantised value of an element of a block with
`absmax = A > 0` lies in `[−127, 127]` (no clamp is ever needed, the `as i8` cast is exact) and the
de-quantisation error is at most half a scale step: `|q·A − 127·X| ≤ A/2`, i.e.
`|q·scale − x| ≤ scale/2` with `scale = A/127`. -/
theorem c37_quantize_in_range_and_half_step (A X q : Int) (hA : 0 < A) (hx : -A ≤ X ∧ X ≤ A)
    (hq : NearestQ A X q) : (-127 ≤ q ∧ q ≤ 127) ∧ 2 * (q * A - 127 * X) ≤ A ∧
      -A ≤ 2 * (q * A - 127 * X) :=
  ⟨⟨ge_of_nearest hA (by omega) hq.2, le_of_nearest hA (by omega) hq.1⟩, hq⟩

/-- Non-vacuity: `A = 254`, `X = 100` → `q = 50` is nearest. -/
example : NearestQ 254 100 50 ∧ ¬ NearestQ 254 100 51 := by unfold NearestQ; omega

/-- The exact-domain quantiser used by the driver on three blocks: one it answers (`q·s = x` for
every element, `|q| ≤ 127`), the zero block, and one outside its domain. -/
example : quantizeBlockExact [254, -100, 0, 2] = some ([127, -50, 0, 1], 2) ∧
    quantizeBlockExact [0, 0] = some ([0, 0], 0) ∧ quantizeBlockExact [3, 1] = none := by decide

/-- **C37.T1 (checked)** With the length checks made explicit — LHS and weights of equal length and
exactly one scale per (possibly partial) block, `none` otherwise — the factored form and the
reference agree, as `Option`s. -/
theorem c37_factored_eq_dequantize_checked (bs : Nat) (scales a q : List R) :
    factoredBlocksChecked bs scales a q = refDotChecked bs scales a q := by
  unfold factoredBlocksChecked refDotChecked
  split
  · rename_i h
    rw [c37_factored_eq_dequantize bs scales a q h.1]
  · rfl

theorem numBlocks_mul_ge (bs len : Nat) (hbs : 0 < bs) : len ≤ numBlocks bs len * bs := by
  unfold numBlocks
  have h1 := Nat.div_add_mod (len + bs - 1) bs
  have h2 := Nat.mod_lt (len + bs - 1) hbs
  rw [Nat.mul_comm] at h1
  omega

/-- **C37.T3 (checked)** Int8 mode with explicit length checks equals the checked reference applied
to the de-quantised LHS, for quantised LHS and weights of equal length and as many row scales as
column scales (`hr`; with more row scales only the Int8 side is `none`): both are `none` unless
there is exactly one column scale per block. -/
theorem c37_int8_mode_eq_dequantize_checked (u : Bool) (bs : Nat) (hbs : 0 < bs) (cs rs l q : List R)
    (hr : rs.length = cs.length) (hl : l.length = q.length) :
    int8BlocksChecked u bs cs rs l q = refDotChecked bs cs (scaleLhs bs rs l) q := by
  unfold int8BlocksChecked refDotChecked
  by_cases h : cs.length = numBlocks bs l.length
  · have hlen : (scaleLhs bs rs l).length = l.length := by
      unfold scaleLhs
      rw [List.length_zipWith, expandScales_length, hr, h]
      exact Nat.min_eq_right (numBlocks_mul_ge bs l.length hbs)
    rw [if_pos ⟨hl, h, hr⟩, hlen, if_pos ⟨hl, h⟩, c37_int8_mode_eq_dequantize u bs cs rs l q hl]
  · rw [if_neg (fun hh => h hh.2.1)]
    have hle : (scaleLhs bs rs l).length ≤ l.length := scaleLhs_length_le bs rs l
    rw [if_neg]
    intro h2
    apply h
    have hfull : (scaleLhs bs rs l).length = l.length := by omega
    rw [← hfull]; exact h2.2

example : refDotChecked (R := Int) 4 [2, -3] [1, -2, 3, 4, 5, -6, 7] [0, 15, 8, 7, 1, 9, 12] = some (-13) ∧
    refDotChecked (R := Int) 4 [2] [1, -2, 3, 4, 5, -6, 7] [0, 15, 8, 7, 1, 9, 12] = none ∧
    factoredBlocksChecked (R := Int) 4 [2, -3, 5] [1, -2, 3, 4, 5, -6, 7] [0, 15, 8, 7, 1, 9, 12] = none := by
  decide

theorem dot3_abs_le : ∀ (e : List Int) (r : List Nat) (w q : List Int), HalfStep e r →
    2 * (dot3 e w q).natAbs ≤ absBoundN r w q
  | _, _, w, q, .nil => by simp [dot3]
  | _, _, [], q, .cons _ _ => by simp [dot3_nil_w]
  | _, _, _ :: _, [], .cons _ _ => by simp [dot3_nil_q]
  | x :: xs, r :: rs, w :: ws, y :: ys, .cons h ht => by
    have ih := dot3_abs_le xs rs ws ys ht
    simp only [dot3, absBoundN]
    have h1 := Int.natAbs_add_le (x * (w * (y - 8))) (dot3 xs ws ys)
    rw [Int.natAbs_mul] at h1
    have h3 := Nat.mul_le_mul_right (w * (y - 8)).natAbs h
    rw [Nat.mul_assoc] at h3
    omega

/-- **C37.T3c** Summed bound: if every element of the LHS is de-quantised to within half the row
scale of its block (`HalfStep`, what `quantize` guarantees up to f32 rounding — checked on the real
`quantize` by the harness), then the Int8 result differs from dequantize-then-multiply by at most
`Σ_k (rs_{k/bs} / 2) · |cs_{k/bs} · (q_k − 8)|`.  Stated doubled, over integers in a common unit;
`halfSteps` is the per-element list of row scales. -/
theorem c37_int8_error_bound (u : Bool) (bs : Nat) (cs rs l q a : List Int) (halfSteps : List Nat)
    (hl : l.length = q.length) (hc : cs.length = rs.length)
    (ha : a.length = (scaleLhs bs rs l).length)
    (hstep : HalfStep (List.zipWith (· - ·) a (scaleLhs bs rs l)) halfSteps) :
    2 * (refDot bs cs a q - int8Blocks u bs cs rs l q).natAbs ≤
      absBoundN halfSteps (expandScales bs cs) q := by
  rw [c37_int8_error_is_quantization_error u bs cs rs l q a hl ha]
  unfold refDot
  exact dot3_abs_le _ _ _ _ hstep

/-- Non-vacuity: block size 2 (toy), row scale 4, LHS `[9, -6]` quantised to `[2, -2]`
(de-quantised `[8, -8]`, errors 1 and 2 ≤ 4/2). -/
example : HalfStep (List.zipWith (· - ·) [9, -6] (scaleLhs 2 [4] [2, -2])) [4, 4] ∧
    2 * (refDot 2 [3] [9, -6] [15, 0] - int8Blocks true 2 [3] [4] [2, -2] [15, 0]).natAbs ≤
      absBoundN [4, 4] (expandScales 2 [3]) [15, 0] := by
  refine ⟨.cons (by decide) (.cons (by decide) .nil), by decide⟩

/-- The API cannot express a partial final block: `rows() = k_blocks · block_size`, and an LHS whose
K differs is rejected with `KSizeMismatch` (model of the argument checks; tied by the harness). -/
theorem c37_partial_block_rejected (kBlocks blockBytes lhsK n m batch : Nat)
    (hk : lhsK ≠ kBlocks * (blockBytes * 8 / 4)) :
    checkGemm (n * m * batch) batch m lhsK n kBlocks blockBytes 4 = .error .kSizeMismatch := by
  simp [checkGemm, hk]

end RtenVerif.BlockQuant
