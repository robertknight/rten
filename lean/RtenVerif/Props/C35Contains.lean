import RtenVerif.Props.C35Order
import RtenVerif.Lemmas.PolyScan

/-!
# C35.S3 — the hull contains every input point and is convex around the whole cycle

`hullContainsCheck_all`: for every input.  The finished stack satisfies `ScanInv`
(`Lemmas/PolyScan`); the closed outline that `edgesOk` walks is the reversed stack with the pivot
pushed once more (`hull ++ [h0] = (h0 :: stack).reverse`), so the closing edge and the two
triples through it are one more step of the same predicates.
-/
namespace RtenVerif.Poly

variable {m : Pt}

/-- What `edgesOk` asks of a hull with at least three vertices, in the language of `TurnsR`:
every input point is on or left of every edge of the closed outline, and every three consecutive
vertices of the outline closed twice turn strictly left. -/
theorem edgesOk_of_cycle {h0 h1 : Pt} {tl pts : List Pt} (htl : tl ≠ [])
    (hedge : ∀ pre a b post, h0 :: h1 :: tl ++ [h0] = pre ++ a :: b :: post →
      ∀ p ∈ pts, 0 ≤ cross a b p)
    (hturn : ∀ pre a b c post, h0 :: h1 :: tl ++ [h0, h1] = pre ++ a :: b :: c :: post →
      0 < cross a b c) : edgesOk (h0 :: h1 :: tl) pts = true := by
  cases tl with
  | nil => exact absurd rfl htl
  | cons h2 tl =>
    simp only [edgesOk, Bool.and_eq_true]
    exact ⟨all_zip_pairs _ _ fun pre a b post e => List.all_eq_true.mpr fun p hp =>
        decide_eq_true (hedge pre a b post e p hp),
      all_zip_triples _ _ fun pre a b c post e => decide_eq_true (hturn pre a b c post e)⟩

/-- The closed outline is the reversed stack with the pivot pushed once more, the outline closed
twice the same with the vertex next to the pivot pushed after it. -/
theorem edgesOk_reverse {st pts tl : List Pt} {h0 h1 : Pt} (hrev : st.reverse = h0 :: h1 :: tl)
    (htl : tl ≠ []) (hedge : ∀ q ∈ pts, LeftOf q (h0 :: st)) (hturn : TurnsR (h1 :: h0 :: st)) :
    edgesOk st.reverse pts = true := by
  rw [hrev]
  refine edgesOk_of_cycle htl (fun pre a b post e p hp => ?_) fun pre a b c post e => ?_
  · refine (hedge p hp).edge (pre := post.reverse) (post := pre.reverse) ?_
    have e' : st.reverse ++ [h0] = pre ++ a :: b :: post := by rw [hrev]; exact e
    simpa using congrArg List.reverse e'
  · refine hturn post.reverse c b a pre.reverse ?_
    have e' : st.reverse ++ [h0, h1] = pre ++ a :: b :: c :: post := by rw [hrev]; exact e
    simpa using congrArg List.reverse e'

theorem edgesOk_of_inv {pts done st : List Pt} (inv : ScanInv m done st) (hS : ∀ q ∈ done, InS m q)
    (hsub : ∀ q ∈ pts, q ∈ done) : edgesOk st.reverse pts = true := by
  have hfan := inv.fan
  match st, inv, hfan with
  | [b], inv, hfan =>
    obtain rfl : b = m := Option.some.inj hfan.bottom
    exact List.all_eq_true.mpr fun q hq =>
      beq_iff_eq.mpr (eq_of_exactLe_pivot (inv.top q (hsub q hq) _ rfl))
  | [c, b], inv, hfan =>
    obtain ⟨rfl, hcm⟩ := hfan.base (pre := [])
    simp only [List.reverse_cons, List.reverse_nil, List.nil_append, List.singleton_append, edgesOk,
      Bool.and_eq_true, bne_iff_ne, List.all_eq_true, decide_eq_true_eq]
    refine ⟨Ne.symm hcm, fun q hq => ?_⟩
    have hq' := hsub q hq
    have h1 := (inv.left q hq').1
    have h2 := inv.top q hq' c rfl
    rcases hS q hq' with rfl | hqS
    · rw [cross_self_mid]; refine ⟨rfl, ?_⟩; omega
    · have hc := (hS c (inv.sub c (.head _))).resolve_left hcm
      rw [exactLe_iff (ne_of_hp hqS) hcm, cross_neg] at h2
      exact ⟨by omega, seg_bbox hqS hc (by rw [cross_neg]; omega) (by omega)⟩
  | c :: b :: a :: rest, inv, hfan =>
    -- the bottom two entries of the stack: the pivot `b0 = m` and the hull vertex `h1` next to it
    obtain ⟨mid, h1, b0, e⟩ := eq_append_two b a rest
    have hfan' : Fan m (c :: (mid ++ [h1, b0])) := e ▸ hfan
    obtain ⟨rfl, h1m⟩ := hfan'.base (pre := c :: mid)
    have hang := ((List.pairwise_cons.mp hfan'.ang).1 h1 (by simp)).2 h1m
    refine edgesOk_reverse (h0 := b0) (h1 := h1) (tl := mid.reverse ++ [c]) (by rw [e]; simp)
      (by simp) (fun q hq => ⟨?_, inv.left q (hsub q hq)⟩) ?_
    · rw [← cross_rot]; exact cross_nonneg_of_exactLe (inv.top q (hsub q hq) c rfl)
    · refine (inv.turns.cons fun b' a' post e' => ?_).cons fun b' a' post e' => ?_
      · cases e'; rw [cross_rot]; exact hfan.adj
      · cases e'; rw [← cross_rot]; exact hang

/-- **C35.S3** for every input the hull computed by the model of `convex_hull` is
strictly convex around the whole cycle and contains every input point. -/
theorem hullContainsCheck_all (pts : List Pt) : hullContainsCheck pts = true := by
  unfold hullContainsCheck hullExact
  cases hm : minPoint pts with
  | none => cases pts with
    | nil => rfl
    | cons p ps => cases hm
  | some m =>
    obtain ⟨hmem, hmin⟩ := c35_minPoint_spec pts m hm
    have hS : ∀ q ∈ pts, InS m q := fun q hq => inS_of_minLt (hmin q hq)
    have hsort := c35_sorted_by_angle pts m hm
    have hSs : ∀ y ∈ isort (exactLe m) pts, InS m y := fun y hy => hS y ((mem_isort _ y pts).mp hy)
    have hnd := dedupKey_isort_nodup hm
    have hsub := dedupKey_sublist id (isort (exactLe m) pts)
    have hhead : (dedupKey id (isort (exactLe m) pts)).head? = some m := by
      have := c35_hullExact_starts_min pts m hm
      simp only [hullExact, hm] at this
      rw [c35_hull_head, Option.map_id] at this
      rwa [dedupKey_head?]
    simp only [hullWith, List.map_id]
    have hall : ∀ q ∈ pts, q ∈ dedupKey id (isort (exactLe m) pts) := fun q hq =>
      mem_dedupKey ((mem_isort _ q pts).mpr hq)
    have hLS : ∀ q ∈ dedupKey id (isort (exactLe m) pts), InS m q := fun q hq => hSs q (hsub.mem hq)
    have hLsort := hsort.sublist hsub
    generalize dedupKey id (isort (exactLe m) pts) = L at hnd hhead hall hLS hLsort ⊢
    match L, hhead with
    | _ :: rest, rfl =>
      have inv0 : ScanInv m [m] [m] := ⟨fun pre c b a post e => by
          have := congrArg List.length e; simp at this; omega, ⟨rfl, .cons nofun .nil⟩, fun _ _ => trivial,
        fun q hq t ht => by cases ht; cases List.mem_singleton.mp hq; exact exactLe_refl _ _,
        fun x hx => hx⟩
      exact edgesOk_of_inv (scan_inv hLS hLsort rest [m] [m] rfl
        (fun p hp e => (List.nodup_cons.mp hnd).1 (e ▸ hp)) inv0) hLS hall

end RtenVerif.Poly
