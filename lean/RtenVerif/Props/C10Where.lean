import RtenVerif.Props.C10Eq

/-! # C10 — vector-level `Where` with its three-way cycling -/
namespace RtenVerif.ShapeInfer

theorem evalList_cycAux (σ : Env) : ∀ (n : Nat) (orig cur : List Sym) (vo vc : List Int),
    evalList σ orig = some vo → evalList σ cur = some vc →
    evalList σ (cycAux n orig cur) = some (cycAux n vo vc) := by
  intro n
  induction n with
  | zero => intro orig cur vo vc _ _; rfl
  | succ n ih =>
    intro orig cur vo vc ho hc
    cases cur with
    | nil =>
      simp only [evalList, mapO] at hc; cases hc
      cases orig with
      | nil => simp only [evalList, mapO] at ho; cases ho; rfl
      | cons o os =>
        obtain ⟨v, vs, hv, hvs, rfl⟩ := evalList_cons σ o os vo ho
        simp only [cycAux]
        exact evalList_cons_intro σ o _ v _ hv (ih (o :: os) os (v :: vs) vs ho hvs)
    | cons c cs =>
      obtain ⟨v, vs, hv, hvs, rfl⟩ := evalList_cons σ c cs vc hc
      simp only [cycAux]
      exact evalList_cons_intro σ c _ v _ hv (ih orig cs vo vs ho hvs)

theorem evalList_cycleTake (σ : Env) (n : Nat) (l : List Sym) (vl : List Int) (h : evalList σ l = some vl) :
    evalList σ (cycleTake n l) = some (cycleTake n vl) := evalList_cycAux σ n l l vl vl h h

theorem cycAux_full {α : Type} : ∀ (cur orig : List α), cycAux cur.length orig cur = cur := by
  intro cur
  induction cur with
  | nil => intro orig; rfl
  | cons c cs ih => intro orig; simp [cycAux, ih]

/-- `cycleTake` is NumPy broadcasting of a rank-1 operand to length `n`: a full-length operand is
unchanged … -/
theorem cycleTake_full {α : Type} (l : List α) : cycleTake l.length l = l := cycAux_full l l

/-- … and a length-1 operand is repeated `n` times. -/
theorem cycleTake_one {α : Type} (v : α) : ∀ n, cycleTake n [v] = List.replicate n v := by
  have aux : ∀ n, cycAux n [v] [] = List.replicate n v ∧ cycAux n [v] [v] = List.replicate n v := by
    intro n
    induction n with
    | zero => exact ⟨rfl, rfl⟩
    | succ n ih => exact ⟨by simp [cycAux, ih.1, List.replicate_succ], by simp [cycAux, ih.1, List.replicate_succ]⟩
  intro n; exact (aux n).2

/-- **C10.T1-where (vector level)**: whenever `Where` decides every element, the inferred elements
evaluate to the executed selection, for all three-way combinations of operand lengths. -/
theorem c10_whereVals_sound (σ : Env) (cs xs ys : List Sym) (vc vx vy : List Int) (out : List Sym)
    (hc : evalList σ cs = some vc) (hx : evalList σ xs = some vx) (hy : evalList σ ys = some vy)
    (hi : whereVals (fun v => v != 0) cs xs ys = some out) : evalList σ out = some (cwhere vc vx vy) := by
  unfold whereVals at hi
  unfold cwhere
  rw [← evalList_length σ cs vc hc, ← evalList_length σ xs vx hx, ← evalList_length σ ys vy hy]
  refine mapO_lift (fun t _ r d b he hd hb => ?_) hi
    (mapO_zip (evalList_cycleTake σ _ cs vc hc)
      (mapO_zip (evalList_cycleTake σ _ xs vx hx) (evalList_cycleTake σ _ ys vy hy)))
    (mapO_pure _ _)
  obtain ⟨hc, hxy⟩ := pairO_eq_some.mp hd
  obtain ⟨hx, hy⟩ := pairO_eq_some.mp hxy
  cases hb
  exact c10_where_elem_sound σ _ _ _ r _ _ _ hc hx hy he

/-- **C10.T1-where (tensor level)**: for three value-carrying operands on which the value path of
`Where` (post-fix: `c ≠ 0`, three scalars give a scalar) decides every element, `whereInfer` succeeds,
and its result is either a scalar that evaluates to the single element of the executed list `cwhere`,
or the vector `out`, which evaluates to `cwhere`.  (That the scalar goes with three scalar operands,
and agreement with the executed tensor, is `whereT_agrees` in `C10Plan`.) -/
theorem c10_where_sound (σ : Env) (c x y : STn) (cv xv yv : List Sym) (vc vx vy : List Int) (out : List Sym)
    (hcv : c.values = some cv) (hxv : x.values = some xv) (hyv : y.values = some yv)
    (hc : evalList σ cv = some vc) (hx : evalList σ xv = some vx) (hy : evalList σ yv = some vy)
    (hw : whereVals (fun v => v != 0) cv xv yv = some out) :
    ∃ r, whereInfer (fun v => v != 0) true c x y = .ok r ∧
      ((∃ e v, r = .scalar e ∧ cwhere vc vx vy = [v] ∧ e.eval σ = some v) ∨
       (r = .vector out ∧ evalList σ out = some (cwhere vc vx vy))) := by
  have hs := c10_whereVals_sound σ cv xv yv vc vx vy out hc hx hy hw
  unfold whereInfer
  simp only [hcv, hxv, hyv, hw]
  split
  · rename_i r heq
    refine ⟨r, rfl, ?_⟩
    split at heq
    · split at heq <;> cases heq
      · obtain ⟨w, _, hv, hnil, hcons⟩ := evalList_cons σ _ [] _ hs
        cases hnil
        exact .inl ⟨_, w, rfl, hcons, hv⟩
      · exact .inr ⟨rfl, hs⟩
    · cases heq; exact .inr ⟨rfl, hs⟩
  · rename_i heq
    split at heq
    · split at heq <;> cases heq
    · cases heq

/-- Non-vacuity: `Where([2, 0], [$a], [7, 8])` with `a = 5` infers `[$a, 8]`, executed `[5, 8]`. -/
example : whereVals (fun v => v != 0) [.val 2, .val 0] [.var "a" true] [.val 7, .val 8] = some [.var "a" true, .val 8] ∧
    cwhere [2, 0] [5] [7, 8] = [5, 8] := by decide

end RtenVerif.ShapeInfer
