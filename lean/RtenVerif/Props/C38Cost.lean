import RtenVerif.Props.C38

/-!
# C38, part 2 — the "linear" clause and the nesting invariant

`c38_decode_terminates` bounds only the *height* of the decoder's call tree (by the fuel), not the
work done.  The decoder is instrumented (`decodeFieldsS`, `parseS`) with the work counter that the
`cfg(rten_verif)` hook `rten_onnx::verif::DECODE_STEPS` maintains on the real code (one step per
primitive `LimitReader` read, one per string/bytes byte copied) and with the deepest nesting level
of any invocation; its result is that of `decodeFields` (`c38_counted_refines`, `Props/C38.lean`).
-/
namespace RtenVerif.Protobuf

/-- **Linear work** (the "finishes in time linear in the input size" clause, on the model): decoding
the region `[pos, end_)` performs at most `2·(end_ − pos) + 1` counted steps — primitive reads plus
bytes copied — whether it ends in a message or an error. -/
theorem c38_steps_linear (S : Schema) {d : Bytes} (hsz : d.size < UInt64.size) :
    ∀ (fuel depth m : Nat) (pos end_ : UInt64) (acc : List (UInt64 × Val)),
      pos.toNat ≤ end_.toNat → end_.toNat ≤ d.size → end_.toNat - pos.toNat < fuel →
      (decodeFieldsS S d fuel depth m pos end_ acc).steps ≤ 2 * (end_.toNat - pos.toNat) + 1 :=
  fun fuel depth m pos end_ acc hpe hes hf =>
    (decodeFieldsS_run S hsz fuel depth m pos end_ acc hpe hes hf).steps

/-- Whole-input form: `parseS` returns `parse`'s result and its work counter is `≤ 2·|d| + 1`. -/
theorem c38_parse_steps_linear (S : Schema) (d : Bytes) (root : Nat) (hsz : d.size < UInt64.size) :
    (parseS S d root).res = parse S d root ∧ (parseS S d root).steps ≤ 2 * d.size + 1 := by
  refine ⟨c38_counted_refines S d _ _ _ _ _ _, ?_⟩
  have := (parseS_run S d root hsz).steps
  rw [sizeU_toNat hsz] at this
  exact this

/-- **Nesting invariant**: in the call tree of a run started at depth `≤ maxDepth`, every
`decodeFields` invocation has depth `≤ maxDepth` (`deepest` is the maximum over the tree, and is at
least the starting depth). No hypothesis on the input. -/
theorem c38_depth_invariant (S : Schema) (d : Bytes) :
    ∀ (fuel depth m : Nat) (pos end_ : UInt64) (acc : List (UInt64 × Val)), depth ≤ maxDepth →
      depth ≤ (decodeFieldsS S d fuel depth m pos end_ acc).deepest ∧
      (decodeFieldsS S d fuel depth m pos end_ acc).deepest ≤ maxDepth := by
  intro fuel depth m pos end_ acc hd
  fun_induction decodeFieldsS S d fuel depth m pos end_ acc
  -- the nested message runs one level deeper, behind the guard `depth < maxDepth`
  case case6 hlt _ _ _ _ _ ih =>
    exact ⟨Nat.le_max_left _ _, Nat.max_le.mpr ⟨hd, (ih (by omega)).2⟩⟩
  case case7 hlt _ _ _ _ _ _ _ _ ih1 ih2 =>
    exact ⟨Nat.le_trans (ih2 hd).1 (Nat.le_max_right _ _), Nat.max_le.mpr ⟨(ih1 (by omega)).2, (ih2 hd).2⟩⟩
  -- the rest of the loop after a non-message field, at the same depth
  case case10 ih => exact ih hd
  all_goals exact ⟨Nat.le_refl _, hd⟩

/-- No invocation reached from `parse` (any schema, any input) is nested deeper than 100. -/
theorem c38_parse_depth_le (S : Schema) (d : Bytes) (root : Nat) :
    (parseS S d root).deepest ≤ 100 :=
  (c38_depth_invariant S d _ 0 root _ _ [] (by decide)).2

open RtenVerif.Generated.OnnxSchema in
/-- Non-vacuity: `3A 02 0A 00` (model → graph → node): two field headers of two reads each (tag,
length; the empty node has none) and three end-of-message reads; depth 2 is reached. -/
example : (parseS schema exOk idModelProto).steps = 7 ∧ (parseS schema exOk idModelProto).deepest = 2 := by
  decide

end RtenVerif.Protobuf
