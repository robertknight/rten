import RtenVerif.Props.C27Bridge
import RtenVerif.Lemmas.Utf8
import RtenVerif.Generated.BpeByteTable

/-!
# C27 — Byte-level BPE tokenization round-trips and reports consistent offsets

Property theorems over `RtenVerif.Model.ByteBpe` (model of `rten-text/src/models/bpe.rs` and the
encode/decode/offset code of `rten-text/src/tokenizer.rs`).  Texts are lists of UTF-8 bytes; the
pre-tokenizer (regex engine) is a parameter: the byte ranges of the pieces it returns.

* T1 `byte_to_char` is injective with 256 distinct printable images.
* T2 for every vocabulary with distinct ids, every merge list `Bpe::new` accepts and every byte
  string `p`: `decode (encode_piece p) = p`.
* T3 for a lossless pre-tokenizer (the pieces tile the text) and no normalizer:
  `decode (encode t) = t`; the token offsets are piece starts, non-decreasing; the slices
  `text_for_token_range(i..i+1)` all exist and concatenate to `t[off₀..]`.
  With a normalizer the offset of a token is `map[piece start]` (after the fix of `encode_str`),
  non-decreasing for a non-decreasing map (C30 T2) and a source char boundary by C30 T3.
* Outside the round-trip claim (witnesses in `Props/C27Witness.lean`): an end-of-word suffix is
  decoded verbatim (`"a"` ↦ `"a</w>"`), and an added token whose id collides with a vocabulary id
  shadows it.
-/
namespace RtenVerif.ByteBpe

/-- **C27.T1** `byte_to_char` restricted to bytes is a bijection onto its image, inverted by
`char_to_byte`; the 256 images are distinct and none is a control / white-space char or U+00AD
(the definition itself is compared with the table of the real crate on every run, request
line `B`). -/
theorem c27_byte_to_char_bijective :
    (∀ b, b < 256 → charToByte (byteToChar b) = some b) ∧
    (∀ a b, a < 256 → b < 256 → byteToChar a = byteToChar b → a = b) ∧
    ((List.range 256).map byteToChar).Nodup ∧
    (∀ b, b < 256 → (isPrintable (byteToChar b) = true ∨ 256 ≤ byteToChar b) ∧ byteToChar b < 324) := by
  refine ⟨charToByte_byteToChar, fun _ _ _ _ => byteToChar_injective,
    List.nodup_range.map _ fun _ _ hne h => hne (byteToChar_injective h),
    fun b hb => ⟨?_, byteToChar_lt b hb⟩⟩
  unfold byteToChar
  split
  · exact Or.inl ‹_›
  · exact Or.inr (Nat.le_add_right _ _)

theorem new_ok_spec (vocab : List (Str × Nat)) (merges : List (Str × Str)) (sfx : Option Str)
    (ign : Bool) (added : List (Nat × List Nat)) (t : Bpe)
    (h : Bpe.new vocab merges sfx ign added = .ok t) :
    t.vocab = vocab ∧ (sfx = none → t.eow = none) ∧ t.ignoreMerges = ign ∧ t.added = added ∧
    buildMergeMap vocab merges = some t.merges ∧
    ∀ b, b < 256 → vocabGet vocab [byteToChar b] = some (t.byteTok b) := by
  unfold Bpe.new at h
  split at h
  · simp at h
  · rename_i mm hmm
    simp only at h
    split at h
    · rename_i hall
      simp only [NewResult.ok.injEq] at h
      subst h
      refine ⟨rfl, by intro hs; subst hs; rfl, rfl, rfl, hmm, ?_⟩
      intro b hb
      simp only [List.all_eq_true, List.mem_map, List.mem_range] at hall
      have hs := hall _ ⟨b, hb, rfl⟩
      obtain ⟨x, hx⟩ := Option.isSome_iff_exists.mp hs
      simp [List.getD_eq_getElem?_getD, hb, hx]
    · simp at h

/-- What the round trip uses of a tokenizer that `Bpe::new` built, without an end-of-word suffix,
from a vocabulary with distinct ids. -/
structure WellFormed (t : Bpe) : Prop where
  eow : t.eow = none
  merges : Consistent t.vocab t.merges
  byteTok : ∀ b, b < 256 → strOf t.vocab (t.byteTok b) = some [byteToChar b]
  inv : ∀ s id, vocabGet t.vocab s = some id → strOf t.vocab id = some s

theorem wellFormed_of_new {vocab : List (Str × Nat)} {merges : List (Str × Str)} {ign : Bool}
    {added : List (Nat × List Nat)} {t : Bpe} (hnew : Bpe.new vocab merges none ign added = .ok t)
    (hnd : (vocab.map (·.2)).Nodup) : WellFormed t := by
  obtain ⟨hv, he, _, _, hmm, hbt⟩ := new_ok_spec _ _ _ _ _ _ hnew
  subst hv
  exact ⟨he rfl, buildMergeMap_consistent _ hnd _ _ hmm,
    fun b hb => vocabGet_strOf _ hnd _ _ (hbt b hb), vocabGet_strOf _ hnd⟩

theorem piece_roundtrip {t : Bpe} (ht : WellFormed t)
    (hadd : ∀ id s, strOf t.vocab id = some s → t.added.lookup id = none)
    (piece : List Nat) (hb : ∀ b ∈ piece, b < 256) (ew : Bool) :
    decodeIds t (encodePiece t piece ew) = .ok piece := by
  have hone : ∀ (p : List Nat) (id : Nat), (∀ b ∈ p, b < 256) →
      strOf t.vocab id = some (p.map byteToChar) → decodeOne t id = .ok p := fun p id hp hs =>
    (decodeOne_of_strOf hadd hs p).mpr (decodeStr_map_byteToChar p hp)
  have hbytes : decodeIds t (piece.map t.byteTok) = .ok piece := by
    clear ew
    induction piece with
    | nil => rfl
    | cons b bs ih =>
      exact decodeIds_cons_ok.mpr ⟨[b], bs, hone [b] _ (by simpa using hb b (by simp))
        (ht.byteTok b (hb b (by simp))), ih fun x hx => hb x (List.mem_cons_of_mem _ hx), rfl⟩
  -- the byte tokens decode to the piece, and merging keeps what a token list decodes to
  have hnormal := bpeMerge_decode ht.merges hadd (piece.map t.byteTok).length _ _ hbytes
  unfold encodePiece
  simp only [ht.eow]
  split
  · split
    · rename_i id hid
      exact decodeIds_cons_ok.mpr ⟨piece, [], hone piece id hb (ht.inv _ _ hid), rfl,
        (List.append_nil _).symm⟩
    · exact hnormal
  · exact hnormal

/-- **C27.T2** For every vocabulary with distinct ids, every merge list accepted by `Bpe::new`
(no end-of-word suffix), with or without `ignore_merges`, and added tokens that do not reuse a
vocabulary id: decoding the tokens of any byte string gives the byte string back. -/
theorem c27_piece_roundtrip (vocab : List (Str × Nat)) (merges : List (Str × Str)) (ign : Bool)
    (added : List (Nat × List Nat)) (t : Bpe) (hnew : Bpe.new vocab merges none ign added = .ok t)
    (hnd : (vocab.map (·.2)).Nodup)
    (hadd : ∀ id s, strOf vocab id = some s → added.lookup id = none)
    (piece : List Nat) (hb : ∀ b ∈ piece, b < 256) (ew : Bool) :
    decodeIds t (encodePiece t piece ew) = .ok piece := by
  obtain ⟨hv, _, _, ha, _, _⟩ := new_ok_spec _ _ _ _ _ _ hnew
  subst hv ha
  exact piece_roundtrip (wellFormed_of_new hnew hnd) hadd piece hb ew

/-- The pre-tokenizer is lossless: its pieces tile `text[a..len]` in order. -/
def Tiles : List (Nat × Nat) → Nat → Nat → Prop
  | [], a, len => a = len
  | (s, e) :: rest, a, len => s = a ∧ s ≤ e ∧ Tiles rest e len

theorem tiles_append : ∀ (l₁ l₂ : List (Nat × Nat)) (a b c : Nat), Tiles l₁ a b → Tiles l₂ b c →
    Tiles (l₁ ++ l₂) a c := by
  intro l₁
  induction l₁ with
  | nil => intro l₂ a b c h₁ h₂; simp only [Tiles] at h₁; subst h₁; exact h₂
  | cons p l₁ ih =>
    intro l₂ a b c h₁ h₂
    obtain ⟨s, e⟩ := p
    exact ⟨h₁.1, h₁.2.1, ih l₂ e b c h₁.2.2 h₂⟩

theorem tiles_range {a b : Nat} (h : a ≤ b) : Tiles (if a < b then [(a, b)] else []) a b := by
  split
  · exact ⟨rfl, h, rfl⟩
  · exact Nat.le_antisymm h (Nat.not_lt.mp ‹_›)

theorem slice_append_drop (text : List Nat) (s e : Nat) (h : s ≤ e) :
    slice text s e ++ text.drop e = text.drop s := by
  unfold slice
  have : text.drop e = (text.drop s).drop (e - s) := by
    rw [List.drop_drop]; congr 1; omega
  rw [this, List.take_append_drop]

theorem mem_slice (text : List Nat) (s e b : Nat) (h : b ∈ slice text s e) : b ∈ text :=
  List.mem_of_mem_drop (List.mem_of_mem_take h)

/-- Induction over the chunk loop of `encode_str`: what holds of the empty result and is kept by
one iteration holds of every result.  The offset `o` is looked up only if the chunk has tokens. -/
theorem encodeStr_induct {t : Bpe} {text : List Nat} {map : Option (List Nat)} {start : Nat}
    (P : List (Nat × Nat) → List Nat → List Nat → Prop) (nil : P [] [] [])
    (cons : ∀ s e rest pt o ts os, P rest ts os →
      pt = (if s < e then encodePiece t (slice text s e) true else []) →
      (pt ≠ [] → s < e ∧ mapOffset map s = some o) →
      P ((s, e) :: rest) (pt ++ ts) (pt.map (fun _ => start + o) ++ os)) :
    ∀ pieces toks offs, encodeStr t text map start pieces = some (toks, offs) → P pieces toks offs
  | [], _, _, h => by cases h; exact nil
  | (s, e) :: rest, _, _, h => by
    simp only [encodeStr] at h
    split at h
    · rename_i o ts os ho hr
      cases h
      refine cons s e rest _ o ts os (encodeStr_induct P nil cons rest ts os hr) rfl fun hne => ⟨?_, ?_⟩
      · exact Decidable.by_contra fun hse => hne (if_neg hse)
      · rwa [if_neg (by simpa using hne)] at ho
    · cases h

theorem encodeStr_decode {t : Bpe} (ht : WellFormed t)
    (hadd : ∀ id s, strOf t.vocab id = some s → t.added.lookup id = none)
    (text : List Nat) (hb : ∀ b ∈ text, b < 256) :
    ∀ (pieces : List (Nat × Nat)) (a : Nat) (toks offs : List Nat), Tiles pieces a text.length →
      encodeStr t text none 0 pieces = some (toks, offs) → decodeIds t toks = .ok (text.drop a) := by
  intro pieces a toks offs hl h
  revert a
  refine encodeStr_induct (fun pieces toks _ => ∀ a, Tiles pieces a text.length →
    decodeIds t toks = .ok (text.drop a)) ?_ ?_ pieces toks offs h
  · rintro a rfl; rw [List.drop_length]; rfl
  · rintro s e rest _ _ ts _ ih rfl _ a ⟨rfl, hse, hrest⟩
    rw [← slice_append_drop text s e hse]
    refine decodeIds_append_ok.mpr ⟨_, _, ?_, ih e hrest, rfl⟩
    split
    · exact piece_roundtrip ht hadd _ (fun b hb' => hb b (mem_slice text s e b hb')) true
    · have : s = e := by omega
      subst this
      simp [slice, decodeIds]

theorem encode_eq_some {t : Bpe} {n : Nat} {text : List Nat} {map : Option (List Nat)}
    {pieces : List (Nat × Nat)} {ids offs : List Nat}
    (h : encode t n text map pieces = some (ids, offs)) :
    ∃ os, encodeStr t text map 0 pieces = some (ids, os) ∧
      (ids = [] ∧ offs = [] ∨ ids ≠ [] ∧ offs = os ++ [n]) := by
  unfold encode at h
  split at h
  · cases h
  · rename_i toks os hs
    split at h
    · rename_i hem
      cases h
      exact ⟨os, by rw [hs, List.isEmpty_iff.mp hem], Or.inl ⟨rfl, rfl⟩⟩
    · rename_i hem
      cases h
      exact ⟨os, hs, Or.inr ⟨fun he => hem (by rw [he]; rfl), rfl⟩⟩

/-- **C27.T3a** Lossless pre-tokenizer, no normalizer: `decode (encode t) = t`. -/
theorem c27_text_roundtrip (vocab : List (Str × Nat)) (merges : List (Str × Str)) (ign : Bool)
    (added : List (Nat × List Nat)) (t : Bpe) (hnew : Bpe.new vocab merges none ign added = .ok t)
    (hnd : (vocab.map (·.2)).Nodup)
    (hadd : ∀ id s, strOf vocab id = some s → added.lookup id = none)
    (text : List Nat) (hb : ∀ b ∈ text, b < 256) (pieces : List (Nat × Nat))
    (hl : Tiles pieces 0 text.length) (ids offs : List Nat)
    (h : encode t text.length text none pieces = some (ids, offs)) :
    decodeIds t ids = .ok text := by
  obtain ⟨hv, _, _, ha, _, _⟩ := new_ok_spec _ _ _ _ _ _ hnew
  subst hv ha
  obtain ⟨os, hs, _⟩ := encode_eq_some h
  simpa using encodeStr_decode (wellFormed_of_new hnew hnd) hadd text hb pieces 0 ids os hl hs

/-- The normalizer's offset map (or the identity without one) is monotone. -/
def MapMono (map : Option (List Nat)) : Prop :=
  ∀ i j a b, i ≤ j → mapOffset map i = some a → mapOffset map j = some b → a ≤ b

theorem mapMono_none : MapMono none := by
  intro i j a b hij ha hb
  simp only [mapOffset, Option.some.injEq] at ha hb; omega

theorem mapMono_some (m : List Nat) (h : m.Pairwise (· ≤ ·)) : MapMono (some m) := by
  intro i j a b hij ha hb
  simp only [mapOffset] at ha hb
  obtain ⟨hi, rfl⟩ := List.getElem?_eq_some_iff.mp ha
  obtain ⟨hj, rfl⟩ := List.getElem?_eq_some_iff.mp hb
  rcases Nat.lt_or_eq_of_le hij with hlt | rfl
  · exact List.pairwise_iff_getElem.mp h i j hi hj hlt
  · exact Nat.le_refl _

/-- **C27.T3b (offsets)** One offset per token; every offset is `map_offset(start)` of a
non-empty piece (without a normalizer: the piece start itself; pieces are `&str` sub-slices,
so starts are char boundaries of the text by typing); non-decreasing when the pieces come in
order and the map is monotone. -/
theorem c27_offsets (t : Bpe) (text : List Nat) (map : Option (List Nat)) :
    ∀ (pieces : List (Nat × Nat)) (toks offs : List Nat),
      encodeStr t text map 0 pieces = some (toks, offs) →
      offs.length = toks.length ∧
      (∀ o ∈ offs, ∃ p ∈ pieces, p.1 < p.2 ∧ mapOffset map p.1 = some o) ∧
      ((pieces.map (·.1)).Pairwise (· ≤ ·) → MapMono map → offs.Pairwise (· ≤ ·)) := by
  refine encodeStr_induct _ (by simp) ?_
  rintro s e rest pt o ts os ⟨ih1, ih2, ih3⟩ _ ho
  have hhere : ∀ x ∈ pt.map (fun _ => 0 + o), s < e ∧ mapOffset map s = some x := by
    intro x hx
    obtain ⟨y, hy, rfl⟩ := List.mem_map.mp hx
    rw [Nat.zero_add]
    exact ho (List.ne_nil_of_mem hy)
  refine ⟨by simp [ih1], ?_, ?_⟩
  · intro x hx
    rcases List.mem_append.mp hx with hx | hx
    · exact ⟨(s, e), List.mem_cons_self, hhere x hx⟩
    · obtain ⟨p, hp, h12⟩ := ih2 x hx
      exact ⟨p, List.mem_cons_of_mem _ hp, h12⟩
  · intro hpw hmono
    rw [List.map_cons, List.pairwise_cons] at hpw
    refine List.pairwise_append.mpr
      ⟨List.pairwise_map.mpr (List.pairwise_of_forall fun _ _ => Nat.le_refl _),
        ih3 hpw.2 hmono, fun a ha b hb => ?_⟩
    obtain ⟨p, hp, _, h4⟩ := ih2 b hb
    exact hmono s p.1 a b (hpw.1 p.1 (List.mem_map_of_mem hp)) (hhere a ha).2 h4

theorem slice_append (src : List Nat) (a b c : Nat) (hab : a ≤ b) (hbc : b ≤ c) :
    slice src a b ++ slice src b c = slice src a c := by
  unfold slice
  have h1 : src.drop b = (src.drop a).drop (b - a) := by rw [List.drop_drop]; congr 1; omega
  have h2 : c - a = (b - a) + (c - b) := by omega
  rw [h1, h2, List.take_add]

theorem isBoundary_length (src : List Nat) : Utf8.isBoundary src src.length = true := by
  simp [Utf8.isBoundary]

/-- For non-decreasing offsets on char boundaries, closed by an end `z`
within the text that is a char boundary as well, every `text_for_token_range(i..i+1)` (`str::get`,
which checks bounds *and* char boundaries) exists and their concatenation is the text between the
first offset and `z`. -/
theorem tokenTexts_concat (src : List Nat) {z : Nat} (hz : z ≤ src.length)
    (bz : Utf8.isBoundary src z = true) : ∀ (l : List Nat) (a : Nat),
    (a :: l).Pairwise (· ≤ ·) → (∀ x ∈ a :: l, x ≤ z) →
    (∀ x ∈ a :: l, Utf8.isBoundary src x = true) →
    ∃ segs : List (List Nat), tokenTexts src (a :: l ++ [z]) = segs.map some ∧
      segs.flatten = slice src a z := by
  intro l
  induction l with
  | nil =>
    intro a _ hle hbd
    have haz := hle a List.mem_cons_self
    have ba := hbd a List.mem_cons_self
    exact ⟨[slice src a z], by simp [tokenTexts, strGet, haz, hz, ba, bz], by simp⟩
  | cons b l ih =>
    intro a hpw hle hbd
    rw [List.pairwise_cons] at hpw
    obtain ⟨segs, h1, h2⟩ := ih b hpw.2 (fun x hx => hle x (List.mem_cons_of_mem _ hx))
      (fun x hx => hbd x (List.mem_cons_of_mem _ hx))
    have hab : a ≤ b := hpw.1 b List.mem_cons_self
    have hbz : b ≤ z := hle b (by simp)
    have hb : b ≤ src.length := Nat.le_trans hbz hz
    have ba := hbd a List.mem_cons_self
    have bb := hbd b (by simp)
    rw [List.cons_append] at h1
    refine ⟨slice src a b :: segs, ?_, ?_⟩
    · simp only [List.cons_append, tokenTexts, strGet, h1, hab, hb, ba, bb, and_self, if_true,
        List.map_cons]
    · rw [List.flatten_cons, h2, slice_append src a b z hab hbz]

/-- **C27.T3c for `encode`**: with non-decreasing token offsets inside the text (T3b) that are
char boundaries, the reported `token_offsets = offs ++ [len]` delimit slices that all exist and
concatenate to `t[off₀..]` — the whole text when the first piece starts at 0. -/
theorem c27_slices (src : List Nat) (o0 : Nat) (offs : List Nat)
    (hpw : (o0 :: offs).Pairwise (· ≤ ·)) (hle : ∀ x ∈ o0 :: offs, x ≤ src.length)
    (hbd : ∀ x ∈ o0 :: offs, Utf8.isBoundary src x = true) :
    ∃ segs : List (List Nat), tokenTexts src (o0 :: offs ++ [src.length]) = segs.map some ∧
      segs.flatten = src.drop o0 := by
  obtain ⟨segs, h1, h2⟩ :=
    tokenTexts_concat src (Nat.le_refl _) (isBoundary_length src) offs o0 hpw hle hbd
  refine ⟨segs, h1, ?_⟩
  rw [h2, slice, List.take_of_length_le (by simp)]

/-- **C27.T1 (tie to the source).**  The model's `byteToChar` agrees, on all 256 bytes, with the
table the translator `translate/bpe_byte_table.py` extracts from `rten-text/src/models/bpe.rs`
(`is_printable` evaluated on `char::from(0..=255)`, then the two loops of `byte_to_char`). -/
theorem c27_table_matches_source :
    (List.range 256).map (fun b => (b, byteToChar b)) = Generated.BpeByteTable.byteToChar := by
  decide +kernel

/-- The extracted table is a bijection between the 256 bytes and 256 distinct code points. -/
theorem c27_source_table_bijective :
    Generated.BpeByteTable.byteToChar.map (·.1) = List.range 256 ∧
    (Generated.BpeByteTable.byteToChar.map (·.2)).Nodup := by
  rw [← c27_table_matches_source, List.map_map, List.map_map]
  exact ⟨List.map_id _, c27_byte_to_char_bijective.2.2.1⟩

/-- **C27 (round trip, with UTF-8 validation).**  For every text given by its Unicode scalar
values `cps` (so: every valid UTF-8 string, control characters, combining marks, astral
characters, special-token text included), every vocabulary with distinct ids, every merge list
`Bpe::new` accepts, no end-of-word suffix, added tokens not reusing vocabulary ids, and every
lossless pre-tokenizer output on the text's bytes: `decode(encode(text))` — the token loop
followed by `String::from_utf8` — returns exactly the text's bytes. -/
theorem c27_roundtrip_utf8 (vocab : List (Str × Nat)) (merges : List (Str × Str)) (ign : Bool)
    (added : List (Nat × List Nat)) (t : Bpe) (hnew : Bpe.new vocab merges none ign added = .ok t)
    (hnd : (vocab.map (·.2)).Nodup)
    (hadd : ∀ id s, strOf vocab id = some s → added.lookup id = none)
    (cps : List Nat) (hs : ∀ c ∈ cps, Utf8.isScalar c = true) (pieces : List (Nat × Nat))
    (hl : Tiles pieces 0 (Utf8.encode cps).length) (ids offs : List Nat)
    (h : encode t (Utf8.encode cps).length (Utf8.encode cps) none pieces = some (ids, offs)) :
    decode t ids = .ok (Utf8.encode cps) := by
  have hd := c27_text_roundtrip vocab merges ign added t hnew hnd hadd (Utf8.encode cps)
    (Utf8.encode_lt cps hs) pieces hl ids offs h
  simp [decode, hd, Utf8.valid_encode cps hs]

/-- Decoding a *prefix* of the tokens (streaming) either yields bytes or reports invalid UTF-8;
it never fails with an unknown id or a panic: every id `encode` produces has a token string
that maps back to bytes. -/
theorem c27_decode_prefix_total (vocab : List (Str × Nat)) (merges : List (Str × Str)) (ign : Bool)
    (added : List (Nat × List Nat)) (t : Bpe) (hnew : Bpe.new vocab merges none ign added = .ok t)
    (hnd : (vocab.map (·.2)).Nodup)
    (hadd : ∀ id s, strOf vocab id = some s → added.lookup id = none)
    (piece : List Nat) (hb : ∀ b ∈ piece, b < 256) (k : Nat) :
    ∃ bs, decodeIds t ((encodePiece t piece true).take k) = .ok bs :=
  decodeIds_take t _ k piece (c27_piece_roundtrip vocab merges ign added t hnew hnd hadd piece hb true)

theorem tiles_bounds : ∀ (pieces : List (Nat × Nat)) (a len : Nat), Tiles pieces a len →
    a ≤ len ∧ (pieces.map (·.1)).Pairwise (· ≤ ·) ∧ ∀ p ∈ pieces, a ≤ p.1 ∧ p.1 ≤ p.2 ∧ p.2 ≤ len := by
  intro pieces
  induction pieces with
  | nil => intro a len h; simp only [Tiles] at h; subst h; simp
  | cons p rest ih =>
    intro a len h
    obtain ⟨s, e⟩ := p
    simp only [Tiles] at h
    obtain ⟨rfl, hse, hr⟩ := h
    obtain ⟨h1, h2, h3⟩ := ih e len hr
    refine ⟨by omega, ?_, ?_⟩
    · rw [List.map_cons, List.pairwise_cons]
      refine ⟨?_, h2⟩
      intro x hx
      rw [List.mem_map] at hx
      obtain ⟨p, hp, rfl⟩ := hx
      have := h3 p hp; omega
    · intro p hp
      rcases List.mem_cons.mp hp with rfl | hp
      · exact ⟨Nat.le_refl _, hse, h1⟩
      · have := h3 p hp; omega

theorem encodePiece_ne_nil {t : Bpe} (ht : WellFormed t) (piece : List Nat)
    (hne : piece ≠ []) : encodePiece t piece true ≠ [] := by
  -- "is not empty" is a reading of token lists that no merge can change
  have hnormal := bpeMerge_inv t.merges (· ≠ []) (fun _ _ pre post _ => by simp)
    (piece.map t.byteTok).length (piece.map t.byteTok) (by simpa using hne)
  unfold encodePiece
  simp only [ht.eow]
  split
  · split
    · exact List.cons_ne_nil _ _
    · exact hnormal
  · exact hnormal

theorem encodeStr_head {t : Bpe} (ht : WellFormed t) (text : List Nat) :
    ∀ (pieces : List (Nat × Nat)) (a : Nat) (toks offs : List Nat), Tiles pieces a text.length →
      encodeStr t text none 0 pieces = some (toks, offs) → toks ≠ [] → offs.head? = some a := by
  intro pieces a toks offs hl h
  revert a
  refine encodeStr_induct (fun pieces toks offs => ∀ a, Tiles pieces a text.length → toks ≠ [] →
    offs.head? = some a) (fun _ _ hne => absurd rfl hne) ?_ pieces toks offs h
  rintro s e rest pt o ts os ih hpt ho a hl hne
  have hele : e ≤ text.length := ((tiles_bounds _ _ _ hl).2.2 (s, e) List.mem_cons_self).2.2
  obtain ⟨rfl, hse, hrest⟩ := hl
  by_cases hlt : s < e
  · have hsl : slice text s e ≠ [] := fun hnil => by
      have : (slice text s e).length = 0 := by rw [hnil]; rfl
      simp [slice] at this; omega
    have hpne : pt ≠ [] := by
      rw [hpt, if_pos hlt]
      exact encodePiece_ne_nil ht (slice text s e) hsl
    have hmo := (ho hpne).2
    simp only [mapOffset, Option.some.injEq] at hmo
    cases pt with
    | nil => exact absurd rfl hpne
    | cons x xs => simp [hmo]
  · have hes : s = e := by omega
    subst hes
    rw [if_neg hlt] at hpt
    subst hpt
    exact ih s hrest hne

/-- **C27.T3 (partition).**  Lossless pre-tokenizer whose chunks start on char boundaries (they
are `&str` sub-slices; the harness re-checks it), no normalizer, at least one token: the
reported `token_offsets` start at 0, are non-decreasing chunk starts within the text, end with
`text.len()` and **all lie on char boundaries of the input**; every
`text_for_token_range(i..i+1)` (`str::get`) exists and the slices, in order, concatenate to the
whole input — the offsets partition the input.  (For the empty text, or when every chunk is
empty, `encode` returns no tokens and no offsets: `c27_encode_no_tokens`.) -/
theorem c27_offsets_partition (vocab : List (Str × Nat)) (merges : List (Str × Str)) (ign : Bool)
    (added : List (Nat × List Nat)) (t : Bpe) (hnew : Bpe.new vocab merges none ign added = .ok t)
    (hnd : (vocab.map (·.2)).Nodup) (text : List Nat) (hb : ∀ b ∈ text, b < 256)
    (pieces : List (Nat × Nat)) (hl : Tiles pieces 0 text.length)
    (hpbd : ∀ p ∈ pieces, Utf8.isBoundary text p.1 = true) (ids offs : List Nat)
    (h : encode t text.length text none pieces = some (ids, offs)) (hne : ids ≠ []) :
    offs.head? = some 0 ∧ offs.getLast? = some text.length ∧ offs.Pairwise (· ≤ ·) ∧
    offs.length = ids.length + 1 ∧ (∀ o ∈ offs, Utf8.isBoundary text o = true) ∧
    ∃ segs : List (List Nat), tokenTexts text offs = segs.map some ∧ segs.flatten = text := by
  obtain ⟨os, hs, ⟨hnil, _⟩ | ⟨_, rfl⟩⟩ := encode_eq_some h
  · exact absurd hnil hne
  obtain ⟨hlen, hmem, hmono⟩ := c27_offsets t text none pieces ids os hs
  obtain ⟨_, hstarts, hpb⟩ := tiles_bounds pieces 0 text.length hl
  have hpw := hmono hstarts mapMono_none
  have hhead := encodeStr_head (wellFormed_of_new hnew hnd) text pieces 0 ids os hl hs hne
  have hstart : ∀ x ∈ os, ∃ p ∈ pieces, p.1 = x := fun x hx =>
    let ⟨p, hp, _, hmo⟩ := hmem x hx
    ⟨p, hp, Option.some.inj hmo⟩
  have hle : ∀ x ∈ os, x ≤ text.length := fun x hx => by
    obtain ⟨p, hp, rfl⟩ := hstart x hx
    have := hpb p hp; omega
  have hbd : ∀ x ∈ os, Utf8.isBoundary text x = true := fun x hx => by
    obtain ⟨p, hp, rfl⟩ := hstart x hx
    exact hpbd p hp
  cases os with
  | nil => simp at hhead
  | cons o0 rest =>
    simp only [List.head?_cons, Option.some.injEq] at hhead
    subst hhead
    obtain ⟨segs, h1, h2⟩ := c27_slices text 0 rest hpw hle hbd
    exact ⟨by simp, List.getLast?_concat,
      List.pairwise_append.mpr ⟨hpw, List.pairwise_singleton _ _,
        fun a ha _ hb => List.mem_singleton.mp hb ▸ hle a ha⟩, by simp [← hlen],
      List.forall_mem_append.mpr ⟨hbd, by simpa using isBoundary_length text⟩, segs, h1,
      by simpa using h2⟩

/-- The complementary case of `c27_offsets_partition`: no tokens ⇒ no offsets (in particular for
the empty text, whose only tilings consist of empty chunks). -/
theorem c27_encode_no_tokens (t : Bpe) (srcLen : Nat) (text : List Nat) (map : Option (List Nat))
    (pieces : List (Nat × Nat)) (offs : List Nat)
    (h : encode t srcLen text map pieces = some ([], offs)) : offs = [] := by
  obtain ⟨_, _, ⟨_, hoffs⟩ | ⟨hne, _⟩⟩ := encode_eq_some h
  · exact hoffs
  · exact absurd rfl hne

end RtenVerif.ByteBpe
