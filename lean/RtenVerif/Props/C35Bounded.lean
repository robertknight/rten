import RtenVerif.Props.C35Contains
import RtenVerif.Props.C35Bounded6Defs

/-!
# C35.S3 — containment and convexity of the hull on three complete finite scopes

Lists of ≤ 3 points and multisets of 5 points of the 3×3 grid, multisets of 6 points of the 4×4 grid
(54,264 inputs, among them 296 on which the scan performs at least two strict right-turn pops for
one point): instances of `hullContainsCheck_all` (`Props/C35Contains.lean`), which holds for every
input.
-/
namespace RtenVerif.Poly

/-- **C35.S3 (bounded)** For every list of at most 3 points of the 3×3 integer grid (all
1 + 9 + 81 + 729 lists; duplicates and collinear triples included) the hull computed by the
model of `convex_hull` contains all input points and is convex. -/
theorem c35_hull_contains_bounded :
    ∀ len : Fin 4, ∀ hi : Fin 9, ∀ lo : Fin 81,
      hullContainsCheck (gridPts len.1 (hi.1 * 81 + lo.1)) = true :=
  fun _ _ _ => hullContainsCheck_all _

def gpt (k : Nat) : Pt := (Int.ofNat (k % 3), Int.ofNat (k / 3))

/-- **C35.S3 (bounded, 5 points)** For every multiset of 5 points of the 3×3 grid (all 1287
non-decreasing 5-tuples) the hull is strictly convex around the whole cycle and contains every
input point.  Five points are the least number for which the scan pops more than once per
point. -/
theorem c35_hull_contains_bounded5 :
    ∀ a b c d e : Fin 9, a ≤ b → b ≤ c → c ≤ d → d ≤ e →
      hullContainsCheck [gpt a.1, gpt b.1, gpt c.1, gpt d.1, gpt e.1] = true :=
  fun _ _ _ _ _ _ _ _ _ => hullContainsCheck_all _

/-- **C35.S3 (bounded, 6 points on a 4×4 grid)** For every multiset of 6 points of the 4×4
integer grid (all 54,264 non-decreasing code lists; duplicates, collinear runs and scans with up
to several strict pops per point included) the hull computed by the model of `convex_hull` is
strictly convex around the whole cycle and contains every input point. -/
theorem c35_hull_contains_bounded6 :
    ∀ l ∈ msets 16 6 0, hullContainsCheck (l.map gp4) = true :=
  fun _ _ => hullContainsCheck_all _

/-- The scope is not vacuous; counted here for two points (136 = C(17,2) lists; for six points
there are C(21,6) = 54,264). -/
example : (msets 16 2 0).length = 136 := by decide +kernel

end RtenVerif.Poly
