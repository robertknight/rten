import RtenVerif.Lemmas.TensorBoundsOverlapM
import RtenVerif.Lemmas.TensorBoundsSplit
import RtenVerif.Lemmas.TensorBoundsViews
import RtenVerif.Lemmas.TensorBoundsSliceM
import RtenVerif.Lemmas.TensorBoundsAxes
import RtenVerif.Props.C08

/-!
# C06 — Safe tensor APIs never access memory out of bounds or alias mutably

Theorems over `RtenVerif/Model/TensorBounds.lean` (model of the size / offset arithmetic of
`rten-tensor`'s `layout.rs`, `tensor.rs`, `overlap.rs`, `storage.rs`).  `dims` is the list of
`(size, stride)` pairs of a layout; `ValidIdx dims idx` (from `Lemmas/Overlap.lean`) says that
`idx` has the right rank and every component is in range.

* **T1** (ideal) every valid index maps below `min_data_len`.
* **T2** (ideal) constructor soundness: every accepted tensor has `min_data_len ≤ |storage|`, so
  every valid index addresses an element of the storage; tensors with mutable storage have
  passed the overlap check, so distinct valid indices address distinct elements (C08); the two
  halves of `split_at_mut` address disjoint element sets inside their own storage ranges.
  `SubView` is what one view-producing call guarantees; `VSafe` / `OSafe` are the invariants
  that carry T2 through any chain of view calls and any program of mutating calls on an owned
  tensor.
* **T3** (machine) the `UInt64` constructors accept exactly what the ideal ones accept — only
  layouts whose ideal `len` and `min_data_len` are `≤ isize::MAX` — and on every accepted
  layout the wrap-around arithmetic equals the ideal arithmetic.  For the code *before* the
  fix T3 is false, witnessed by `c06_T3_old_false_*`.
-/
namespace RtenVerif.TensorBounds
open RtenVerif.Overlap

/-- **C06.T1** (`TrustedLayout` promise, ideal integers): for every layout, every valid index
maps to an offset `< min_data_len`. -/
theorem c06_T1_offset_lt_min_data_len (dims : List (Nat × Nat)) (idx : List Nat)
    (h : ValidIdx dims idx) : offset dims idx < minDataLen dims :=
  offset_lt_minDataLen h

/-- **C06.T1** for `Layout::offset` as executed (`None` for an invalid index): whatever offset it
returns is `< min_data_len`. -/
theorem c06_T1_offsetOf (dims : List (Nat × Nat)) (idx : List Nat) (o : Nat)
    (h : offsetOf dims idx = some o) : o < minDataLen dims := by
  unfold offsetOf at h
  split at h
  · next hv => cases h; exact offset_lt_minDataLen ((validIdx_iff _ _).mp hv)
  · cases h

/-- Non-vacuity: a transposed, stepped layout and its last element. -/
example : ValidIdx [(3, 2), (4, 8)] [2, 3] ∧ offset [(3, 2), (4, 8)] [2, 3] = 28 ∧
    minDataLen [(3, 2), (4, 8)] = 29 := by
  refine ⟨.cons (by omega) (.cons (by omega) .nil), by decide +kernel, by decide +kernel⟩

/-- The invariant every constructor establishes between a layout, the length `n` of the
storage it is paired with, and the storage's mutability. -/
structure Accepted (dims : List (Nat × Nat)) (n : Nat) (mutable : Bool) : Prop where
  shape_fits : prodNZ (shapeOf dims) ≤ isizeMax
  offset_fits : maxOffset dims < isizeMax
  storage_long_enough : minDataLen dims ≤ n
  no_overlap : mutable = true → mayOverlap dims = false

/-- **C06.T2a** every valid index of an accepted tensor addresses an element of its storage. -/
theorem c06_T2_in_bounds {dims : List (Nat × Nat)} {n : Nat} {m : Bool} (acc : Accepted dims n m)
    {idx : List Nat} (h : ValidIdx dims idx) : offset dims idx < n :=
  Nat.lt_of_lt_of_le (offset_lt_minDataLen h) acc.storage_long_enough

/-- **C06.T2b** in an accepted tensor with mutable storage, two different valid indices never
address the same element, so the `&mut` obtained for them (`get_mut`, `IndexMut`) do not
alias.  (C08.T1 applied to the overlap check the constructors ran.) -/
theorem c06_T2_no_alias {dims : List (Nat × Nat)} {n : Nat} (acc : Accepted dims n true)
    {i j : List Nat} (hi : ValidIdx dims i) (hj : ValidIdx dims j) (hne : i ≠ j) :
    offset dims i ≠ offset dims j := fun h =>
  hne (c08_no_overlap_injective dims i j (acc.no_overlap rfl) hi hj h)

/-- What the overlap check guarantees (`c08_no_overlap_injective`); unlike the conservative check
itself, it is inherited by every sub-view. -/
def Inj (dims : List (Nat × Nat)) : Prop :=
  ∀ i j, ValidIdx dims i → ValidIdx dims j → offset dims i = offset dims j → i = j

theorem inj_of_no_overlap {dims : List (Nat × Nat)} (h : mayOverlap dims = false) : Inj dims :=
  fun i j hi hj heq => c08_no_overlap_injective dims i j h hi hj heq

/-- The invariant is exactly what the strided constructors test: `checked_min_data_len` succeeds,
the storage is long enough, and mutable storage passes the overlap check. -/
theorem accepted_iff {dims : List (Nat × Nat)} {n : Nat} {m : Bool} : Accepted dims n m ↔
    (∃ k, checkedMinDataLen dims = some k) ∧ minDataLen dims ≤ n ∧
      (m = true → mayOverlap dims = false) :=
  ⟨fun a => ⟨⟨_, (checkedMinDataLen_eq dims).trans (if_pos ⟨a.1, a.2⟩)⟩, a.3, a.4⟩,
    fun ⟨⟨_, hk⟩, h2, h3⟩ =>
      ⟨(checkedMinDataLen_some hk).2.1, (checkedMinDataLen_some hk).2.2, h2, h3⟩⟩

/-- **C06.T2c** `try_from_data` (owning / mutable storage): accepted ⇒ invariant, and the storage
length is exactly the element count. -/
theorem c06_T2_tryFromData {shape : List Nat} {n : Nat} {l : List (Nat × Nat)}
    (h : tryFromData shape n = .ok l) :
    l = contigDims shape ∧ Accepted l n true ∧ len l = n ∧ minDataLen l = n := by
  revert h
  fun_cases tryFromData shape n <;> intro h
  case case3 h1 h2 =>
    cases h
    have hmo := maxOffset_contig_lt shape
    have hn : minDataLen (contigDims shape) = n := Decidable.not_not.mp h2
    have hfit := prodNZ_le_of_not_isNone h1
    refine ⟨rfl, ⟨by rw [shapeOf_contigDims]; exact hfit, by omega, by omega,
      fun _ => mayOverlap_contig shape⟩, ?_, hn⟩
    rw [len_contig, ← hn, minDataLen_contig]
  all_goals cases h

/-- **C06.T2c** for `from_data` (panics where `try_from_data` fails): an accepted tensor satisfies
the invariant with mutable storage, and its storage length is its element count. -/
theorem c06_T2_fromData {shape : List Nat} {n : Nat} {l : List (Nat × Nat)}
    (h : fromData shape n = .ok l) : Accepted l n true ∧ len l = n := by
  unfold fromData at h
  split at h
  · next l' h' => cases h; exact ⟨(c06_T2_tryFromData h').2.1, (c06_T2_tryFromData h').2.2.1⟩
  · cases h

theorem fromShapeAndStrides_ok {dims l : List (Nat × Nat)} {d : Bool}
    (h : fromShapeAndStrides dims d = .ok l) :
    l = dims ∧ (∃ k, checkedMinDataLen dims = some k) ∧ (d = true → mayOverlap dims = false) := by
  revert h
  fun_cases fromShapeAndStrides dims d <;> intro h
  case case3 h1 h2 =>
    cases h
    refine ⟨rfl, ?_, fun hd => by simpa [hd] using h2⟩
    cases hc : checkedMinDataLen dims
    · simp [hc] at h1
    · exact ⟨_, rfl⟩
  all_goals cases h

/-- `from_data_with_strides` (`d = true`) and `from_slice_with_strides` (`d = false`). -/
theorem withStrides_accepted {dims l : List (Nat × Nat)} {n : Nat} {d : Bool}
    (h : (match fromShapeAndStrides dims d with
      | .error e => .error e
      | .ok l => if minDataLen l > n then .error .tooShort else .ok l) = Except.ok (ε := Err) l) :
    l = dims ∧ Accepted l n d := by
  split at h
  · cases h
  · next l' h' =>
    obtain ⟨rfl, h1, h3⟩ := fromShapeAndStrides_ok h'
    split at h
    · cases h
    · cases h; exact ⟨rfl, accepted_iff.mpr ⟨h1, by omega, h3⟩⟩

/-- **C06.T2d** `from_data_with_strides` (owning / mutable storage, `DisallowOverlap`):
accepted ⇒ invariant. -/
theorem c06_T2_fromDataWithStrides {dims l : List (Nat × Nat)} {n : Nat}
    (h : fromDataWithStrides dims n = .ok l) : l = dims ∧ Accepted l n true :=
  withStrides_accepted h

/-- **C06.T2e** `from_slice_with_strides` (immutable view, `AllowOverlap`): accepted ⇒ invariant
without the overlap clause. -/
theorem c06_T2_fromSliceWithStrides {dims l : List (Nat × Nat)} {n : Nat}
    (h : fromSliceWithStrides dims n = .ok l) : l = dims ∧ Accepted l n false :=
  withStrides_accepted h

/-- **C06.T2f** `from_storage_and_layout` with an arbitrary layout value (e.g. after
`resize_dim`) and mutable or immutable storage: accepted ⇒ invariant. -/
theorem c06_T2_fromStorageAndLayout {dims l : List (Nat × Nat)} {n : Nat} {m : Bool}
    (h : fromStorageAndLayout dims n m = .ok l) : l = dims ∧ Accepted l n m := by
  revert h
  fun_cases fromStorageAndLayout dims n m <;> intro h
  case case4 k hk h2 h3 =>
    cases h
    have hk' := (checkedMinDataLen_some hk).1
    exact ⟨rfl, accepted_iff.mpr ⟨⟨k, hk⟩, by omega, fun hm => by simpa [hm] using h3⟩⟩
  all_goals cases h

/-- Non-vacuity: each constructor accepts a non-trivial tensor (a 2×3 matrix; a transposed,
stepped 3×4 view of 29 elements; a broadcast immutable view), and rejects what it should. -/
example : tryFromData [2, 3] 6 = .ok [(2, 3), (3, 1)] ∧ tryFromData [2, 3] 5 = .error .mismatch ∧
    fromDataWithStrides [(3, 2), (4, 8)] 29 = .ok [(3, 2), (4, 8)] ∧
    fromDataWithStrides [(3, 2), (4, 8)] 28 = .error .tooShort ∧
    fromDataWithStrides [(5, 1), (5, 0)] 5 = .error .overlap ∧
    fromSliceWithStrides [(5, 1), (5, 0)] 5 = .ok [(5, 1), (5, 0)] ∧
    fromStorageAndLayout [(5, 1), (5, 0)] 5 true = .error .panic ∧
    fromStorageAndLayout [(5, 1), (5, 0)] 5 false = .ok [(5, 1), (5, 0)] := by decide +kernel

/-- `MutLayout::split`: both halves are blocks of the parent along `axis` (the right one's range
is reset when it is empty), so an injective parent separates them. -/
theorem split_spec {dims : List (Nat × Nat)} {axis mid : Nat} {l r : View}
    (h : split dims axis mid = some (l, r)) :
    Embeds dims l.dims l.start ∧ Embeds dims r.dims r.start ∧
    l.stop = l.start + minDataLen l.dims ∧ r.stop = minDataLen dims ∧
    (Inj dims → ∀ i j, ValidIdx l.dims i → ValidIdx r.dims j →
      l.start + offset l.dims i ≠ r.start + offset r.dims j) := by
  unfold split at h
  split at h
  · next hc =>
    obtain ⟨hax, hmid⟩ := hc
    simp only [Option.some.injEq, Prod.mk.injEq] at h
    obtain ⟨rfl, rfl⟩ := h
    have hle : mid + (sizeAt dims axis - mid) ≤ sizeAt dims axis := by omega
    have hl : Embeds dims (setSize dims axis mid) 0 := by
      simpa using setSize_embeds (start := 0) hax (by omega)
    by_cases hlen : len (setSize dims axis (sizeAt dims axis - mid)) = 0
    · rw [if_pos hlen]
      exact ⟨hl, fun j _ hj => absurd hlen (valid_len_pos hj), (Nat.zero_add _).symm, rfl,
        fun _ _ _ _ hj => absurd hlen (valid_len_pos hj)⟩
    · rw [if_neg hlen]
      refine ⟨hl, setSize_embeds hax hle, (Nat.zero_add _).symm, rfl,
        fun hinj i j hi hj heq => ?_⟩
      refine setSize_disjoint (s := 0) hax (Nat.le_of_eq (Nat.zero_add mid)) hle hinj hi hj ?_
      simpa using heq
  · cases h

/-- **C06.T2g** (`MutLayout::split`, used by `split_at` / `split_at_mut`).  For every layout,
axis and split point the code accepts: an element addressed through the left half lies in the
left half's offset range, an element addressed through the right half lies in the right half's
range, both lie below the parent's `min_data_len` (hence inside the parent's storage), and —
when the parent passed the overlap check, as every mutable tensor has — no element can be
reached through both halves, so the two `&mut` views never alias. -/
theorem c06_T2_split {dims : List (Nat × Nat)} {axis mid : Nat} {l r : View}
    (h : split dims axis mid = some (l, r)) :
    (∀ i, ValidIdx l.dims i →
      l.start + offset l.dims i < l.stop ∧ l.start + offset l.dims i < minDataLen dims) ∧
    (∀ j, ValidIdx r.dims j →
      r.start ≤ r.start + offset r.dims j ∧ r.start + offset r.dims j < r.stop ∧
      r.stop ≤ minDataLen dims) ∧
    (Inj dims → (∀ i j, ValidIdx l.dims i → ValidIdx r.dims j →
      l.start + offset l.dims i ≠ r.start + offset r.dims j) ∧ Inj l.dims ∧ Inj r.dims) := by
  obtain ⟨el, er, hl, hr, hd⟩ := split_spec h
  exact ⟨fun i hi => ⟨hl ▸ Nat.add_lt_add_left (offset_lt_minDataLen hi) _, el.lt_minDataLen hi⟩,
    fun j hj => ⟨Nat.le_add_right _ _, hr ▸ er.lt_minDataLen hj, Nat.le_of_eq hr⟩,
    fun hinj => ⟨hd hinj, el.injective hinj, er.injective hinj⟩⟩

/-- Non-vacuity: splitting the columns of a 2×3 row-major matrix at 1 gives halves whose
offset ranges `[0,4)` and `[1,6)` overlap, yet whose element sets `{0,3}` and `{1,2,4,5}`
are disjoint. -/
example : split [(2, 3), (3, 1)] 1 1 =
      some (⟨0, 4, [(2, 3), (1, 1)]⟩, ⟨1, 6, [(2, 3), (2, 1)]⟩) ∧
    mayOverlap [(2, 3), (3, 1)] = false ∧
    ValidIdx [(2, 3), (1, 1)] [1, 0] ∧ ValidIdx [(2, 3), (2, 1)] [1, 1] := by
  refine ⟨by decide +kernel, by decide +kernel, .cons (by omega) (.cons (by omega) .nil),
    .cons (by omega) (.cons (by omega) .nil)⟩

/-- **C06.T3 is false for the unfixed code (1)**: `Tensor::try_from_data(&[2^32, 2^32], vec![])`
is accepted by the wrap-around arithmetic (the product wraps to 0), although the ideal element
count is `2^64 > isize::MAX`; the valid index `[1, 1]` then maps to offset `2^32 + 1` of an
empty storage.  Replayed on the real crate by the harness (request `c=tfd shape=4294967296,4294967296 len=0`). -/
theorem c06_T3_old_false_len :
    M.Old.tryFromData [4294967296, 4294967296] 0 = .ok [(4294967296, 4294967296), (4294967296, 1)] ∧
    len (M.toN [(4294967296, 4294967296), (4294967296, 1)]) = 18446744073709551616 ∧
    M.offsetOf [(4294967296, 4294967296), (4294967296, 1)] [1, 1] = some 4294967297 := by
  decide +kernel

/-- **C06.T3 is false for the unfixed code (2)**: shape `[3, 2]`, strides `[2^63, 1]` and two
elements of storage pass `from_data_with_strides`: `(3-1)·2^63` wraps to 0 both in the overlap
check and in `min_data_len` (machine value 2, ideal value `2^64 + 2`); the valid index `[1, 0]`
maps to offset `2^63`. -/
theorem c06_T3_old_false_stride :
    M.Old.fromDataWithStrides [(3, 9223372036854775808), (2, 1)] 2 =
      .ok [(3, 9223372036854775808), (2, 1)] ∧
    M.minDataLen [(3, 9223372036854775808), (2, 1)] = 2 ∧
    minDataLen (M.toN [(3, 9223372036854775808), (2, 1)]) = 18446744073709551618 ∧
    M.offsetOf [(3, 9223372036854775808), (2, 1)] [1, 0] = some 9223372036854775808 := by
  decide +kernel

/-- **C06.T3** the constructors with the `checked_shape_len` / `checked_min_data_len` guards
reject both witnesses. -/
theorem c06_T3_fixed_rejects_witnesses :
    M.tryFromData [4294967296, 4294967296] 0 = .error .mismatch ∧
    M.fromData [4294967296, 4294967296] 0 = .error .panic ∧
    M.fromDataWithStrides [(3, 9223372036854775808), (2, 1)] 2 = .error .tooShort ∧
    M.fromSliceWithStrides [(3, 9223372036854775808), (2, 1)] 2 = .error .tooShort ∧
    M.fromStorageAndLayout [(3, 9223372036854775808), (2, 1)] 2 true = .error .panic := by
  decide +kernel

/-- **C06.T3a** every accepted tensor has ideal `len` and `min_data_len` `≤ isize::MAX`
(`< 2^63`), whatever constructor produced it. -/
theorem c06_T3_accepted_fits {dims : List (Nat × Nat)} {n : Nat} {m : Bool}
    (acc : Accepted dims n m) : len dims ≤ isizeMax ∧ minDataLen dims ≤ isizeMax := by
  refine ⟨Nat.le_trans (prod_le_prodNZ _) acc.shape_fits, ?_⟩
  unfold minDataLen
  have := acc.offset_fits
  split <;> omega

/-- **C06.T3b** on every layout that passed the guards, the wrap-around (`UInt64`) evaluation
of `min_data_len`, `len`, the overlap check, index validation and the offset sum equals the
ideal evaluation. -/
theorem c06_T3_machine_eq_ideal (d : List (M.U × M.U)) {n : Nat} {m : Bool}
    (acc : Accepted (M.toN d) n m) :
    (M.minDataLen d).toNat = minDataLen (M.toN d) ∧
    (M.len d).toNat = len (M.toN d) ∧
    M.mayOverlap d = mayOverlap (M.toN d) ∧
    ∀ idx : List M.U, (M.offsetOf d idx).map UInt64.toNat = offsetOf (M.toN d) (M.toNs idx) := by
  have hW := M.isizeMax_lt_W
  have hfit := c06_T3_accepted_fits acc
  refine ⟨M.minDataLen_toNat d (by have := acc.offset_fits; omega),
    M.len_toNat d (by omega), M.mayOverlap_eq d acc.shape_fits acc.offset_fits, ?_⟩
  intro idx
  unfold M.offsetOf offsetOf
  rw [M.validIdx_eq]
  split
  · next hv =>
    simp only [Option.map_some]
    congr 1
    rw [M.offset_toNat, Nat.mod_eq_of_lt]
    have := valid_offset_le ((validIdx_iff _ _).mp hv)
    have := acc.offset_fits
    omega
  · rfl

/-- **C06.T3c** `from_shape` on machine integers = ideal `from_shape`. -/
theorem c06_T3_fromShape (s : List M.U) :
    (M.fromShape s).map M.toN = fromShape (M.toNs s) := by
  unfold M.fromShape fromShape
  rw [← Option.isNone_map (f := UInt64.toNat), M.checkedShapeLen_eq s]
  split
  · rfl
  · next h =>
    simp only [Except.map, M.contigDims_toN s (prodNZ_le_of_not_isNone h)]

/-- **C06.T3d** `try_from_data` on machine integers accepts exactly what the ideal model
accepts, with the same layout. -/
theorem c06_T3_tryFromData (s : List M.U) (n : M.U) :
    (M.tryFromData s n).map M.toN = tryFromData (M.toNs s) n.toNat := by
  unfold M.tryFromData tryFromData
  rw [← Option.isNone_map (f := UInt64.toNat), M.checkedShapeLen_eq s]
  split
  · rfl
  · next h =>
    have hfit := prodNZ_le_of_not_isNone h
    have hW := M.isizeMax_lt_W
    have hmo := maxOffset_contig_lt (M.toNs s)
    have hm : (M.minDataLen (M.contigDims s)).toNat = minDataLen (contigDims (M.toNs s)) := by
      rw [M.minDataLen_toNat, M.contigDims_toN s hfit]
      rw [M.contigDims_toN s hfit]; omega
    simp only [ne_eq, ← UInt64.toNat_inj, hm]
    split <;> simp only [Except.map, M.contigDims_toN s hfit]

/-- **C06.T3e** `from_data`. -/
theorem c06_T3_fromData (s : List M.U) (n : M.U) :
    (M.fromData s n).map M.toN = fromData (M.toNs s) n.toNat := by
  unfold M.fromData fromData
  rw [← c06_T3_tryFromData]
  cases M.tryFromData s n <;> rfl

theorem checkedMinDataLen_cases (d : List (M.U × M.U)) :
    (M.checkedMinDataLen d = none ∧ checkedMinDataLen (M.toN d) = none) ∨
    ∃ k, M.checkedMinDataLen d = some k ∧ checkedMinDataLen (M.toN d) = some k.toNat ∧
      M.mayOverlap d = mayOverlap (M.toN d) ∧ (M.minDataLen d).toNat = minDataLen (M.toN d) := by
  have hc := M.checkedMinDataLen_eq d
  cases hk : M.checkedMinDataLen d with
  | none => rw [hk] at hc; exact .inl ⟨rfl, hc.symm⟩
  | some k =>
    rw [hk] at hc
    obtain ⟨_, h1, h2⟩ := checkedMinDataLen_some hc.symm
    have hW := M.isizeMax_lt_W
    exact .inr ⟨k, rfl, hc.symm, M.mayOverlap_eq d h1 h2, M.minDataLen_toNat d (by omega)⟩

/-- **C06.T3f** `from_shape_and_strides` (both overlap policies). -/
theorem c06_T3_fromShapeAndStrides (d : List (M.U × M.U)) (disallow : Bool) :
    (M.fromShapeAndStrides d disallow).map M.toN = fromShapeAndStrides (M.toN d) disallow := by
  unfold M.fromShapeAndStrides fromShapeAndStrides
  rcases checkedMinDataLen_cases d with ⟨h1, h2⟩ | ⟨k, h1, h2, hov, _⟩
  · rw [h1, h2]; rfl
  · rw [h1, h2, hov]
    simp only [Option.isNone_some, Bool.false_eq_true, if_false]
    split <;> rfl

/-- `from_data_with_strides` (`b = true`) and `from_slice_with_strides` (`b = false`). -/
theorem withStrides_eq (d : List (M.U × M.U)) (n : M.U) (b : Bool) :
    (match M.fromShapeAndStrides d b with
      | .error e => .error e
      | .ok l => if M.minDataLen l > n then .error .tooShort else .ok l : Except Err _).map M.toN =
    match fromShapeAndStrides (M.toN d) b with
      | .error e => .error e
      | .ok l => if minDataLen l > n.toNat then .error .tooShort else .ok l := by
  unfold M.fromShapeAndStrides fromShapeAndStrides
  rcases checkedMinDataLen_cases d with ⟨h1, h2⟩ | ⟨k, h1, h2, hov, hm⟩
  · rw [h1, h2]; rfl
  · rw [h1, h2, hov]
    simp only [Option.isNone_some, Bool.false_eq_true, if_false]
    by_cases ho : (b && mayOverlap (M.toN d)) = true
    · rw [if_pos ho, if_pos ho]; rfl
    · rw [if_neg ho, if_neg ho]
      simp only [gt_iff_lt, UInt64.lt_iff_toNat_lt, hm]
      split <;> rfl

/-- **C06.T3g** `from_data_with_strides`. -/
theorem c06_T3_fromDataWithStrides (d : List (M.U × M.U)) (n : M.U) :
    (M.fromDataWithStrides d n).map M.toN = fromDataWithStrides (M.toN d) n.toNat :=
  withStrides_eq d n true

/-- **C06.T3h** `from_slice_with_strides`. -/
theorem c06_T3_fromSliceWithStrides (d : List (M.U × M.U)) (n : M.U) :
    (M.fromSliceWithStrides d n).map M.toN = fromSliceWithStrides (M.toN d) n.toNat :=
  withStrides_eq d n false

/-- **C06.T3i** `from_storage_and_layout`. -/
theorem c06_T3_fromStorageAndLayout (d : List (M.U × M.U)) (n : M.U) (m : Bool) :
    (M.fromStorageAndLayout d n m).map M.toN = fromStorageAndLayout (M.toN d) n.toNat m := by
  unfold M.fromStorageAndLayout fromStorageAndLayout
  rcases checkedMinDataLen_cases d with ⟨h1, h2⟩ | ⟨k, h1, h2, hov, _⟩
  · rw [h1, h2]; rfl
  · rw [h1, h2, hov]
    simp only [UInt64.lt_iff_toNat_lt]
    split
    · rfl
    · split <;> rfl

/-- Non-vacuity of T3: machine constructors accept non-trivial tensors, including one whose
element count is exactly `isize::MAX` (a broadcast immutable view of one element). -/
example : M.tryFromData [2, 3] 6 = .ok [(2, 3), (3, 1)] ∧
    M.fromDataWithStrides [(3, 2), (4, 8)] 29 = .ok [(3, 2), (4, 8)] ∧
    M.fromSliceWithStrides [(9223372036854775807, 0)] 1 = .ok [(9223372036854775807, 0)] ∧
    M.fromSliceWithStrides [(9223372036854775808, 0)] 1 = .error .tooShort := by decide +kernel

theorem rangeValid_iff {w : View} {n : Nat} : rangeValid w n = true ↔ w.start ≤ n ∧ w.stop ≤ n := by
  simp [rangeValid]

/-- What every view-producing call guarantees about the view `w` it cuts out of a parent with
layout `dims` and `n` elements of storage; `range` is `assert_storage_range_valid`. -/
structure SubView (dims : List (Nat × Nat)) (n : Nat) (w : View) : Prop where
  range : rangeValid w n = true
  embeds : Embeds dims w.dims w.start
  lt_stop : ∀ j, ValidIdx w.dims j → w.start + offset w.dims j < w.stop

theorem SubView.spec {dims : List (Nat × Nat)} {n : Nat} {w : View} (h : SubView dims n w) :
    w.start ≤ n ∧ w.stop ≤ n ∧
    (∀ j, ValidIdx w.dims j →
      w.start + offset w.dims j < w.stop ∧ w.start + offset w.dims j < minDataLen dims) ∧
    (Inj dims → Inj w.dims) :=
  ⟨(rangeValid_iff.mp h.range).1, (rangeValid_iff.mp h.range).2,
    fun j hj => ⟨h.lt_stop j hj, h.embeds.lt_minDataLen hj⟩, h.embeds.injective⟩

/-- The range `slice_axis`, `slice_dyn` and `index_axis` compute: `off .. off + min_data_len`, or
anything at all when the block is empty. -/
theorem SubView.of_block {dims : List (Nat × Nat)} {n off : Nat} {w : View}
    (hr : rangeValid w n = true) (he : Embeds dims w.dims off)
    (hw : ∀ j, ValidIdx w.dims j → w.start = off ∧ w.stop = off + minDataLen w.dims) :
    SubView dims n w :=
  ⟨hr, fun j j' hj hj' => (hw j hj).1 ▸ he j j' hj hj', fun j hj => by
    rw [(hw j hj).1, (hw j hj).2]; exact Nat.add_lt_add_left (offset_lt_minDataLen hj) _⟩

theorem sliceAxis_subview {dims : List (Nat × Nat)} {n axis s e : Nat} {v : View}
    (h : sliceAxis dims n axis s e = some v) : SubView dims n v := by
  unfold sliceAxis at h
  split at h
  · next hc =>
    dsimp only at h
    have he := setSize_embeds (start := s) hc.1 (show s + (e - s) ≤ _ by omega)
    have hst := strideAt_setSize dims axis (e - s)
    generalize setSize dims axis (e - s) = c at h he hst
    by_cases hlen : len c = 0
    · simp only [if_pos hlen] at h
      split at h
      · next hrv => cases h; exact .of_block hrv he fun j hj => absurd hlen (valid_len_pos hj)
      · cases h
    · simp only [if_neg hlen, hst] at h
      split at h
      · next hrv => cases h; exact .of_block hrv he fun _ _ => ⟨rfl, rfl⟩
      · cases h
  · cases h

/-- **C06.T2h** `slice_axis` / `slice_axis_mut` (`MutLayout::slice_axis` + `Storage::slice(_mut)`):
whenever the call succeeds on a tensor whose storage has `n` elements, every valid index of the
slice addresses an element inside the slice's own storage range, that range lies inside the
parent's storage, the element lies below the parent's `min_data_len`, and if the parent maps
distinct indices to distinct elements (`Inj`, as after the overlap check) so does the slice (a
`slice_axis_mut` view never aliases itself). -/
theorem c06_T2_sliceAxis {dims : List (Nat × Nat)} {n axis s e : Nat} {v : View}
    (h : sliceAxis dims n axis s e = some v) :
    v.start ≤ n ∧ v.stop ≤ n ∧
    (∀ j, ValidIdx v.dims j →
      v.start + offset v.dims j < v.stop ∧ v.start + offset v.dims j < minDataLen dims) ∧
    (Inj dims → Inj v.dims) :=
  (sliceAxis_subview h).spec

/-- **C06.T2i** `try_broadcast` / `broadcast`: every valid index of the broadcast layout maps
below the parent's `min_data_len`, hence inside the storage of an accepted parent, and the
broadcast shape passes `checked_shape_len`.  (The broadcast view shares the parent's whole
storage and its type, `TensorBase<ViewData, _>`, is immutable.) -/
theorem c06_T2_broadcast {dims b : List (Nat × Nat)} {target : List Nat}
    (h : broadcast dims target = some b) {idx : List Nat} (hv : ValidIdx b idx) :
    offset b idx < minDataLen dims ∧ prodNZ (shapeOf b) ≤ isizeMax := by
  obtain ⟨hc, hsh, hfit⟩ := broadcast_spec h
  obtain ⟨i, hi, o⟩ := hc idx hv
  exact ⟨o ▸ offset_lt_minDataLen hi, hsh ▸ hfit⟩

/-- Non-vacuity: a `[3,1]` column broadcast to `[2,3,4]`. -/
example : broadcast [(3, 1), (1, 1)] [2, 3, 4] = some [(2, 0), (3, 1), (4, 0)] ∧
    ValidIdx [(2, 0), (3, 1), (4, 0)] [1, 2, 3] ∧ minDataLen [(3, 1), (1, 1)] = 3 := by
  refine ⟨by decide +kernel, .cons (by omega) (.cons (by omega) (.cons (by omega) .nil)), by decide +kernel⟩

/-- **C06.T2j** a tensor with mutable storage is never genuinely broadcast: in a non-empty
accepted mutable layout every dimension with more than one entry has a non-zero stride.
(`broadcast` itself only returns immutable views; the only way to pair a zero-stride layout
with mutable storage is through the constructors, which run the overlap check.) -/
theorem c06_T2_mutable_not_broadcast {dims : List (Nat × Nat)} {n : Nat}
    (acc : Accepted dims n true) (hne : hasZero dims = false) (k : Nat) (hk : k < dims.length)
    (hs : 1 < sizeAt dims k) : strideAt dims k ≠ 0 := by
  intro h0
  have := (embeds_first_two dims k hne hk hs).injective (inj_of_no_overlap (acc.no_overlap rfl))
    [0] [1] (.cons (by omega) .nil) (.cons (by omega) .nil) (by simp [offset, h0])
  cases this

/-- **C06.T2** the `assert!(!view.is_broadcast())` of `LanesMut` / `AxisIterMut` /
`AxisChunksMut`: a non-empty layout that passes it has no zero stride at all. -/
theorem c06_T2_is_broadcast_assert {dims : List (Nat × Nat)} (h : isBroadcast dims = false)
    (hne : len dims ≠ 0) : ∀ d ∈ dims, d.2 ≠ 0 := by
  intro d hd h0
  unfold isBroadcast at h
  have h1 : (len dims != 0) = true := by simpa using hne
  have h2 : dims.any (fun d => d.2 == 0) = true := List.any_eq_true.mpr ⟨d, hd, by simpa using h0⟩
  rw [h1, h2] at h
  cases h

/-- **C06.T2k** `has_capacity` / `append` (via `expanded_layout`): whenever `append` succeeds, the
grown tensor satisfies the constructor invariant with its new storage length, which still
fits the capacity if the old one did (`hcap`); in particular all its indices are in bounds and
do not alias (`c06_T2_in_bounds`, `c06_T2_no_alias`), and the block written by `append`
(`slice_axis_mut(axis, old..new)`) is covered by `c06_T2_sliceAxis`. -/
theorem c06_T2_append {t t' : Owned} {axis : Nat} {other : List (Nat × Nat)}
    (h : append t axis other = .ok t') (hcap : t.dataLen ≤ t.cap) :
    Accepted t'.dims t'.dataLen true ∧ t'.dataLen ≤ t'.cap ∧ t'.cap = t.cap ∧
    t'.dims = setSize t.dims axis (sizeAt t.dims axis + sizeAt other axis) := by
  revert h
  fun_cases append t axis other <;> intro h
  case case4 nl hnl =>
    cases h
    obtain ⟨rfl, m, hm, hc, hov⟩ := (c08_expansion_iff _ _ _ _ _).mp hnl
    have hm' := (checkedMinDataLen_some hm).1
    exact ⟨accepted_iff.mpr ⟨⟨m, hm⟩, Nat.le_max_right _ _, fun _ => hov⟩,
      Nat.max_le.mpr ⟨hcap, hm' ▸ hc⟩, rfl, rfl⟩
  all_goals cases h

/-- Non-vacuity: a `with_capacity([3,2], 0)` tensor grows by two rows; two more are refused
(capacity), and so is a block of another width (shape mismatch). -/
example : append ⟨[(0, 2), (2, 1)], 0, 6⟩ 0 [(2, 0), (2, 0)] = .ok ⟨[(2, 2), (2, 1)], 4, 6⟩ ∧
    append ⟨[(2, 2), (2, 1)], 4, 6⟩ 0 [(2, 0), (2, 0)] = .error .noCapacity ∧
    append ⟨[(2, 2), (2, 1)], 4, 6⟩ 0 [(1, 0), (3, 0)] = .error .shapeMismatch := by decide +kernel

/-- **C06.T2l** `clip_dim`: after a successful call every valid index of the clipped layout is
below the new storage length, and if the tensor was accepted (passed the overlap check) the
clipped layout still maps distinct indices to distinct elements. -/
theorem c06_T2_clipDim {t t' : Owned} {dim s e : Nat} (h : clipDim t dim s e = some t') :
    (∀ j, ValidIdx t'.dims j → offset t'.dims j < t'.dataLen) ∧
    (Inj t.dims → Inj t'.dims) ∧ t'.dataLen ≤ t.dataLen ∧ t'.cap = t.cap ∧
    (∃ n, n ≤ sizeAt t.dims dim ∧ t'.dims = setSize t.dims dim n) := by
  revert h
  fun_cases clipDim t dim s e <;> intro h
  case case1 hc nl _ rl hfit =>
    cases h
    refine ⟨fun j hj => ?_, (setSize_embeds (start := s) hc.1 (by omega)).injective,
      Nat.min_le_left _ _, rfl, e - s, by omega, rfl⟩
    -- a layout with a valid index is not empty, so the range length is its `min_data_len`
    have hrl : rl = minDataLen nl := if_neg (valid_len_pos hj)
    have hlt := offset_lt_minDataLen (show ValidIdx nl j from hj)
    show offset nl j < min t.dataLen rl
    exact Nat.lt_min.mpr ⟨by omega, hrl ▸ hlt⟩
  all_goals cases h

theorem setSize_toN : ∀ (d : List (M.U × M.U)) (axis : Nat) (n : M.U),
    M.toN (M.setSize d axis n) = setSize (M.toN d) axis n.toNat
  | [], _, _ => rfl
  | (_, _) :: _, 0, _ => rfl
  | x :: xs, a + 1, n => congrArg (M.toN [x] ++ ·) (setSize_toN xs a n)

/-- **C06.T3j** `expanded_layout` (the decision behind `has_capacity` and `append`) on machine
integers accepts exactly what the ideal model accepts — for *every* requested size. -/
theorem c06_T3_expandedLayout (d : List (M.U × M.U)) (cap : M.U) (axis : Nat) (ns : M.U) :
    (M.expandedLayout d cap axis ns).map M.toN =
      expandedLayout (M.toN d) cap.toNat axis ns.toNat := by
  unfold M.expandedLayout expandedLayout
  rcases checkedMinDataLen_cases (M.setSize d axis ns) with ⟨h1, h2⟩ | ⟨k, h1, h2, hov, _⟩
  · rw [setSize_toN] at h2
    rw [h1, h2]; rfl
  · rw [setSize_toN] at h2 hov
    rw [h1, h2, hov]
    simp only [UInt64.le_iff_toNat_le]
    split
    · simp only [Option.map_some, setSize_toN]
    · rfl

/-- **C06.T3 was false for `expanded_layout` before fix 0049079**: an empty `[0, 2]` tensor
with strides `[2^63, 1]` (accepted: it needs no storage) and capacity 8 "has capacity" for 3
rows on wrap-around integers (`2·2^63` wraps to 0, machine `min_data_len` = 2) although the
ideal requirement is `2^64 + 2` elements; index `[1, 0]` of the grown layout maps to offset
`2^63`.  The fixed `expanded_layout` refuses.  Replayed on the real crate by the harness
(`a … shape=0,2 strides=9223372036854775808,1 len=0 cap=8 ops=hc:0,3;ap:0/3,2`). -/
theorem c06_T3_old_false_append :
    M.fromDataWithStrides [(0, 9223372036854775808), (2, 1)] 0 =
      .ok [(0, 9223372036854775808), (2, 1)] ∧
    M.Old.expandedLayout [(0, 9223372036854775808), (2, 1)] 8 0 3 =
      some [(3, 9223372036854775808), (2, 1)] ∧
    minDataLen (M.toN [(3, 9223372036854775808), (2, 1)]) = 18446744073709551618 ∧
    M.offsetOf [(3, 9223372036854775808), (2, 1)] [1, 0] = some 9223372036854775808 ∧
    M.expandedLayout [(0, 9223372036854775808), (2, 1)] 8 0 3 = none := by
  decide +kernel

/-! ## `slice` / `try_slice` / `slice_mut`: `resolve` + the `step == 1` fast path

The ideal-arithmetic *semantics* of slicing (which elements the view denotes, all steps) is
C09's `c09_slice`; here: the view never leaves the parent's storage, and on machine integers
nothing wraps — provided `resolve` returns `start ≤ end`, which the current code guarantees
(`resolve1_ok`) and the variant without `end.max(start)` does not. -/

theorem trySliceR_subview {dims : List (Nat × Nat)} {n : Nat} {items : List RItem} {v : View}
    (hok : ItemsOk dims items) (h : trySliceR dims n items = some v) : SubView dims n v := by
  unfold trySliceR at h
  dsimp only at h
  generalize hoff : (if hasZero (sliceLoopR dims items).2 then 0 else (sliceLoopR dims items).1) =
    off at h
  split at h
  · next hrv =>
    cases h
    refine .of_block hrv (slice_embeds hok) fun j hj => ?_
    subst hoff
    rw [valid_hasZero (show ValidIdx (sliceLoopR dims items).2 j from hj)]
    exact ⟨rfl, rfl⟩
  · cases h

theorem trySlice_subview {dims : List (Nat × Nat)} {n : Nat} {items : List SItem} {v : View}
    (h : trySlice true dims n items = .ok v) : SubView dims n v := by
  unfold trySlice at h
  split at h
  · cases h
  · next rs hrs =>
    split at h
    · cases h
    · next v' hv => cases h; exact trySliceR_subview (resolveItems_ok dims items rs hrs) hv

/-- **C06.T2m** for resolved items (`ItemsOk`: indices `< size`, ranges `start ≤ end ≤ size`):
whenever `slice_dyn` + `Storage::slice(_mut)` succeed on a tensor with `n` elements of storage,
the view's storage range ends inside the storage, every valid index of the view addresses an
element inside the view's own range and below the parent's `min_data_len`, and an injective
parent gives an injective view (no aliasing through `slice_mut`). -/
theorem c06_T2_slice {dims : List (Nat × Nat)} {n : Nat} {items : List RItem} {v : View}
    (hok : ItemsOk dims items) (h : trySliceR dims n items = some v) :
    v.start ≤ n ∧ v.stop ≤ n ∧
    (∀ j, ValidIdx v.dims j →
      v.start + offset v.dims j < v.stop ∧ v.start + offset v.dims j < minDataLen dims) ∧
    (Inj dims → Inj v.dims) :=
  (trySliceR_subview hok h).spec

/-- **C06.T2n** the same for the API as called: `try_slice(items)` with indices and step-1
ranges in any spelling, resolved by the current `SliceRange::resolve`. -/
theorem c06_T2_trySlice {dims : List (Nat × Nat)} {n : Nat} {items : List SItem} {v : View}
    (h : trySlice true dims n items = .ok v) :
    v.start ≤ n ∧ v.stop ≤ n ∧
    (∀ j, ValidIdx v.dims j →
      v.start + offset v.dims j < v.stop ∧ v.start + offset v.dims j < minDataLen dims) ∧
    (Inj dims → Inj v.dims) :=
  (trySlice_subview h).spec

/-- Non-vacuity: `t.slice((1..3, -2..))` on a 3×4 row-major tensor; and the reversed in-bounds
range `5..2` on 8 elements, which the current `resolve` turns into the empty range `5..5`. -/
example : trySlice true [(3, 4), (4, 1)] 12 [.range 1 (some 3), .range (-2) none] =
      .ok ⟨6, 12, [(2, 4), (2, 1)]⟩ ∧
    ValidIdx [(2, 4), (2, 1)] [1, 1] ∧
    trySlice true [(8, 1)] 8 [.range 5 (some 2)] = .ok ⟨0, 0, [(0, 1)]⟩ ∧
    resolve1 true (-1) (some (-3)) 8 = some (7, 7) := by
  refine ⟨by decide +kernel, .cons (by omega) (.cons (by omega) .nil), by decide +kernel, by decide +kernel⟩

/-- **C06.T3k** on every accepted tensor and for resolved items with `start ≤ end ≤ size`, the
`UInt64` evaluation of `slice_layout`'s fast path, of `offset + min_data_len` and of the storage
range assertion equals the ideal evaluation: `end - start` cannot wrap, the offset of a
non-empty result cannot wrap, the range end cannot wrap. -/
theorem c06_T3_slice (d : List (M.U × M.U)) (n : M.U) (items : List M.RItem) {k : Nat} {m : Bool}
    (acc : Accepted (M.toN d) k m) (hok : ItemsOk (M.toN d) (items.map M.RItem.toN)) :
    (M.trySliceR d n items).map M.viewToN =
      trySliceR (M.toN d) n.toNat (items.map M.RItem.toN) :=
  M.trySliceR_eq d n items acc.offset_fits hok

/-- **C06.T3: without `let end = end.max(start)` the machine model accepts an out-of-bounds
view**: `resolve` then returns the reversed range `5..2` for `t.slice(5..2)` on 8 elements;
`end - start` wraps to `2^64 - 3`, `offset + min_data_len` wraps to the range `5..2`, which
`assert_storage_range_valid` accepts (`5 ≤ 8 ∧ 2 ≤ 8`) and whose `Range::len()` is 0: a view of
`2^64 - 3` elements over an empty storage, whose valid index `[1]` is element 6 of the parent.
The current `resolve` yields `5..5` and an empty view instead. -/
theorem c06_T3_resolve_without_max_false :
    resolve1 false 5 (some 2) 8 = some (5, 2) ∧
    resolve1 true 5 (some 2) 8 = some (5, 5) ∧
    M.trySliceR [(8, 1)] 8 [.span 5 2] = some ⟨5, 2, [(18446744073709551613, 1)]⟩ ∧
    (⟨5, 2, [(18446744073709551613, 1)]⟩ : M.View).storageLen = 0 ∧
    M.offsetOf [(18446744073709551613, 1)] [1] = some 1 ∧
    M.trySliceR [(8, 1)] 8 [.span 5 5] = some ⟨0, 0, [(0, 1)]⟩ := by
  decide +kernel

/-! ## Any sequence of calls

`VSafe` is the invariant that composes: unlike `Accepted` (which mentions the conservative
overlap *check*, not inherited by sub-views) it only says what safety needs — every valid index
addresses an element of the view's own storage and, for mutable views, distinct indices
address distinct elements.  Every constructor establishes it, every view operation hands it
to the child together with a storage range inside the parent's, and every mutating call on an
owned tensor preserves it (a failing call leaves the tensor unchanged). -/

structure VSafe (mutable : Bool) (dims : List (Nat × Nat)) (n : Nat) : Prop where
  in_bounds : ∀ j, ValidIdx dims j → offset dims j < n
  inj : mutable = true → Inj dims

/-- **C06.T2** every constructor-accepted tensor is `VSafe` (T2a, and T2b when its storage is
mutable). -/
theorem c06_accepted_vsafe {dims : List (Nat × Nat)} {n : Nat} {m : Bool}
    (acc : Accepted dims n m) : VSafe m dims n :=
  ⟨fun _ hj => c06_T2_in_bounds acc hj, fun hm => inj_of_no_overlap (acc.no_overlap hm)⟩

theorem Embeds.vsafe {m : Bool} {p c : List (Nat × Nat)} {n s : Nat} (h : Embeds p c s)
    (hs : VSafe m p n) : VSafe m c n := by
  refine ⟨fun j hj => ?_, fun hm => h.injective (hs.inj hm)⟩
  obtain ⟨i, hi, o⟩ := h.exists_parent hj
  have := hs.in_bounds i hi
  omega

/-- What every view-producing call guarantees about its result `w`: it is `VSafe` if the source `v`
is, and its storage lies inside the source's. -/
def Keeps (m : Bool) (v w : AView) : Prop :=
  VSafe m v.dims v.len →
    VSafe m w.dims w.len ∧ v.base ≤ w.base ∧ w.base + w.len ≤ v.base + v.len

theorem Keeps.refl (m : Bool) (v : AView) : Keeps m v v := fun hs => ⟨hs, Nat.le_refl _, Nat.le_refl _⟩

theorem Keeps.trans {m : Bool} {u v w : AView} (h1 : Keeps m u v) (h2 : Keeps m v w) :
    Keeps m u w := fun hs =>
  let ⟨hv, a, b⟩ := h1 hs
  let ⟨hw, c, d⟩ := h2 hv
  ⟨hw, by omega, by omega⟩

theorem Keeps.of_vsafe {m : Bool} {v : AView} {d : List (Nat × Nat)}
    (h : VSafe m v.dims v.len → VSafe m d v.len) : Keeps m v { v with dims := d } :=
  fun hs => ⟨h hs, Nat.le_refl _, Nat.le_refl _⟩

theorem SubView.step {m : Bool} {v : AView} {w : View} (h : SubView v.dims v.len w) :
    Keeps m v (v.sub w) := by
  intro hs
  have hr := rangeValid_iff.mp h.range
  refine ⟨⟨fun j hj => ?_, fun hm => h.embeds.injective (hs.inj hm)⟩, ?_, ?_⟩
  · have := h.lt_stop j hj
    simp only [AView.sub]; omega
  all_goals simp only [AView.sub]; omega

theorem splitAtMut_subviews {dims : List (Nat × Nat)} {n axis mid : Nat} {l r : View}
    (h : splitAtMut dims n axis mid = some (l, r)) :
    split dims axis mid = some (l, r) ∧ SubView dims n l ∧ SubView dims n r := by
  unfold splitAtMut at h
  split at h
  · cases h
  · next l' r' hsp =>
    split at h
    · next hrv =>
      cases h
      simp only [Bool.and_eq_true] at hrv
      obtain ⟨el, er, hl, hr, _⟩ := split_spec hsp
      exact ⟨hsp, ⟨hrv.1, el, fun j hj => hl ▸ Nat.add_lt_add_left (offset_lt_minDataLen hj) _⟩,
        ⟨hrv.2, er, fun j hj => hr ▸ er.lt_minDataLen hj⟩⟩
    · cases h

theorem applyView_cases {m : Bool} {v w : AView} {op : ViewOp} (h : applyView m v op = some w) :
    (∃ x, SubView v.dims v.len x ∧ w = v.sub x) ∨
    (m = false ∧ ∃ b, Covers v.dims b ∧ w = ⟨v.base, v.len, b⟩) := by
  cases op <;> simp only [applyView, Option.map_eq_some_iff] at h
  case slice items =>
    split at h
    · next x hx => exact .inl ⟨x, trySlice_subview hx, (Option.some.inj h).symm⟩
    · cases h
  case sliceAxis axis s e =>
    obtain ⟨x, hx, rfl⟩ := h
    exact .inl ⟨x, sliceAxis_subview hx, rfl⟩
  case splitLeft axis mid =>
    obtain ⟨⟨l, r⟩, hx, rfl⟩ := h
    exact .inl ⟨l, (splitAtMut_subviews hx).2.1, rfl⟩
  case splitRight axis mid =>
    obtain ⟨⟨l, r⟩, hx, rfl⟩ := h
    exact .inl ⟨r, (splitAtMut_subviews hx).2.2, rfl⟩
  case broadcast target =>
    split at h
    · cases h
    · next hm =>
      simp only [Option.map_eq_some_iff] at h
      obtain ⟨b, hb, rfl⟩ := h
      exact .inr ⟨by simpa using hm, b, (broadcast_spec hb).1, rfl⟩

/-- **C06.T2o** one view-producing call (`try_slice`/`slice_mut` with indices and step-1
ranges, `slice_axis(_mut)`, either half of `split_at(_mut)`, `broadcast` of an immutable view)
on a `VSafe` view yields a `VSafe` view whose storage lies inside the parent's storage. -/
theorem c06_T2_view_step {m : Bool} {v w : AView} {op : ViewOp}
    (hs : VSafe m v.dims v.len) (h : applyView m v op = some w) :
    VSafe m w.dims w.len ∧ v.base ≤ w.base ∧ w.base + w.len ≤ v.base + v.len := by
  rcases applyView_cases h with ⟨x, hx, rfl⟩ | ⟨rfl, b, hb, rfl⟩
  · exact hx.step hs
  · refine ⟨⟨fun j hj => ?_, fun hm => by cases hm⟩, Nat.le_refl _, Nat.le_refl _⟩
    obtain ⟨i, hi, o⟩ := hb j hj
    exact o ▸ hs.in_bounds i hi

/-- Stated for any `run` with these two equations, to serve `runViews` and `runViewsX`. -/
theorem run_induction {Op : Type} {step : AView → Op → Option AView}
    {run : AView → List Op → Option AView} {R : AView → AView → Prop}
    (hnil : ∀ v, run v [] = some v)
    (hcons : ∀ v op ops, run v (op :: ops) = (step v op).bind (run · ops))
    (hrefl : ∀ v, R v v) (htrans : ∀ {u v w}, R u v → R v w → R u w)
    (hstep : ∀ {v w op}, step v op = some w → R v w) :
    ∀ (ops : List Op) {v w : AView}, run v ops = some w → R v w
  | [], v, w, h => by
    rw [hnil] at h
    exact Option.some.inj h ▸ hrefl v
  | op :: ops, v, w, h => by
    rw [hcons, Option.bind_eq_some_iff] at h
    obtain ⟨u, hu, h⟩ := h
    exact htrans (hstep hu) (run_induction hnil hcons hrefl htrans hstep ops h)

theorem runViews_cons (m : Bool) (v : AView) (op : ViewOp) (ops : List ViewOp) :
    runViews m v (op :: ops) = (applyView m v op).bind (runViews m · ops) := by
  simp only [runViews]
  cases applyView m v op <;> rfl

/-- **C06.T2p** (any sequence of views): after any chain of view-producing calls starting from
a `VSafe` view — in particular from any constructor-accepted tensor — the resulting view is
`VSafe` and its storage lies inside the storage of the view the chain started from.  Hence
every element it can address (`base + offset`, `offset < len`) is an element of the original
storage, and mutable views obtained this way never map two indices to one element. -/
theorem c06_T2_view_chain {m : Bool} : ∀ (ops : List ViewOp) {v w : AView},
    VSafe m v.dims v.len → runViews m v ops = some w →
    VSafe m w.dims w.len ∧ v.base ≤ w.base ∧ w.base + w.len ≤ v.base + v.len :=
  fun ops _ _ hs h => run_induction (fun _ => rfl) (runViews_cons m) (Keeps.refl m) Keeps.trans
    (fun h hs => c06_T2_view_step hs h) ops h hs

/-- Non-vacuity: rows 1..3 of a 3×4 tensor, then the right half of a column split, then a
reversed (empty) slice of that — a chain of three views, the second one non-contiguous. -/
example : runViews true ⟨0, 12, [(3, 4), (4, 1)]⟩
      [.sliceAxis 0 1 3, .splitRight 1 1, .slice [.range 0 none, .range 2 (some 1)]] =
    some ⟨0 + 4 + 1 + 0, 0, [(2, 4), (0, 1)]⟩ ∧
    runViews true ⟨0, 12, [(3, 4), (4, 1)]⟩ [.sliceAxis 0 1 3, .splitRight 1 1] =
      some ⟨5, 7, [(2, 4), (3, 1)]⟩ := by decide +kernel

/-- `a` is the absolute offset (into the root storage) of an element the view can address. -/
def Addr (v : AView) (a : Nat) : Prop := ∃ j, ValidIdx v.dims j ∧ a = v.base + offset v.dims j

theorem SubView.addr {v : AView} {n : Nat} {w : View} (h : SubView v.dims n w) {a : Nat}
    (ha : Addr (v.sub w) a) : Addr v a := by
  obtain ⟨j, hj, rfl⟩ := ha
  obtain ⟨p, hp, ho⟩ := h.embeds.exists_parent hj
  exact ⟨p, hp, by simp only [AView.sub]; omega⟩

/-- **C06.T2r** every element a child view can address through a mutable-view operation is an
element its parent addresses (same absolute offset, through a valid parent index). -/
theorem c06_T2_view_step_addr {v w : AView} {op : ViewOp} (h : applyView true v op = some w)
    {a : Nat} (ha : Addr w a) : Addr v a := by
  rcases applyView_cases h with ⟨x, hx, rfl⟩ | ⟨hm, _⟩
  · exact hx.addr ha
  · cases hm

/-- **C06.T2r** along any chain of mutable-view operations (`runViews true`, so without
`broadcast` steps): every element the last view can address is one the first view addresses. -/
theorem c06_T2_view_chain_addr : ∀ (ops : List ViewOp) {v w : AView},
    runViews true v ops = some w → ∀ {a : Nat}, Addr w a → Addr v a :=
  fun ops _ _ h _ ha => run_induction (R := fun v w => ∀ a, Addr w a → Addr v a) (fun _ => rfl)
    (runViews_cons true) (fun _ _ ha => ha) (fun h1 h2 a ha => h1 a (h2 a ha))
    (fun h _ ha => c06_T2_view_step_addr h ha) ops h _ ha

/-- **C06.T2s** (siblings at any depth): split a mutable view with injective offsets along any
axis, then apply *any* chain of mutable-view operations to the left half and any other chain
to the right half: the two resulting views have no element in common.  (Their storage
*ranges* may overlap — `c06_T2_view_chain` only bounds ranges — but no address is reachable
from both, so `l.slice_mut(..)` and `r.slice_mut(..)` etc. never alias.) -/
theorem c06_T2_siblings_disjoint {v l r wl wr : AView} {axis mid : Nat}
    {opsL opsR : List ViewOp} (hinj : Inj v.dims)
    (hl : applyView true v (.splitLeft axis mid) = some l)
    (hr : applyView true v (.splitRight axis mid) = some r)
    (hwl : runViews true l opsL = some wl) (hwr : runViews true r opsR = some wr)
    {a : Nat} (hal : Addr wl a) (har : Addr wr a) : False := by
  obtain ⟨i, hi, hai⟩ := c06_T2_view_chain_addr opsL hwl hal
  obtain ⟨j, hj, haj⟩ := c06_T2_view_chain_addr opsR hwr har
  simp only [applyView, Option.map_eq_some_iff] at hl hr
  obtain ⟨⟨l1, r1⟩, hx, rfl⟩ := hl
  obtain ⟨⟨l2, r2⟩, hy, rfl⟩ := hr
  rw [hx] at hy
  simp only [Option.some.injEq, Prod.mk.injEq] at hy
  obtain ⟨rfl, rfl⟩ := hy
  have hd := (split_spec (splitAtMut_subviews hx).1).2.2.2.2 hinj i j hi hj
  simp only [AView.sub] at hai haj
  omega

/-- Non-vacuity: the halves of a column split of a 2×3 tensor, each sliced again. -/
example : applyView true ⟨0, 6, [(2, 3), (3, 1)]⟩ (.splitLeft 1 1) = some ⟨0, 4, [(2, 3), (1, 1)]⟩ ∧
    applyView true ⟨0, 6, [(2, 3), (3, 1)]⟩ (.splitRight 1 1) = some ⟨1, 5, [(2, 3), (2, 1)]⟩ ∧
    runViews true ⟨0, 4, [(2, 3), (1, 1)]⟩ [.sliceAxis 0 1 2] = some ⟨3, 1, [(1, 3), (1, 1)]⟩ ∧
    runViews true ⟨1, 5, [(2, 3), (2, 1)]⟩ [.slice [.range 0 (some 1)]] =
      some ⟨1, 2, [(1, 3), (2, 1)]⟩ := by decide +kernel

/-- The invariant of an owned tensor: `VSafe` within the `Vec` capacity, plus the size guards
(needed by `c06_T3_append_size_no_wrap_program`; they are the two fields of `Accepted` that the
machine = ideal theorems use). -/
structure OSafe (t : Owned) : Prop where
  vsafe : VSafe true t.dims t.dataLen
  cap : t.dataLen ≤ t.cap
  shape_fits : prodNZ (shapeOf t.dims) ≤ isizeMax
  offset_fits : maxOffset t.dims < isizeMax

/-- **C06.T2** every constructor-accepted owned tensor whose storage length is within its
capacity (`hcap`, as for any `Vec`) is `OSafe`. -/
theorem c06_accepted_osafe {dims : List (Nat × Nat)} {n cap : Nat} (acc : Accepted dims n true)
    (hcap : n ≤ cap) : OSafe ⟨dims, n, cap⟩ :=
  ⟨c06_accepted_vsafe acc, hcap, acc.shape_fits, acc.offset_fits⟩

theorem OSafe.of_same {t : Owned} {d : List (Nat × Nat)} (h : SameElems t.dims d) (hs : OSafe t) :
    OSafe { t with dims := d } :=
  ⟨h.embeds.vsafe hs.vsafe, hs.cap, h.prodNZ_eq ▸ hs.shape_fits, h.maxOffset_eq ▸ hs.offset_fits⟩

theorem osafe_contig {shape : List Nat} {n cap : Nat} (hfit : prodNZ shape ≤ isizeMax)
    (hn : prod shape ≤ n) (hcap : n ≤ cap) : OSafe ⟨contigDims shape, n, cap⟩ := by
  have hmo := maxOffset_contig_lt shape
  refine ⟨⟨fun j hj => ?_, fun _ => inj_of_no_overlap (mayOverlap_contig shape)⟩, hcap,
    (shapeOf_contigDims shape).symm ▸ hfit, show maxOffset (contigDims shape) < isizeMax by omega⟩
  have := offset_lt_minDataLen (show ValidIdx (contigDims shape) j from hj)
  rw [minDataLen_contig] at this
  show offset (contigDims shape) j < n
  omega

/-- **C06.T2q** every mutating call on an owned tensor (`clip_dim`, `append`, in-place `reshape`,
`make_contiguous`; successful or failing) preserves `OSafe`. -/
theorem c06_T2_owned_step {t : Owned} (op : OwnedOp) (hs : OSafe t) : OSafe (stepOwned t op) := by
  cases op with
  | clip dim s e =>
    simp only [stepOwned]
    cases hc : clipDim t dim s e with
    | none => exact hs
    | some t' =>
      obtain ⟨hb, hi, hle, hcap, n, hn, hd⟩ := c06_T2_clipDim hc
      show OSafe t'
      refine ⟨⟨hb, fun _ => hi (hs.vsafe.inj rfl)⟩, by rw [hcap]; exact Nat.le_trans hle hs.cap,
        ?_, ?_⟩
      · rw [hd]; exact Nat.le_trans (prodNZ_setSize_le _ _ _ hn) hs.shape_fits
      · rw [hd]; exact Nat.lt_of_le_of_lt (maxOffset_setSize_le _ _ _ hn) hs.offset_fits
  | append axis other =>
    simp only [stepOwned]
    split
    · next t' ha =>
      obtain ⟨acc, hcap, _, _⟩ := c06_T2_append ha hs.cap
      exact ⟨c06_accepted_vsafe acc, hcap, acc.shape_fits, acc.offset_fits⟩
    · exact hs
  | reshape shape =>
    show OSafe ((reshape t shape).getD t)
    fun_cases reshape t shape
    case case3 hsl hlen hc =>
      -- contiguous: the storage already holds `len` elements
      refine osafe_contig (prodNZ_le_of_not_isNone hsl) ?_ hs.cap
      rw [Decidable.not_not.mp hlen, ← minDataLen_of_contiguous hc]
      exact minDataLen_le_of_bounded hs.vsafe.in_bounds
    case case4 hsl hlen _ =>
      exact osafe_contig (prodNZ_le_of_not_isNone hsl)
        (Nat.le_of_eq (Decidable.not_not.mp hlen)) (Nat.le_refl _)
    all_goals exact hs
  | makeContiguous =>
    simp only [stepOwned, makeContiguous]
    split
    · exact hs
    · exact osafe_contig hs.shape_fits (Nat.le_refl _) (Nat.le_refl _)

/-- **C06.T2q** hence so does **any program** of such calls: starting from any
constructor-accepted tensor (`c06_accepted_osafe`), every state it reaches is `OSafe`. -/
theorem c06_T2_owned_program (ops : List OwnedOp) {t : Owned} (hs : OSafe t) :
    OSafe (ops.foldl stepOwned t) :=
  List.foldlRecOn ops stepOwned hs fun _ ht op _ => c06_T2_owned_step op ht

/-- Non-vacuity: `with_capacity([3,2], 0)`, two appends (the second refused), a clip that
makes the tensor non-contiguous, a failing and a succeeding reshape. -/
example : [OwnedOp.append 0 [(2, 0), (2, 0)], .append 0 [(2, 0), (2, 0)], .clip 1 0 1,
      .reshape [5], .reshape [1, 2]].foldl stepOwned ⟨[(0, 2), (2, 1)], 0, 6⟩ =
    ⟨[(1, 2), (2, 1)], 2, 2⟩ := by decide +kernel

/-- **C06 was false for in-place `reshape` before fix `d75b8c9`**: `from_data(&[2,3], 0..6)`,
`clip_dim(1, 0..1)` (shape `[2,1]`, strides `[3,1]`), then `reshape(&[5])`: the elements were
copied into a 2-element `Vec` before the shape was rejected; after the panic the old strided
layout addresses offset 3 of 2 elements.  The fixed `reshape` leaves the tensor unchanged. -/
theorem c06_reshape_old_false :
    clipDim ⟨[(2, 3), (3, 1)], 6, 6⟩ 1 0 1 = some ⟨[(2, 3), (1, 1)], 4, 6⟩ ∧
    reshapeOld ⟨[(2, 3), (1, 1)], 4, 6⟩ [5] = (⟨[(2, 3), (1, 1)], 2, 2⟩, true) ∧
    validIdx [(2, 3), (1, 1)] [1, 0] = true ∧ offset [(2, 3), (1, 1)] [1, 0] = 3 ∧
    reshape ⟨[(2, 3), (1, 1)], 4, 6⟩ [5] = none ∧
    stepOwned ⟨[(2, 3), (1, 1)], 4, 6⟩ (.reshape [5]) = ⟨[(2, 3), (1, 1)], 4, 6⟩ := by
  decide +kernel

/-- **C06 was false before fix `90df0e8`** (`DynLayout` indexed its one `shape ++ strides` array
with unchecked axis arguments, `OldDyn`): in a release build
`Tensor::<u32>::from_data(&[2,3], ..).clip_dim(2, 0..1)` overwrites the strides `[3,1]` with
`[1,1]` and *then* panics; after catching the panic the valid indices `[0,1]` and `[1,0]` of
the (mutable) tensor address the same element.  `remove_axis(4)` on a `[1,3,2]` tensor with
strides `[6,1,3]` leaves shape `[1,3]` with strides `[2,6,3]`: index `[0,2]` maps to offset 12
of a 6-element storage.  Both reproduced on the real crate by the harness. -/
theorem c06_dyn_axis_old_false :
    OldDyn.clipDim [2, 3, 3, 1] 2 0 1 = ([2, 3, 1, 1], true) ∧
    OldDyn.dims [2, 3, 1, 1] = [(2, 1), (3, 1)] ∧
    validIdx [(2, 1), (3, 1)] [0, 1] = true ∧ validIdx [(2, 1), (3, 1)] [1, 0] = true ∧
    offset [(2, 1), (3, 1)] [0, 1] = offset [(2, 1), (3, 1)] [1, 0] ∧
    OldDyn.removeAxis [1, 3, 2, 6, 1, 3] 4 = ([1, 3, 2, 6, 3], true) ∧
    OldDyn.dims [1, 3, 2, 6, 3] = [(1, 2), (3, 6)] ∧
    validIdx [(1, 2), (3, 6)] [0, 2] = true ∧ offset [(1, 2), (3, 6)] [0, 2] = 12 := by
  decide +kernel

/-- **C06 after fix `90df0e8`**: the code refuses both calls before touching the layout (a
failing call is the identity on the state, `stepOwned`), and `size` / `stride` / `remove_axis` /
`insert_axis` / `move_axis` / `clip_dim` with an axis past the rank are refused too. -/
theorem c06_dyn_axis_fixed :
    clipDim ⟨[(2, 3), (3, 1)], 6, 6⟩ 2 0 1 = none ∧
    stepOwned ⟨[(2, 3), (3, 1)], 6, 6⟩ (.clip 2 0 1) = ⟨[(2, 3), (3, 1)], 6, 6⟩ ∧
    removeAxis [(1, 6), (3, 1), (2, 3)] 4 = none ∧
    (∀ dims axis, dims.length ≤ axis → sizeOf? dims axis = none ∧ strideOf? dims axis = none ∧
      removeAxis dims axis = none ∧ insertAxis dims (axis + 1) = none ∧
      (∀ k, moveAxis dims axis k = none ∧ moveAxis dims k axis = none) ∧
      (∀ t s e, t.dims = dims → clipDim t axis s e = none)) := by
  refine ⟨by decide +kernel, by decide +kernel, by decide +kernel, ?_⟩
  intro dims axis h
  have h' : ¬ axis < dims.length := by omega
  refine ⟨by simp [sizeOf?, h'], by simp [strideOf?, h'], by simp [removeAxis, h'],
    by simp [insertAxis]; omega, fun k => ⟨by simp [moveAxis, h'], by simp [moveAxis, h']⟩, ?_⟩
  intro t s e ht
  subst ht
  unfold clipDim
  rw [if_neg (fun hc => h' hc.1)]

theorem sizeAt_le_prodNZ : ∀ (dims : List (Nat × Nat)) (axis : Nat),
    sizeAt dims axis ≤ prodNZ (shapeOf dims)
  | [], _ => Nat.zero_le _
  | (size, _) :: ds, 0 => by
    have hp := prodNZ_pos (shapeOf ds)
    show size ≤ prodNZ (size :: shapeOf ds)
    simp only [prodNZ]
    split
    · omega
    · exact Nat.le_mul_of_pos_right _ hp
  | (size, _) :: ds, a + 1 =>
    Nat.le_trans (sizeAt_le_prodNZ ds a) (prodNZ_tail_le size (shapeOf ds))

/-- **C06.T3l** `append`'s `new_size = self.size(axis) + other.size(axis)` cannot wrap: both
operands are sizes of accepted tensors, each `≤ isize::MAX`. -/
theorem c06_T3_append_size_no_wrap {a b : List (Nat × Nat)} {n k : Nat} {m m' : Bool}
    (ha : Accepted a n m) (hb : Accepted b k m') (axis : Nat) :
    sizeAt a axis + sizeAt b axis < wordSize := by
  have h1 := Nat.le_trans (sizeAt_le_prodNZ a axis) ha.shape_fits
  have h2 := Nat.le_trans (sizeAt_le_prodNZ b axis) hb.shape_fits
  have : isizeMax + isizeMax < wordSize := by decide
  omega

/-- **C06.T3l** from the program invariant: at every `append` reached by any program on an owned
tensor (`c06_T2_owned_program`), of an `other` whose shape passes `checked_shape_len` (`ho`),
`new_size` cannot wrap. -/
theorem c06_T3_append_size_no_wrap_program {t : Owned} (hs : OSafe t) {other : List (Nat × Nat)}
    (ho : prodNZ (shapeOf other) ≤ isizeMax) (axis : Nat) :
    sizeAt t.dims axis + sizeAt other axis < wordSize := by
  have h1 := Nat.le_trans (sizeAt_le_prodNZ t.dims axis) hs.shape_fits
  have h2 := Nat.le_trans (sizeAt_le_prodNZ other axis) ho
  have : isizeMax + isizeMax < wordSize := by decide
  omega

/-- Non-vacuity of T3k with a non-empty result: `t.slice((1..3, -2..))` of a 3×4 tensor on
machine integers. -/
example : M.trySliceR [(3, 4), (4, 1)] 12 [.span 1 3, .span 2 4] =
    some ⟨6, 12, [(2, 4), (2, 1)]⟩ ∧
    ItemsOk (M.toN [(3, 4), (4, 1)]) ([M.RItem.span 1 3, .span 2 4].map M.RItem.toN) :=
  ⟨by decide +kernel, .cons ⟨by decide +kernel, by decide +kernel⟩ (.cons ⟨by decide +kernel, by decide +kernel⟩ (.nil _))⟩

/-! ## `insert_axis` / `remove_axis` / `move_axis` preserve the invariants

The edited layout is a reordering of the source's dimensions, up to one dimension of size 1
(`SameElems`), so it addresses only elements the source addresses, different ones through
different indices, and in-storage and injectivity are inherited. -/

/-- **C06.T2t** `remove_axis`, `insert_axis` and `move_axis` (owned tensors and views) keep
`VSafe`: the result addresses only elements the source addresses, and different ones through
different indices. -/
theorem c06_T2_axis_edits {m : Bool} {dims d' : List (Nat × Nat)} {n : Nat}
    (hs : VSafe m dims n) :
    (∀ i, removeAxis dims i = some d' → VSafe m d' n) ∧
    (∀ i, insertAxis dims i = some d' → VSafe m d' n) ∧
    (∀ src dst, moveAxis dims src dst = some d' → VSafe m d' n) :=
  ⟨fun _ h => (removeAxis_same h).embeds.vsafe hs, fun _ h => (insertAxis_same h).embeds.vsafe hs,
    fun _ _ h => (moveAxis_same h).embeds.vsafe hs⟩

/-- Non-vacuity: the three edits on a transposed 3×1×2 layout. -/
example : removeAxis [(3, 1), (1, 7), (2, 3)] 1 = some [(3, 1), (2, 3)] ∧
    insertAxis [(3, 1), (2, 3)] 2 = some [(3, 1), (2, 3), (1, 6)] ∧
    moveAxis [(3, 1), (1, 7), (2, 3)] 0 2 = some [(1, 7), (2, 3), (3, 1)] := by decide +kernel

inductive LayoutOp where
  | removeAxis (index : Nat)
  | insertAxis (index : Nat)
  | moveAxis (src dst : Nat)
  deriving DecidableEq, Repr

/-- A failing edit panics before anything is modified (fix `90df0e8`). -/
def stepLayout (t : Owned) : LayoutOp → Owned
  | .removeAxis i => match removeAxis t.dims i with
    | some d => { t with dims := d }
    | none => t
  | .insertAxis i => match insertAxis t.dims i with
    | some d => { t with dims := d }
    | none => t
  | .moveAxis s d => match moveAxis t.dims s d with
    | some x => { t with dims := x }
    | none => t

inductive OwnedOpX where
  | base (op : OwnedOp)
  | layout (op : LayoutOp)
  deriving DecidableEq, Repr

def stepOwnedX (t : Owned) : OwnedOpX → Owned
  | .base op => stepOwned t op
  | .layout op => stepLayout t op

theorem osafe_layout_step {t : Owned} (op : LayoutOp) (hs : OSafe t) : OSafe (stepLayout t op) := by
  fun_cases stepLayout t op
  case case1 d h => exact hs.of_same (removeAxis_same h)
  case case3 d h => exact hs.of_same (insertAxis_same h)
  case case5 d h => exact hs.of_same (moveAxis_same h)
  all_goals exact hs

theorem osafe_stepX {t : Owned} (op : OwnedOpX) (hs : OSafe t) : OSafe (stepOwnedX t op) := by
  cases op with
  | base op => exact c06_T2_owned_step op hs
  | layout op => exact osafe_layout_step op hs

/-- **C06.T2u** any program of `clip_dim`, `append`, `reshape`, `make_contiguous`, `remove_axis`,
`insert_axis` and `move_axis` calls (successful or failing) on an owned tensor preserves
`OSafe`. -/
theorem c06_T2_owned_programX (ops : List OwnedOpX) {t : Owned} (hs : OSafe t) :
    OSafe (ops.foldl stepOwnedX t) :=
  List.foldlRecOn ops stepOwnedX hs fun _ ht op _ => osafe_stepX op ht

/-- **C06.T2v** reversing the dimension order (`transposed`, `transpose`; the layout code is
`permute_iter((0..ndim).rev())`, modelled as `dims.reverse`, tied to the real code by C09's
harness) keeps `VSafe`: the transposed layout addresses only elements the source addresses,
different ones through different indices (`Embeds.of_perm`). -/
theorem c06_T2_transposed {m : Bool} {dims : List (Nat × Nat)} {n : Nat} (hs : VSafe m dims n) :
    VSafe m dims.reverse n :=
  (Embeds.of_perm (List.reverse_perm dims).symm).vsafe hs

/-- **C06.T3m** on an accepted tensor the quantities `MutLayout::split`, `slice_axis` and
`clip_dim` compute for a non-empty sub-block are bounded by the tensor's
`min_data_len ≤ isize::MAX`, so the `usize` evaluation cannot wrap and equals the ideal one the
model uses: `mid_offset = mid·stride` and the range ends (`s = mid`, or `s = 0`, `n = mid`),
`slice_axis` / `clip_dim`'s `start·stride` and `start·stride + min_data_len(sliced)`; the element
count of the resized shape behind `is_empty()` is bounded for every sub-block.  For an empty
right half `split` still evaluates `mid·stride`, which is not bounded here and not used.
(`broadcast` performs no offset arithmetic; its only size computation is `checked_shape_len`,
covered by T3c.) -/
theorem c06_T3_subblock_no_wrap {dims : List (Nat × Nat)} {k : Nat} {m : Bool}
    (acc : Accepted dims k m) {axis s n : Nat} (hax : axis < dims.length)
    (hle : s + n ≤ sizeAt dims axis) :
    len (setSize dims axis n) ≤ isizeMax ∧
    (len (setSize dims axis n) ≠ 0 →
      s * strideAt dims axis ≤ isizeMax ∧
      s * strideAt dims axis + minDataLen (setSize dims axis n) ≤ isizeMax) := by
  have hfit := (c06_T3_accepted_fits acc).2
  refine ⟨?_, fun hne => ?_⟩
  · exact Nat.le_trans (prod_le_prodNZ _)
      (Nat.le_trans (prodNZ_setSize_le dims axis n (by omega)) acc.shape_fits)
  · have := (setSize_embeds hax hle).end_le
      (by rwa [Ne, len_eq_zero_iff, Bool.not_eq_true] at hne)
    omega

/-- The quantities of T3m are exactly what the model's `split` / `sliceAxis` / `clipDim`
return: instances for a 3×4 tensor. -/
example : sliceAxis [(3, 4), (4, 1)] 12 0 1 3 = some ⟨1 * 4, 1 * 4 + minDataLen [(2, 4), (4, 1)],
      setSize [(3, 4), (4, 1)] 0 2⟩ ∧
    split [(3, 4), (4, 1)] 1 1 = some (⟨0, minDataLen (setSize [(3, 4), (4, 1)] 1 1),
      setSize [(3, 4), (4, 1)] 1 1⟩, ⟨1 * 1, minDataLen [(3, 4), (4, 1)],
      setSize [(3, 4), (4, 1)] 1 3⟩) := by decide +kernel

/-- `MutLayout::index_axis(axis, index)` + `Storage::slice(_mut)`: the layout with `axis`
removed, the range `stride·index .. + min_data_len` (`0..0` when empty).  This is the
`slice_layout` computation for the items `[.., .., index]` (`axis` full ranges, then an
index), so it is expressed through `trySliceR`; `none` = panic (failed assertion). -/
def indexAxis (dims : List (Nat × Nat)) (n axis index : Nat) : Option View :=
  if axis < dims.length ∧ index < sizeAt dims axis then
    trySliceR dims n (List.replicate axis RItem.keep ++ [RItem.pick index])
  else none

theorem itemsOk_indexAxis : ∀ (dims : List (Nat × Nat)) (axis index : Nat),
    axis < dims.length → index < sizeAt dims axis →
    ItemsOk dims (List.replicate axis RItem.keep ++ [RItem.pick index])
  | [], _, _, h, _ => by simp at h
  | (_, _) :: _, 0, _, _, hidx => .cons hidx (.nil _)
  | (_, _) :: ds, a + 1, index, hax, hidx =>
    .cons trivial (itemsOk_indexAxis ds a index (Nat.lt_of_succ_lt_succ hax) hidx)

theorem indexAxis_subview {dims : List (Nat × Nat)} {n axis index : Nat} {v : View}
    (h : indexAxis dims n axis index = some v) : SubView dims n v := by
  unfold indexAxis at h
  split at h
  · next hc => exact trySliceR_subview (itemsOk_indexAxis dims axis index hc.1 hc.2) h
  · cases h

/-- **C06.T2w** `index_axis(_mut)`: the sub-view's range lies inside the parent's storage, its
valid indices address elements inside that range and below the parent's `min_data_len`, and it
is injective if the parent is. -/
theorem c06_T2_indexAxis {dims : List (Nat × Nat)} {n axis index : Nat} {v : View}
    (h : indexAxis dims n axis index = some v) :
    v.start ≤ n ∧ v.stop ≤ n ∧
    (∀ j, ValidIdx v.dims j →
      v.start + offset v.dims j < v.stop ∧ v.start + offset v.dims j < minDataLen dims) ∧
    (Inj dims → Inj v.dims) :=
  (indexAxis_subview h).spec

/-- Non-vacuity: row 1 of a transposed 3×4 tensor (strides `[1, 3]`). -/
example : indexAxis [(3, 1), (4, 3)] 12 0 1 = some ⟨1, 11, [(4, 3)]⟩ ∧
    indexAxis [(3, 1), (4, 3)] 12 0 3 = none ∧ ValidIdx [(4, 3)] [3] :=
  ⟨by decide +kernel, by decide +kernel, .cons (by omega) .nil⟩

end RtenVerif.TensorBounds
