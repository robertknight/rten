import RtenVerif.Lemmas.NpyRead
import RtenVerif.Lemmas.NpyTotal
import RtenVerif.Lemmas.NpyNpz
import RtenVerif.Lemmas.NpyFortran
import RtenVerif.Lemmas.NpyUtf8
import RtenVerif.Lemmas.NpySafetensors

/-!
# C34 — Tensor file formats round-trip and reject malformed files

Property theorems over `RtenVerif/Model/Npy.lean`, the byte-level model of
`rten-serialize/src/npy.rs` (+ `npy/dtype.rs`, the name handling of `npz.rs`).
Bytes are `Nat`s; `usizeLimit = 2^64`, `isizeLimit = 2^63`.

The model is of the code **after** the three `fix:` commits recorded in `findings/C34.json`
(the full round-trip statement T2 was false before them: the reader capped arrays at 4 GiB
although the writer does not, see below).
-/
namespace RtenVerif.Npy

/-- **C34.T1a** The header parser inverts the dictionary printer — for every element type, every
shape (every rank, every dim that fits `usize`) and any padding/trailing text. -/
theorem c34_parse_header_dict (dt : DataType) (shape : List Nat)
    (hall : ∀ d ∈ shape, d < usizeLimit) (tail : List Nat) :
    parseHeaderRest (dictText dt shape ++ tail) =
      .ok (⟨⟨false, dt.kind, dt.itemSize⟩, false, shape⟩, tail) :=
  parseHeaderRest_dictText dt shape hall tail

/-- **C34.T1b** File level: `read_header` on `build_header`'s bytes followed by arbitrary data
returns the written type/order/shape, maps back to the same `DataType`, and leaves exactly the
data unread. -/
theorem c34_read_header_build_header (dt : DataType) (shape data hdr : List Nat)
    (hall : ∀ d ∈ shape, d < usizeLimit) (hb : buildHeader dt shape = .ok hdr) :
    readHeader (hdr ++ data) = .ok (⟨⟨false, dt.kind, dt.itemSize⟩, false, shape⟩, data) ∧
    dataTypeOf ⟨false, dt.kind, dt.itemSize⟩ = some dt :=
  ⟨readHeader_buildHeader dt shape data hdr hall hb, dataTypeOf_descr dt⟩

-- non-vacuity: a rank-3 shape with a zero and a huge dim
example : ∃ hdr, buildHeader .f32 [0, 7, 2 ^ 64 - 1] = .ok hdr :=
  buildHeader_ok_of_rank .f32 [0, 7, 2 ^ 64 - 1] (by decide) (by decide)

/-- **C34.T1c** `build_header` succeeds for every shape of rank ≤ 2900 (dims below `2^64`) and its
output is padded to a multiple of 64 bytes. (The only failure of the writer is the `u16` length
field: `c34_header_too_large_witness`.) -/
theorem c34_build_header_ok (dt : DataType) (shape : List Nat) (h : ∀ d ∈ shape, d < usizeLimit)
    (hr : shape.length ≤ 2900) : ∃ hdr, buildHeader dt shape = .ok hdr ∧ hdr.length % 64 = 0 := by
  obtain ⟨hdr, hb⟩ := buildHeader_ok_of_rank dt shape h hr
  exact ⟨hdr, hb, buildHeader_aligned dt shape hdr hb⟩

/-- **C34.T1d (negation witness for "write succeeds on every tensor")** every shape of rank
≥ 21846 is refused by the writer (`u16` length of format 1.0). Documented in the code; recorded as
an open finding because the property text promises a round trip for any tensor. -/
theorem c34_header_too_large_witness (dt : DataType) (shape : List Nat) (hr : 21846 ≤ shape.length) :
    buildHeader dt shape = .error .headerTooLarge ∧ write ⟨dt, shape, []⟩ = .error .headerTooLarge := by
  have := buildHeader_too_large dt shape hr
  exact ⟨this, by simp [write, this]⟩

theorem c34_write_any_false :
    ¬ ∀ (dt : DataType) (shape : List Nat), ∃ hdr, buildHeader dt shape = .ok hdr := by
  intro h
  obtain ⟨hdr, hh⟩ := h .i8 (List.replicate 21846 1)
  rw [buildHeader_too_large .i8 _ (by rw [List.length_replicate]; exact Nat.le_refl _)] at hh
  cases hh

/-- Decimal printer/parser round trip used by the shape tuple (`usize::to_string` then
`parse_usize`), for every `n < 2^64` and any following non-digit. -/
theorem c34_usize_round_trip (n : Nat) (rest : List Nat) (hn : n < usizeLimit)
    (hr : ∀ b, rest.head? = some b → isDigit b = false) :
    parseUsize (natDigits n ++ rest) = .ok (n, rest) :=
  parseUsize_natDigits n rest hn hr

example : parseUsize (natDigits 18446744073709551615 ++ [44, 32]) = .ok (18446744073709551615, [44, 32]) :=
  c34_usize_round_trip _ _ (by decide) (by decide)

/-- **C34.T2a** `from_le_bytes (to_le_bytes x) = x` for every `w`-byte pattern, and
`to_le_bytes (from_le_bytes bs) = bs` for every `w`-byte string: the codecs are mutually inverse
bijections between `[0, 256^w)` and byte strings of length `w`. -/
theorem c34_le_bijection (w : Nat) :
    (∀ x, x < 256 ^ w → fromLE (toLE w x) = x ∧ (toLE w x).length = w ∧ ∀ b ∈ toLE w x, b < 256) ∧
    (∀ bs : List Nat, bs.length = w → (∀ b ∈ bs, b < 256) →
      toLE w (fromLE bs) = bs ∧ fromLE bs < 256 ^ w) := by
  constructor
  · intro x hx
    exact ⟨fromLE_toLE w x hx, toLE_length w x, toLE_lt w x⟩
  · intro bs hl hb
    subst hl
    exact ⟨toLE_fromLE bs hb, fromLE_lt bs hb⟩

/-- The same for Lean's fixed-width machine integers. -/
theorem c34_le_round_trip_uint :
    (∀ x : UInt8, fromLE (toLE 1 x.toNat) = x.toNat) ∧ (∀ x : UInt16, fromLE (toLE 2 x.toNat) = x.toNat) ∧
    (∀ x : UInt32, fromLE (toLE 4 x.toNat) = x.toNat) ∧ (∀ x : UInt64, fromLE (toLE 8 x.toNat) = x.toNat) :=
  ⟨fun x => fromLE_toLE 1 _ (by have := x.toNat_lt; omega),
   fun x => fromLE_toLE 2 _ (by have := x.toNat_lt; omega),
   fun x => fromLE_toLE 4 _ (by have := x.toNat_lt; omega),
   fun x => fromLE_toLE 8 _ (by have := x.toNat_lt; omega)⟩

/-- **C34.T2b** Per-dtype element round trip (bool is `b != 0` on `bool as u8`). -/
theorem c34_elem_round_trip (dt : DataType) (x : Nat) (h : ValidElem dt x) :
    decodeElem dt (encodeElem dt x) = x ∧ (encodeElem dt x).length = dt.itemSize :=
  ⟨decode_encode dt x h, encodeElem_length dt x⟩

/-- **C34.T2** `read (write a) = a` for every element type, every shape whose non-zero dims
multiply to at most `isize::MAX` (the tensor library's own limit on any tensor or view) and
every element list in logical order. `hbytes` only excludes broadcast views of more than
`usize::MAX` bytes, which cannot be written in finite time. No 4 GiB bound: see the findings. -/
theorem c34_read_write (a : Array) (file : List Nat)
    (hshape : prod (a.shape.map (fun d => max d 1)) < isizeLimit)
    (hbytes : prod a.shape * a.dtype.itemSize < usizeLimit)
    (hlen : a.vals.length = prod a.shape)
    (hvals : ∀ x ∈ a.vals, ValidElem a.dtype x)
    (hw : write a = .ok file) : read file = .ok a :=
  read_write a file hshape hbytes hlen hvals hw

-- non-vacuity: a 2x0x3 (empty) and a 2x2 tensor meet the hypotheses and are written
example : ∃ f, write ⟨.i16, [2, 2], [1, 65535, 0, 258]⟩ = .ok f ∧ read f = .ok ⟨.i16, [2, 2], [1, 65535, 0, 258]⟩ := by
  obtain ⟨f, hf⟩ := write_ok_of_rank ⟨.i16, [2, 2], [1, 65535, 0, 258]⟩ (by decide) (by decide)
  exact ⟨f, hf, c34_read_write _ f (by decide) (by decide) (by decide) (by decide) hf⟩
example : ∃ f, write ⟨.bool, [2, 0, 3], []⟩ = .ok f ∧ read f = .ok ⟨.bool, [2, 0, 3], []⟩ := by
  obtain ⟨f, hf⟩ := write_ok_of_rank ⟨.bool, [2, 0, 3], []⟩ (by decide) (by decide)
  exact ⟨f, hf, c34_read_write _ f (by decide) (by decide) (by decide) (by decide) hf⟩

/-- **C34.T3** For every byte string: the two loops of the header parser never exhaust the fuel
`input length + 1` (so the Rust loops terminate and `Err.fuel` is unreachable: the result is a
header or one of the real error classes), and what an accepted parse leaves unread is a strict
suffix of the input. -/
theorem c34_parser_total (inp : List Nat) :
    parseHeader inp ≠ .error .fuel ∧ parseHeaderRest inp ≠ .error .fuel ∧
    (∀ h rest, parseHeaderRest inp = .ok (h, rest) → rest <:+ inp ∧ rest.length < inp.length) :=
  ⟨parseHeader_ne_fuel inp, parseHeaderRest_ne_fuel inp, fun _ _ hp => parseHeaderRest_ssuffix hp⟩

/-- Same for the whole reader: `npy::read` returns a value or a genuine error on every file. -/
theorem c34_read_total (file : List Nat) : read file ≠ .error .fuel :=
  read_ne_fuel file

/-- The shape-tuple loop on its own. -/
theorem c34_shape_loop_total (fuel : Nat) (inp : List Nat) :
    (∀ vs r, shapeLoop fuel inp = .ok (vs, r) → r <:+ inp ∧ r.length < inp.length) ∧
    (inp.length < fuel → shapeLoop fuel inp ≠ .error .fuel) :=
  shapeLoop_spec fuel inp

/-- **C34.T4** If `read` accepts a file then: the header parsed, the shape's non-zero dims multiply
to at most `isize::MAX` (no stride or count can overflow), the byte count fits `usize`, that many
bytes were actually present after the header, and exactly `∏ shape` elements are returned. -/
theorem c34_read_ok_sizes (file : List Nat) (a : Array) (h : read file = .ok a) :
    ∃ hd data, readHeader file = .ok (hd, data) ∧ dataTypeOf hd.dtype = some a.dtype ∧
      a.shape = hd.shape ∧
      prod (a.shape.map (fun d => max d 1)) < isizeLimit ∧
      prod a.shape * a.dtype.itemSize < usizeLimit ∧
      prod a.shape * a.dtype.itemSize ≤ data.length ∧
      a.vals.length = prod a.shape :=
  read_ok_sizes file a h

/-- Size guard, concretely: a zero dimension does not mask huge ones (the pre-fix code accepted
this header and built a tensor with wrapped strides). -/
theorem c34_zero_times_huge_rejected :
    readTyped ⟨⟨false, 105, 4⟩, false, [0, 2 ^ 32, 2 ^ 32]⟩ .i32 [] = .error .countOverflow := by
  rfl

/-- **C34.F1** `fortran_order_to_row_major` is the transpose permutation on the data, for every
shape (every rank, including 0 and 1 where it is the identity): the element it puts at the
row-major position of a valid multi-index `idx` is the input's element at the column-major
position of `idx`. -/
theorem c34_fortran_pointwise (shape vals idx : List Nat) (hlen : vals.length = prod shape)
    (hidx : validIdx shape idx) :
    (fortranToRowMajor shape vals).getD (rowOffset shape idx) 0 =
      vals.getD (fortranOffset shape idx) 0 := by
  have hi := (rowOffset_spec shape idx hidx).1
  rw [fortranToRowMajor_getD shape vals hlen _ hi]
  unfold fSigma
  rw [(rowOffset_spec shape idx hidx).2]

/-- **C34.F2** The index map is a bijection of `[0, ∏ shape)`: `fSigma` (row-major position ↦
column-major position of the same multi-index) and `fTau` are mutually inverse and stay in range;
output element `i` is input element `fSigma i`; the length is preserved. -/
theorem c34_fortran_bijection (shape : List Nat) :
    (∀ i, i < prod shape → fSigma shape i < prod shape ∧ fTau shape (fSigma shape i) = i) ∧
    (∀ k, k < prod shape → fTau shape k < prod shape ∧ fSigma shape (fTau shape k) = k) ∧
    (∀ vals : List Nat, vals.length = prod shape →
      (fortranToRowMajor shape vals).length = vals.length ∧
      ∀ i, i < prod shape → (fortranToRowMajor shape vals).getD i 0 = vals.getD (fSigma shape i) 0) :=
  ⟨fun i hi => ⟨fSigma_lt shape i hi, fTau_fSigma shape i hi⟩,
   fun k hk => ⟨fTau_lt shape k hk, fSigma_fTau shape k hk⟩,
   fun vals hl => ⟨fortranToRowMajor_length shape vals,
     fun i hi => fortranToRowMajor_getD shape vals hl i hi⟩⟩

-- non-vacuity: index (1,0,2) of a 2x3x4 shape; row-major 14 ↔ column-major 13
example : validIdx [2, 3, 4] [1, 0, 2] ∧ rowOffset [2, 3, 4] [1, 0, 2] = 14 ∧
    fortranOffset [2, 3, 4] [1, 0, 2] = 13 ∧ fSigma [2, 3, 4] 14 = 13 ∧ fTau [2, 3, 4] 13 = 14 := by
  refine ⟨by simp [validIdx], by decide, by decide, by decide, by decide⟩

/-- **C34.F3** The header parser accepts the dictionary NumPy writes for either order and
reports the order flag faithfully (T1a for either value of `fortran_order`). -/
theorem c34_parse_header_dict_any_order (dt : DataType) (fo : Bool) (shape : List Nat)
    (hall : ∀ d ∈ shape, d < usizeLimit) (tail : List Nat) :
    parseHeaderRest (dictTextF dt fo shape ++ tail) =
      .ok (⟨⟨false, dt.kind, dt.itemSize⟩, fo, shape⟩, tail) :=
  parseHeaderRest_dictTextF dt fo shape hall tail

/-- **C34.F4** Round trip with Fortran-order input: a format-1.0 file whose header says
`fortran_order: True` and whose data are the elements of `a` serialised in column-major order
(`toFortranOrder`) reads back as exactly `a` (row-major), for every dtype and every shape within the
limits of T2 whose dictionary fits the `u16` length field (`hdict`). -/
theorem c34_read_fortran_file (a : Array)
    (hshape : prod (a.shape.map (fun d => max d 1)) < isizeLimit)
    (hbytes : prod a.shape * a.dtype.itemSize < usizeLimit)
    (hlen : a.vals.length = prod a.shape)
    (hvals : ∀ x ∈ a.vals, ValidElem a.dtype x)
    (hdict : (dictTextF a.dtype true a.shape ++ [10]).length ≤ 65535) :
    read (npyFileV1 (dictTextF a.dtype true a.shape ++ [10])
      (((toFortranOrder a.shape a.vals).map (encodeElem a.dtype)).flatten)) = .ok a :=
  read_fortran_file a hshape hbytes hlen hvals hdict

/-- Converting to column-major order and back is the identity on the data. -/
theorem c34_fortran_inverse (shape vals : List Nat) (hlen : vals.length = prod shape) :
    fortranToRowMajor shape (toFortranOrder shape vals) = vals :=
  fortranToRowMajor_toFortranOrder shape vals hlen

example : toFortranOrder [2, 3] [1, 2, 3, 4, 5, 6] = [1, 4, 2, 5, 3, 6] ∧
    fortranToRowMajor [2, 3] [1, 4, 2, 5, 3, 6] = [1, 2, 3, 4, 5, 6] := by decide

/-! ## UTF-8 (the header text)

`rten-serialize` delegates validation to `std::str::from_utf8`; `validUtf8` is the model's
definition of that call (tied to std by the harness). It is exactly well-formedness: -/

/-- **C34.U1** `validUtf8` accepts exactly the well-formed UTF-8 byte sequences: a byte string is
accepted iff it is the concatenation of the encodings of a list of Unicode scalar values. -/
theorem c34_utf8_exact (bs : List Nat) :
    validUtf8 bs = true ↔ ∃ cs : List Nat, (∀ c ∈ cs, isScalar c) ∧ bs = (cs.map encodeScalar).flatten := by
  constructor
  · exact scalars_of_validUtf8 bs
  · rintro ⟨cs, hcs, rfl⟩
    exact validUtf8_of_scalars cs hcs

example : validUtf8 [0xED, 0xA0, 0x80] = false ∧ validUtf8 [0xC0, 0x80] = false ∧
    validUtf8 [0xF4, 0x90, 0x80, 0x80] = false ∧ validUtf8 [0xF0, 0x9F, 0x98, 0x80] = true ∧
    encodeScalar 0x1F600 = [0xF0, 0x9F, 0x98, 0x80] := by decide

/-- **C34.U2** What the crate itself relies on: the text between two `'` of a validated header is
itself well-formed, so the inner `from_utf8` of `parse_string` ("npy header string is not valid
UTF-8") is unreachable after `read_header`'s check. -/
theorem c34_utf8_between_quotes (pre s rest : List Nat)
    (h : validUtf8 (pre ++ 39 :: (s ++ 39 :: rest)) = true) : validUtf8 s = true :=
  (validUtf8_split_quote s rest (validUtf8_split_quote pre _ h).2).1

/-! ## safetensors wrapper (first-party logic of `safetensors.rs`; the container crate is external) -/

/-- **C34.S1** The dtype maps are mutually inverse on the supported types:
`data_type_from_safetensors ∘ DTYPE = id`, and nothing else maps to a supported type. -/
theorem c34_st_dtype_maps :
    (∀ dt : DataType, dataTypeFromSafetensors (stDtypeOf dt) = some dt) ∧
    (∀ (d : StDtype) (dt : DataType), dataTypeFromSafetensors d = some dt → d = stDtypeOf dt) :=
  ⟨dataTypeFromSafetensors_stDtypeOf, fun d dt h => by
    cases d <;> simp [dataTypeFromSafetensors] at h <;> subst h <;> rfl⟩

/-- **C34.S2 ("from any memory layout")** `SafeElement::to_le_bytes` gives the same bytes whether
it takes the contiguous fast path (`cast_slice(view.data())`) or the iterator path: for every
dtype, shape and strides (contiguous per `is_contiguous` or not, zero strides, size-1 dims with
arbitrary strides, empty dims) and every storage that covers the layout, the bytes are the
little-endian encodings of the elements in logical order. -/
theorem c34_st_fast_path_eq_iter (dt : DataType) (v : SView)
    (hl : v.shape.length = v.strides.length)
    (hs : minDataLen v.shape v.strides ≤ v.storage.length) :
    stToLeBytes dt v = ((viewIter v).map (encodeElem dt)).flatten := by
  unfold stToLeBytes viewData
  by_cases hc : isContig v.shape v.strides = true
  · have hm := contig_minDataLen v.shape v.strides hl hc
    simp only [hc, if_true]
    rw [hm, viewIter_of_contig v hl hc (by omega)]
  · simp [hc]

-- non-vacuity: a contiguous view with a size-1 dim of odd stride takes the fast path, a transposed
-- one does not; both satisfy the hypotheses
example : isContig [2, 1, 3] [3, 77, 1] = true ∧ isContig [3, 2] [1, 3] = false ∧
    minDataLen [2, 1, 3] [3, 77, 1] = 6 ∧ minDataLen [3, 2] [1, 3] = 6 ∧
    viewIter ⟨[10, 11, 12, 13, 14, 15], [3, 2], [1, 3]⟩ = [10, 13, 11, 14, 12, 15] := by decide

/-- **C34.S3** Wrapper round trip: decoding (`from_le_bytes`) what `to_le_bytes` produced for any
view yields exactly its logical elements, `∏ shape` of them, and the dtype survives the maps. -/
theorem c34_st_round_trip (dt : DataType) (v : SView)
    (hl : v.shape.length = v.strides.length)
    (hs : minDataLen v.shape v.strides ≤ v.storage.length)
    (hv : ∀ x ∈ v.storage, ValidElem dt x) :
    stFromLeBytes dt (stToLeBytes dt v) = viewIter v ∧ (viewIter v).length = prod v.shape ∧
    dataTypeFromSafetensors (stDtypeOf dt) = some dt := by
  refine ⟨?_, by simp [viewIter], dataTypeFromSafetensors_stDtypeOf dt⟩
  rw [c34_st_fast_path_eq_iter dt v hl hs]
  exact stFromLeBytes_encode dt _ (viewIter_valid dt v hv)

/-- **C34.S4** `from_le_bytes` on arbitrary bytes: `⌊len / size⌋` elements (a trailing partial
chunk is dropped by `chunks_exact`), and for `bool` every byte `b` — not only 0/1 — reads as `b != 0`. -/
theorem c34_st_from_le_bytes (dt : DataType) (bytes : List Nat) :
    (stFromLeBytes dt bytes).length = bytes.length / dt.itemSize ∧
    stFromLeBytes .bool bytes = bytes.map (fun b => if b ≠ 0 then 1 else 0) :=
  ⟨stFromLeBytes_length dt bytes, stFromLeBytes_bool bytes⟩

/-- **C34.T4b** The last step of `npy::read_typed`, `Tensor::try_from_data(shape, values)`, cannot
fail on an accepted file: the model has no error class for "invalid npy array shape" because the
size guard implies `checked_shape_len(shape) = Some(values.len())`. -/
theorem c34_try_from_data_unreachable (file : List Nat) (a : Array) (h : read file = .ok a) :
    tryFromDataOk a.shape a.vals.length = true := by
  obtain ⟨_, _, _, _, _, hg, _, _, hlen⟩ := read_ok_sizes file a h
  rw [hlen]
  exact tryFromDataOk_of_guard a.shape hg

example : tryFromDataOk [0, 2 ^ 40, 2 ^ 40] 0 = false ∧ tryFromDataOk [0, 5] 0 = true ∧
    tryFromDataOk [2, 3] 6 = true ∧ tryFromDataOk [2, 3] 5 = false := by decide

/-- **C34.N1** `npz_file_name` yields `base.npy` (non-empty base) for a name given with or without
the suffix; it is idempotent; and `npz::read` reports the entry under `base`. So a tensor written
as `name` is found again by `read_array(name)`, `read_array(file name)` and under the stripped key —
provided no other written name maps to the same entry: `"a"` and `"a.npy"` both map to `a.npy`, and
`npz::write` given both fails with the zip crate's duplicate-filename error (harness case
`# npz-duplicate`; nothing is silently shadowed). -/
theorem c34_npz_names (name f : List Nat) (h : npzFileName name = some f) :
    ∃ base, base ≠ [] ∧ f = base ++ npySuffix ∧ (name = base ∨ name = base ++ npySuffix) ∧
      npzFileName f = some f ∧ npzKey f = some base := by
  obtain ⟨base, hne, hf, hn⟩ := npzFileName_some h
  refine ⟨base, hne, hf, hn, ?_, ?_⟩
  · rw [hf]; exact npzFileName_base base hne
  · rw [hf]; exact stripNpy_append base

example : npzFileName [97] = some [97, 46, 110, 112, 121] := by decide
example : npzFileName [46, 110, 112, 121] = none := by decide

end RtenVerif.Npy
