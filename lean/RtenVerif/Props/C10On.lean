import RtenVerif.Lemmas.ShapeInferZip

/-!
# C10 — `symbolic_binary_op` for element rules that are homomorphisms only on a subset of
expressions

`Equal`'s element rule is sound only for operands whose `range()` is sound.  `RangeSound σ e` is
false for some `e` under every `σ` (`rangeSound_not_universal`), so it cannot be a global
hypothesis; here it is carried as a predicate `S` on exactly the operand elements the rule
inspects.  `rangeSound_of_good` discharges it for every expression that stays inside `i32`.
-/
namespace RtenVerif.ShapeInfer

def ElemsOn (S : Sym → Prop) (t : STn) : Prop := ∀ es, t.values = some es → ∀ e ∈ es, S e

/-- **C10.T1-binary on a subset**: for two value-carrying operands (scalar or vector) and an element
rule that is a homomorphism on operands satisfying `S`, if `symbolic_binary_op` produces a result and
the executed element-wise operator succeeds, the result agrees (rank and every element); `S` is
required of exactly the elements of the two operands.  `c10_symBinary_sound` is the case of no
restriction. -/
theorem c10_symBinary_soundOn (σ : Env) (S) (op) (f) (h : OpHomOn σ S op f) (a b r : STn) (ca cb cr : CT)
    (ha : Agrees σ a ca) (hb : Agrees σ b cb) (hSa : ElemsOn S a) (hSb : ElemsOn S b)
    (hi : symBinary op a b = some r) (he : execBinary f ca cb = some cr) : Agrees σ r cr := by
  unfold symBinary at hi
  split at hi
  · obtain ⟨vx, rfl, hx⟩ := ha
    obtain ⟨vy, rfl, hy⟩ := hb
    exact scalar_binary_agrees h (hSa _ rfl _ (List.mem_singleton_self _))
      (hSb _ rfl _ (List.mem_singleton_self _)) hx hy hi he
  · rename_i hns
    split at hi
    · rename_i l r hav hbv
      obtain ⟨vl, hca, hl, sa⟩ := agrees_values σ a ca l ha hav
      obtain ⟨vr, hcb, hr, sb⟩ := agrees_values σ b cb r hb hbv
      -- agreeing tensors have the same rank, so execution leaves the scalar ∘ scalar branch together with inference
      have he' : (czip f vl vr).map CT.vector = some cr := by
        unfold execBinary at he
        split at he
        · obtain ⟨x, rfl⟩ := STn.eq_scalar_of_isScalar sa
          obtain ⟨y, rfl⟩ := STn.eq_scalar_of_isScalar sb
          exact (hns x y rfl rfl).elim
        · simpa only [hca, hcb] using he
      simp only [Option.map_eq_some_iff] at hi he'
      obtain ⟨out, hz, rfl⟩ := hi
      obtain ⟨w, hc, rfl⟩ := he'
      exact ⟨w, rfl, zipCycle_soundOn σ S op f h l r vl vr out w (hSa l hav) (hSb r hbv) hl hr hz hc⟩
    · cases hi

end RtenVerif.ShapeInfer
