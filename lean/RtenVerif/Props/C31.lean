import RtenVerif.Lemmas.Filter

/-!
# C31 — Logit filters implement their contracts for all inputs

Property theorems over `RtenVerif.Model.Filter` (model of `rten-generate/src/filter.rs`).
A candidate is an `Item` (token id, f32 bit pattern); `Item.key` is the `f32::total_cmp`
order, `Item.nkey` the IEEE numeric order (`-0.0 = +0.0`), `Item.gt` the IEEE `>` the code
uses in the top-K update guard, `Item.val` the score as an `Ext` (exact value × 2^149, ±inf, NaN).

Summary of what holds:
* `TopK` (current code): never panics, returns exactly `min k n` candidates, sorted
  descending by total order, a sub-multiset of the input, and computes exactly what the
  scalar loop computes whatever the SIMD width (`c31_topk_contract_partial`,
  `c31_topk_simd_eq_scalar`).  "Every excluded score ≤ every kept one" holds in the IEEE
  order for NaN-free input and in the total order if additionally `-0.0`/`+0.0` do not
  both occur.  It is **false** in the total order for inputs with NaN or with both zeros
  (`c31_topk_total_order_false_nan`, `c31_topk_total_order_false_zero`); the exact NaN
  behaviour is `c31_topk_late_nan_ignored` / `c31_topk_nan_kth_frozen`.
* Before commit `fix: TopK filter no longer panics …` the code panicked iff
  `0 < n < k` (`c31_topk_unclamped_panics`).
* `TopP` (no softmax; note `TopP::new` sets `normalize: false` although its doc comment says
  softmax is the default, so `Chain::top_p` sums raw scores): non-empty for non-empty input and
  any `p`; for `p ≠ 1` the shortest prefix of the descending-sorted input at which the f32 test
  `cum < max(p, MIN_POSITIVE)` fails, with ±inf / NaN scores modelled by IEEE rules
  (`c31_topp_contract`), which for finite inputs is the shortest prefix whose exact sum reaches
  the threshold (`c31_topp_minimal`); for `p = 1` the input unchanged, which is not minimal in
  general (`c31_topp_p1_not_minimal`).
* `Chain` is the left fold of its filters; it panics iff it contains a `Temperature` whose
  constructor assertion `temperature >= 0.` fails (NaN / negative), never otherwise.
-/
namespace RtenVerif.Filter

/-- `TopK::new(k).filter(xs)` as modelled (current code). -/
abbrev topKItems (lanes k : Nat) (xs : List Item) : Option (List Item) :=
  topK Item.key Item.gt true lanes k xs

/-- The TopK contract of the property text w.r.t. an order key `nk` on scores. -/
def TopKContract (nk : Item → Int) (k : Nat) (xs out : List Item) : Prop :=
  out.length = min k xs.length ∧ Desc Item.key out ∧
    ∃ excl, (out ++ excl).Perm xs ∧ ∀ e ∈ excl, ∀ t ∈ out, nk e ≤ nk t

theorem TopKContract.excluded_le {nk : Item → Int} {k : Nat} {xs out : List Item}
    (h : TopKContract nk k xs out) {x : Item} (hx : x ∈ xs) (hnx : x ∉ out) :
    ∀ t ∈ out, nk x ≤ nk t := by
  obtain ⟨_, _, excl, hp, hle⟩ := h
  rcases List.mem_append.mp (hp.mem_iff.mpr hx) with h1 | h1
  · exact absurd h1 hnx
  · exact hle x h1

/-- Ties in the total order are identical bit patterns. -/
theorem c31_total_order_ties {a b : Nat} (ha : a < 2 ^ 32) (hb : b < 2 ^ 32)
    (h : tkey a = tkey b) : a = b := tkey_inj h

/-- The IEEE order is coarser than the total order. -/
theorem c31_numeric_coarser (a b : Item) (h : a.key ≤ b.key) : a.nkey ≤ b.nkey := nkey_mono h

/-- `f32::total_cmp` exactly as std's source computes it: both bit patterns go through the
xor trick (`stdKey`) and are compared as `i32`. -/
def stdTotalCmp (a b : BitVec 32) : Ordering := compare (stdKey a) (stdKey b)

/-- **`tkey` is `f32::total_cmp`.** For all 2^32 × 2^32 bit patterns, std's formula
(`left ^= (((left >> 31) as u32) >> 1) as i32; left.cmp(&right)`) orders two floats exactly
as the model's integer key does; indeed the xor trick *is* `tkey` (`stdKey_eq_tkey`, by case
split on the sign bit and arithmetic on the 31 low bits — no enumeration). -/
theorem c31_tkey_is_total_cmp (a b : BitVec 32) :
    stdTotalCmp a b = compare (tkey a.toNat) (tkey b.toNat) := by
  unfold stdTotalCmp
  rw [stdKey_eq_tkey, stdKey_eq_tkey]

/-- Sanity of the modelled formula on concrete patterns: −NaN, −0, +0, 1.0, +NaN. -/
example : [0xffc00000#32, 0x80000000#32, 0#32, 0x3f800000#32, 0x7fc00000#32].map stdKey
    = [-2143289345, -1, 0, 1065353216, 2143289344] := by decide

/-- Spot checks of the keys (−NaN < −inf < −1 < −0 < +0 < min-subnormal < 1 < +inf < +NaN). -/
example : [0xffc00000, 0xff800000, 0xbf800000, 0x80000000, 0, 1, 0x3f800000, 0x7f800000, 0x7fc00000].map tkey
    = [-2143289345, -2139095041, -1065353217, -1, 0, 1, 1065353216, 2139095040, 2143289344] := by decide
example : fgt 0 0x80000000 = false ∧ fgt 0x3f800000 0 = true ∧ fgt 0x7fc00000 0 = false ∧
    fgt 0 0xffc00000 = false ∧ fgt 0x7f800000 0x7f7fffff = true := by decide

/-- **C31.T4/T1** For every SIMD width, every `k` (including `k > n`) and every input, the
vectorised `TopK` does not panic and returns exactly the result of the scalar loop. -/
theorem c31_topk_simd_eq_scalar (lanes : Nat) (hl : 1 ≤ lanes) (k : Nat) (xs : List Item) :
    topKItems lanes k xs = some (topKSeq Item.key Item.gt k xs) :=
  topK_eq_seq Item.key Item.gt lanes hl k xs

theorem c31_topk_no_panic (lanes : Nat) (hl : 1 ≤ lanes) (k : Nat) (xs : List Item) :
    (topKItems lanes k xs).isSome := by
  rw [c31_topk_simd_eq_scalar lanes hl]; rfl

/-- The code before the clamp fix panics exactly for `0 < n < k` (fixed defect). -/
theorem c31_topk_unclamped_panics (lanes k : Nat) (xs : List Item) :
    topK Item.key Item.gt false lanes k xs = none ↔ xs ≠ [] ∧ xs.length < k :=
  topK_unclamped_none_iff Item.key Item.gt lanes k xs

/-- …and agrees with the current code otherwise. -/
theorem c31_topk_unclamped_agrees (lanes k : Nat) (xs : List Item) (h : k ≤ xs.length) :
    topK Item.key Item.gt false lanes k xs = topKItems lanes k xs :=
  topK_unclamped_eq Item.key Item.gt lanes k xs h

/-- The observed panic: `TopK::new(5)` on 3 dense logits `[1.0, 2.0, 3.0]`; the current code returns
all three, sorted. -/
example : topK Item.key Item.gt false 16 5 [⟨0, 0x3f800000⟩, ⟨1, 0x40000000⟩, ⟨2, 0x40400000⟩] = none ∧
    topKItems 16 5 [⟨0, 0x3f800000⟩, ⟨1, 0x40000000⟩, ⟨2, 0x40400000⟩]
      = some [⟨2, 0x40400000⟩, ⟨1, 0x40000000⟩, ⟨0, 0x3f800000⟩] := by decide

/-- **C31.T1 (partial)** For all widths, `k` and inputs the result has `min k n` entries, is
sorted descending by total order and is a sub-multiset of the input; for NaN-free input
every excluded score is `≤` every kept one in the IEEE order.

Missing w.r.t. the property text ("NaNs handled by total order"): the last clause for inputs
containing NaN — false, see `c31_topk_total_order_false_nan`. -/
theorem c31_topk_contract_partial (lanes : Nat) (hl : 1 ≤ lanes) (k : Nat) (xs : List Item) :
    ∃ out, topKItems lanes k xs = some out ∧
      out.length = min k xs.length ∧ Desc Item.key out ∧
      ∃ excl, (out ++ excl).Perm xs ∧
        ((∀ x ∈ xs, x.isNaN = false) → ∀ e ∈ excl, ∀ t ∈ out, e.nkey ≤ t.nkey) := by
  refine ⟨_, c31_topk_simd_eq_scalar lanes hl k xs, topKSeq_length _ _ k xs, topKSeq_desc _ _ k xs,
    topKExcl Item.key Item.gt k xs, topKSeq_perm _ _ k xs, ?_⟩
  intro hnan
  exact topKSeq_largest Item.key Item.gt Item.nkey (fun a => a.isNaN = false)
    (fun a b h => nkey_mono h) (fun a b ha hb => fgt_iff_nkey ha hb) k xs hnan

/-- **C31.T1 (partial, total order)** The contract of the property text in the *total order*
holds for NaN-free inputs in which `-0.0` and `+0.0` do not both occur. -/
theorem c31_topk_total_order_partial (lanes : Nat) (hl : 1 ≤ lanes) (k : Nat) (xs : List Item)
    (hnan : ∀ x ∈ xs, x.isNaN = false)
    (hz : (∀ x ∈ xs, x.bits ≠ 2 ^ 31) ∨ (∀ x ∈ xs, x.bits ≠ 0)) :
    ∃ out, topKItems lanes k xs = some out ∧ TopKContract Item.key k xs out := by
  refine ⟨_, c31_topk_simd_eq_scalar lanes hl k xs, topKSeq_length _ _ k xs, topKSeq_desc _ _ k xs,
    topKExcl Item.key Item.gt k xs, topKSeq_perm _ _ k xs, ?_⟩
  rcases hz with hz | hz
  · exact topKSeq_largest Item.key Item.gt Item.key (fun a => a.isNaN = false ∧ a.bits ≠ 2 ^ 31)
      (fun a b h => h) (fun a b ha hb => fgt_iff_tkey ha.1 hb.1 (.inr hb.2)) k xs
      (fun x hx => ⟨hnan x hx, hz x hx⟩)
  · exact topKSeq_largest Item.key Item.gt Item.key (fun a => a.isNaN = false ∧ a.bits ≠ 0)
      (fun a b h => h) (fun a b ha hb => fgt_iff_tkey ha.1 hb.1 (.inl ha.2)) k xs
      (fun x hx => ⟨hnan x hx, hz x hx⟩)

/-- **C31.T1 (partial, readable form)** Under the same hypotheses the kept scores are exactly
the scores of the first `min k n` entries of `Sort` (the fully sorted input): "the K largest,
sorted in descending order". (Which of several candidates with identical scores is kept is not
fixed by the property; the model/implementation agreement on ids is checked by the harness.) -/
theorem c31_topk_scores_eq_sorted_prefix (lanes : Nat) (hl : 1 ≤ lanes) (k : Nat) (xs : List Item)
    (hnan : ∀ x ∈ xs, x.isNaN = false)
    (hz : (∀ x ∈ xs, x.bits ≠ 2 ^ 31) ∨ (∀ x ∈ xs, x.bits ≠ 0)) :
    ∃ out, topKItems lanes k xs = some out ∧
      out.map Item.key = ((sortDesc Item.key xs).take (min k xs.length)).map Item.key := by
  obtain ⟨out, ho, hlen, hd, excl, hp, hle⟩ := c31_topk_total_order_partial lanes hl k xs hnan hz
  refine ⟨out, ho, ?_⟩
  rw [← hlen]
  exact keys_eq_sorted_prefix Item.key out excl xs hd hp hle

/-- `Sort` returns a descending (total order) permutation of its input. -/
theorem c31_sort_contract (xs : List Item) :
    Desc Item.key (sortDesc Item.key xs) ∧ (sortDesc Item.key xs).Perm xs :=
  ⟨sortDesc_desc Item.key xs, sortDesc_perm Item.key xs⟩

/-- Non-vacuity: 5 NaN-free logits without `-0.0`, `k = 2`, width 2 (one full chunk is
skipped — `anyGt … = false` — then the tail element is admitted): the two largest are kept,
ties in input order. -/
example :
    let xs : List Item := [⟨0, 0x3f800000⟩, ⟨1, 0x40000000⟩, ⟨2, 0⟩, ⟨3, 0xbf800000⟩, ⟨4, 0x40000000⟩]
    (∀ x ∈ xs, x.isNaN = false) ∧ (∀ x ∈ xs, x.bits ≠ 2 ^ 31) ∧
      anyGt Item.gt [⟨1, 0x40000000⟩, ⟨0, 0x3f800000⟩] [⟨2, 0⟩, ⟨3, 0xbf800000⟩] = false ∧
      topKItems 2 2 xs = some [⟨1, 0x40000000⟩, ⟨4, 0x40000000⟩] := by decide

/-- **Full statement is false (NaN).** `TopK::new(1)` on dense `[0.0, NaN]` keeps `0.0`
although `NaN` is the maximum of the total order. -/
theorem c31_topk_total_order_false_nan :
    ¬ ∀ (lanes : Nat) (_ : 1 ≤ lanes) (k : Nat) (xs : List Item),
      ∃ out, topKItems lanes k xs = some out ∧ TopKContract Item.key k xs out := by
  intro h
  obtain ⟨out, ho, hc⟩ := h 16 (by omega) 1 [⟨0, 0⟩, ⟨1, 0x7fc00000⟩]
  have hout : out = [⟨0, 0⟩] := Option.some.inj (ho.symm.trans (by decide))
  subst hout
  exact absurd (hc.excluded_le (x := ⟨1, 0x7fc00000⟩) (by decide) (by decide) ⟨0, 0⟩ (by decide))
    (by decide)

/-- **Full statement is false (signed zeros).** `TopK::new(1)` on dense `[-0.0, +0.0]` keeps
`-0.0` although `+0.0 > -0.0` in the total order (benign: they are numerically equal). -/
theorem c31_topk_total_order_false_zero :
    ¬ ∀ (lanes : Nat) (_ : 1 ≤ lanes) (k : Nat) (xs : List Item), (∀ x ∈ xs, x.isNaN = false) →
      ∃ out, topKItems lanes k xs = some out ∧ TopKContract Item.key k xs out := by
  intro h
  obtain ⟨out, ho, hc⟩ := h 16 (by omega) 1 [⟨0, 0x80000000⟩, ⟨1, 0⟩] (by decide)
  have hout : out = [⟨0, 0x80000000⟩] := Option.some.inj (ho.symm.trans (by decide))
  subst hout
  exact absurd (hc.excluded_le (x := ⟨1, 0⟩) (by decide) (by decide) ⟨0, 0x80000000⟩ (by decide))
    (by decide)

/-- **Exact NaN behaviour (1).** NaNs after the first `k` candidates are ignored: the result is
the result on the input with those NaNs deleted. -/
theorem c31_topk_late_nan_ignored (lanes : Nat) (hl : 1 ≤ lanes) (k : Nat) (xs : List Item) :
    topKItems lanes k xs =
      topKItems lanes k (xs.take k ++ (xs.drop k).filter (fun x => !x.isNaN)) := by
  rw [c31_topk_simd_eq_scalar lanes hl, c31_topk_simd_eq_scalar lanes hl]
  exact congrArg some
    (topKSeq_late_nan Item.key Item.gt Item.isNaN (fun a b h => fgt_nan_left h) k xs)

/-- **Exact NaN behaviour (2).** If the smallest (in total order) of the first `k` candidates is
a NaN — a negative NaN among them, or only positive NaNs — nothing is ever admitted. -/
theorem c31_topk_nan_kth_frozen (lanes : Nat) (hl : 1 ≤ lanes) (k : Nat) (xs : List Item)
    (kth : Item) (hk : (sortDesc Item.key (xs.take k)).getLast? = some kth)
    (hnan : kth.isNaN = true) :
    topKItems lanes k xs = some (sortDesc Item.key (xs.take k)) := by
  rw [c31_topk_simd_eq_scalar lanes hl]
  exact congrArg some
    (topKSeq_frozen Item.key Item.gt Item.isNaN (fun a b h => fgt_nan_right h) k xs kth hk hnan)

/-- The observed case: `TopK::new(2)` on 20 logits `[0,1,2,NaN,0,…,0]` returns `[2.0, 1.0]`;
and a negative NaN in front freezes the result. -/
example :
    topKItems 16 2 ([⟨0, 0⟩, ⟨1, 0x3f800000⟩, ⟨2, 0x40000000⟩, ⟨3, 0x7fc00000⟩] ++
        (List.range 16).map (fun i => ⟨i + 4, 0⟩))
      = some [⟨2, 0x40000000⟩, ⟨1, 0x3f800000⟩] ∧
    topKItems 16 1 [⟨0, 0xffc00000⟩, ⟨1, 0x3f800000⟩] = some [⟨0, 0xffc00000⟩] := by decide

/-! ## T2 — TopP

Scores and the running sum live in `Ext` (exact finite value, `+inf`, `-inf`, NaN) with the
IEEE rules for `+` and `<`; the threshold is `max(p, MIN_POSITIVE)` for *every* bit pattern
`p` (`topPThr`, `none` = `+inf`).  Nothing is defaulted: ±inf / NaN scores are answered by
the model and compared with the implementation. -/

/-- `TopP::new(p).normalize(false).filter(xs)` as modelled. -/
abbrev topPItems (pbits : Nat) (xs : List Item) : List Item :=
  topP Item.key Item.val (pbits == oneBits) (topPThr pbits) xs

/-- `0 < threshold` in f32 terms: the initial `cum = 0.0` is below the threshold for every `p`
(this is what the clamp to `MIN_POSITIVE` is for). -/
theorem topPThr_pos (pbits : Nat) : (Ext.fin 0).lt (topPThr pbits) = true := by
  unfold topPThr minPositive
  split
  · simp [Ext.lt]
  · split
    · simp only [Ext.lt]; apply decide_eq_true; omega
    · split <;> simp [Ext.lt]

/-- **C31.T2a** TopP never returns an empty set for non-empty input — any `p` (including NaN,
negative, `> 1`, infinite) and any scores (including ±inf, NaN). -/
theorem c31_topp_nonempty (pbits : Nat) (xs : List Item) (h : xs ≠ []) : topPItems pbits xs ≠ [] := by
  unfold topPItems topP
  split
  · exact h
  · apply takeUntil_ne_nil _ _ _ _ (topPThr_pos pbits)
    intro hs
    have := congrArg List.length hs
    rw [sortDesc_length] at this
    exact h (List.eq_nil_of_length_eq_zero (by simpa using this))

/-- **C31.T2b (all inputs)** For `p ≠ 1.0` the result is a prefix of the input sorted descending
(stable) by total order; it is the *shortest* prefix at which the f32 test
`cum_prob < threshold` fails: the test holds for the sum of every strictly shorter prefix, and
fails for the kept prefix unless everything is kept.  (`¬ cum < thr` means `cum ≥ thr`, or
`cum` is NaN — a NaN score stops the loop without the threshold being reached; see the
examples below.) -/
theorem c31_topp_contract (pbits : Nat) (hp : pbits ≠ oneBits) (xs : List Item) :
    topPItems pbits xs <+: sortDesc Item.key xs ∧
    ((topPItems pbits xs).length < xs.length →
        (sumE Item.val (.fin 0) (topPItems pbits xs)).lt (topPThr pbits) = false) ∧
    ∀ m, m < (topPItems pbits xs).length →
        (sumE Item.val (.fin 0) ((sortDesc Item.key xs).take m)).lt (topPThr pbits) = true := by
  have h1 : (pbits == oneBits) = false := by simpa using hp
  unfold topPItems topP
  simp only [h1, Bool.false_eq_true, if_false]
  obtain ⟨n, hn, he, hmin, hre⟩ :=
    takeUntil_spec Item.val (topPThr pbits) (.fin 0) (sortDesc Item.key xs)
  rw [he, List.length_take_of_le hn]
  exact ⟨List.take_prefix _ _, fun h => hre (by rw [sortDesc_length]; exact h), hmin⟩

/-- Exact value × 2^149 of a finite score (only used under `AllFinite` hypotheses). -/
def Item.ival (a : Item) : Int := (scaled a.bits).getD 0

/-- All scores finite (what `scaled` answers for). -/
abbrev AllFinite (xs : List Item) : Prop := ∀ x ∈ xs, (scaled x.bits).isSome = true

theorem val_of_finite (x : Item) (h : (scaled x.bits).isSome = true) :
    x.val = .fin x.ival := by
  obtain ⟨v, hv⟩ := Option.isSome_iff_exists.mp h
  simp [Item.val, Item.ival, extOf, hv]

/-- **C31.T2b (finite probabilities, exact sums)** For a finite `p ≠ 1.0` and finite scores —
the hypotheses name exactly the inputs on which the cumulative sum is the exact integer sum —
the result is the shortest prefix of the descending-sorted input whose exact sum reaches
`max(p, MIN_POSITIVE)`: a proper prefix reaches the threshold and every strictly shorter
prefix is below it. -/
theorem c31_topp_minimal (pbits : Nat) (hp : pbits ≠ oneBits) (xs : List Item)
    (t : Int) (hpf : scaled pbits = some t) (hfin : AllFinite xs) :
    topPItems pbits xs <+: sortDesc Item.key xs ∧
    ((topPItems pbits xs).length < xs.length →
        max t minPositive ≤ ((topPItems pbits xs).map Item.ival).sum) ∧
    ∀ m, m < (topPItems pbits xs).length →
        (((sortDesc Item.key xs).take m).map Item.ival).sum < max t minPositive := by
  obtain ⟨hpre, hreach, hmin⟩ := c31_topp_contract pbits hp xs
  have hnn : isNaN pbits = false := Bool.eq_false_iff.mpr fun hn => by
    -- a NaN has exponent field 255, for which `scaled` answers `none`
    simp only [isNaN, decide_eq_true_eq] at hn
    have he : mag pbits / 2 ^ 23 = 255 := by unfold mag at hn ⊢; omega
    simp [scaled, he] at hpf
  have hthr : topPThr pbits = some (max t minPositive) := by simp [topPThr, hnn, hpf]
  have hfin : ∀ l, l ⊆ sortDesc Item.key xs → ∀ x ∈ l, x.val = .fin x.ival := fun l hl x hx =>
    val_of_finite x (hfin x ((mem_sortDesc Item.key).mp (hl hx)))
  refine ⟨hpre, fun h => ?_, fun m hm => ?_⟩
  · have h2 := hreach h
    rw [hthr, sumE_lt_fin Item.val Item.ival _ (hfin _ hpre.subset)] at h2
    exact Int.not_lt.mp (of_decide_eq_false h2)
  · have h2 := hmin m hm
    rw [hthr, sumE_lt_fin Item.val Item.ival _ (hfin _ (List.take_subset m _))] at h2
    exact of_decide_eq_true h2

/-- For `p = 1.0` the input is returned unchanged (not even sorted). -/
theorem c31_topp_p1_identity (xs : List Item) : topPItems oneBits xs = xs := by
  unfold topPItems topP; simp

/-- **Minimality is false for `p = 1.0`.** Finite probabilities `[1/2, 1/2, 0]`: all three
candidates are kept although the first two already reach 1.0 (so `c31_topp_minimal` cannot
drop its hypothesis `p ≠ 1.0`). -/
theorem c31_topp_p1_not_minimal :
    ¬ ∀ (pbits : Nat) (xs : List Item) (t : Int), scaled pbits = some t → AllFinite xs →
        ∀ m, m < (topPItems pbits xs).length →
          (((sortDesc Item.key xs).take m).map Item.ival).sum < max t minPositive := by
  intro h
  have := h oneBits [⟨0, 0x3f000000⟩, ⟨1, 0x3f000000⟩, ⟨2, 0⟩] (2 ^ 149) (by decide) (by decide)
    2 (by decide)
  revert this; decide

/-- Non-vacuity / boundary: probabilities `[1/4, 1/2, 1/4]` are finite; `p = 0.5` keeps `[1/2]`
(the loop stops as soon as the sum is `≥ p`), `p = 0.75` keeps two (first of the tied
candidates), `p = 0` keeps one (threshold clamped to `MIN_POSITIVE`). -/
example :
    let xs : List Item := [⟨0, 0x3e800000⟩, ⟨1, 0x3f000000⟩, ⟨2, 0x3e800000⟩]
    AllFinite xs ∧ scaled 0x3f000000 = some (2 ^ 148) ∧
    topPItems 0x3f000000 xs = [⟨1, 0x3f000000⟩] ∧
    topPItems 0x3f400000 xs = [⟨1, 0x3f000000⟩, ⟨0, 0x3e800000⟩] ∧
    topPItems 0 xs = [⟨1, 0x3f000000⟩] := by decide

/-- Non-finite scores are modelled, not defaulted: on `[+inf, 1.0]` with
`p = 0.5` the loop stops after `+inf`; a positive NaN sorts first and stops the loop at once
(`NaN < thr` is false) although nothing was "reached"; `-inf` sorts last and never stops it;
`+inf` followed by `-inf` is never reached because the loop has already stopped. -/
example :
    topPItems 0x3f000000 [⟨0, 0x7f800000⟩, ⟨1, 0x3f800000⟩] = [⟨0, 0x7f800000⟩] ∧
    topPItems 0x3f000000 [⟨0, 0x3e800000⟩, ⟨1, 0x7fc00000⟩, ⟨2, 0x3f000000⟩] = [⟨1, 0x7fc00000⟩] ∧
    topPItems 0x3f000000 [⟨0, 0x3e000000⟩, ⟨1, 0xff800000⟩, ⟨2, 0x3e000000⟩]
      = [⟨0, 0x3e000000⟩, ⟨2, 0x3e000000⟩, ⟨1, 0xff800000⟩] ∧
    topPItems 0x7fc00000 [⟨0, 0x3e800000⟩, ⟨1, 0x3f000000⟩] = [⟨1, 0x3f000000⟩] ∧
    topPItems 0x7f800000 [⟨0, 0x3e800000⟩, ⟨1, 0x3f000000⟩] = [⟨1, 0x3f000000⟩, ⟨0, 0x3e800000⟩] := by
  decide

/-! ## T3 — Chain

`mul` is the f32 multiplication used by `Temperature` (abstract: the statements hold whatever
it rounds to); `mulDriver` is the exact instance the driver evaluates inside `inDomain`. -/

/-- **C31.T3** (panics included) `Chain::filter` is the left fold of its filters in `Option`. -/
theorem c31_chain_is_fold (mul : Nat → Nat → Nat) (clamp : Bool) (lanes : Nat) (fs : List Spec)
    (xs : List Item) :
    chainSpec mul clamp lanes fs xs = fs.foldlM (fun acc f => applySpec mul clamp lanes f acc) xs := by
  unfold chainSpec chain
  rw [List.foldlM_map]

theorem c31_chain_append (mul : Nat → Nat → Nat) (clamp : Bool) (lanes : Nat) (fs gs : List Spec)
    (xs : List Item) :
    chainSpec mul clamp lanes (fs ++ gs) xs =
      (chainSpec mul clamp lanes fs xs).bind (chainSpec mul clamp lanes gs) := by
  unfold chainSpec
  rw [List.map_append, chain_append]

theorem c31_chain_single (mul : Nat → Nat → Nat) (clamp : Bool) (lanes : Nat) (f : Spec)
    (xs : List Item) : chainSpec mul clamp lanes [f] xs = applySpec mul clamp lanes f xs := by
  unfold chainSpec
  rw [List.map_cons, List.map_nil, chain_cons]
  cases applySpec mul clamp lanes f xs <;> rfl

/-- A filter description that can be constructed without tripping `Temperature::new`'s
`assert!(temperature >= 0.)`. -/
def Spec.valid : Spec → Bool
  | .temp t => tempValid t
  | _ => true

/-- **Error path: the `Temperature::new` assertion.** A temperature filter panics iff its
temperature is NaN or negative — independently of the logits; no other filter description
can panic at all (current code). -/
theorem c31_filter_panics_iff (mul : Nat → Nat → Nat) (lanes : Nat) (hl : 1 ≤ lanes) (f : Spec)
    (xs : List Item) : applySpec mul true lanes f xs = none ↔ f.valid = false := by
  cases f with
  | topK k =>
    have := c31_topk_no_panic lanes hl k xs
    simp only [applySpec, Spec.valid]
    constructor
    · intro h; rw [show topKItems lanes k xs = none from h] at this; cases this
    · intro h; cases h
  | temp t =>
    simp only [applySpec, Spec.valid]
    cases tempValid t <;> simp
    split <;> simp
  | _ => simp [applySpec, Spec.valid]

/-- **C31.T4** No constructible filter of the current code panics, for any input. -/
theorem c31_filter_no_panic (mul : Nat → Nat → Nat) (lanes : Nat) (hl : 1 ≤ lanes) (f : Spec)
    (hv : f.valid = true) (xs : List Item) : (applySpec mul true lanes f xs).isSome := by
  cases h : applySpec mul true lanes f xs with
  | some _ => rfl
  | none => rw [(c31_filter_panics_iff mul lanes hl f xs).mp h] at hv; cases hv

/-- Negative and NaN temperatures panic, `-0.0` and `+inf` do not (spot checks of `tempValid`
against `assert!(temperature >= 0.)`). -/
example : tempValid 0xbf800000 = false ∧ tempValid 0x7fc00000 = false ∧ tempValid 0xff800000 = false ∧
    tempValid 0x80000000 = true ∧ tempValid 0x7f800000 = true ∧ tempValid 0 = true := by decide

/-- What a filter returns (total function on valid descriptions; `c31_filter_no_panic`). -/
def applyTotal (mul : Nat → Nat → Nat) (lanes : Nat) (f : Spec) (xs : List Item) : List Item :=
  (applySpec mul true lanes f xs).getD xs

/-- **C31.T3/T4** With the current code a chain of constructible filters never panics and
equals the plain left fold of its filters' functions: `Chain [f₁,…,fₙ] = fₙ ∘ … ∘ f₁`
(for every f32 multiplication `mul`). -/
theorem c31_chain_eq_foldl (mul : Nat → Nat → Nat) (lanes : Nat) (hl : 1 ≤ lanes) (fs : List Spec)
    (hv : ∀ f ∈ fs, f.valid = true) (xs : List Item) :
    chainSpec mul true lanes fs xs =
      some (fs.foldl (fun acc f => applyTotal mul lanes f acc) xs) := by
  -- on constructible descriptions `applySpec` is the total function `applyTotal`
  have h : fs.map (applySpec mul true lanes) =
      (fs.map (applyTotal mul lanes)).map fun g => fun y => some (g y) := by
    rw [List.map_map]
    refine List.map_congr_left fun f hf => funext fun ys => ?_
    obtain ⟨zs, hzs⟩ := Option.isSome_iff_exists.mp (c31_filter_no_panic mul lanes hl f (hv f hf) ys)
    simp [applyTotal, hzs]
  rw [chainSpec, h, chain_total, List.foldl_map]

/-- A chain containing an unconstructible temperature filter panics (whatever else it holds). -/
theorem c31_chain_invalid_panics (mul : Nat → Nat → Nat) (lanes : Nat) (hl : 1 ≤ lanes)
    (fs gs : List Spec) (f : Spec) (hf : f.valid = false) (hv : ∀ g ∈ fs, g.valid = true)
    (xs : List Item) : chainSpec mul true lanes (fs ++ f :: gs) xs = none := by
  rw [c31_chain_append, c31_chain_eq_foldl mul lanes hl fs hv xs]
  simp only [Option.bind]
  unfold chainSpec
  rw [List.map_cons, chain_cons, (c31_filter_panics_iff mul lanes hl f _).mpr hf]
  rfl

/-- The step-by-step evaluator of the driver computes `chainSpec` (at the driver's exact
multiplication) whenever it answers. -/
theorem c31_runChain_eq (clamp : Bool) (lanes : Nat) (fs : List Spec) (xs : List Item)
    (r : Option (List Item)) (h : runChain clamp lanes fs xs = some r) :
    r = chainSpec mulDriver clamp lanes fs xs := by
  induction fs generalizing xs with
  | nil => simp [runChain] at h; subst h; rfl
  | cons f fs ih =>
    unfold runChain at h
    unfold chainSpec
    rw [List.map_cons, chain_cons]
    split at h
    · cases hf : applySpec mulDriver clamp lanes f xs with
      | none => simp [hf] at h; subst h; rfl
      | some ys => simp only [hf] at h; exact ih ys h
    · cases h

/-- Before the fix a chain could panic: top-P keeps one candidate, then `TopK::new(2)`. -/
example : chainSpec mulDriver false 16 [.topP 0x3f000000, .topK 2]
      [⟨0, 0x3e800000⟩, ⟨1, 0x3f000000⟩, ⟨2, 0x3e800000⟩] = none ∧
    chainSpec mulDriver true 16 [.topP 0x3f000000, .topK 2]
      [⟨0, 0x3e800000⟩, ⟨1, 0x3f000000⟩, ⟨2, 0x3e800000⟩] = some [⟨1, 0x3f000000⟩] := by decide

/-- Temperature 2.0 halves exactly; temperature −1.0 panics. -/
example : chainSpec mulDriver true 16 [.temp 0x40000000] [⟨0, 0x3f800000⟩, ⟨1, 0xc0000000⟩]
      = some [⟨0, 0x3f000000⟩, ⟨1, 0xbf800000⟩] ∧
    chainSpec mulDriver true 16 [.sort, .temp 0xbf800000] [⟨0, 0x3f800000⟩] = none := by decide

end RtenVerif.Filter
