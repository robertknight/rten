import RtenVerif.Model.PoolSize
import RtenVerif.Lemmas.ShapeInferRange

/-!
# C10 — conv / pool output size: inference agrees with the executor
-/
namespace RtenVerif.ShapeInfer

theorem tdiv_natCast (a b : Nat) : tdiv (a : Int) (b : Int) = ((a / b : Nat) : Int) := by
  unfold tdiv
  rw [Int.tdiv_eq_ediv_of_nonneg (Int.natCast_nonneg a)]
  exact (Int.natCast_ediv a b).symm

theorem ceilDiv_le_iff (I c s : Nat) (hs : 0 < s) : (I + s - 1) / s ≤ c ↔ I ≤ c * s := by
  rw [Nat.div_le_iff_le_mul_add_pred hs, Nat.mul_comm]
  omega

theorem nat_ceil_div (w s : Nat) (hs : 0 < s) : (w + s - 1) / s = w / s + (if w % s = 0 then 0 else 1) := by
  have hw := Nat.div_add_mod w s
  have hlt := Nat.mod_lt w hs
  apply Nat.le_antisymm
  · rw [ceilDiv_le_iff _ _ _ hs, Nat.add_mul, Nat.mul_comm]
    split <;> omega
  · split
    · exact Nat.div_le_div_right (by omega)
    · rw [Nat.le_div_iff_mul_le hs, Nat.add_mul, Nat.mul_comm]
      omega

theorem cdiv_natCast (a b : Nat) (hb : 0 < b) : cdiv (a : Int) (b : Int) = (((a + b - 1) / b : Nat) : Int) := by
  have h1 : Int.tdiv (a : Int) (b : Int) = ((a / b : Nat) : Int) := tdiv_natCast a b
  have h2 : Int.tmod (a : Int) (b : Int) = ((a % b : Nat) : Int) := by
    rw [Int.tmod_eq_emod_of_nonneg (Int.natCast_nonneg a)]; exact (Int.natCast_emod a b).symm
  have hsign : ((a : Int) < 0) = ((b : Int) < 0) := by
    rw [eq_false (by omega : ¬ (a : Int) < 0), eq_false (by omega : ¬ (b : Int) < 0)]
  simp only [cdiv, h1, h2, hsign, beq_self_eq_true, if_true, nat_ceil_div a b hb]
  simp only [bne_iff_ne, ne_eq, Int.natCast_eq_zero, ite_not]
  split <;> rfl

/-- The arithmetic heart of ceil mode: `min(c + 1, max(c, ⌈I / s⌉))` is `c` when `c * s ≥ I` (the
executor drops the last position) and `c + 1` otherwise. -/
theorem pool_clamp (W I s : Nat) (hs : 0 < s) :
    min (cdiv W s + 1) (max (cdiv W s) (cdiv I s)) =
      ((if (W + s - 1) / s * s ≥ I then (W + s - 1) / s else (W + s - 1) / s + 1 : Nat) : Int) := by
  rw [cdiv_natCast W s hs, cdiv_natCast I s hs]
  have := ceilDiv_le_iff I ((W + s - 1) / s) s hs
  split <;> omega

/-- **C10.T1-pool (output size)** — for every input size, kernel, stride, dilation and paddings
(`stride, kernel, dilation ≥ 1`), whenever the executor accepts the configuration, the value of the
inferred size expression is exactly the executed size, in floor and in ceil mode. -/
theorem c10_pool_output_size_agrees (inp k s d ps pe : Nat) (ceil : Bool) (n : Nat)
    (hs : 1 ≤ s) (hk : 1 ≤ k) (hd : 1 ≤ d)
    (he : poolExecSize inp k s d ps pe ceil = some n) :
    poolInferSize inp k s d ps pe ceil = n := by
  unfold poolExecSize at he
  simp only at he
  split at he
  · cases he
  · rename_i hsmall
    -- the executor accepted the configuration, so the extent left for window starts is a natural number
    have hwin : (inp : Int) + ps + pe - d * ((k : Int) - 1) - 1 =
        ((inp + ps + pe - d * (k - 1) - 1 : Nat) : Int) := by
      have hdk : (k - 1) * (d - 1) + (k - 1) = d * (k - 1) := by
        rw [← Nat.mul_add_one, Nat.sub_add_cancel hd, Nat.mul_comm]
      have : (k : Int) - 1 = ((k - 1 : Nat) : Int) := by omega
      rw [this, ← Int.natCast_mul]
      omega
    unfold poolInferSize
    simp only [hwin]
    cases ceil with
    | false =>
      simp only [Bool.false_and, Bool.false_eq_true, if_false, Option.some.injEq] at he
      simp only [Bool.not_false, if_true, tdiv_natCast, ← he]
      rfl
    | true =>
      simp only [if_true, Bool.true_and, decide_eq_true_eq, Nat.add_sub_cancel] at he
      simp only [Bool.not_true, Bool.false_eq_true, if_false, ← Int.natCast_add, pool_clamp _ _ s hs]
      split at he <;> cases he
      · rw [if_pos ‹_›]
      · rw [if_neg ‹_›]

/-- Finding `C10-pool-ceil-empty-input` (fixed): with the limit written `(in + pad_start - 1) / stride + 1`
an EMPTY input axis without start padding gave 1 where the executor produces 0, because `/`
truncates `(0 - 1) / 2` to 0 (`in = 0, k = 1, s = 2, pads = (0, 1), ceil_mode`); `div_ceil` is right. -/
theorem c10_pool_empty_input_false :
    poolInferSizeTrunc 0 1 2 1 0 1 = 1 ∧ poolExecSize 0 1 2 1 0 1 true = some 0 ∧
    poolInferSize 0 1 2 1 0 1 true = 0 := by decide

/-- Before fix 1c9e5a4 the clamp could drop more than one position: `in = 4, k = 1, s = 1,
pads = (0, 2), ceil_mode` is inferred as 4 but executes to 5. -/
theorem c10_pool_old_rule_false :
    poolInferSizeOld 4 1 1 1 0 2 = 4 ∧ poolExecSize 4 1 1 1 0 2 true = some 5 ∧ poolInferSize 4 1 1 1 0 2 true = 5 := by decide

/-- Seeded variant C10_c: `in = 10, k = 3, s = 2, pads = (1, 1), ceil_mode` is inferred as 5 but
executes to 6. -/
theorem c10_pool_seeded_rule_false :
    poolInferSizeSeeded 10 3 2 1 1 1 = 5 ∧ poolExecSize 10 3 2 1 1 1 true = some 6 ∧
    poolInferSize 10 3 2 1 1 1 true = 6 := by decide

/-- Symbolic input size and symbolic kernel size (Conv takes the kernel from the weights' shape):
for a stride `s ≠ 0` the inferred expression evaluates to `poolInferSize` of the instantiated sizes, so
`c10_pool_output_size_agrees` transfers to symbolic dims. -/
theorem c10_pool_sym_eval (σ : Env) (inp k : Sym) (v kv s d ps pe : Int) (ceil : Bool) (hs : s ≠ 0)
    (hv : inp.eval σ = some v) (hk : k.eval σ = some kv) :
    (poolInferSym inp k s d ps pe ceil).eval σ = some (poolInferSize v kv s d ps pe ceil) := by
  unfold poolInferSym convOutSym poolInferSize
  cases ceil <;>
    simp only [Bool.not_false, Bool.not_true, Bool.false_eq_true, if_true, if_false, Sym.eval, hv, hk, hs,
      Option.pure_def, Option.bind_eq_bind, Option.bind_some]

end RtenVerif.ShapeInfer
