import RtenVerif.Props.C01
import RtenVerif.Props.C01Fusions
import RtenVerif.Lemmas.OptimizeReplace

/-!
# C01 — a concrete (shape × data) operator semantics and `hsem` for real fusions

`tsem F` is one concrete `Sem`: values are tensors `⟨shape, row-major data⟩` over an abstract scalar
structure `F` (only `x*1 = x`, `x/1 = x` are laws of the structure; for `x+z` / `x−z` the identity
property `∀ x, x + z = x` of the *matched constant* `z` is a hypothesis of `hsem_identity`, because in
IEEE arithmetic it holds for `z = −0.0` (resp. `+0.0` for subtraction) but NOT for `z = +0.0`:
`−0.0 + 0.0 = +0.0` — open finding C01-identity-signed-zero, witness `signed_zero_add_law_false`).
Elementwise binary operators broadcast (ONNX / NumPy rule `bshape`) when the shapes are equal or one operand is a
single-element tensor — exactly the situations of the scalar-constant fusions; other broadcasts are
outside this semantics (the operator fails). For a single-element operand of shape `[1,…,1]` the
row-major data of the result is the other operand's data mapped, and the result *shape* is
`bshape` of both shapes: a constant of higher rank yields a higher-rank output.

For Silu, Swish, Reciprocal and Identity (`x+0`, `x*1`) the equation that the hypothesis `hsem` of
`c01_rewrite_sound` asks for is proved **shape included**, for the operators written out with fixed
ids (values 0–5, operators 10–14); the rank condition of the fixed guard (`k ≤ rank x`,
`c01_scalar_const_keeps_shape`) is what makes the shapes agree.  `c01_silu_rewrite_instance`
instantiates `c01_rewrite_sound` on such a graph with every hypothesis discharged.
-/
namespace RtenVerif.Optimize.TSem
open RtenVerif.Optimize RtenVerif.Optimize.Fusions

structure Scalars (α : Type) where
  add : α → α → α
  sub : α → α → α
  mul : α → α → α
  div : α → α → α
  zero : α
  one : α
  sig : α → α
  mul_one : ∀ x, mul x one = x
  div_one : ∀ x, div x one = x

structure Ten (α : Type) where
  shape : List Nat
  data : List α
deriving DecidableEq, Repr

inductive FK (α : Type) where
  | add | sub | mul | div | sigmoid | identity | reciprocal | silu
  | swish (alpha : α)
  | other

variable {α : Type}

def allOnes (s : List Nat) : Bool := s.all (· == 1)

/-- elementwise binary operator with the modelled part of broadcasting: a single-element operand of
shape `[1,…,1]` (either side), else equal shapes -/
def binop (f : α → α → α) (a b : Ten α) : Option (Ten α) :=
  match b.data, allOnes b.shape with
  | [y], true => (bshape a.shape b.shape).map fun sh => ⟨sh, a.data.map (f · y)⟩
  | _, _ =>
    match a.data, allOnes a.shape with
    | [x], true => (bshape a.shape b.shape).map fun sh => ⟨sh, b.data.map (f x ·)⟩
    | _, _ => if a.shape = b.shape then some ⟨a.shape, List.zipWith f a.data b.data⟩ else none

def tmap (f : α → α) (a : Ten α) : Ten α := ⟨a.shape, a.data.map f⟩

def tsem (F : Scalars α) : Sem (FK α) (Ten α) where
  app
    | .add, [a, b] => (binop F.add a b).map ([·])
    | .sub, [a, b] => (binop F.sub a b).map ([·])
    | .mul, [a, b] => (binop F.mul a b).map ([·])
    | .div, [a, b] => (binop F.div a b).map ([·])
    | .sigmoid, [a] => some [tmap F.sig a]
    | .identity, [a] => some [a]
    | .reciprocal, [a] => some [tmap (fun x => F.div F.one x) a]
    | .silu, [a] => some [tmap (fun x => F.mul x (F.sig x)) a]
    | .swish alpha, [a] => some [tmap (fun x => F.mul x (F.sig (F.mul alpha x))) a]
    | _, _ => none

theorem allOnes_replicate (s : List Nat) (h : allOnes s = true) : s = List.replicate s.length 1 := by
  induction s with
  | nil => rfl
  | cons x xs ih =>
    simp only [allOnes, List.all_cons, Bool.and_eq_true, beq_iff_eq] at h
    simp only [List.length_cons, List.replicate_succ]
    rw [h.1, ← ih (by simpa [allOnes] using h.2)]

/-- Broadcasting against a single-element constant of rank ≤ the rank of `a` on the right (the
fixed guard's condition): shape of `a`, data mapped. -/
theorem binop_scalar_right (f : α → α → α) (a c : Ten α) (y : α) (hd : c.data = [y]) (h1 : allOnes c.shape = true)
    (hr : c.shape.length ≤ a.shape.length) : binop f a c = some ⟨a.shape, a.data.map (f · y)⟩ := by
  have hb : bshape a.shape c.shape = some a.shape := by
    rw [allOnes_replicate c.shape h1]; exact c01_scalar_const_keeps_shape a.shape _ hr
  simp [binop, hd, h1, hb]

theorem binop_scalar_left (f : α → α → α) (c a : Ten α) (y : α) (hd : c.data = [y]) (h1 : allOnes c.shape = true)
    (hr : c.shape.length ≤ a.shape.length) : binop f c a = some ⟨a.shape, a.data.map (f y ·)⟩ := by
  have hb : bshape c.shape a.shape = some a.shape := by
    rw [bshape_comm, allOnes_replicate c.shape h1]; exact c01_scalar_const_keeps_shape a.shape _ hr
  unfold binop
  split
  · -- `a` is itself a single-element tensor of shape [1,…,1]
    rename_i x hx ha
    simp [hd, hb, hx]
  · simp [hd, h1, hb]

theorem binop_self_map (f : α → α → α) (h : α → α) (a : Ten α) :
    binop f a ⟨a.shape, a.data.map h⟩ = some ⟨a.shape, a.data.map (fun x => f x (h x))⟩ := by
  unfold binop
  split
  · rename_i y hy ha
    -- the mapped data is `[y]`, so `a` has one element `x` and `y = h x`
    obtain ⟨x, hx, rfl⟩ := List.map_eq_singleton_iff.mp hy
    have hb : bshape a.shape a.shape = some a.shape := by
      rw [allOnes_replicate a.shape ha]; exact c01_scalar_const_keeps_shape _ _ (by simp)
    simp [hb, hx]
  · rename_i hne
    split
    · rename_i x hx ha
      exact absurd ha (hne (h x) (by simp [hx]))
    · simp [List.zipWith_map_right, List.zipWith_self]

/-! ## `hsem` for real fusions (value ids: 0 = x, 5 = the pattern constant, others intermediate)

Every operator below has one output, so `step_single` turns both sides into the operators' kinds
applied in the `Option` monad; what is left is the algebra of `binop` above. -/

variable (F : Scalars α)

attribute [local simp] run step_single readAll_cons

@[simp] theorem tsem_add (a b : Ten α) : (tsem F).app .add [a, b] = (binop F.add a b).map ([·]) := rfl
@[simp] theorem tsem_sub (a b : Ten α) : (tsem F).app .sub [a, b] = (binop F.sub a b).map ([·]) := rfl
@[simp] theorem tsem_mul (a b : Ten α) : (tsem F).app .mul [a, b] = (binop F.mul a b).map ([·]) := rfl
@[simp] theorem tsem_div (a b : Ten α) : (tsem F).app .div [a, b] = (binop F.div a b).map ([·]) := rfl
@[simp] theorem tsem_sigmoid (a : Ten α) : (tsem F).app .sigmoid [a] = some [tmap F.sig a] := rfl
@[simp] theorem tsem_identity (a : Ten α) : (tsem F).app .identity [a] = some [a] := rfl
@[simp] theorem tsem_reciprocal (a : Ten α) :
    (tsem F).app .reciprocal [a] = some [tmap (fun x => F.div F.one x) a] := rfl
@[simp] theorem tsem_silu (a : Ten α) : (tsem F).app .silu [a] = some [tmap (fun x => F.mul x (F.sig x)) a] := rfl
@[simp] theorem tsem_swish (alpha : α) (a : Ten α) :
    (tsem F).app (.swish alpha) [a] = some [tmap (fun x => F.mul x (F.sig (F.mul alpha x))) a] := rfl

def opSig : Op (FK α) := ⟨10, .sigmoid, [0], [], [1]⟩
def opMulXT : Op (FK α) := ⟨11, .mul, [0, 1], [], [2]⟩
def opSilu : Op (FK α) := ⟨13, .silu, [0], [], [2]⟩

/-- **hsem, Silu**: `Mul(x, Sigmoid(x))` = `Silu(x)`, value and shape, or both fail. -/
theorem hsem_silu (E : Env (Ten α)) :
    run (tsem F) [opSig, opMulXT] E 2 = step (tsem F) E opSilu 2 := by
  cases hx : E 0 with
  | none => simp [opSig, opMulXT, opSilu, hx]
  | some a => simp [opSig, opMulXT, opSilu, hx, tmap, binop_self_map]

def opMulAX : Op (FK α) := ⟨10, .mul, [5, 0], [], [1]⟩
def opSigU : Op (FK α) := ⟨11, .sigmoid, [1], [], [2]⟩
def opMulXT2 : Op (FK α) := ⟨12, .mul, [0, 2], [], [3]⟩
def opSwish (alpha : α) : Op (FK α) := ⟨13, .swish alpha, [0], [], [3]⟩

/-- **hsem, Swish**: `Mul(x, Sigmoid(Mul(alpha, x)))` = `Swish_alpha(x)` when `alpha` is a
single-element constant whose rank does not exceed the rank of `x` (the fixed `get_scalar_operand`). -/
theorem hsem_swish (E : Env (Ten α)) (c : Ten α) (alpha : α) (hc : E 5 = some c) (hd : c.data = [alpha])
    (h1 : allOnes c.shape = true) (hr : ∀ a, E 0 = some a → c.shape.length ≤ a.shape.length)
    (hE1 : E 1 = none) (hE2 : E 2 = none) :
    run (tsem F) [opMulAX, opSigU, opMulXT2] E 3 = step (tsem F) E (opSwish alpha) 3 := by
  cases hx : E 0 with
  | none => simp [opMulAX, opSigU, opMulXT2, opSwish, hx, hc, hE1, hE2]
  | some a =>
    have hs := binop_self_map F.mul (fun x => F.sig (F.mul alpha x)) a
    simp [opMulAX, opSigU, opMulXT2, opSwish, hx, hc, tmap,
      binop_scalar_left F.mul c a alpha hd h1 (hr a hx), Function.comp_def, hs]

def opDivCX : Op (FK α) := ⟨10, .div, [5, 0], [], [1]⟩
def opRecip : Op (FK α) := ⟨11, .reciprocal, [0], [], [1]⟩

/-- **hsem, Reciprocal**: `Div(1, x)` = `Reciprocal(x)` under the rank condition. -/
theorem hsem_reciprocal (E : Env (Ten α)) (c : Ten α) (hc : E 5 = some c) (hd : c.data = [F.one])
    (h1 : allOnes c.shape = true) (hr : ∀ a, E 0 = some a → c.shape.length ≤ a.shape.length) :
    run (tsem F) [opDivCX] E 1 = step (tsem F) E opRecip 1 := by
  cases hx : E 0 with
  | none => simp [opDivCX, opRecip, hx, hc]
  | some a =>
    simp [opDivCX, opRecip, hx, hc, tmap,
      binop_scalar_left F.div c a F.one hd h1 (hr a hx)]

def opBinXC (k : FK α) : Op (FK α) := ⟨10, k, [0, 5], [], [1]⟩
def opIdent : Op (FK α) := ⟨11, .identity, [0], [], [1]⟩

/-- The four cases of IdentityFusion differ only in `k`, `f` and `z`. -/
theorem hsem_binop_identity (E : Env (Ten α)) (c : Ten α) (hc : E 5 = some c) (h1 : allOnes c.shape = true)
    (hr : ∀ a, E 0 = some a → c.shape.length ≤ a.shape.length) (k : FK α) (f : α → α → α)
    (hk : ∀ a b, (tsem F).app k [a, b] = (binop f a b).map ([·])) (z : α) (hd : c.data = [z]) (hz : ∀ x, f x z = x) :
    run (tsem F) [opBinXC k] E 1 = step (tsem F) E opIdent 1 := by
  cases hx : E 0 with
  | none => simp [opBinXC, opIdent, hx, hc]
  | some a =>
    simp [opBinXC, opIdent, hx, hc, hk,
      binop_scalar_right f a c z hd h1 (hr a hx), List.map_id'' hz]

/-- **hsem, IdentityFusion** (`x+0`, `x-0`, `x*1`, `x/1`, the output kept through an `Identity`
operator as for a graph output) under the rank condition. -/
theorem hsem_identity (E : Env (Ten α)) (c : Ten α) (hc : E 5 = some c) (h1 : allOnes c.shape = true)
    (hr : ∀ a, E 0 = some a → c.shape.length ≤ a.shape.length) :
    (∀ z, c.data = [z] → (∀ x, F.add x z = x) → run (tsem F) [opBinXC .add] E 1 = step (tsem F) E opIdent 1) ∧
    (∀ z, c.data = [z] → (∀ x, F.sub x z = x) → run (tsem F) [opBinXC .sub] E 1 = step (tsem F) E opIdent 1) ∧
    (c.data = [F.one] → run (tsem F) [opBinXC .mul] E 1 = step (tsem F) E opIdent 1) ∧
    (c.data = [F.one] → run (tsem F) [opBinXC .div] E 1 = step (tsem F) E opIdent 1) :=
  have h := hsem_binop_identity F E c hc h1 hr
  ⟨h .add F.add (tsem_add F), h .sub F.sub (tsem_sub F),
    fun hd => h .mul F.mul (tsem_mul F) F.one hd F.mul_one, fun hd => h .div F.div (tsem_div F) F.one hd F.div_one⟩

def intScalars : Scalars Int :=
  { add := (· + ·), sub := (· - ·), mul := (· * ·), div := (· / ·), zero := 0, one := 1, sig := id,
    mul_one := Int.mul_one, div_one := Int.ediv_one }

def envBad : Env (Ten Int) := fun i =>
  if i = 0 then some ⟨[3], [1, 2, 3]⟩ else if i = 5 then some ⟨[1, 1], [0]⟩ else none

/-- `x:[3] + 0:[1,1]` has shape `[1,3]`; the Identity rewrite gives `[3]`: without the rank condition
`hsem` is false (the pre-fix defect, reproduced on the real code). -/
theorem hsem_identity_rank_needed :
    run (tsem intScalars) [opBinXC .add] envBad 1 = some ⟨[1, 3], [1, 2, 3]⟩ ∧
    step (tsem intScalars) envBad opIdent 1 = some ⟨[3], [1, 2, 3]⟩ := by decide

/-- the two IEEE zeros with IEEE addition restricted to them: `−0 + −0 = −0`, everything else `+0` -/
inductive SZ | pz | nz
deriving DecidableEq

def SZ.add : SZ → SZ → SZ
  | .nz, .nz => .nz
  | _, _ => .pz

/-- `z = −0` is an additive identity, `z = +0` is not (`−0 + +0 = +0`): IdentityFusion's removal of
`Add(x, +0.0)` is not covered by `hsem_identity` — and is wrong on the real code at `x = −0.0`. -/
theorem signed_zero_add_law_false :
    (∀ x, SZ.add x .nz = x) ∧ ¬ (∀ x, SZ.add x .pz = x) := by
  refine ⟨fun x => by cases x <;> rfl, fun h => ?_⟩
  have := h .nz
  exact absurd this (by decide)

/-- consumer of the fused output: 3 = Sigmoid(2) -/
def opPost : Op (FK α) := ⟨12, .sigmoid, [2], [], [3]⟩

/-- Every hypothesis of `c01_rewrite_sound` discharged for `[Sigmoid, Mul, post]` with the
concrete tensor semantics: the graph output 3 is unchanged by the Silu rewrite, for every
environment (inputs / constants) that leaves the operator outputs undefined. -/
theorem c01_silu_rewrite_instance (env : Env (Ten α)) (h1 : env 1 = none) (h2 : env 2 = none) (h3 : env 3 = none) :
    run (tsem F) [opSig, opMulXT, opPost] env 3
      = run (tsem F) (fuse [opSig, opMulXT, opPost] [10, 11] 11 opSilu) env 3 := by
  -- the side conditions speak of a fixed three-operator graph and are decided by evaluation
  exact c01_rewrite_sound (tsem F) [opSig] [opPost] opMulXT opSilu [10, 11] [3] env
    (show WF [opSig, opMulXT, opPost] by simp only [WF, outsAll, Op.reads, opSig, opMulXT, opPost]; decide)
    (show ∀ i ∈ [1, 2, 3], env i = none by simp [h1, h2, h3])
    (of_decide_eq_true rfl) (of_decide_eq_true rfl) rfl rfl (of_decide_eq_true rfl) rfl
    (fun E _ _ j (hj : j ∈ [2]) => List.mem_singleton.mp hj ▸ hsem_silu F E)
    3 List.mem_cons_self

/-- consumer of the removed value: 2 = Sigmoid(1) -/
def opPost1 : Op (FK α) := ⟨12, .sigmoid, [1], [], [2]⟩

/-- `y = Sigmoid(x + z)` with an identity constant `z` (`∀ x, x + z = x`) whose rank does not exceed
the rank of `x`: after IdentityFusion (`Add` removed, its output replaced by `x` in the consumer) `y`, if it was
defined, is unchanged. -/
theorem c01_identity_replace_instance (env : Env (Ten α)) (c : Ten α) (z : α) (hz : ∀ x, F.add x z = x)
    (hc : env 5 = some c) (hd : c.data = [z])
    (h1 : allOnes c.shape = true) (hr : ∀ a, env 0 = some a → c.shape.length ≤ a.shape.length)
    (e1 : env 1 = none) (e2 : env 2 = none) (v : Ten α)
    (h : run (tsem F) [opBinXC .add, opPost1] env 2 = some v) :
    run (tsem F) ([opPost1].map (substIns 1 0)) env 2 = some v := by
  refine replace_sound (tsem F) [] [opPost1] (opBinXC .add) 1 0 env
    (show WF [opBinXC .add, opPost1] by simp only [WF, outsAll, Op.reads, opBinXC, opPost1]; decide)
    (show ∀ i ∈ [1, 2], env i = none by simp [e1, e2])
    rfl (show 0 ∉ [1, 2] by decide) (of_decide_eq_true rfl) (fun E hE hEb w hw => ?_) 2 v h
  have hE0 : E 0 = env 0 := hE 0 (show 0 ∉ [1, 2] by decide)
  have hE5 : E 5 = some c := (hE 5 (show 5 ∉ [1, 2] by decide)).trans hc
  cases hx : E 0 with
  | none => simp [opBinXC, hx, hEb] at hw
  | some a =>
    simp [opBinXC, hx, hE5,
      binop_scalar_right F.add a c z hd h1 (hr a (hE0 ▸ hx)), List.map_id'' hz] at hw
    rw [← hw]

end RtenVerif.Optimize.TSem

/-! # Softmax fusions with the `flush_nans_to_zero` flag (seed C01_c)

One lane (the softmax axis) over scalars with a NaN test: `sm` is the lane softmax (it may produce
NaNs, e.g. for a fully masked lane), `Softmax{flush}` replaces NaNs of its result by zero.
`hsem_safe_softmax`: `Where(IsNaN(P), 0, P)`, `P = Softmax{false}(x)`, is `Softmax{true}(x)`.
`hsem_add_softmax`: `Softmax{fl}(Add(qk, mask))` is `AddSoftmax{fl}(qk, mask)` — **for the same flag**;
`add_softmax_flag_needed`: with the flag dropped the results differ on a fully masked lane. -/
namespace RtenVerif.Optimize.SoftmaxSem
open RtenVerif.Optimize

structure Lane (α : Type) where
  add : α → α → α
  zero : α
  isNan : α → Bool
  sm : List α → List α
  sm_length : ∀ l, (sm l).length = l.length

inductive SV (α : Type) where
  | f (l : List α)
  | b (l : List Bool)
deriving DecidableEq

inductive SK where
  | add | isnan | whereZ
  | softmax (flush : Bool)
  | addsoftmax (flush : Bool)
deriving DecidableEq

variable {α : Type}

def flushIf (L : Lane α) (fl : Bool) (l : List α) : List α :=
  if fl then l.map (fun v => if L.isNan v then L.zero else v) else l

def ssem (L : Lane α) : Sem SK (SV α) where
  app
    | .add, [.f a, .f b] => if a.length = b.length then some [.f (List.zipWith L.add a b)] else none
    | .softmax fl, [.f a] => some [.f (flushIf L fl (L.sm a))]
    | .isnan, [.f a] => some [.b (a.map L.isNan)]
    | .whereZ, [.b c, .f [z], .f y] =>
      if c.length = y.length then some [.f (List.zipWith (fun (c : Bool) v => if c then z else v) c y)] else none
    | .addsoftmax fl, [.f a, .f b] =>
      if a.length = b.length then some [.f (flushIf L fl (L.sm (List.zipWith L.add a b)))] else none
    | _, _ => none

variable (L : Lane α)

attribute [local simp] run step_single readAll_cons

@[simp] theorem ssem_add (a b : List α) : (ssem L).app .add [.f a, .f b] =
    if a.length = b.length then some [.f (List.zipWith L.add a b)] else none := rfl
@[simp] theorem ssem_softmax (fl : Bool) (a : List α) :
    (ssem L).app (.softmax fl) [.f a] = some [.f (flushIf L fl (L.sm a))] := rfl
@[simp] theorem ssem_isnan (a : List α) : (ssem L).app .isnan [.f a] = some [.b (a.map L.isNan)] := rfl
@[simp] theorem ssem_whereZ (c : List Bool) (z : α) (y : List α) : (ssem L).app .whereZ [.b c, .f [z], .f y] =
    if c.length = y.length then some [.f (List.zipWith (fun (c : Bool) v => if c then z else v) c y)] else none := rfl
@[simp] theorem ssem_addsoftmax (fl : Bool) (a b : List α) : (ssem L).app (.addsoftmax fl) [.f a, .f b] =
    if a.length = b.length then some [.f (flushIf L fl (L.sm (List.zipWith L.add a b)))] else none := rfl

@[simp] theorem ssem_softmax_b (fl : Bool) (l : List Bool) : (ssem L).app (.softmax fl) [.b l] = none := rfl

theorem ssem_addsoftmax_eq (fl : Bool) (u v : SV α) :
    ((ssem L).app (.addsoftmax fl) [u, v]).bind only? =
      (((ssem L).app .add [u, v]).bind only?).bind fun r => ((ssem L).app (.softmax fl) [r]).bind only? := by
  cases u <;> cases v <;> try rfl
  simp only [ssem_add, ssem_addsoftmax]
  split <;> rfl

/-- value ids: 0 = x / qk, 4 = mask, 5 = the zero constant -/
def oSoftmax (fl : Bool) (i o : Nat) : Op SK := ⟨10, .softmax fl, [i], [], [o]⟩
def oIsNan : Op SK := ⟨11, .isnan, [1], [], [2]⟩
def oWhere : Op SK := ⟨12, .whereZ, [2, 5, 1], [], [3]⟩
def oAdd : Op SK := ⟨13, .add, [0, 4], [], [1]⟩
def oAddSoftmax (fl : Bool) : Op SK := ⟨14, .addsoftmax fl, [0, 4], [], [2]⟩

/-- **hsem, SafeSoftmaxFusion**. -/
theorem hsem_safe_softmax (L : Lane α) (E : Env (SV α)) (hz : E 5 = some (.f [L.zero])) (h1 : E 1 = none) (h2 : E 2 = none) :
    run (ssem L) [oSoftmax false 0 1, oIsNan, oWhere] E 3 = step (ssem L) E (oSoftmax true 0 3) 3 := by
  cases hx : E 0 with
  | none => simp [oSoftmax, oIsNan, oWhere, hx, h1, h2]
  | some xv =>
    cases xv with
    | b l => simp [oSoftmax, oIsNan, oWhere, hx, h1, h2]
    | f l =>
      -- `Where` zips `P` with its own NaN mask: a map over `P`
      simp [oSoftmax, oIsNan, oWhere, hx, hz, flushIf, L.sm_length,
        List.zipWith_map_left, List.zipWith_self]

/-- **hsem, AddSoftmaxFusion** — the fused operator carries the Softmax's own flag. -/
theorem hsem_add_softmax (L : Lane α) (fl : Bool) (E : Env (SV α)) (h1 : E 1 = none) :
    run (ssem L) [oAdd, oSoftmax fl 1 2] E 2 = step (ssem L) E (oAddSoftmax fl) 2 := by
  cases hq : E 0 with
  | none => simp [oAdd, oSoftmax, oAddSoftmax, hq, h1]
  | some qv =>
    cases hm : E 4 with
    | none => simp [oAdd, oSoftmax, oAddSoftmax, hq, hm, h1]
    | some mv =>
      simp [oAdd, oSoftmax, oAddSoftmax, hq, hm, h1, ssem_addsoftmax_eq, Option.bind_assoc]

/-! ## the flag is needed: `Option Int` scalars, `none` = NaN, `-1000` = −inf -/

def optLane : Lane (Option Int) :=
  { add := fun a b => match a, b with
      | some x, some y => if x = -1000 ∨ y = -1000 then some (-1000) else some (x + y)
      | _, _ => none,
    zero := some 0,
    isNan := Option.isNone,
    sm := fun l => if l.all (· == some (-1000)) then l.map (fun _ => none) else l,
    sm_length := by intro l; split <;> simp }

def envMasked : Env (SV (Option Int)) := fun i =>
  if i = 0 then some (.f [some 1, some 2]) else if i = 4 then some (.f [some (-1000), some (-1000)]) else none

/-- A fully masked lane: `Softmax{flush}(qk + mask)` is all zeros, `AddSoftmax{flush = false}` is all
NaN — dropping the flag in AddSoftmaxFusion (seed C01_c) changes NaN positions. -/
theorem add_softmax_flag_needed :
    run (ssem optLane) [oAdd, oSoftmax true 1 2] envMasked 2 = some (.f [some 0, some 0]) ∧
    step (ssem optLane) envMasked (oAddSoftmax false) 2 = some (.f [none, none]) ∧
    step (ssem optLane) envMasked (oAddSoftmax true) 2 = some (.f [some 0, some 0]) := by decide

end RtenVerif.Optimize.SoftmaxSem
