import RtenVerif.Props.C10On
import RtenVerif.Props.C10Bcast

/-!
# C10 — the functions the code runs: `binaryInfer` (value path with fallback to the `BinaryOp`
shape rule), `Neg`, `Identity`
-/
namespace RtenVerif.ShapeInfer

theorem czip_length {f : Int → Int → Option Int} {l r w : List Int} (h : czip f l r = some w) :
    cb l.length r.length = some (w.length : Int) := by
  unfold czip at h
  split at h
  · rw [mapO_length h]; exact cb_one_left _
  · rw [mapO_length h]; exact cb_one_right _
  · split at h
    · rename_i hlen
      rw [mapO_length h, List.length_zip, ← hlen, Nat.min_self]; exact cb_self _
    · cases h

theorem cbs_singleton (m n : Int) : cbs [m] [n] = (cb m n).map fun z => [z] := by
  simp only [cbs]
  cases cb m n <;> rfl

theorem cbroadcast_values {ca cb' : CT} {l r : List Int} (hl : ca.values = some l) (hr : cb'.values = some r)
    (hns : ∀ x y, ca = .scalar x → cb' = .scalar y → False) :
    cbroadcast ca.dims cb'.dims = (cb l.length r.length).map fun z => [z] := by
  cases ca <;> cases cb' <;> cases hl <;> cases hr
  · exact (hns _ _ rfl rfl).elim
  all_goals exact cbs_singleton _ _

theorem execBinary_dims (f : Int → Int → Option Int) (ca cb' cr : CT) (va vb : List Int)
    (hva : ca.values = some va) (hvb : cb'.values = some vb) (he : execBinary f ca cb' = some cr) :
    cbroadcast ca.dims cb'.dims = some cr.dims := by
  unfold execBinary at he
  split at he
  · simp only [Option.map_eq_some_iff] at he
    obtain ⟨_, _, rfl⟩ := he
    rfl
  · rename_i hns
    simp only [hva, hvb, Option.map_eq_some_iff] at he
    obtain ⟨w, hz, rfl⟩ := he
    rw [cbroadcast_values hva hvb hns, czip_length hz]
    rfl

theorem symBinary_values {op : Sym → Sym → Option Sym} {a b r : STn} (h : symBinary op a b = some r) :
    ∃ xs ys, a.values = some xs ∧ b.values = some ys := by
  unfold symBinary at h
  split at h
  · exact ⟨_, _, rfl, rfl⟩
  · split at h
    · exact ⟨_, _, ‹_›, ‹_›⟩
    · cases h

/-- **C10.T1-binaryInfer** — the function the real operators run (`binary_op_infer_shapes`): the
value path when `symbolic_binary_op` decides every element, otherwise the `BinaryOp` shape rule.
For operands whose inspected elements satisfy `S` (nothing for Add/Sub/Mul/Div, `good` for Equal),
the inferred tensor agrees with the executed one, where the execution is the valued reference if
both operands carry values and the broadcast shape otherwise. -/
theorem c10_binaryInfer_sound (σ : Env) (S) (op) (f) (h : OpHomOn σ S op f) (a b r : STn) (ca cb' cr : CT)
    (ha : Agrees σ a ca) (hb : Agrees σ b cb') (hSa : ElemsOn S a) (hSb : ElemsOn S b)
    (hi : binaryInfer op a b = .ok r) (he : execBinaryFull f ca cb' = some cr) : Agrees σ r cr := by
  unfold binaryInfer at hi
  split at hi
  · rename_i r' hs
    cases hi
    obtain ⟨xs, ys, hav, hbv⟩ := symBinary_values hs
    obtain ⟨va, hva, _⟩ := agrees_values σ a ca xs ha hav
    obtain ⟨vb, hvb, _⟩ := agrees_values σ b cb' ys hb hbv
    simp only [execBinaryFull, hva, hvb] at he
    exact c10_symBinary_soundOn σ S op f h a b r ca cb' cr ha hb hSa hSb hs he
  · have hi0 := hi
    unfold binaryShape at hi
    split at hi
    · rename_i ad bd had hbd
      simp only [Except.map] at hi
      split at hi <;> cases hi
      have hz : cbroadcast ca.dims cb'.dims = some cr.dims := by
        unfold execBinaryFull at he
        split at he
        · exact execBinary_dims f ca cb' cr _ _ ‹_› ‹_› he
        · simp only [Option.map_eq_some_iff] at he
          obtain ⟨zs, hz, rfl⟩ := he
          exact hz
      exact c10_binaryShape_sound σ a b ca cb' ad bd _ cr.dims ha hb had hbd hi0 hz
    · cases hi
      trivial

/-- **C10.T1-neg**. -/
theorem c10_neg_sound (σ : Env) (a : STn) (c : CT) (ha : Agrees σ a c) : Agrees σ (negInfer a) (cneg c) := by
  cases a with
  | scalar e =>
    obtain ⟨v, rfl, hv⟩ := ha
    exact ⟨-v, rfl, by simp [Sym.eval, hv]⟩
  | vector es =>
    obtain ⟨vs, rfl, hv⟩ := ha
    refine ⟨_, rfl, mapO_lift (ev' := Sym.eval σ) (k := fun v => some (-v)) (fun e _ n v b hn hv hb => ?_)
      (mapO_pure Sym.neg es) hv (mapO_pure _ vs)⟩
    cases hn; cases hb
    simp only [Sym.eval, hv, Option.map_some]
  | shape ds =>
    cases c <;> simpa [negInfer, cneg, Agrees, CT.dims] using ha
  | unknown => simp [negInfer, Agrees]

/-- **C10.T1-identity**. -/
theorem c10_identity_sound (σ : Env) (a : STn) (c : CT) (ha : Agrees σ a c) : Agrees σ (identityInfer a) c := ha

end RtenVerif.ShapeInfer
