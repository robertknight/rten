import RtenVerif.Props.C10Zip

/-! # C10 — shape-level `Transpose`, `Unsqueeze`, `Squeeze` and `ConstantOfShape` -/
namespace RtenVerif.ShapeInfer

theorem evalList_reverse (σ : Env) (es : List Sym) (vs : List Int)
    (h : evalList σ es = some vs) : evalList σ es.reverse = some vs.reverse := by
  rw [evalList_iff] at *
  rw [List.map_reverse, h, List.map_reverse]

theorem evalList_gets (σ : Env) (es : List Sym) (vs : List Int) (h : evalList σ es = some vs) :
    ∀ (p : List Nat) (out : List Sym), mapO (fun i => es[i]?) p = some out →
      ∃ w, mapO (fun i => vs[i]?) p = some w ∧ evalList σ out = some w
  | [], _, h1 => by cases h1; exact ⟨[], rfl, rfl⟩
  | i :: p, _, h1 => by
    obtain ⟨e, os, he, hr, rfl⟩ := mapO_cons_eq_some.mp h1
    obtain ⟨v, hv, hev⟩ := evalList_getElem σ es vs i e h he
    obtain ⟨w, hw, hew⟩ := evalList_gets σ es vs h p os hr
    exact ⟨v :: w, mapO_cons_eq_some.mpr ⟨v, w, hv, hw, rfl⟩, evalList_cons_intro σ e os v w hev hew⟩

/-- **C10.T1-transpose**. -/
theorem c10_transpose_sound (σ : Env) (perm : Option (List Nat)) (a : STn) (c : CT) (out : List Sym)
    (ha : Agrees σ a c) (hi : transposeInfer perm a = .ok (.shape out)) :
    ∃ zs, ctranspose perm c.dims = some zs ∧ Agrees σ (.shape out) (.shaped zs) := by
  unfold transposeInfer at hi
  split at hi
  · cases hi
  · rename_i ds hd
    have hev := dims_agree σ a c ds ha hd
    split at hi
    · cases hi
      exact ⟨_, rfl, evalList_reverse σ ds _ hev⟩
    · split at hi <;> cases hi
      exact evalList_gets σ ds _ hev _ _ ‹_›

theorem evalList_insertAt (σ : Env) : ∀ (k : Nat) (es : List Sym) (vs : List Int),
    evalList σ es = some vs → evalList σ (insertAt k (.val 1) es) = some (insertAt k 1 vs) := by
  intro k
  induction k with
  | zero => intro es vs h; exact evalList_cons_intro σ _ es 1 vs rfl h
  | succ k ih =>
    intro es vs h
    cases es with
    | nil => simp only [evalList, mapO] at h; cases h; rfl
    | cons e es =>
      obtain ⟨v, vs', he, hes, rfl⟩ := evalList_cons σ e es vs h
      simp only [insertAt]
      exact evalList_cons_intro σ e _ v _ he (ih es vs' hes)

theorem evalList_foldl_insert (σ : Env) : ∀ (axes : List Nat) (es : List Sym) (vs : List Int),
    evalList σ es = some vs →
    evalList σ (axes.foldl (fun d ax => insertAt ax (Sym.val 1) d) es) =
      some (axes.foldl (fun d ax => insertAt ax (1 : Int) d) vs) := by
  intro axes
  induction axes with
  | nil => intro es vs h; exact h
  | cons ax axes ih => intro es vs h; exact ih _ _ (evalList_insertAt σ ax es vs h)

/-- **C10.T1-unsqueeze (shape rule)**. -/
theorem c10_unsqueeze_shape_sound (σ : Env) (a : STn) (c : CT) (axes : List Int) (out : List Sym)
    (ha : Agrees σ a c) (hi : unsqueezeShape a axes = .ok (.shape out)) :
    ∃ zs, cunsqueeze c.dims axes = some zs ∧ Agrees σ (.shape out) (.shaped zs) := by
  unfold unsqueezeShape at hi
  split at hi
  · cases hi
  · rename_i ds hd
    have hev := dims_agree σ a c ds ha hd
    split at hi
    · cases hi
    · rename_i rs hm
      split at hi <;> cases hi
      exact ⟨_, by simp only [cunsqueeze, ← evalList_length σ ds _ hev, hm, Option.map_some],
        evalList_foldl_insert σ _ ds _ hev⟩

theorem evalList_removeIdx (σ : Env) (rm : List Nat) : ∀ (es : List Sym) (vs : List Int) (i : Nat),
    evalList σ es = some vs → evalList σ (removeIdx rm i es) = some (removeIdx rm i vs) := by
  intro es
  induction es with
  | nil => intro vs i h; simp only [evalList, mapO] at h; cases h; rfl
  | cons e es ih =>
    intro vs i h
    obtain ⟨v, vs', he, hes, rfl⟩ := evalList_cons σ e es vs h
    simp only [removeIdx]
    by_cases hc : rm.contains i = true
    · simp only [hc, if_true]; exact ih vs' (i + 1) hes
    · simp only [hc, Bool.false_eq_true, if_false]
      exact evalList_cons_intro σ e _ v _ he (ih vs' (i + 1) hes)

/-- **C10.T1-squeeze (shape rule, constant axes)**. -/
theorem c10_squeeze_shape_sound (σ : Env) (a : STn) (c : CT) (axes : List Int) (out : List Sym)
    (ha : Agrees σ a c) (hi : squeezeShape a axes = .ok (.shape out)) :
    ∃ zs, csqueeze c.dims axes = some zs ∧ Agrees σ (.shape out) (.shaped zs) := by
  unfold squeezeShape at hi
  split at hi
  · cases hi
  · rename_i ds hd
    have hev := dims_agree σ a c ds ha hd
    split at hi <;> cases hi
    rename_i rs hm
    exact ⟨_, by simp only [csqueeze, ← evalList_length σ ds _ hev, hm, Option.map_some],
      evalList_removeIdx σ rs ds _ 0 hev⟩

/-- **C10.T1-constantofshape** (valued shape input). -/
theorem c10_constantOfShape_sound (σ : Env) (value : Option Int) (shape : List Sym) (vs : List Int) (r : STn) (cr : CT)
    (hs : evalList σ shape = some vs) (hi : constantOfShapeInfer value shape = .ok r)
    (he : cconstantOfShape value vs = some cr) : Agrees σ r cr := by
  unfold constantOfShapeInfer at hi
  split at hi
  · cases hi; cases hs; cases he
    exact ⟨_, rfl, rfl⟩
  · obtain ⟨_, _, hn, hnil, rfl⟩ := evalList_cons σ _ [] vs hs
    cases hnil; cases hn
    simp only [cconstantOfShape] at he
    split at hi <;> cases hi
    rw [if_pos ‹_›] at he; cases he
    exact ⟨_, rfl, evalList_replicate_val σ _ _⟩
  · cases hi
    obtain ⟨n, _, hen, hnil, rfl⟩ := evalList_cons σ _ [] vs hs
    cases hnil
    simp only [cconstantOfShape] at he
    split at he <;> cases he
    simp [Agrees, CT.dims, evalList, mapO, hen, Int.toNat_of_nonneg ‹_›]
  · cases hi
    have hlen := evalList_length σ shape vs hs
    unfold cconstantOfShape at he
    split at he
    · rename_i h _ _; exact (h _ rfl (List.eq_nil_of_length_eq_zero hlen)).elim
    · rename_i h; obtain ⟨e, rfl⟩ := List.length_eq_one_iff.mp hlen; exact (h _ e rfl rfl).elim
    · cases he; exact hs

end RtenVerif.ShapeInfer
