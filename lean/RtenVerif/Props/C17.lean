import RtenVerif.Lemmas.QuantGemm
import RtenVerif.Lemmas.ListBasics

/-!
# C17 — Quantized integer kernels are exact

Property theorems over `RtenVerif.Model.QuantGemm` (model of the `u8 × i8 → i32` GEMM in
`rten-gemm`: `packing/int8.rs`, `kernels/simd_generic.rs::simd_int8_gemm(+_epilogue)`,
`kernels/x86_64.rs::dot_product`, `kernels/generic.rs`, depth blocking of `lib.rs::gemm_impl`).

Level: proof of the algebra / *partial*: the semantics of the SIMD instructions (`vpmaddubsw`,
`vpmaddwd`, `vpdpbusd`, lane-wise wrapping i32 arithmetic) is *assumed* as modelled by
`pairSum`/`dot4`/`wrap32`; it is tied to the hardware of this host only by the exact differential
run (`harness/rten/src/bin/c17.rs`).
-/
namespace RtenVerif.QuantGemm

/-- **C17.T1a** The zero-point identity the kernels rely on, for vectors of any length and any
zero points: `Σ_k (a_k − za)(b_k − zb) = Σ a·b − za·colsum − zb·rowsum + K·za·zb`. -/
theorem c17_zero_point_identity (za zb : Int) (a b : List Int) (h : a.length = b.length) :
    dotZ za zb a b = dot a b - za * sum b - zb * sum a + (a.length : Int) * za * zb :=
  dotZ_eq_factored za zb a b h

/-- **C17.T1b** Kernels that cannot saturate (`sat = false`: VNNI / exact dot product): the value
computed from packed 4-wide tiles with zero padding, row/column sums and the epilogue corrections,
accumulated over depth blocks of any size `kc > 0`, is exactly `Σ_k (a_k − za)(b_k − zb)` —
for all K, all values and all zero points. -/
theorem c17_simd_entry_exact (kc : Nat) (hkc : 0 < kc) (za zb : Int) (a b : List Int)
    (h : a.length = b.length) :
    entrySimd false kc za zb a b = dotZ za zb a b :=
  entrySimd_exact hkc za zb a b (.of_not_sat rfl h)

example : entrySimd false 4 200 (-100) [255, 0, 17, 3, 99, 250, 1] [-128, 127, 5, -7, 0, 64, -65] =
    dotZ 200 (-100) [255, 0, 17, 3, 99, 250, 1] [-128, 127, 5, -7, 0, 64, -65] := by decide

/-- **C17.T3a** Saturating kernels (`vpmaddubsw` path, `may_saturate() = true`) are exact whenever
the RHS lies in the documented reduced range `[−64, 63]` (`ReducedRangeRng`), for every `u8` LHS,
every K, every zero point. -/
theorem c17_saturating_exact_reduced_b (kc : Nat) (hkc : 0 < kc) (za zb : Int) (a b : List Int)
    (h : a.length = b.length) (ha : AllIn 0 255 a) (hb : AllIn (-64) 63 b) :
    entrySimd true kc za zb a b = dotZ za zb a b :=
  entrySimd_exact hkc za zb a b (.of_noSat noSat_reduced_b h ha hb)

/-- **C17.T3b** … and whenever the LHS lies in the documented reduced range `[0, 127]`, for every
`i8` RHS. -/
theorem c17_saturating_exact_reduced_a (kc : Nat) (hkc : 0 < kc) (za zb : Int) (a b : List Int)
    (h : a.length = b.length) (ha : AllIn 0 127 a) (hb : AllIn (-128) 127 b) :
    entrySimd true kc za zb a b = dotZ za zb a b :=
  entrySimd_exact hkc za zb a b (.of_noSat noSat_reduced_a h ha hb)

/-- Non-vacuity of the range hypotheses (extreme values of both ranges, K not a multiple of 4). -/
example : AllIn 0 255 [255, 255, 0, 255, 255] ∧ AllIn (-64) 63 [-64, -64, 63, 63, -64] := by
  constructor <;> intro x hx <;> simp at hx <;> omega

example : entrySimd true 4 7 (-3) [255, 255, 0, 255, 255] [-64, -64, 63, 63, -64] =
    dotZ 7 (-3) [255, 255, 0, 255, 255] [-64, -64, 63, 63, -64] := by decide

/-- **C17.T3c** The guard is needed: outside the reduced range the saturating path is wrong.
`255·127 + 255·127 = 64770` saturates to `32767`; `255·(−128)·2 = −65280` to `−32768`. -/
theorem c17_saturation_witness :
    pairSum true 255 127 255 127 = 32767 ∧ pairSum false 255 127 255 127 = 64770 ∧
    pairSum true 255 (-128) 255 (-128) = -32768 ∧
    entrySimd true 1024 0 0 [255, 255] [127, 127] ≠ dotZ 0 0 [255, 255] [127, 127] := by decide

/-- **C17.T3d** Exact characterisation of the safe RHS range for a full-range `u8` LHS: a constant
RHS value `b` never saturates iff `−64 ≤ b ≤ 64` (the documented `[−64, 63]` is inside it; `65` and
`−65` already saturate). -/
theorem c17_safe_rhs_range (b : Int) :
    (∀ a a' : Int, 0 ≤ a ∧ a ≤ 255 → 0 ≤ a' ∧ a' ≤ 255 →
        pairSum true a b a' b = pairSum false a b a' b) ↔ (-64 ≤ b ∧ b ≤ 64) := by
  constructor
  · intro h
    have h255 := h 255 255 (by omega) (by omega)
    simp only [pairSum, if_true, Bool.false_eq_true, if_false, sat16] at h255
    split at h255
    · omega
    · split at h255 <;> omega
  · intro hb a a' ha ha'
    exact pairSum_sat_eq (A := 255) (lo := -64) (hi := 64) (by constructor <;> decide) ha ha' hb hb

/-- **C17.T2** No i32 overflow: for `u8` values/zero points on the left and `i8` on the right the
exact result is bounded by `65025·K`, hence representable in `i32` whenever `K ≤ 33025`; wrapping
32-bit evaluation (in any order, see `wrap32_add/sub/mul`) then returns exactly that value. -/
theorem c17_no_i32_overflow (za zb : Int) (hza : 0 ≤ za ∧ za ≤ 255) (hzb : -128 ≤ zb ∧ zb ≤ 127)
    (a b : List Int) (ha : AllIn 0 255 a) (hb : AllIn (-128) 127 b) (hk : a.length ≤ 33025) :
    wrap32 (dotZ za zb a b) = dotZ za zb a b := by
  -- `|a − za| ≤ 255` and `|b − zb| ≤ 255`
  have hbd := dotZ_bound (za := za) (zb := zb) (Ma := 255) (Mb := 255) a b
    (fun x hx => by have := ha x hx; omega) (fun y hy => by have := hb y hy; omega)
  apply wrap32_id <;> omega

/-- `wrap32` is a ring homomorphism onto 32-bit two's complement: every i32 expression the kernels
evaluate with wrapping `+ − ·` equals `wrap32` of its ideal value, whatever the order. -/
theorem c17_wrap32_hom (x y : Int) :
    wrap32 (wrap32 x + wrap32 y) = wrap32 (x + y) ∧ wrap32 (wrap32 x - wrap32 y) = wrap32 (x - y) ∧
    wrap32 (wrap32 x * wrap32 y) = wrap32 (x * y) :=
  ⟨wrap32_add x y, wrap32_sub x y, wrap32_mul x y⟩

theorem dotZ_replicate (za zb x y : Int) : ∀ n : Nat,
    dotZ za zb (List.replicate n x) (List.replicate n y) = (n : Int) * ((x - za) * (y - zb))
  | 0 => by simp [dotZ]
  | n + 1 => by
    simp only [List.replicate_succ, dotZ, dotZ_replicate za zb x y n]
    grind

/-- The bound of T2 is tight: with K = 33026, `a = 255`, `za = 0`, `b = −128`, `zb = 127` the exact
value `−2147515650` does not fit in `i32`. -/
theorem c17_k_bound_tight :
    dotZ 0 127 (List.replicate 33026 255) (List.replicate 33026 (-128)) < -2147483648 ∧
    -2147483648 ≤ dotZ 0 127 (List.replicate 33025 255) (List.replicate 33025 (-128)) := by
  rw [dotZ_replicate, dotZ_replicate]
  decide

/-- **C17.G1** Vector-matrix (`gemv`) path, kernels that cannot saturate: for every K-tile size that
is routed through the dot-product instruction (`tile`: 4, one SIMD vector, or 0 = scalar), every
chunk size `kc > 0`, all values and zero points, the accumulated chunk results equal
`Σ_k (a_k − za)(b_k − zb)`. -/
theorem c17_gemv_entry_exact (tile kc : Nat) (hkc : 0 < kc) (za zb : Int) (a b : List Int)
    (h : a.length = b.length) : entryGemv false tile kc za zb a b = dotZ za zb a b :=
  entryGemv_exact hkc tile za zb a b (.of_not_sat rfl h)

/-- **C17.G2** gemv on the saturating (`vpmaddubsw`) kernels is exact in the documented reduced
ranges (RHS in `[−64,63]`, or LHS in `[0,127]`), whatever mix of SIMD and scalar steps is used. -/
theorem c17_gemv_saturating_exact_reduced (tile kc : Nat) (hkc : 0 < kc) (za zb : Int)
    (a b : List Int) (h : a.length = b.length)
    (hr : (AllIn 0 255 a ∧ AllIn (-64) 63 b) ∨ (AllIn 0 127 a ∧ AllIn (-128) 127 b)) :
    entryGemv true tile kc za zb a b = dotZ za zb a b := by
  rcases hr with ⟨ha, hb⟩ | ⟨ha, hb⟩
  · exact entryGemv_exact hkc tile za zb a b (.of_noSat noSat_reduced_b h ha hb)
  · exact entryGemv_exact hkc tile za zb a b (.of_noSat noSat_reduced_a h ha hb)

/-- **C17.G3** Outside the reduced range the gemv path of a saturating kernel is *not* exact, and
which elements saturate depends on the path: with K = 6 and all products `255·127`, the column-wise
SIMD path (`tile = 4`) saturates the first four elements only (the K tail is scalar), the scalar
columns (`tile = 0`) are exact.  (The harness compares exactly these values on AVX2 and on
AVX-512 without VNNI.) -/
theorem c17_gemv_saturation_witness :
    entryGemv true 4 8 0 0 [255, 255, 255, 255, 255, 255] [127, 127, 127, 127, 127, 127] =
      32767 + 32767 + 2 * (255 * 127) ∧
    entryGemv true 0 8 0 0 [255, 255, 255, 255, 255, 255] [127, 127, 127, 127, 127, 127] =
      6 * (255 * 127) ∧
    gemvTile .unitColStride 32 128 40 31 = 4 ∧ gemvTile .unitColStride 32 128 40 32 = 0 ∧
    gemvTile .unitRowStride 64 128 40 39 = 64 ∧ gemvTile .general 32 128 40 0 = 0 := by decide

theorem colOf_length (n : Nat) : ∀ (k : Nat) (b : List Int) (j : Nat), (colOf n k b j).length = k
  | 0, _, _ => rfl
  | k + 1, b, j => by simp [colOf, colOf_length n k]

theorem rowOf_length (k : Nat) (a : List Int) (i : Nat) (h : (i + 1) * k ≤ a.length) :
    (rowOf k a i).length = k := by
  unfold rowOf
  simp only [List.length_take, List.length_drop]
  have : (i + 1) * k = i * k + k := by rw [Nat.add_mul, Nat.one_mul]
  omega

theorem effZero_eq (z : Option (List Int)) (i : Nat) :
    effZero z i = (z.map (·.getD i 0)).getD 0 := by
  unfold effZero; cases z <;> simp

theorem getD_allIn (lo hi : Int) (h0 : lo ≤ 0 ∧ 0 ≤ hi) (b : List Int) (hb : AllIn lo hi b)
    (j : Nat) : lo ≤ b.getD j 0 ∧ b.getD j 0 ≤ hi := by
  rw [List.getD_eq_getElem?_getD]
  cases h : b[j]? with
  | none => simpa using h0
  | some v => simpa using hb v (List.mem_of_getElem? h)

theorem zeroPoint_allIn (lo hi : Int) (h0 : lo ≤ 0 ∧ 0 ≤ hi) (z : Option (List Int))
    (hz : ∀ l, z = some l → AllIn lo hi l) (i : Nat) :
    lo ≤ (z.map (·.getD i 0)).getD 0 ∧ (z.map (·.getD i 0)).getD 0 ≤ hi := by
  cases z with
  | none => exact h0
  | some l => exact getD_allIn lo hi h0 l (hz l rfl) i

theorem colOf_allIn (lo hi : Int) (h0 : lo ≤ 0 ∧ 0 ≤ hi) (n j : Nat) :
    ∀ (k : Nat) (b : List Int), AllIn lo hi b → AllIn lo hi (colOf n k b j) := by
  intro k
  induction k with
  | zero => intro b _ x hx; simp [colOf] at hx
  | succ k ih =>
    intro b hb x hx
    simp only [colOf, List.mem_cons] at hx
    rcases hx with rfl | hx
    · exact getD_allIn lo hi h0 b hb j
    · exact ih (b.drop n) (hb.drop _) x hx

theorem Request.WF.row_col_length {r : Request} (hwf : r.WF) {i : Nat} (hi : i < r.m) (j : Nat) :
    (rowOf r.k r.a i).length = r.k ∧ (colOf r.n r.k r.b j).length = r.k :=
  ⟨rowOf_length r.k r.a i (by rw [hwf.a_len]; exact Nat.mul_le_mul_right _ hi), colOf_length ..⟩

theorem entry_simd_exact (r : Request) (i j : Nat) (hk : r.kern = .simd) (hkc : 0 < r.kc)
    (h : Exact r.sat (rowOf r.k r.a i) (colOf r.n r.k r.b j)) :
    entry r i j =
      wrap32 (dotZ ((r.za.map (·.getD i 0)).getD 0) ((r.zb.map (·.getD j 0)).getD 0)
        (rowOf r.k r.a i) (colOf r.n r.k r.b j) +
        (r.c0.map (·.getD (i * r.n + j) 0)).getD 0) := by
  unfold entry
  simp only [hk, effZero_eq]
  congr 2
  · split
    · exact entryGemv_exact hkc _ _ _ _ _ h
    · exact entrySimd_exact hkc _ _ _ _ h
  · cases r.c0 <;> rfl

/-- **C17.T1c** Every output element the model computes for a SIMD kernel that cannot saturate,
on a well-formed request (`Request.WF`: every tensor has the announced size, so no `getD` default is
ever taken; `i < m`, `j < n`; packed GEMM path or gemv path), equals
`wrap32 (Σ_k (a_ik − za_i)(b_kj − zb_j) + c0_ij)` — whether or not A and/or B are prepacked
(`r.preA`, `r.preB` are unconstrained).  Before the fix of
`findings/C17.json` (`C17-prepacked-*-zero-points-ignored`) this needed the extra hypothesis
"nothing is prepacked": see `c17_prepacked_zero_points_were_ignored`. -/
theorem c17_gemm_entry_exact (r : Request) (i j : Nat) (hwf : r.WF) (hi : i < r.m) (_hj : j < r.n)
    (hk : r.kern = .simd) (hsat : r.sat = false) (hkc : 0 < r.kc) :
    entry r i j =
      wrap32 (dotZ ((r.za.map (·.getD i 0)).getD 0) ((r.zb.map (·.getD j 0)).getD 0)
        (rowOf r.k r.a i) (colOf r.n r.k r.b j) +
        (r.c0.map (·.getD (i * r.n + j) 0)).getD 0) :=
  have hl := hwf.row_col_length hi j
  entry_simd_exact r i j hk hkc (.of_not_sat hsat (hl.1.trans hl.2.symm))

/-- Same statement for the saturating kernels under the documented reduced RHS range. -/
theorem c17_gemm_entry_exact_saturating (r : Request) (i j : Nat) (hwf : r.WF) (hi : i < r.m)
    (_hj : j < r.n) (hk : r.kern = .simd) (hkc : 0 < r.kc)
    (ha : AllIn 0 255 r.a) (hb : AllIn (-64) 63 r.b) :
    entry r i j =
      wrap32 (dotZ ((r.za.map (·.getD i 0)).getD 0) ((r.zb.map (·.getD j 0)).getD 0)
        (rowOf r.k r.a i) (colOf r.n r.k r.b j) +
        (r.c0.map (·.getD (i * r.n + j) 0)).getD 0) :=
  have hl := hwf.row_col_length hi j
  entry_simd_exact r i j hk hkc (.of_noSat noSat_reduced_b (hl.1.trans hl.2.symm)
    ((ha.drop _).take _) (colOf_allIn (-64) 63 (by omega) r.n j r.k r.b hb))

def exampleRequest : Request :=
  { kern := .simd, sat := false, kc := 1024, gemv := false, bKind := .unitColStride, lanes := 32,
    cb := 128, preA := false, preB := false, m := 2, n := 2, k := 5,
    za := some [3, 250], zb := some [-128, 127], c0 := none,
    a := [255, 0, 1, 254, 128, 0, 255, 127, 2, 200],
    b := [-128, 127, 0, -1, 1, 64, -65, 63, -64, 5] }

/-- Non-vacuity of `c17_gemm_entry_exact`: `exampleRequest` is a SIMD request that cannot saturate,
with `kc > 0` (that it is well formed is in the example after `gemmChecked_ok`). -/
example : exampleRequest.kern = .simd ∧ exampleRequest.sat = false ∧ 0 < exampleRequest.kc ∧
    (1 + 1) * exampleRequest.k ≤ exampleRequest.a.length ∧
    gemm exampleRequest = [23171, -30804, -34051, 29081] := by decide

/-- **C17.T2 composed with T1c** (no `wrap32`, no defaulting): for a *well-formed* request
(`Request.WF`: every tensor has the announced size, so no `getD` default is ever taken), indices in
range, `u8`/`i8` values and zero points, `K ≤ 33025`, `beta = 0` (`r.c0 = none`) and a kernel that
cannot saturate, the value the model computes is exactly `Σ_k (a_ik − za_i)(b_kj − zb_j)` — packed
GEMM path or gemv path, prepacked or not. -/
theorem c17_gemm_entry_no_overflow (r : Request) (i j : Nat) (hwf : r.WF) (hi : i < r.m)
    (_hj : j < r.n) (hk : r.kern = .simd) (hsat : r.sat = false) (hkc : 0 < r.kc)
    (ha : AllIn 0 255 r.a) (hb : AllIn (-128) 127 r.b)
    (hza : ∀ l, r.za = some l → AllIn 0 255 l) (hzb : ∀ l, r.zb = some l → AllIn (-128) 127 l)
    (hK : r.k ≤ 33025) (hc0 : r.c0 = none) :
    entry r i j = dotZ ((r.za.map (·.getD i 0)).getD 0) ((r.zb.map (·.getD j 0)).getD 0)
      (rowOf r.k r.a i) (colOf r.n r.k r.b j) := by
  rw [c17_gemm_entry_exact r i j hwf hi _hj hk hsat hkc, hc0]
  simp only [Option.map_none, Option.getD_none, Int.add_zero]
  exact c17_no_i32_overflow _ _ (zeroPoint_allIn 0 255 (by omega) r.za hza i)
    (zeroPoint_allIn (-128) 127 (by omega) r.zb hzb j) _ _ ((ha.drop _).take _)
    (colOf_allIn (-128) 127 (by omega) r.n j r.k r.b hb) (by rw [(hwf.row_col_length hi j).1]; exact hK)

/-- `gemmChecked` never defaults: an `.ok` answer implies the request is well formed, the output
buffer has `m·n` elements, and the answer is `gemm r`. -/
theorem gemmChecked_ok (r : Request) (o : Nat) (l : List Int) (h : gemmChecked r o = .ok l) :
    r.WF ∧ o = r.m * r.n ∧ l = gemm r := by
  rw [gemmChecked, ite_error_eq_ok] at h
  obtain ⟨hab, h⟩ := h
  cases hargs : checkGemmArgs r.m r.k r.k r.n (r.za.map (·.length)) (r.zb.map (·.length)) o with
  | error e => rw [hargs] at h; cases h
  | ok u =>
    rw [hargs] at h
    -- every test of `gemmChecked` / `checkGemmArgs` passed
    simp only [checkGemmArgs, ite_error_eq_ok, bne_iff_ne, ne_eq, Decidable.not_not,
      Bool.not_eq_true, Option.any_eq_false, Option.map_eq_some_iff, bne_eq_false_iff_eq,
      forall_exists_index, and_imp, forall_apply_eq_imp_iff₂, Bool.or_eq_true, not_or,
      Except.ok.injEq] at h hargs hab
    exact ⟨⟨hab.1, hab.2, hargs.2.1, hargs.2.2.1, h.1⟩, hargs.2.2.2.1, h.2.symm⟩

def errOf {α : Type} : Except GemmErr α → Option GemmErr
  | .error e => some e
  | .ok _ => none

/-- Non-vacuity of `gemmChecked_ok` (`exampleRequest` is accepted, hence well formed), and three of
the rejections. -/
example : exampleRequest.a.length = exampleRequest.m * exampleRequest.k ∧
    exampleRequest.b.length = exampleRequest.k * exampleRequest.n ∧
    (gemmChecked exampleRequest 4).toOption = some [23171, -30804, -34051, 29081] ∧
    errOf (gemmChecked exampleRequest 5) = some .outputSizeMismatch ∧
    errOf (checkGemmArgs 2 5 4 2 none none 4) = some .kSizeMismatch ∧
    errOf (checkGemmArgs 2 5 5 2 (some 3) none 4) = some .wrongQuantParamSize := by decide

def prepackedRequest : Request :=
  { kern := .simd, sat := false, kc := 1024, gemv := false, bKind := .unitColStride, lanes := 32,
    cb := 128, preA := false, preB := true, m := 1, n := 1, k := 1,
    za := some [0], zb := some [47], c0 := none, a := [127], b := [0] }

/-- **Finding (fixed, `findings/C17.json`: `C17-prepacked-*-zero-points-ignored`)** Before the
fix the SIMD kernels read zero points only from the panel metadata (`effZeroOld`), and
`prepack_a`/`prepack_b` pack with `quant = None`, so zero points passed to `gemm` together with a
prepacked operand were silently ignored.  Witness reproduced on the real AVX2/AVX-512 kernels of
the unchanged tree: `a = [127]`, `b = [0]`, `zb = [47]`, B prepacked → `0`, exact value `−5969`.
With the fixed code (`effZero`) the same request is exact. -/
theorem c17_prepacked_zero_points_were_ignored :
    dotZ 0 (effZeroOld .simd prepackedRequest.preB prepackedRequest.zb 0) [127] [0] = 0 ∧
    dotZ 0 47 [127] [0] = -5969 ∧ entry prepackedRequest 0 0 = -5969 := by decide

/-- **Finding (fixed, `findings/C17.json`)** before the fix every *full* panel stored the zero
points of panel 0 (`zp[r]`), e.g. row 6 of an `MR = 6` kernel got the zero point of row 0. -/
example : panelZeroPointIdxOld 6 1 0 = 0 ∧ panelZeroPointIdx 6 1 0 = 6 := by decide

end RtenVerif.QuantGemm
