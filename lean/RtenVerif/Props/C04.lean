import RtenVerif.Lemmas.PartialRunCompose
import RtenVerif.Generated.NondetOps

/-!
# C04 — Partial evaluation composes with full evaluation

*For any model, any subset of its inputs, and any requested outputs, feeding the values
returned by `partial_run` (given that subset) together with the remaining inputs to `run`
yields the same outputs as a single run with all inputs.  Operators whose results vary
between runs (random generators) are never evaluated by partial evaluation or folded into
constants.*

Theorems over `RtenVerif.Model.PartialRun` (model of `Graph::partial_run`,
`Planner::prune_plan`, `Graph::run`/`run_plan`), the planner model of C03 and the graph IR.
-/
namespace RtenVerif.PartialRun
open RtenVerif.Graph RtenVerif.Planner

/-- **C04.T3** Whatever the graph and the request, the operator list `partial_run` hands to
the executor (`pruned_plan`) contains only operators of the plan whose `is_deterministic()`
flag is set: no non-deterministic operator is evaluated by partial evaluation. -/
theorem c04_no_nondeterministic_evaluated {g : Graph} {ins outs kept leaves : List Nat}
    (h : partialPlan g ins outs = .ok (kept, leaves)) :
    ∀ k ∈ kept, ∃ op, getOp g k = some op ∧ op.deterministic = true := by
  obtain ⟨plan, _, rfl, _⟩ := partialPlan_ok h
  exact (pruneFold_inv g plan ins).det

/-- **C04.T3 at every nesting depth** `If`/`Loop` own subgraphs; the IR's `deterministic` flag
of an operator is the *deep* flag `DTree.deep` of its tree of own flags (hypothesis `DeepFlags`,
which is what the code's recursive `is_deterministic` computes after commit "fix: If and Loop are
deterministic only if every operator in their subgraphs is", and what the harness ties: the
driver computes the flag from the own flags with `DTree.deep`).  Then for every operator
`partial_run` executes, neither it nor any operator at any nesting depth inside its subgraphs
(`(tree k).nodes`) is flagged non-deterministic.  Before that commit the statement was false
of the code: `If(true){RandomUniform}` was evaluated and folded (finding C04-if-random). -/
theorem c04_no_nondeterministic_evaluated_deep {g : Graph} {tree : Nat → DTree}
    (hf : DeepFlags g tree) {ins outs kept leaves : List Nat}
    (h : partialPlan g ins outs = .ok (kept, leaves)) :
    ∀ k ∈ kept, ∀ t' ∈ (tree k).nodes, t'.own = true := by
  intro k hk
  obtain ⟨op, hop, hdet⟩ := c04_no_nondeterministic_evaluated h k hk
  rw [hf k op hop] at hdet
  exact (deep_iff _).mp hdet

/-- Graph-level non-vacuity of the deep theorem with a *non-flat* tree.  Operator 2 is
`If(0){then: [Loop{[Identity, inner]}], else: [Identity]}` producing value 1; the IR flag of
operator 2 is `DTree.deep` of that tree.  With `inner = RandomUniform` (own flag false, two
levels down) the flag is false, the operator is pruned and `partial_run([], [1])` returns
nothing; with `inner = Neg` it is kept, value 1 is returned, and the deep theorem says every
own flag in the tree — at depth 0, 1 and 2 — is set. -/
def nestedTree (inner : Bool) : DTree :=
  .node true [[.node true [[.node true [], .node inner []]]], [.node true []]]

def nestedGraph (inner : Bool) : Graph :=
  { nodes := [.constant, .value,
      .operator { inputs := [some 0], outputs := [some 1],
                  deterministic := (nestedTree inner).deep }] }

def nestedTrees (inner : Bool) : Nat → DTree := fun p =>
  if p = 2 then nestedTree inner else .node true []

example : DeepFlags (nestedGraph false) (nestedTrees false) := deepFlags_of_check (by decide +kernel)
example : DeepFlags (nestedGraph true) (nestedTrees true) := deepFlags_of_check (by decide +kernel)
example : partialPlan (nestedGraph false) [] [1] = .ok ([], []) := by decide +kernel
example : partialPlan (nestedGraph true) [] [1] = .ok ([2], [1]) := by decide +kernel
example : ∀ t' ∈ (nestedTrees true 2).nodes, t'.own = true :=
  c04_no_nondeterministic_evaluated_deep (deepFlags_of_check (by decide +kernel))
    (show partialPlan (nestedGraph true) [] [1] = .ok ([2], [1]) by decide +kernel) 2 (by decide +kernel)
example : (nestedTrees true 2).nodes.length = 5 := by decide +kernel

/-- The deep flag is exactly "no operator at any depth is flagged non-deterministic". -/
theorem c04_deep_flag_iff (t : DTree) : t.deep = true ↔ ∀ t' ∈ t.nodes, t'.own = true :=
  deep_iff t

/-- Non-vacuity: `RandomUniform`-like operator 3 (no inputs, non-deterministic) feeds the
deterministic operator 4 together with the supplied value 0; both are pruned, nothing is kept
and the only leaf is the supplied value. -/
def randGraph : Graph :=
  { nodes := [.value, .value, .value,
      .operator { inputs := [], outputs := [some 1], deterministic := false },
      .operator { inputs := [some 0, some 1], outputs := [some 2] }] }

example : partialPlan randGraph [0] [2] = .ok ([], [0]) := by decide +kernel
example : partialPlan randGraph [0] [1, 2] = .ok ([], [0]) := by decide +kernel

/-- **C04.T4a** Every id returned by `partial_run` is `Computable` from the supplied ids:
a supplied id, a constant, or an output of a deterministic operator all of whose
dependencies are computable.  Hence no returned value transitively depends on a missing
input or on a non-deterministic operator. -/
theorem c04_leaves_computable {g : Graph} {ins outs kept leaves : List Nat}
    (h : partialPlan g ins outs = .ok (kept, leaves)) :
    ∀ v ∈ leaves, Computable g ins v := by
  obtain ⟨plan, _, _, rfl⟩ := partialPlan_ok h
  intro v hv
  have inv := pruneFold_inv g plan ins
  exact inv.computable v ((inv.cand v).mp (mem_newOutputs.mp hv).1)

/-- **C04.T3 (constant propagation)** `GraphOptimizer::propagate_constants` replaces exactly
the leaves of `partial_run(vec![], graph.output_ids())` by constants; each of them is computable
from constants alone through deterministic operators, so no output of a non-deterministic
operator (nor anything depending on one) is ever folded. -/
theorem c04_folded_constants_deterministic {g : Graph} {kept leaves : List Nat}
    (h : partialPlan g [] g.outputIds = .ok (kept, leaves)) :
    ∀ v ∈ leaves, Computable g [] v :=
  c04_leaves_computable h

theorem computable_source_det {g : Graph} {S : List Nat} {v : Nat} (hu : UniqueProducer g)
    (h : Computable g S v) (hs : v ∉ S) (hc : isConstant g v = false) :
    ∃ p op, getSource g v = some (p, op) ∧ op.deterministic = true ∧
      ∀ d ∈ opDeps g op, Computable g S d := by
  cases h with
  | supplied h => exact absurd h hs
  | const h => rw [h] at hc; cases hc
  | @op _ p op hop hdet _ hdeps hv => exact ⟨p, op, getSource_of_output hu hop hv, hdet, hdeps⟩

/-- **C04.T4b** (stated at the position of the pruned operator in the plan) if operator `b`
of the plan is pruned when the loop of `prune_plan` reaches it, each of its dependencies that
is resolved at that moment and is not a constant is among the returned ids. -/
theorem c04_pruned_inputs_returned {g : Graph} {pre post ins outs : List Nat} {b d : Nat}
    {op : OpNode} (hop : getOp g b = some op)
    (hp : prunedAt g (pruneFold g pre ins).resolved op = true)
    (hd : d ∈ opDeps g op) (hr : rContains g (pruneFold g pre ins).resolved d = true)
    (hc : isConstant g d = false) :
    d ∈ (prunePlan g (pre ++ b :: post) ins outs).2 :=
  pruned_input_returned hop hp hd hr hc

/-- **C04.T4b** On a graph with unique producers, every dependency of a pruned operator of the
plan that is computable from the supplied values (and is not a constant) is among the returned
ids — so the caller holds everything the pruned part of the plan needs from the evaluated part. -/
theorem c04_pruned_inputs_returned_computable {g : Graph} {ins outs plan kept leaves : List Nat}
    {b d : Nat} {op : OpNode} (hu : UniqueProducer g)
    (hc : createPlan g ins outs partialOpts = .ok plan)
    (h : partialPlan g ins outs = .ok (kept, leaves))
    (hb : b ∈ plan) (hnk : b ∉ kept) (hop : getOp g b = some op) (hd : d ∈ opDeps g op)
    (hcomp : Computable g ins d) (hconst : isConstant g d = false) : d ∈ leaves := by
  obtain ⟨plan', hc', rfl, rfl⟩ := partialPlan_ok h
  cases Except.ok.inj (hc.symm.trans hc')
  obtain ⟨pre, post, rfl⟩ := List.append_of_mem hb
  have hp : prunedAt g (pruneFold g pre ins).resolved op = true :=
    eq_true_of_ne_false fun hp => hnk (kept_at_step hop hp).1
  exact pruned_input_returned hop hp hd
    (computable_resolved_at hu (planOK_of_partial hc) rfl hop hd hcomp) hconst

/-- Non-vacuity of T4: value 3 = op5(0) is computable from the supplied 0; operator 6 needs
3 and the missing input 1, so it is pruned and 3 is returned (and nothing depending on 1). -/
def chainGraph : Graph :=
  { nodes := [.value, .value, .constant, .value, .value,
      .operator { inputs := [some 0, some 2], outputs := [some 3] },
      .operator { inputs := [some 3, some 1], outputs := [some 4] }] }

example : partialPlan chainGraph [0] [4] = .ok ([5], [3]) := by decide +kernel
example : Computable chainGraph [0] 3 := by
  have hop : getOp chainGraph 5 = some { inputs := [some 0, some 2], outputs := [some 3] } := by
    decide +kernel
  refine .op hop rfl (by decide +kernel) ?_ (by decide +kernel)
  intro d hd
  have h : opDeps chainGraph { inputs := [some 0, some 2], outputs := [some 3] } = [0, 2] := by
    decide +kernel
  rw [h] at hd
  have : d = 0 ∨ d = 2 := by simpa using hd
  rcases this with rfl | rfl
  · exact .supplied (by decide +kernel)
  · exact .const (by decide +kernel)

section
variable {Ω V : Type}

/-- **C04.T1** Every `(id, value)` returned by `partial_run` on the supplied values `S` is the
value `id` has in the naive full evaluation of the graph (`evalAt`/`evalFull`) on *any*
completion `S ++ rest` of the inputs by true graph inputs, and for *any* oracle `ω'` (state of
the random generators): it depends only on `S` and the constants.
Hypotheses: every value has one producer; operators flagged deterministic are functions of
their arguments (`DetSem`); the remaining inputs are not produced by any operator. -/
theorem c04_leaf_values {g : Graph} {sem : Sem Ω V} {cv : Nat → V} {S rest : List (Nat × V)}
    (hs : Setup g S rest) (hdet : DetSem g sem) {ω : Ω} {outs : List Nat}
    {leaves : List (Nat × V)} (h : partialRun g sem ω cv S [] outs = .ok leaves) (ω' : Ω) :
    ∀ pr ∈ leaves, Den g sem ω' cv (S ++ rest) pr.1 pr.2 := by
  obtain ⟨_, _, _, hden⟩ := partialRun_sound hs hdet h
  exact hden ω'

/-- **C04.T1 (against `run`)** … hence equal to what any successful `run` with all inputs
returns for that id, whatever outputs that run requests and whatever its oracle. -/
theorem c04_leaf_values_run {g : Graph} {sem : Sem Ω V} {cv : Nat → V} {S rest : List (Nat × V)}
    (hs : Setup g S rest) (hdet : DetSem g sem) {ω ω' : Ω} {outs outs' : List Nat}
    {leaves : List (Nat × V)} {vals' : List V}
    (h : partialRun g sem ω cv S [] outs = .ok leaves)
    (hrun : run g sem ω' cv (S ++ rest) [] outs' = .ok vals') :
    ∀ pr ∈ leaves, ∀ pr' ∈ outs'.zip vals', pr'.1 = pr.1 → pr'.2 = pr.2 := by
  intro pr hpr pr' hpr' heq
  have h1 := c04_leaf_values hs hdet h ω' pr hpr
  obtain ⟨_, hg, hd⟩ := run_sound hs.up hrun
  have h2 := hd _ _ ((gather_zip hg).2 pr' hpr')
  rw [heq] at h2
  exact h2.unique g sem ω' cv _ h1

/-- **C04.T2** `run (partial_run S outs ++ rest) outs = run (S ++ rest) outs` whenever the
latter succeeds: the composed run *succeeds* (its request is well-formed — in particular the
returned ids are distinct and disjoint from the remaining inputs —, planning finds no cycle and
no missing value, the executor finds every dependency, no operator fails) and returns the same
list of outputs.  For every graph with unique producers whose operator outputs are value nodes,
every supplied subset `S` (including empty and all inputs), every request `outs` (outputs that
are inputs, constants, intermediate values), every oracle `ω` — the *same* state of the random
generators in both runs: a non-deterministic operator is executed by the single run and by the
composed run, never by `partial_run` (T3); a deterministic one by `partial_run` or the composed
run.  Before the `prune_plan` fix this was false (`c04_orig_compose_false`). -/
theorem c04_compose {g : Graph} {sem : Sem Ω V} {cv : Nat → V} {S rest : List (Nat × V)}
    (hs : Setup g S rest) (hov : OutputsAreValues g) (hdet : DetSem g sem)
    {ω : Ω} {outs : List Nat} {leaves : List (Nat × V)} {valsF : List V}
    (hp : partialRun g sem ω cv S [] outs = .ok leaves)
    (hfull : run g sem ω cv (S ++ rest) [] outs = .ok valsF) :
    run g sem ω cv (leaves ++ rest) [] outs = .ok valsF :=
  compose_full hs hov hdet hp hfull

/-- **C04.T2 at full strength** (no assumption that `partial_run` returned): whenever the single
`run` with all inputs succeeds, `partial_run` on the subset `S` returns some leaves — its
planning finds no cycle, every kept operator finds its dependencies and succeeds, the leaves can
be collected — and `run` on those leaves plus the remaining inputs succeeds with the same
outputs. -/
theorem c04_compose_total {g : Graph} {sem : Sem Ω V} {cv : Nat → V} {S rest : List (Nat × V)}
    (hs : Setup g S rest) (hov : OutputsAreValues g) (hdet : DetSem g sem)
    {ω : Ω} {outs : List Nat} {valsF : List V}
    (hfull : run g sem ω cv (S ++ rest) [] outs = .ok valsF) :
    ∃ leaves, partialRun g sem ω cv S [] outs = .ok leaves ∧
      run g sem ω cv (leaves ++ rest) [] outs = .ok valsF := by
  obtain ⟨leaves, hp⟩ := partialRun_total hs hov hfull
  exact ⟨leaves, hp, compose_full hs hov hdet hp hfull⟩

/-- **C04.T2 (values only)** without the assumption that operator outputs are value nodes: if
both runs finish they agree. -/
theorem c04_compose_values {g : Graph} {sem : Sem Ω V} {cv : Nat → V} {S rest : List (Nat × V)}
    (hs : Setup g S rest) (hdet : DetSem g sem) {ω : Ω} {outs : List Nat}
    {leaves : List (Nat × V)} {valsF valsP : List V}
    (hp : partialRun g sem ω cv S [] outs = .ok leaves)
    (hfull : run g sem ω cv (S ++ rest) [] outs = .ok valsF)
    (hfin : run g sem ω cv (leaves ++ rest) [] outs = .ok valsP) : valsF = valsP :=
  compose_values hs hdet hp hfull hfin

/-- **Owned inputs** `run_plan` moves inputs passed as owned `Value`s into `temp_values` and
reads borrowed ones through `inputs_by_id`.  `Graph::run` with any owned/borrowed split of its
inputs returns exactly what the all-borrowed call returns (same outcome class, same values) —
unconditionally.  Hence T1/T2, stated above for borrowed inputs, hold for every split. -/
theorem c04_run_owned_eq {g : Graph} {sem : Sem Ω V} {cv : Nat → V} {ω : Ω}
    (views owned : List (Nat × V)) (outs : List Nat) :
    run g sem ω cv views owned outs = run g sem ω cv (views ++ owned) [] outs := by
  unfold run
  rw [List.append_nil]
  split
  · rfl
  · next hc => exact runPlan_owned_eq (PlanCache.argsOK_of_createPlan_ok hc).1

/-- The same for `Graph::partial_run`. -/
theorem c04_partial_run_owned_eq {g : Graph} {sem : Sem Ω V} {cv : Nat → V} {ω : Ω}
    (views owned : List (Nat × V)) (outs : List Nat) :
    partialRun g sem ω cv views owned outs = partialRun g sem ω cv (views ++ owned) [] outs :=
  partialRun_owned_eq outs

/-- **Completeness of `run`** (used for T2, of independent interest): on a well-formed request
for which the naive evaluation assigns a value to every requested output, `run` succeeds — no
planning error, no panic, no operator error. -/
theorem c04_run_complete {g : Graph} {sem : Sem Ω V} {cv : Nat → V} {ω : Ω} {W : List (Nat × V)}
    (hu : UniqueProducer g) (hov : OutputsAreValues g) {outs : List Nat}
    (hargs : ArgsOK g (W.map (fun p => p.1)) outs)
    (hden : ∀ o ∈ outs, ∃ v, Den g sem ω cv W o v) :
    ∃ vals, run g sem ω cv W [] outs = .ok vals :=
  run_complete hu hov hargs hden

end

/-- Non-vacuity of T1/T2 on `chainGraph` with numbers as values: operator `p` returns
`sum(args) + p`, the constant 2 is 100, `S = {0 ↦ 5}`, `rest = {1 ↦ 7}`. -/
def numSem : Sem Unit Nat := fun _ p args => some [args.sum + p]

example : Setup chainGraph [(0, 5)] [(1, 7)] := setup_of_check (by decide +kernel) (by decide +kernel)
example : OutputsAreValues chainGraph := outputsAreValues_of_check (by decide +kernel)
example : DetSem chainGraph numSem := fun _ _ _ _ _ _ _ => rfl
example : (partialRun chainGraph numSem () (fun _ => 100) [(0, 5)] [] [4]).toOption =
    some [(3, 110)] := by decide +kernel
example : (run chainGraph numSem () (fun _ => 100) ([(0, 5)] ++ [(1, 7)]) [] [4]).toOption =
    some [123] := by decide +kernel
example : (run chainGraph numSem () (fun _ => 100) ([(3, 110)] ++ [(1, 7)]) [] [4]).toOption =
    some [123] := by decide +kernel
example : evalFull chainGraph numSem () (fun _ => 100) ([(0, 5)] ++ [(1, 7)]) 4 = some 123 := by
  decide +kernel

/-- Non-vacuity of the "any oracle" clause: operator 3 is a random generator (returns the
oracle), operator 4 is deterministic, operator 6 needs both.  `partial_run` with oracle 5
returns value 2 = 10 + 4; the full evaluation with a *different* oracle 9 assigns the same value
to id 2, while the random value 1 and the output 5 do depend on the oracle. -/
def oracleGraph : Graph :=
  { nodes := [.value, .value, .value,
      .operator { inputs := [], outputs := [some 1], deterministic := false },
      .operator { inputs := [some 0], outputs := [some 2] },
      .value,
      .operator { inputs := [some 1, some 2], outputs := [some 5] }] }

def oracleSem : Sem Nat Nat := fun ω p args => if p = 3 then some [ω] else some [args.sum + p]

example : DetSem oracleGraph oracleSem := by
  intro p op hop hdet ω ω' args
  by_cases h : p = 3
  · subst h
    have : getOp oracleGraph 3 =
        some { inputs := [], outputs := [some 1], deterministic := false } := by decide +kernel
    rw [this] at hop
    injection hop with hop
    subst hop
    cases hdet
  · simp [oracleSem, h]
example : (partialRun oracleGraph oracleSem 5 (fun _ => 0) [(0, 10)] [] [5]).toOption =
    some [(2, 14)] := by decide +kernel
example : evalFull oracleGraph oracleSem 9 (fun _ => 0) [(0, 10)] 2 = some 14 := by decide +kernel
example : evalFull oracleGraph oracleSem 9 (fun _ => 0) [(0, 10)] 5 = some 29 := by decide +kernel
example : evalFull oracleGraph oracleSem 5 (fun _ => 0) [(0, 10)] 5 = some 25 := by decide +kernel

/-! ## The returned ids are distinct (after the fix); before it they could repeat

`candidate_outputs` starts with the supplied ids and is extended with the outputs of every kept
operator.  Before commit "fix: prune_plan lists a value that is both supplied and produced only
once", a supplied id that is *also* an output of a kept operator (a two-output operator whose
other output is needed) and is requested (or feeds a pruned operator) was returned twice:
`run` rejects the returned list ("Inputs are not unique"), and with an owned input `run_plan`
panics ("missing output value") when it collects the second copy. -/

/-- **C04 (ids)** The ids returned by `partial_run` are pairwise distinct, so the returned list
can be passed to `run` (which rejects duplicate inputs) as it is. -/
theorem c04_leaves_nodup {g : Graph} {ins outs kept leaves : List Nat}
    (h : partialPlan g ins outs = .ok (kept, leaves)) : leaves.Nodup := by
  obtain ⟨plan, hc, _, rfl⟩ := partialPlan_ok h
  exact newOutputs_nodup hc

/-- Value 0 feeds the two-output operator 3; value 1 (its first output) is also supplied. -/
def dupGraph : Graph :=
  { nodes := [.value, .value, .value,
      .operator { inputs := [some 0], outputs := [some 1, some 2] }] }

/-- Before the fix `partial_run([0, 1], [1, 2])` returned the id 1 twice (reproduced on the
pre-fix tree through `Model::partial_run`: duplicate leaf with a borrowed input, panic with an
owned one) … -/
theorem c04_orig_leaves_dup : partialPlanOrig dupGraph [0, 1] [1, 2] = .ok ([3], [1, 1, 2]) := by
  decide +kernel

/-- … and `run` rejects that list although `run([0, 1], [1, 2])` succeeds. -/
theorem c04_orig_compose_false :
    createPlan dupGraph [1, 1, 2] [1, 2] runOpts = .error .dupInput ∧
    createPlan dupGraph [0, 1] [1, 2] runOpts = .ok [3] := by
  decide +kernel

/-- The same request with the code as it stands. -/
theorem c04_fixed_dupGraph : partialPlan dupGraph [0, 1] [1, 2] = .ok ([3], [1, 2]) := by
  decide +kernel

/-! ## The operator determinism table read from the source

`Generated/NondetOps.lean` is re-extracted from `/repo/src` by
`translate/nondeterministic_ops.py` on every check. -/

open RtenVerif.Generated.NondetOps in
/-- The trait default of `is_deterministic` is literally `true`; every registered operator whose
name starts with `Random`, and `Multinomial`, overrides it with the literal body `false`; every
operator implemented in a source file that mentions a random number generator overrides it
(whatever its name); every operator that owns subgraphs (`If`, `Loop`) overrides it (with the
recursion into its subgraphs that `DTree.deep` models and the harness ties). -/
theorem c04_random_ops_nondeterministic :
    traitDefault = true ∧ randomRegistered.length = 5 ∧
    (∀ n ∈ randomRegistered, (overrides.any (fun o => o.1 == n && o.2.2.2.1)) = true) ∧
    (∀ n ∈ rngFileOps, (overrides.any (fun o => o.1 == n)) = true) ∧
    subgraphOps.length = 2 ∧
    (∀ n ∈ subgraphOps, (overrides.any (fun o => o.1 == n)) = true) := by
  decide +kernel

end RtenVerif.PartialRun
