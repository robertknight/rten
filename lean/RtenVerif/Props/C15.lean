import RtenVerif.Lemmas.OnnxRefAxis
import RtenVerif.Lemmas.OnnxRefArith
import RtenVerif.Lemmas.OnnxRefBroadcast
import RtenVerif.Lemmas.OnnxRefTranspose
import RtenVerif.Lemmas.OnnxRefReduce
import RtenVerif.Lemmas.OnnxRefShape
import RtenVerif.Lemmas.OnnxRefOrder
/-!
# C15 — Operators conform to ONNX reference semantics (partial)

Full statement of the property (not provable here): *for every supported ONNX operator, attribute
setting and input the specification defines, `rten::Model::run` returns the tensor the ONNX reference
implementation returns.* Neither side is a Lean object: rten's kernels are Rust, and no ONNX reference
implementation exists in the sandbox. What is done instead:

* `Model/OnnxRef.lean` + `Model/OnnxRefRun.lean`: an executable reference of the integer / index
  semantics of about 70 operators, written from the specification text (trusted base);
* the harness compares rten with that reference EXACTLY on single-operator ONNX models;
* the theorems below are *specification-validating laws*: facts every correct reading of the ONNX text
  must satisfy, proved for ALL shapes / ranks / values, so that the oracle is not trusted blindly.
  They are stated on the very functions the driver executes (`bshape`, `build`/`get`, `concat2`,
  `narrow`, `padCore`, `sliceCore`, `broadcastTo`, `expand`, `binop`); only `flipAx` of L22 is
  proof-side (`Lemmas/OnnxRefAxis`).

Float operators (unary math, Softmax, normalisations, Resize, …) are outside the model; pooling and
`Conv` are in it, compared on integer-valued data.
-/
namespace RtenVerif.OnnxRef

/-- L1. Multidirectional broadcasting of shapes is commutative (failure included). -/
theorem c15_bshape_comm (a b : List Nat) : bshape a b = bshape b a := by
  simp only [bshape, bshapeRev_comm a.reverse b.reverse]

/-- L2. … and associative, with `none` (incompatible) propagating the same way on both sides. -/
theorem c15_bshape_assoc (a b c : List Nat) :
    (bshape a b).bind (fun s => bshape s c) = (bshape b c).bind (fun s => bshape a s) := by
  have h := congrArg (Option.map List.reverse) (bshapeRev_assoc a.reverse b.reverse c.reverse)
  simp only [bshape, Option.map_bind, Option.bind_map, Function.comp_def, List.reverse_reverse] at h ⊢
  exact h

example : bshape [2, 1, 3] [4, 1] = some [2, 4, 3] := by decide +kernel
example : bshape [2, 3] [4, 3] = none := by decide +kernel
example : (bshape [2, 1] [3]).bind (fun s => bshape s [4, 1, 1]) = some [4, 2, 3] := by decide +kernel

/-- L3. The element of `build s f` at a valid index `idx` is `f idx` (row-major layout is coherent). -/
theorem c15_get_build (s : List Nat) (f : List Nat → Int) (idx : List Nat) (h : validIdx s idx = true) :
    (build s f).get idx = f idx := get_build s f idx h

/-- L4. A well-formed tensor is determined by its elements: rebuilding from `get` is the identity. -/
theorem c15_build_get (t : Tensor) (h : t.data.length = prod t.shape) : build t.shape t.get = t :=
  build_get t h

/-- L5. The enumeration of indices is exactly the row-major order: offsets are `0, 1, …, n-1`. -/
theorem c15_allIdx_row_major (s : List Nat) : (allIdx s).map (ravel s) = List.range (prod s) :=
  map_ravel_allIdx s

example : validIdx [2, 3] [1, 2] = true := by decide +kernel
example : (build [2, 2] (fun idx => (getN idx 0 : Int) * 10 + getN idx 1)).data = [0, 1, 10, 11] := by decide +kernel

/-- L6. `Concat(Split(x))` = `x`: splitting any well-formed tensor along any axis `ax` at any point `k`
and concatenating the two pieces along the same axis gives the tensor back. -/
theorem c15_concat_split (x : Tensor) (ax k : Nat) (hwf : x.data.length = prod x.shape)
    (hax : ax < x.shape.length) (hk : k ≤ getN x.shape ax) :
    concat2 ax (narrow x ax 0 k) (narrow x ax k (getN x.shape ax - k)) = x := by
  have := concat2_narrow_adj x ax 0 k (getN x.shape ax - k) hax
  rwa [Nat.zero_add, Nat.add_sub_cancel' hk, narrow_full x ax hwf] at this

example : let x : Tensor := ⟨[2, 3], [1, 2, 3, 4, 5, 6]⟩
    x.data.length = prod x.shape ∧ 1 < x.shape.length ∧ 1 ≤ getN x.shape 1 := by decide +kernel
example : (narrow ⟨[2, 3], [1, 2, 3, 4, 5, 6]⟩ 1 1 2).data = [2, 3, 5, 6] := by decide +kernel

/-- L7. Padding (any mode, any constant, non-negative begin pads) and then slicing the padding away
(starts = begin pads, steps 1, extent of the original) is the identity. -/
theorem c15_slice_pad (x : Tensor) (before : List Int) (outDims : List Nat) (mode : String) (c : Int)
    (hwf : x.data.length = prod x.shape)
    (hout : outDims.length = x.shape.length)
    (hnn : ∀ k, k < x.shape.length → 0 ≤ getI before k)
    (hfit : ∀ k, k < x.shape.length → getI before k + (getN x.shape k : Int) ≤ (getN outDims k : Int)) :
    sliceCore (padCore x before outDims mode c) before (List.replicate x.shape.length 1) x.shape = x := by
  unfold sliceCore padCore
  apply build_eq_self x hwf
  intro idx hv
  obtain ⟨hil, hib⟩ := (validIdx_iff _ _).mp hv
  rw [hil]
  -- coordinate `k` of the index read from the padded tensor is `before k + idx k`, inside `outDims`
  have hco : ∀ k, k < x.shape.length →
      ((getI before k + (getN idx k : Int) * getI (List.replicate x.shape.length 1) k).toNat : Int)
        = getI before k + getN idx k := by
    intro k hk
    rw [getI_replicate _ _ _ hk, Int.mul_one]
    exact Int.toNat_of_nonneg (Int.add_nonneg (hnn k hk) (Int.natCast_nonneg _))
  rw [get_build_map_range _ _ _ _ hout fun k hk => by
    have := hco k hk
    have := hfit k hk
    have := hib k hk
    omega]
  -- so every source coordinate is in range and `padSrc` returns `idx k`, whatever the mode
  rw [List.map_congr_left (g := fun k => some (getN idx k)) fun k hk => by
    have hk' : k < x.shape.length := List.mem_range.mp hk
    rw [getN_map_range _ _ _ hk', hco k hk', Int.add_comm, Int.add_sub_cancel]
    exact padSrc_inRange mode _ _ (hib k hk')]
  rw [Tensor.rank, ← hil]
  simp [Function.comp_def, map_range_getN]

example : (padCore ⟨[3], [1, 2, 3]⟩ [2] [6] "reflect" 0).data = [3, 2, 1, 2, 3, 2] := by decide +kernel
example : (sliceCore (padCore ⟨[3], [1, 2, 3]⟩ [2] [6] "edge" 0) [2] [1] [3]).data = [1, 2, 3] := by decide +kernel

/-- L8. Slice ∘ Slice is one Slice: starts compose affinely and steps multiply (steps of either
sign), whenever the second slice stays inside the extent of the first. -/
theorem c15_slice_slice (x : Tensor) (st1 sp1 st2 sp2 : List Int) (d1 d2 : List Nat)
    (hlen : d2.length = d1.length)
    (hin : ∀ idx, validIdx d2 idx = true → ∀ k, k < d1.length →
      0 ≤ getI st2 k + (getN idx k : Int) * getI sp2 k ∧
      getI st2 k + (getN idx k : Int) * getI sp2 k < (getN d1 k : Int)) :
    sliceCore (sliceCore x st1 sp1 d1) st2 sp2 d2 =
      sliceCore x ((List.range d1.length).map (fun k => getI st1 k + getI st2 k * getI sp1 k))
        ((List.range d1.length).map (fun k => getI sp1 k * getI sp2 k)) d2 := by
  unfold sliceCore
  apply build_congr
  intro idx hv
  have hl : idx.length = d1.length := by rw [validIdx_length hv, hlen]
  rw [hl]
  have hc : ∀ k, k < d1.length → ((getI st2 k + (getN idx k : Int) * getI sp2 k).toNat : Int)
      = getI st2 k + (getN idx k : Int) * getI sp2 k := fun k hk => Int.toNat_of_nonneg (hin idx hv k hk).1
  rw [get_build_map_range _ _ _ _ rfl fun k hk => Int.ofNat_lt.mp (hc k hk ▸ (hin idx hv k hk).2)]
  congr 1
  simp only [List.length_map, List.length_range]
  apply List.map_congr_left
  intro k hk
  have hk' : k < d1.length := List.mem_range.mp hk
  rw [getN_map_range _ _ _ hk', getI_map_range _ _ _ hk', getI_map_range _ _ _ hk', hc k hk']
  congr 1
  rw [Int.add_mul, Int.add_assoc, Int.mul_assoc, Int.mul_comm (getI sp2 k) (getI sp1 k)]

-- x[8:0:-2] = [8,6,4,2] then [3:0:-1] → [2,4,6] = x[2:8:2]
example : (sliceCore (sliceCore ⟨[10], [0, 1, 2, 3, 4, 5, 6, 7, 8, 9]⟩ [8] [-2] [4]) [3] [-1] [3]).data = [2, 4, 6] := by
  decide +kernel
example : (sliceCore ⟨[10], [0, 1, 2, 3, 4, 5, 6, 7, 8, 9]⟩ [8 + 3 * -2] [-2 * -1] [3]).data = [2, 4, 6] := by decide +kernel

/-- L9. Expanding (broadcasting) a tensor to its own shape is the identity. -/
theorem c15_expand_self (x : Tensor) (hwf : x.data.length = prod x.shape) : broadcastTo x x.shape = x :=
  build_eq_self x hwf _ fun idx hv => by rw [bidx_self _ _ hv]

/-- L10. `Expand` = broadcast: `Expand(x, shape)` is the left projection of the broadcasting binary
operator applied to `x` and any tensor of shape `shape` (same result, same failure). -/
theorem c15_expand_eq_broadcast (x : Tensor) (sh : List Int) (y : Tensor) (hnn : sh.all (· ≥ 0) = true)
    (hy : y.shape = sh.map Int.toNat) : expand x sh = binop (fun v _ => v) x y := by
  unfold expand binop guardR broadcastTo
  simp only [hnn, if_true, hy]
  rfl

example : (match expand ⟨[2, 1], [1, 2]⟩ [1, 3] with | .ok t => (t.shape, t.data) | .error _ => ([], []))
    = ([2, 3], [1, 1, 1, 2, 2, 2]) := by decide +kernel

/-- L11. Transposing with the identity permutation is the identity. -/
theorem c15_transpose_id (x : Tensor) (hwf : x.data.length = prod x.shape) :
    transposeP x (List.range x.shape.length) = x := by
  unfold transposeP
  rw [map_range_getN]
  apply build_eq_self x hwf
  intro idx hv
  have hl : idx.length = x.shape.length := validIdx_length hv
  congr 1
  unfold unpermute
  apply list_ext_getN _ _ (by simp [hl])
  intro k hk
  have hk' : k < x.shape.length := by simpa using hk
  rw [List.length_range, getN_map_range _ _ _ hk', idxOf_range _ _ hk']

/-- L12. Composition: `Transpose(q) ∘ Transpose(p) = Transpose(k ↦ p[q[k]])` for permutations `p`, `q`. -/
theorem c15_transpose_comp (x : Tensor) (p q : List Nat)
    (hp : p.Perm (List.range x.shape.length)) (hq : q.Perm (List.range x.shape.length)) :
    transposeP (transposeP x p) q = transposeP x (q.map (getN p)) := by
  obtain ⟨hpl, hpm, hpn⟩ := perm_facts hp
  obtain ⟨hql, hqm, hqn⟩ := perm_facts hq
  show build (q.map (getN (p.map (getN x.shape)))) _ = build _ _
  rw [map_getN_map q p _ fun c hc => hpl ▸ (hqm c).mp hc]
  apply build_congr
  intro idx hv
  obtain ⟨hil, hib⟩ := (validIdx_iff _ _).mp hv
  rw [List.length_map, List.length_map] at hil hib
  -- the intermediate index `unpermute q idx` is valid for the intermediate tensor
  show (build (p.map (getN x.shape)) _).get (unpermute q idx) = _
  rw [unpermute, get_build_map_range _ _ _ _ (by rw [List.length_map, hpl, hql]) fun j hj => by
    have hjq : j ∈ q := (hqm j).mpr (hql ▸ hj)
    have hk : q.idxOf j < q.length := List.idxOf_lt_length_of_mem hjq
    have hb := hib (q.idxOf j) hk
    rw [getN_map _ _ _ (by simpa using hk), getN_map _ _ _ hk, getN_idxOf q j hjq] at hb
    rw [getN_map _ _ _ (by rw [hpl, ← hql]; exact hj)]
    exact hb]
  congr 1
  -- the two index computations agree coordinate by coordinate: `getN p` is injective on the members of `q`,
  -- so the first `a` in `q.map (getN p)` sits where the first `p.idxOf a` sits in `q`
  unfold unpermute
  rw [List.length_map, hpl, hql]
  apply List.map_congr_left
  intro a ha
  have hap : a ∈ p := (hpm a).mpr (List.mem_range.mp ha)
  have hia := List.idxOf_lt_length_of_mem hap
  rw [getN_map_range _ _ _ (hpl ▸ hia)]
  have := idxOf_map_inj (getN p) (p.idxOf a) q fun c hc h =>
    (List.getD_inj (by rw [hpl]; exact (hqm c).mp hc) hia hpn).mp h
  rw [getN_idxOf p a hap] at this
  rw [this]

/-- L13. Inverse: transposing by `p` then by its inverse `q` (`p[q[k]] = k`) gives the tensor back. -/
theorem c15_transpose_inverse (x : Tensor) (p q : List Nat) (hwf : x.data.length = prod x.shape)
    (hp : p.Perm (List.range x.shape.length)) (hq : q.Perm (List.range x.shape.length))
    (hinv : q.map (getN p) = List.range x.shape.length) :
    transposeP (transposeP x p) q = x := by
  rw [c15_transpose_comp x p q hp hq, hinv, c15_transpose_id x hwf]

example : ([2, 0, 1] : List Nat).Perm (List.range 3) ∧ ([1, 2, 0] : List Nat).Perm (List.range 3) ∧
    ([1, 2, 0] : List Nat).map (getN [2, 0, 1]) = List.range 3 := by decide +kernel
example : (transposeP ⟨[2, 3], [1, 2, 3, 4, 5, 6]⟩ [1, 0]).data = [1, 4, 2, 5, 3, 6] := by decide +kernel

/-- L14. Reduce over all axes (axes omitted) = the fold `f` (sum, product, min, max, …) of the
row-major element sequence, with result shape `[]`, or `[1,…,1]` of the input's rank with keepdims. -/
theorem c15_reduce_all (f : List Int → Option Int) (x : Tensor) (v : Int) (keepdims : Bool)
    (hwf : x.data.length = prod x.shape) (hf : f x.data = some v) :
    reduce f x none keepdims false = .ok ⟨if keepdims then List.replicate x.rank 1 else [], [v]⟩ :=
  reduce_cover f x none [] v keepdims false hwf hf rfl rfl fun k hk =>
    List.contains_iff_mem.mpr (List.mem_range.mpr hk)

example : maxL [3, -1, 7, 2] = some 7 ∧ (fun l => some (sumI l)) [3, -1, 7, 2] = some (11 : Int) := by decide +kernel

/-- L15. ArgMax with `select_last_index = 0`: the returned index holds a maximum of the lane and every
earlier position holds a strictly smaller value — the least index among the maxima (the behaviour of
rten after fix 5e14f6c). -/
theorem c15_argmax_first (l : List Int) (i : Nat)
    (h : argBest (fun a b => decide (a > b)) false l = some i) :
    i < l.length ∧ (∀ j, j < l.length → getI l j ≤ getI l i) ∧ (∀ j, j < i → getI l j < getI l i) := by
  cases l with
  | nil => exact nomatch h
  | cons x xs =>
    simp only [argBest, Option.some.injEq] at h
    have hinv : ArgInv [x] (0, x, 1) :=
      ⟨rfl, Nat.zero_lt_one, rfl, fun j hj => by rw [Nat.lt_one_iff.mp hj]; exact Int.le_refl x,
        fun j hj => absurd hj (Nat.not_lt_zero j)⟩
    obtain ⟨_, h2, h3, h4, h5⟩ := argInv_foldl xs [x] _ hinv
    rw [h] at h2 h3 h5
    rw [← h3] at h4 h5
    exact ⟨h2, h4, h5⟩

example : argBest (fun a b => decide (a > b)) false [2, -3, 2] = some 0 := by decide +kernel
example : argBest (fun a b => decide (a > b)) true [2, -3, 2] = some 2 := by decide +kernel

/-- L16. `Where` with a constant (scalar) condition is the broadcast of the selected operand: the
broadcasting binary operator returning its first argument if the condition is true, else its second. -/
theorem c15_where_const (v : Int) (x y : Tensor) :
    whereOp (scalar v) x y = binop (fun a b => if v ≠ 0 then a else b) x y := by
  unfold whereOp binop bshapeR
  have h : (scalar v).shape = [] := rfl
  rw [h, bshape_nil_left]
  have hg : ∀ idx, (scalar v).get (bidx [] idx) = v := fun idx => by simp [scalar, Tensor.get, bidx, ravel]
  simp only [hg, pure_bind]

example : (match whereOp (scalar 1) ⟨[2], [5, 6]⟩ ⟨[2, 1], [8, 9]⟩ with | .ok t => (t.shape, t.data) | .error _ => ([], []))
    = ([2, 2], [5, 6, 5, 6]) := by decide +kernel

/-- L17. Gather (axis 0) with a permutation `p` of the rows and then with its inverse `q`
(`p[q[i]] = i`) is the identity. -/
theorem c15_gather_perm_inverse (x : Tensor) (d : Nat) (rest p q : List Nat) (hs : x.shape = d :: rest)
    (hwf : x.data.length = prod x.shape)
    (hp : ∀ a ∈ p, a < d) (hq : ∀ a ∈ q, a < p.length) (hql : q.length = d)
    (hinv : q.map (getN p) = List.range d) :
    (gather x ⟨[p.length], p.map Int.ofNat⟩ 0).bind (fun y => gather y ⟨[q.length], q.map Int.ofNat⟩ 0)
      = .ok x := by
  rw [gather_axis0 x d rest p hs hp]
  simp only [Except.bind]
  rw [gather_axis0 _ p.length rest q rfl hq]
  congr 1
  rw [hql, ← hs]
  apply build_eq_self x hwf
  intro idx hv
  have h0 : 0 < x.shape.length := by rw [hs]; exact Nat.succ_pos _
  have hi : getN idx 0 < d := by
    have := validIdx_lt hv h0
    rwa [hs] at this
  -- the index moved to row `q[i]` is valid for the intermediate tensor, whose row `q[i]` is row `p[q[i]] = i` of `x`
  have hmid : validIdx (p.length :: rest) (withAt idx 0 (getN q (getN idx 0))) = true := by
    have := validIdx_withAt x.shape idx 0 _ p.length (getN q (getN idx 0)) h0 (by rwa [withAt_self])
      (hq _ (getN_mem q _ (hql ▸ hi)))
    rw [hs] at this
    exact this
  rw [get_build _ _ _ hmid, getN_withAt_same _ _ _ (by rw [validIdx_length hv]; exact h0), withAt_withAt]
  have h1 := getN_map q (getN p) (getN idx 0) (hql ▸ hi)
  rw [hinv, getN_range d _ hi] at h1
  rw [← h1, withAt_self]

example : (∀ a ∈ ([2, 0, 1] : List Nat), a < 3) ∧ (∀ a ∈ ([1, 2, 0] : List Nat), a < [2, 0, 1].length) ∧
    ([1, 2, 0] : List Nat).map (getN [2, 0, 1]) = List.range 3 := by decide +kernel
example : (match gather ⟨[3, 2], [1, 2, 3, 4, 5, 6]⟩ ⟨[3], [2, 0, 1]⟩ 0 with | .ok t => t.data | .error _ => [])
    = [5, 6, 1, 2, 3, 4] := by decide +kernel

/-- L18. The target shape `Reshape` computes (with `0` = copy the input dimension, one `-1` = infer,
`allowzero`) always has exactly the element count of the input shape. -/
theorem c15_reshape_count (inShape : List Nat) (spec : List Int) (allowzero : Bool) (out : List Nat)
    (h : reshapeDims inShape spec allowzero = .ok out) : prod out = prod inShape := by
  unfold reshapeDims at h
  obtain ⟨_, -, h⟩ := bind_eq_ok h
  dsimp only at h
  by_cases hz : (allowzero && spec.contains 0 && spec.contains (-1)) = true
  · rw [if_pos hz] at h; exact nomatch h
  · rw [if_neg hz] at h
    obtain ⟨_, -, h⟩ := bind_eq_ok h
    exact reshapeResolve_prod _ _ _ h

/-- L19. `Reshape` preserves the row-major element sequence (and so well-formedness). -/
theorem c15_reshape_data (x y : Tensor) (spec : List Int) (allowzero : Bool)
    (h : reshape x spec allowzero = .ok y) : y.data = x.data ∧ prod y.shape = prod x.shape := by
  obtain ⟨s, hs, h⟩ := bind_eq_ok h
  injection h with h
  subst h
  exact ⟨rfl, c15_reshape_count _ _ _ _ hs⟩

example : (match reshapeDims [2, 3, 4] [0, -1] false with | .ok s => s | .error _ => []) = [2, 12] := by decide +kernel
example : (match reshapeDims [2, 0] [0, 0] true with | .ok s => s | .error _ => [9]) = [0, 0] := by decide +kernel

/-- L20. `Squeeze(Unsqueeze(x, axes), axes) = x` on shapes (both operators leave the element sequence
untouched by definition): removing the inserted positions gives the original shape back, the result of
Unsqueeze has rank `r + |axes|`, and every inserted extent is 1 (so the Squeeze is legal). `hax` states
that the axes are distinct positions of the result. -/
theorem c15_squeeze_unsqueeze (s axes : List Nat)
    (hax : ((List.range (s.length + axes.length)).filter (fun j => axes.contains j)).length = axes.length) :
    removeAxes (insertOnes s 0 axes (s.length + axes.length)) axes = s ∧
    (insertOnes s 0 axes (s.length + axes.length)).length = s.length + axes.length ∧
    (∀ k, k < s.length + axes.length → axes.contains k = true →
      getN (insertOnes s 0 axes (s.length + axes.length)) k = 1) := by
  have h0 : s.length + axes.length =
      s.length + ((List.range' 0 (s.length + axes.length)).filter axes.contains).length := by
    rw [← List.range_eq_range']
    exact congrArg (s.length + ·) hax.symm
  obtain ⟨h1, h2, h3⟩ := insertOnes_spec axes _ s 0 h0
  simp only [Nat.sub_zero, ← List.range_eq_range'] at h2 h3
  refine ⟨?_, h1, fun k hk hc => h3 k (List.mem_range.mpr hk) hc⟩
  unfold removeAxes
  rw [h1]
  exact h2

example : ((List.range ([2, 3].length + [3, 0].length)).filter (fun j => [3, 0].contains j)).length = [3, 0].length := by
  decide +kernel
example : insertOnes [2, 3] 0 [3, 0] 4 = [1, 2, 3, 1] ∧ removeAxes [1, 2, 3, 1] [3, 0] = [2, 3] := by decide +kernel

/-- L21. Tile = Concat of copies: tiling `k+1` times along `ax` (once along every other axis) is the
concatenation along `ax` of the `k`-fold tiling with one more copy of `x`. -/
theorem c15_tile_concat (x : Tensor) (reps : List Nat) (ax k : Nat)
    (hl : reps.length = x.shape.length) (hax : ax < x.shape.length)
    (hone : ∀ j, j < x.shape.length → j ≠ ax → getN reps j = 1) :
    tileCore x (reps.set ax (k + 1)) = concat2 ax (tileCore x (reps.set ax k)) x := by
  have hlen : ∀ m, (tileCore x (reps.set ax m)).shape.length = x.shape.length :=
    fun m => tileCore_shape_length x _ (by rw [List.length_set]; exact hl)
  have hda := tileCore_shape_ax x reps ax k hl hax
  have hshape := tileCore_shape_succ x reps ax k hl hax
  unfold concat2
  show build (tileCore x (reps.set ax (k + 1))).shape _ = _
  simp only [hshape]
  apply build_congr
  intro idx hv
  obtain ⟨hil, hib⟩ := (validIdx_iff _ _).mp hv
  rw [hlen] at hil hib
  by_cases hlt : getN idx ax < getN (tileCore x (reps.set ax k)).shape ax
  · -- inside the `k`-fold tiling: same element formula, and the index is valid there
    have hv' := validIdx_withAt (tileCore x (reps.set ax (k + 1))).shape idx ax _
      (getN (tileCore x (reps.set ax k)).shape ax) (getN idx ax)
      (by rw [hlen]; exact hax) (by rwa [withAt_self]) hlt
    rw [withAt_self, ← hshape, withAt_withAt, withAt_self] at hv'
    rw [if_pos hlt, get_tileCore _ _ _ hv']
  · -- in the last copy: `i mod d = i - d·k` along `ax`, and `i mod d = i` elsewhere since `i < d·1`
    rw [if_neg hlt, hda]
    rw [hda] at hlt
    congr 1
    apply list_ext_getN _ _ (by simp [hil])
    intro j hj
    have hj' : j < x.shape.length := by simpa [hil] using hj
    rw [getN_zipWith _ _ _ _ (by rw [hil]; exact hj') hj', getN_withAt]
    have hbj := hib j hj'
    rw [tileCore_shape_get _ _ _ _ _ hl hj'] at hbj
    by_cases h : ax = j
    · subst h
      rw [if_pos rfl, Nat.mul_succ] at hbj
      rw [if_pos ⟨rfl, by rw [hil]; exact hax⟩]
      have hge : getN x.shape ax * k ≤ getN idx ax := Nat.le_of_not_lt hlt
      rw [← Nat.sub_mul_mod hge, Nat.mod_eq_of_lt (Nat.sub_lt_left_of_lt_add hge hbj)]
    · rw [if_neg h, hone j hj' (fun e => h e.symm), Nat.mul_one] at hbj
      rw [if_neg (fun c => h c.1)]
      exact Nat.mod_eq_of_lt hbj

example : (tileCore ⟨[2, 2], [1, 2, 3, 4]⟩ [1, 2]).data = [1, 2, 1, 2, 3, 4, 3, 4] := by decide +kernel
example : (concat2 1 ⟨[2, 2], [1, 2, 3, 4]⟩ ⟨[2, 2], [1, 2, 3, 4]⟩).data = [1, 2, 1, 2, 3, 4, 3, 4] := by decide +kernel

/-- L22. `CumSum(reverse = 1)` = flip ∘ `CumSum(reverse = 0)` ∘ flip along the axis (inclusive and
exclusive variants); `flipAx` reverses the axis. -/
theorem c15_cumsum_reverse (x : Tensor) (ax : Nat) (excl : Bool) (hax : ax < x.shape.length) :
    cumsumCore x ax excl true = flipAx (cumsumCore (flipAx x ax) ax excl false) ax := by
  show build x.shape _ = build x.shape _
  apply build_congr
  intro idx hv
  have hi : getN idx ax < getN x.shape ax := validIdx_lt hv hax
  have haxi : ax < idx.length := by rw [validIdx_length hv]; exact hax
  -- the outer flip reads the inner CumSum at the mirrored index, which is valid
  have hv1 := validIdx_withAt_self x.shape idx ax (getN x.shape ax - 1 - getN idx ax) hax hv (by omega)
  refine Eq.trans ?_ (get_build x.shape _ (withAt idx ax (getN x.shape ax - 1 - getN idx ax)) hv1).symm
  simp only [getN_withAt_same _ _ _ haxi, withAt_withAt]
  -- the inner flip turns the summands into `x` read at the mirrored `j`; re-index the sum by the mirror
  show _ = sumI (List.map _ (List.filter _ (List.range (getN x.shape ax))))
  rw [List.map_congr_left (g := fun j => x.get (withAt idx ax (getN x.shape ax - 1 - j))) fun j hj =>
      get_flipAx_withAt x ax j idx hax hv (List.mem_range.mp (List.mem_filter.mp hj).1),
    sum_mirror (getN x.shape ax) _ (fun m => x.get (withAt idx ax m))]
  congr 2
  apply List.filter_congr
  intro m hm
  have hmd : m < getN x.shape ax := List.mem_range.mp hm
  cases excl
  · simp only [Bool.false_eq_true, if_false, if_true, decide_eq_decide]
    exact (mirror_le _ m _ hi).symm
  · simp only [if_true, Bool.false_eq_true, if_false, decide_eq_decide]
    exact (mirror_lt _ m _ hmd).symm

example : (cumsumCore ⟨[4], [1, 2, 3, 4]⟩ 0 false true).data = [10, 9, 7, 4] := by decide +kernel
example : (cumsumCore ⟨[4], [1, 2, 3, 4]⟩ 0 true true).data = [9, 7, 4, 0] := by decide +kernel
example : (flipAx ⟨[2, 2], [1, 2, 3, 4]⟩ 1).data = [2, 1, 4, 3] := by decide +kernel

/-- L23. AveragePool with a 1×…×1 kernel, unit strides / dilations and no padding is the identity on an
input whose spatial axes are non-empty (either rounding mode, either `count_include_pad`): validates the
window position and divisor of the reference. -/
theorem c15_avgpool_identity (x : Tensor) (n : Nat) (ceil cip : Bool) (hn : n ≥ 1)
    (hr : x.shape.length = n + 2) (hwf : x.data.length = prod x.shape)
    (hpos : ∀ a, a < n → getN (x.shape.drop 2) a ≥ 1) :
    pool "avg" x (List.replicate n 1) (List.replicate n 1) (List.replicate n 1) (List.replicate (2 * n) 0)
      ceil "NOTSET" cip 1 = .ok x := by
  unfold pool
  have hg1 : (x.rank == n + 2 && decide (n ≥ 1)) = true := by simp [Tensor.rank, hr, hn]
  have hsp : (List.range n).map (getN (x.shape.drop 2)) = x.shape.drop 2 :=
    (show (x.shape.drop 2).length = n by rw [List.length_drop, hr]; rfl) ▸ map_range_getN (x.shape.drop 2)
  simp only [List.length_replicate, hg1, guardR, if_true, beq_self_eq_true, Bool.and_self, bind, Except.bind,
    pure, Except.pure]
  -- per axis: output extent = input extent, no padding
  rw [mapM_ok _ (fun a => (getN (x.shape.drop 2) a, 0, 0)) _ fun a ha => by
    have ha' : a < n := List.mem_range.mp ha
    rw [getN_replicate _ _ _ ha', getN_replicate _ _ _ (by omega), getN_replicate _ _ _ (by omega)]
    exact poolAxis_one _ ceil (hpos a ha')]
  simp only [List.map_map, Function.comp_def, hsp, List.take_append_drop]
  -- every cell: the window is `[x[idx]]`, so sum · 1 / count = x[idx] and no divisor problem arises
  have hw := fun idx hm => poolWindow_one x n idx hr ((mem_allIdx x.shape idx).mp hm)
  rw [List.map_congr_left (g := fun idx => some (x.get idx)) fun idx hm => by
      simp only [hw idx hm]; cases cip <;> simp [sumI],
    List.map_congr_left (g := x.get) fun idx hm => by
      simp only [hw idx hm]; cases cip <;> simp [sumI]]
  have hany : ((allIdx x.shape).map (fun idx => some (x.get idx))).any Option.isNone = false := by
    simp
  rw [hany, if_neg Bool.false_ne_true]
  exact congrArg Except.ok (build_get x hwf)

/-- L24. `Global{Max,Average}Pool` is the `{Max,Average}Pool` computation with kernel = the whole spatial
extent, unit strides, no padding (holds by construction of the reference; stated for completeness). -/
theorem c15_globalpool_is_pool (mode : String) (a : Attrs) (x : Tensor) (h3 : x.rank ≥ 3) :
    globalPoolOp mode a [some x] =
      (pool mode x (x.shape.drop 2) (List.replicate (x.shape.drop 2).length 1)
        (List.replicate (x.shape.drop 2).length 1) (List.replicate (2 * (x.shape.drop 2).length) 0)
        false "NOTSET" false (a.int "scale" 1)).map (fun r => [r]) := by
  unfold globalPoolOp
  have hg : guardR (decide (x.rank ≥ 3)) = .ok () := by rw [decide_eq_true h3]; rfl
  simp only [inp, List.getD_cons_zero, bind, Except.bind, hg, pure, Except.pure]
  cases pool mode x (x.shape.drop 2) (List.replicate (x.shape.drop 2).length 1)
        (List.replicate (x.shape.drop 2).length 1) (List.replicate (2 * (x.shape.drop 2).length) 0)
        false "NOTSET" false (a.int "scale" 1) <;> rfl

example : (match pool "max" ⟨[1, 1, 4], [3, 9, 2, 5]⟩ [2] [2] [1] [0, 0] false "NOTSET" false 1 with
    | .ok t => (t.shape, t.data) | .error _ => ([], [])) = ([1, 1, 2], [9, 5]) := by decide +kernel
example : (match pool "avg" ⟨[1, 1, 3], [1, 2, 4]⟩ [2] [1] [1] [0, 0] false "NOTSET" false 2 with
    | .ok t => (t.shape, t.data) | .error _ => ([], [])) = ([1, 1, 2], [3, 6]) := by decide +kernel

/-- L25. `Slice`, positive step, on a non-empty axis (`dim ≠ 0`, as in L26 and L27): `sliceAxis` (negative
starts/ends counted from the end, clamping into `[0, dim]`, INT_MAX ends) selects exactly Python's
`range(*slice(start, stop, step).indices(dim))`: every selected index `s + k·step`, `k < len`, lies in
`[s, e) ⊆ [0, dim)` and `s + len·step` is the first index of the progression at or past the clamped end `e`. -/
theorem c15_slice_axis_pos (dim : Nat) (start stop step : Int) (hd : dim ≠ 0) (hs : step > 0) :
    let s := sliceStart dim start step
    let e := sliceStop dim stop step
    sliceAxis dim start stop step = (s, (sliceAxis dim start stop step).2) ∧
    0 ≤ s ∧ s ≤ dim ∧ 0 ≤ e ∧ e ≤ dim ∧
    (∀ k : Nat, k < (sliceAxis dim start stop step).2 → s ≤ s + k * step ∧ s + k * step < e) ∧
    e ≤ s + ((sliceAxis dim start stop step).2 : Int) * step := by
  intro s e
  have hsb := clampI_bounds 0 (dim : Int) (if start < 0 then start + dim else start) (Int.natCast_nonneg _)
  have heb := clampI_bounds 0 (dim : Int) (if stop < 0 then stop + dim else stop) (Int.natCast_nonneg _)
  rw [← sliceStart_of_pos dim start step hs] at hsb
  rw [← sliceStop_of_pos dim stop step hs] at heb
  rw [sliceAxis_of_pos dim start stop step hd hs]
  exact ⟨rfl, hsb.1, hsb.2, heb.1, heb.2, count_up s e step hs⟩

/-- L26. `Slice`, negative step: start clamped into `[0, dim-1]`, end into `[-1, dim-1]`; every selected
index lies in `(e, s] ⊆ [0, dim)` and `s + len·step` is the first one at or below `e`. -/
theorem c15_slice_axis_neg (dim : Nat) (start stop step : Int) (hd : dim ≠ 0) (hs : step < 0) :
    let s := sliceStart dim start step
    let e := sliceStop dim stop step
    sliceAxis dim start stop step = (s, (sliceAxis dim start stop step).2) ∧
    0 ≤ s ∧ s ≤ (dim : Int) - 1 ∧ -1 ≤ e ∧ e ≤ (dim : Int) - 1 ∧
    (∀ k : Nat, k < (sliceAxis dim start stop step).2 → e < s + k * step ∧ s + k * step ≤ s) ∧
    s + ((sliceAxis dim start stop step).2 : Int) * step ≤ e := by
  intro s e
  have hns : ¬ step > 0 := Int.not_lt.mpr (Int.le_of_lt hs)
  have hdp : (0 : Int) ≤ (dim : Int) - 1 := by omega
  have hsb := clampI_bounds 0 ((dim : Int) - 1) (if start < 0 then start + dim else start) hdp
  have heb := clampI_bounds (-1) ((dim : Int) - 1) (if stop < 0 then stop + dim else stop) (by omega)
  rw [← sliceStart_of_not_pos dim start step hns] at hsb
  rw [← sliceStop_of_not_pos dim stop step hns] at heb
  rw [sliceAxis_of_not_pos dim start stop step hd hns]
  exact ⟨rfl, hsb.1, hsb.2, heb.1, heb.2, count_down s e step hs⟩

/-- L27. Exporter idioms: `end ≥ dim` (INT_MAX) with step 1 slices to the end of the axis; `start ≥ dim-1`,
`end ≤ -dim-1` (INT_MIN) with step −1 reverses the whole axis. -/
theorem c15_slice_axis_idioms (dim : Nat) (start stop : Int) (hd : dim ≠ 0) :
    (0 ≤ start → start ≤ dim → (dim : Int) ≤ stop → sliceAxis dim start stop 1 = (start, (dim - start).toNat)) ∧
    ((dim : Int) - 1 ≤ start → stop ≤ -(dim : Int) - 1 → sliceAxis dim start stop (-1) = ((dim : Int) - 1, dim)) := by
  have hdp : (0 : Int) ≤ (dim : Int) - 1 := by omega
  constructor
  · intro h0 h1 he
    rw [sliceAxis_of_pos _ _ _ _ hd (by decide), sliceStart_of_pos _ _ _ (by decide),
      sliceStop_of_pos _ _ _ (by decide), if_neg (Int.not_lt.mpr h0),
      if_neg (Int.not_lt.mpr (Int.le_trans (Int.natCast_nonneg _) he)), clampI_of_mem _ _ _ h0 h1,
      clampI_of_ge _ _ _ (Int.natCast_nonneg _) he, Int.ediv_one, Int.add_sub_cancel]
  · intro h0 he
    rw [sliceAxis_of_not_pos _ _ _ _ hd (by decide), sliceStart_of_not_pos _ _ _ (by decide),
      sliceStop_of_not_pos _ _ _ (by decide), if_neg (Int.not_lt.mpr (Int.le_trans hdp h0)), if_pos (by omega),
      clampI_of_ge _ _ _ hdp h0, clampI_of_le _ _ _ (by omega) (by omega), Int.neg_neg, Int.ediv_one]
    congr 1; omega

example : sliceAxis 5 (-1) (-9223372036854775808) (-2) = (4, 3) := by decide +kernel
example : sliceAxis 5 1 9223372036854775807 2 = (1, 2) := by decide +kernel
example : sliceAxis 3 (-5) 5 (-1) = (0, 0) := by decide +kernel

/-- L28. `Div` / `Mod(fmod=1)` is the C pair: `x = y·q + r`, `|r| < |y|`, `r` has the sign of the dividend
(quotient truncated toward zero). -/
theorem c15_div_fmod (x y : Int) (hy : y ≠ 0) :
    x = y * divI x y + modI true x y ∧ (modI true x y).natAbs < y.natAbs ∧
    (0 ≤ x → 0 ≤ modI true x y) ∧ (x ≤ 0 → modI true x y ≤ 0) := by
  simp only [divI, modI, if_true]
  refine ⟨(Int.mul_tdiv_add_tmod x y).symm, ?_, fun hx => Int.tmod_nonneg y hx, fun hx => ?_⟩
  · rw [Int.natAbs_tmod]
    exact Nat.mod_lt _ (Int.natAbs_pos.mpr hy)
  · have := Int.tmod_nonneg y (Int.neg_nonneg_of_nonpos hx)
    rw [Int.neg_tmod] at this
    exact Int.nonpos_of_neg_nonneg this

/-- L29. `Mod(fmod=0)` is Python `%`: `x = y·⌊x/y⌋ + r`, `|r| < |y|`, `r` has the sign of the divisor. -/
theorem c15_mod (x y : Int) (hy : y ≠ 0) :
    x = y * Int.fdiv x y + modI false x y ∧ (modI false x y).natAbs < y.natAbs ∧
    (0 < y → 0 ≤ modI false x y) ∧ (y < 0 → modI false x y ≤ 0) := by
  simp only [modI, Bool.false_eq_true, if_false]
  -- for a negative divisor use `fmod (-x) (-y) = -(fmod x y)`
  have hneg : y < 0 → 0 ≤ -Int.fmod x y ∧ -Int.fmod x y < -y := fun hn => by
    have h1 := Int.fmod_nonneg_of_pos (-x) (Int.neg_pos_of_neg hn)
    have h2 := Int.fmod_lt_of_pos (-x) (Int.neg_pos_of_neg hn)
    rw [Int.neg_fmod_neg] at h1 h2
    exact ⟨h1, h2⟩
  refine ⟨(Int.mul_fdiv_add_fmod x y).symm, ?_, fun hp => Int.fmod_nonneg_of_pos x hp, fun hn => ?_⟩
  · rcases Int.lt_or_gt_of_ne hy with hn | hp
    · have := Int.natAbs_lt_natAbs_of_nonneg_of_lt (hneg hn).1 (hneg hn).2
      rwa [Int.natAbs_neg, Int.natAbs_neg] at this
    · exact Int.natAbs_lt_natAbs_of_nonneg_of_lt (Int.fmod_nonneg_of_pos x hp) (Int.fmod_lt_of_pos x hp)
  · exact Int.nonpos_of_neg_nonneg (hneg hn).1

example : divI (-7) 2 = -3 ∧ modI true (-7) 2 = -1 ∧ modI false (-7) 2 = 1 ∧ modI false 7 (-2) = -1 := by decide +kernel

/-- L30. `Pow` with a non-negative integer exponent is repeated multiplication. -/
theorem c15_pow (x : Int) (n : Nat) : powI x 0 = 1 ∧ powI x ((n : Int) + 1) = x * powI x n := by
  refine ⟨Int.pow_zero x, ?_⟩
  show x ^ ((n : Int) + 1).toNat = x * x ^ (n : Int).toNat
  rw [Int.toNat_natCast_add_one, Int.toNat_natCast, Int.pow_succ, Int.mul_comm]

/-- L31. `Clip`: result within `[lo, hi]`, unchanged if already inside, absent bounds do not constrain. -/
theorem c15_clip (lo hi v : Int) (h : lo ≤ hi) :
    lo ≤ clipI (some lo) (some hi) v ∧ clipI (some lo) (some hi) v ≤ hi ∧
    (lo ≤ v → v ≤ hi → clipI (some lo) (some hi) v = v) ∧
    clipI none none v = v ∧ clipI (some lo) none v = max v lo ∧ clipI none (some hi) v = min v hi := by
  refine ⟨Int.le_min.mpr ⟨Int.le_max_right v lo, h⟩, Int.min_le_right _ hi, fun h1 h2 => ?_, rfl, rfl, rfl⟩
  show min (max v lo) hi = v
  rw [Int.max_eq_left h1, Int.min_eq_left h2]

/-- L32. `Range(start, limit, delta)`: `max(⌈(limit − start)/delta⌉, 0)` elements `start + i·delta`, each
strictly before `limit` in the direction of `delta`, and the next one is not. -/
theorem c15_range (start limit delta : Int) (t : Tensor) (hd : delta ≠ 0)
    (h : rangeOp start limit delta = .ok t) :
    t.shape = [t.data.length] ∧
    (∀ i : Nat, i < t.data.length → getI t.data i = start + i * delta ∧
      (0 < delta → getI t.data i < limit) ∧ (delta < 0 → limit < getI t.data i)) ∧
    (0 < delta → limit ≤ start + (t.data.length : Int) * delta) ∧
    (delta < 0 → start + (t.data.length : Int) * delta ≤ limit) := by
  unfold rangeOp at h
  rw [if_neg (by simpa using hd)] at h
  injection h with h
  subst h
  simp only [List.length_map, List.length_range]
  -- the length is `⌈(limit − start)/delta⌉⁺` resp. `⌈(start − limit)/(−delta)⌉⁺`
  refine ⟨trivial, fun i hi => ?_, fun hp => ?_, fun hn => ?_⟩
  · rw [getI_map_range _ (fun (i : Nat) => start + (i : Int) * delta) _ hi]
    refine ⟨rfl, fun hp => ?_, fun hn => ?_⟩
    · rw [if_pos hp] at hi
      exact ((count_up start limit delta hp).1 i hi).2
    · rw [if_neg (Int.lt_asymm hn)] at hi
      exact ((count_down start limit delta hn).1 i hi).1
  · rw [if_pos hp]
    exact (count_up start limit delta hp).2
  · rw [if_neg (Int.lt_asymm hn)]
    exact (count_down start limit delta hn).2

example : (match rangeOp 10 3 (-3) with | .ok t => t.data | .error _ => []) = [10, 7, 4] := by decide +kernel

/-- L33. Index rule of Gather / GatherElements / GatherND / Scatter*: `normIndex dim i` accepts exactly
`-dim ≤ i < dim` and returns `i`, or `i + dim` for negative `i`. -/
theorem c15_norm_index (dim : Nat) (i : Int) (k : Nat) :
    normIndex dim i = some k ↔
      (-(dim : Int) ≤ i ∧ i < dim ∧ (k : Int) = if i < 0 then i + dim else i) := normIndex_spec dim i k

/-- L34. Axis attributes (`axis`, `axes`): accepted exactly for `-rank ≤ a < rank`, negative counted from the back. -/
theorem c15_norm_axis (rank : Nat) (a : Int) (k : Nat) :
    normAxis rank a = .ok k ↔
      (-(rank : Int) ≤ a ∧ a < rank ∧ (k : Int) = if a < 0 then a + rank else a) :=
  (normAxis_eq_ok_iff rank a k).trans (normIndex_spec rank a k)

/-- L35. `Concat(Split(x, sizes)) = x` for ANY number of pieces whose sizes sum to the axis extent
(n-way version of L6; `concat` folds `concat2` over the pieces exactly like this). -/
theorem c15_concat_split_sizes (x : Tensor) (ax n : Nat) (ns : List Nat) (hwf : x.data.length = prod x.shape)
    (hax : ax < x.shape.length) (hsum : n + ns.foldr (· + ·) 0 = getN x.shape ax) :
    (splitSizes x ax ns n).foldl (concat2 ax) (narrow x ax 0 n) = x := by
  rw [foldl_concat_split x ax hax ns n, hsum, narrow_full x ax hwf]

/-- L36. TopK order: the lane is a permutation of the (value, index) pairs, sorted so that an earlier pair
has a strictly better value than a later one, or the same value and a lower index. -/
theorem c15_topk_order (largest : Bool) (l : List (Int × Nat)) :
    (sortBy (topkBefore largest) l).Perm l ∧
    (sortBy (topkBefore largest) l).Pairwise (fun a b =>
      (if largest then a.1 > b.1 else a.1 < b.1) ∨ (a.1 = b.1 ∧ a.2 ≤ b.2)) :=
  ⟨sortBy_perm _ l, (sortBy_sorted largest l).imp fun {a b} h => (topkLe_iff largest a b).mp h⟩

example : sortBy (topkBefore true) [(3, 0), (1, 1), (3, 2), (9, 3)] = [(9, 3), (3, 0), (3, 2), (1, 1)] := by decide +kernel

/-- L37. NonZero lists the non-zero positions in row-major order (strictly increasing linear offsets),
exactly the valid indices whose element is non-zero. -/
theorem c15_nonzero_order (x : Tensor) :
    let hits := (allIdx x.shape).filter (fun idx => x.get idx != 0)
    (hits.map (ravel x.shape)).Pairwise (· < ·) ∧
    (∀ idx ∈ hits, validIdx x.shape idx = true ∧ x.get idx ≠ 0) ∧
    (∀ idx, validIdx x.shape idx = true → x.get idx ≠ 0 → idx ∈ hits) := by
  intro hits
  refine ⟨?_, fun idx h => ?_, fun idx hv hne => ?_⟩
  · have hsub : (hits.map (ravel x.shape)).Sublist ((allIdx x.shape).map (ravel x.shape)) :=
      (List.filter_sublist).map _
    rw [map_ravel_allIdx] at hsub
    exact List.Pairwise.sublist hsub List.pairwise_lt_range
  · have := List.mem_filter.mp h
    exact ⟨(mem_allIdx _ _).mp this.1, by simpa using this.2⟩
  · exact List.mem_filter.mpr ⟨(mem_allIdx _ _).mpr hv, by simpa using hne⟩

/-- L38. Reduce with EXPLICIT axes (a non-empty list, any order, positive or negative form) covering every
axis = the fold of the row-major data, shape `[]` / `[1,…,1]` (keepdims), regardless of `noop_with_empty_axes`. -/
theorem c15_reduce_explicit_full (f : List Int → Option Int) (x : Tensor) (axes : List Int) (ax : List Nat)
    (v : Int) (keepdims noop : Bool)
    (hwf : x.data.length = prod x.shape) (hf : f x.data = some v)
    (hnorm : normAxes x.rank axes = .ok ax) (hne : ax ≠ [])
    (hall : ∀ k, k < x.rank → ax.contains k = true) :
    reduce f x (some axes) keepdims noop = .ok ⟨if keepdims then List.replicate x.rank 1 else [], [v]⟩ := by
  have hemp := List.isEmpty_eq_false_iff.mpr hne
  exact reduce_cover f x (some axes) ax v keepdims noop hwf hf hnorm (by rw [hemp]; rfl) (by rw [hemp]; exact hall)

example : (match normAxes 2 [-1, 0] with | .ok a => a | .error _ => []) = [1, 0] := by decide +kernel

/-- L39. Trilu: the upper triangle from diagonal `k` plus the lower triangle up to diagonal `k-1` is `x`. -/
theorem c15_trilu_partition (x : Tensor) (k : Int) (hwf : x.data.length = prod x.shape) (hr : x.rank ≥ 2) :
    (trilu x k true).bind (fun u => (trilu x (k - 1) false).bind (fun l => binop (· + ·) u l)) = .ok x := by
  unfold trilu
  have hg : guardR (decide (x.rank ≥ 2)) = .ok () := by rw [decide_eq_true hr]; rfl
  simp only [hg, bind, Except.bind, pure, Except.pure]
  unfold binop bshapeR
  have hs : ∀ f, (build x.shape f).shape = x.shape := fun _ => rfl
  simp only [hs, bshape_self, bind, Except.bind, pure, Except.pure]
  congr 1
  apply build_eq_self x hwf
  intro idx hv
  rw [bidx_self _ _ hv, get_build _ _ _ hv, get_build _ _ _ hv]
  simp only [if_true, Bool.false_eq_true, if_false]
  -- `j ≥ i + k` and `j ≤ i + (k - 1)` exclude each other and one of them holds
  by_cases h : (getN idx (x.rank - 1) : Int) ≥ (getN idx (x.rank - 2) : Int) + k
  · rw [if_pos h, if_neg (by omega), Int.add_zero]
  · rw [if_neg h, if_pos (by omega), Int.zero_add]

/-- L40. On the operators themselves: if `Unsqueeze(x, axes)` succeeds (axes, possibly negative, normalise
against the OUTPUT rank to distinct positions) then `Squeeze(·, axes)` of the result succeeds and returns `x`. -/
theorem c15_squeeze_unsqueeze_op (x y : Tensor) (axes : List Int) (h : unsqueeze x axes = .ok y) :
    squeeze y (some axes) = .ok x := by
  unfold unsqueeze at h
  obtain ⟨ax, hax, h⟩ := bind_eq_ok h
  obtain ⟨_, hg, h⟩ := bind_eq_ok h
  injection h with hy
  have hdup : hasDup ax = false := by
    cases hd : hasDup ax with
    | false => rfl
    | true => rw [hd] at hg; exact nomatch hg
  obtain ⟨hlen, hmem⟩ := mapM_ok_inv _ _ _ hax
  have hrk : x.rank + axes.length = x.shape.length + ax.length := by rw [hlen]; rfl
  rw [hrk] at hy hax
  -- every normalised axis is a position of the output, so the shape law applies
  have hbound : ∀ a ∈ ax, a < x.shape.length + ax.length := by
    intro a ha
    obtain ⟨a', _, hf⟩ := hmem a ha
    exact hrk ▸ normIndex_lt _ _ _ ((normAxis_eq_ok_iff _ _ _).mp hf)
  obtain ⟨l1, l2, l3⟩ :=
    c15_squeeze_unsqueeze x.shape ax (count_positions (x.shape.length + ax.length) ax hdup hbound)
  subst hy
  unfold squeeze normAxes
  have hyr : (Tensor.mk (insertOnes x.shape 0 ax (x.shape.length + ax.length)) x.data).rank
      = x.shape.length + ax.length := l2
  have hall : ax.all (fun k => getN (insertOnes x.shape 0 ax (x.shape.length + ax.length)) k == 1) = true := by
    rw [List.all_eq_true]
    intro k hk
    rw [l3 k (hbound k hk) (by simpa using hk)]; rfl
  simp only [hyr, hax, bind, Except.bind, hdup, Bool.false_eq_true, if_false, pure, Except.pure, guardR, hall,
    if_true, l1]

example : (match unsqueeze ⟨[2, 3], [1, 2, 3, 4, 5, 6]⟩ [-1, 0] with | .ok t => t.shape | .error _ => []) = [1, 2, 3, 1] := by
  decide +kernel

end RtenVerif.OnnxRef
