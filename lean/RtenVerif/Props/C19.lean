import RtenVerif.Lemmas.ExpBits
import Mathlib.Analysis.Complex.Exponential
import Mathlib.Analysis.Complex.ExponentialBounds
import Mathlib.Tactic.NormNum
import Mathlib.Tactic.FieldSimp
import Mathlib.Tactic.Ring
import Mathlib.Tactic.Positivity

/-!
# C19 — Vectorized math functions meet their documented accuracy

**What is proved here (kernel-checked):**

* **T1** the integer manipulations by which `Exp` / `ReducedRangeExp` build `2^k` are exact:
  for *every* integer `k` for which the code can be exact (`-249 ≤ k ≤ 254`, a superset of
  the reachable `|k| ≤ 150`) the two bit patterns `is`, `it` decode to normal powers of two
  whose real product is `2^k`; for `ReducedRangeExp` the single pattern decodes to `2^k`
  for every `-126 ≤ k ≤ 127`.  Complete finite ranges, by kernel evaluation (`decide`).
* **T2** the special-value selects as decision logic: `x ≥ 104 → +∞`, `x ≤ −104 → 0`
  (including `±∞`), NaN falls through both selects to the arithmetic result, the two masks
  are never both set so the select order is immaterial; `ReducedRangeExp` cutoff; `Tanh`
  branch selection, sign handling at zero (as found: `tanh(+0.0) = -0.0`; fixed in rten) and NaN.
* **T3** over `ℝ`: softmax as coded (`exp(xᵢ − m) · (1 / Σⱼ exp(xⱼ − m))`) is positive, sums
  to one for non-empty input, is at most one, and does not depend on the subtracted `m`
  (so subtracting the maximum changes nothing mathematically).

**What is NOT proved (and not provable with the tools present, DESIGN §8):** the documented
ULP / absolute error bounds (exp ≤ 1 ULP, sigmoid ≤ 4 ULP, tanh ≤ 3 ULP, erf ≤ 6.631017e-7,
sin ≤ 3e-7, cos ≤ 5e-7). They are statements about IEEE rounding of polynomial evaluations.
They are decided by *exhaustive execution* of the real code over all 2^32 bit patterns
(thorough tier; a 2^24-point strided sweep in quick) in `harness/gemm/src/bin/c19.rs`.
-/
namespace RtenVerif.ExpBits

/-! (`reconOk`, the complete-range `decide`s and T1a/T1b live in `Lemmas/ExpBits.lean`, which
imports nothing from Mathlib.) -/

noncomputable def Dyadic.toReal (d : Dyadic) : ℝ :=
  (if d.neg then -1 else 1) * (d.mant : ℝ) * (2 : ℝ) ^ d.exp

theorem pow2Exp_decode (b : Nat) (j : Int) (h : pow2Exp b = some j) :
    ∃ d, decode b = some d ∧ d.toReal = (2 : ℝ) ^ j := by
  unfold pow2Exp at h
  split at h
  · next hc =>
    obtain ⟨hs, hm, h1, h2⟩ := hc
    cases h
    refine ⟨⟨false, 2 ^ 23, (expField b : Int) - 150⟩, ?_, ?_⟩
    · simp only [decode]
      rw [if_neg (by omega), if_neg (by omega), hs, hm]
      rfl
    · have : ((2 ^ 23 : Nat) : ℝ) = (2 : ℝ) ^ (23 : Int) := by norm_num
      rw [Dyadic.toReal, if_neg Bool.false_ne_true, one_mul, this, ← zpow_add₀ two_ne_zero]
      congr 1
      show (23 : Int) + ((expField b : Int) - 150) = (expField b : Int) - 127
      omega
  · cases h

/-- **C19.T1c** (full statement over ℝ) for every integer `k ∈ [-249, 254]` the two bit
patterns built by `Exp::eval` are finite floats whose real values multiply to exactly `2^k`;
the first factor is `2^127` or `2^-123`. -/
theorem c19_exp_recon_product (k : Int) (lo : -249 ≤ k) (hi : k ≤ 254) :
    ∃ ds dt, decode (expRecon (BitVec.ofInt 32 k)).1.toNat = some ds ∧
      decode (expRecon (BitVec.ofInt 32 k)).2.toNat = some dt ∧
      ds.toReal * dt.toReal = (2 : ℝ) ^ k := by
  obtain ⟨a, b, ha, hb, hab⟩ := reconOk_spec k (c19_exp_recon_exact k lo hi)
  obtain ⟨ds, hds, vs⟩ := pow2Exp_decode _ _ ha
  obtain ⟨dt, hdt, vt⟩ := pow2Exp_decode _ _ hb
  refine ⟨ds, dt, hds, hdt, ?_⟩
  rw [vs, vt, ← zpow_add₀ (by norm_num : (2 : ℝ) ≠ 0), hab]

/-- `ReducedRangeExp` over ℝ. -/
theorem c19_reduced_recon_value (k : Int) (lo : -126 ≤ k) (hi : k ≤ 127) :
    ∃ d, decode (reducedRecon (BitVec.ofInt 32 k)).toNat = some d ∧ d.toReal = (2 : ℝ) ^ k :=
  pow2Exp_decode _ _ (c19_reduced_recon_exact k lo hi)

theorem scale_pos : (0 : Int) < scale := by unfold scale; exact Int.pow_pos (by decide)

theorem geC_fin (q num den : Int) : geC (.fin q) num den = decide (q * den ≥ num * scale) := rfl

theorem leC_fin (q num den : Int) : leC (.fin q) num den = decide (q * den ≤ num * scale) := rfl

theorem expSelect_eq (x : FVal) : expSelect x =
    if leC x (-104) 1 then .zero else if geC x 104 1 then .inf else .core := rfl

theorem expSelectSwapped_eq (x : FVal) : expSelectSwapped x =
    if geC x 104 1 then .inf else if leC x (-104) 1 then .zero else .core := rfl

theorem masks_exclusive (x : FVal) (h : geC x 104 1 = true) : leC x (-104) 1 = false := by
  have hs := scale_pos
  cases x with
  | nan => rfl
  | negInf => simp only [geC] at h; exact absurd h (by decide)
  | posInf => rfl
  | fin q =>
    rw [geC_fin, decide_eq_true_eq] at h
    rw [leC_fin, decide_eq_false_iff_not]
    omega

/-- **C19.T2a** `x ≥ 104` (finite or `+∞`) returns `+∞`. -/
theorem c19_exp_overflow (x : FVal) (h : geC x 104 1 = true) : expSelect x = .inf := by
  rw [expSelect_eq, masks_exclusive x h, h]; rfl

/-- **C19.T2b** `x ≤ −104` (finite or `−∞`) returns `0`. -/
theorem c19_exp_underflow (x : FVal) (h : leC x (-104) 1 = true) : expSelect x = .zero := by
  rw [expSelect_eq, h]; rfl

/-- **C19.T2c** NaN fails both ordered comparisons and reaches the arithmetic result, which
is NaN by IEEE propagation (assumption on the float operations, not on the selects). -/
theorem c19_exp_nan : expSelect .nan = .core := rfl

/-- **C19.T2d** everything strictly between the thresholds uses the arithmetic result. -/
theorem c19_exp_mid (q : Int) (lo : -104 * scale < q) (hi : q < 104 * scale) :
    expSelect (.fin q) = .core := by
  have h1 : geC (.fin q) 104 1 = false := by
    rw [geC_fin, decide_eq_false_iff_not]; omega
  have h2 : leC (.fin q) (-104) 1 = false := by
    rw [leC_fin, decide_eq_false_iff_not]; omega
  rw [expSelect_eq, h1, h2]; rfl

/-- **C19.T2e** the overflow and underflow masks are never both set, hence the order in which
the two selects are applied does not matter. -/
theorem c19_exp_select_order (x : FVal) : expSelect x = expSelectSwapped x := by
  rw [expSelect_eq, expSelectSwapped_eq]
  cases hg : geC x 104 1 with
  | true => rw [masks_exclusive x hg]; rfl
  | false => cases leC x (-104) 1 <;> rfl

example : expSelect .posInf = .inf ∧ expSelect .negInf = .zero ∧
    expSelect (.fin (104 * scale)) = .inf ∧ expSelect (.fin (-104 * scale)) = .zero ∧
    expSelect (.fin 0) = .core ∧ expSelect (.fin (104 * scale - 1)) = .core := by
  decide +kernel

/-- **C19.T2h** special inputs, whatever the arithmetic part produced (`core` is arbitrary —
for `±∞` the real arithmetic yields NaN from `∞ − ∞`): `exp(+∞) = +∞`, `exp(−∞) = 0`, and a NaN
input yields NaN as soon as the arithmetic propagates NaN (IEEE). -/
theorem c19_exp_special_values (core : FVal → FRes) :
    expValue core .posInf = .inf ∧ expValue core .negInf = .zero ∧
    (core .nan = .nan → expValue core .nan = .nan) := by
  refine ⟨rfl, rfl, ?_⟩
  intro h
  show core .nan = .nan
  exact h

theorem exp_104_gt : (2 : ℝ) ^ 150 < Real.exp 104 := by
  have h1 : Real.exp 104 = Real.exp 1 ^ 104 := by
    have := Real.exp_nat_mul 1 104
    simpa using this
  rw [h1]
  have h2 : (2.7182818283 : ℝ) ^ 104 < Real.exp 1 ^ 104 :=
    pow_lt_pow_left₀ Real.exp_one_gt_d9 (by norm_num) (by norm_num)
  have h3 : (2 : ℝ) ^ 150 < (2.7182818283 : ℝ) ^ 104 := by norm_num
  exact lt_trans h3 h2

/-- **C19.T2i** the overflow clamp is exact: for every real `x ≥ 104`, `exp x > 2^150 > 2^128`,
i.e. above every finite f32, so `+∞` *is* the correctly rounded result the select returns. -/
theorem c19_exp_overflow_correct (x : ℝ) (h : 104 ≤ x) : (2 : ℝ) ^ 128 < Real.exp x := by
  have h1 : Real.exp 104 ≤ Real.exp x := Real.exp_le_exp.mpr h
  have h2 : (2 : ℝ) ^ 128 < 2 ^ 150 := by norm_num
  linarith [exp_104_gt]

/-- **C19.T2j** the underflow clamp is exact: for every real `x ≤ −104`, `exp x < 2^-150`, half
the smallest subnormal f32, so `0` *is* the correctly rounded (nearest-even) result. (Numerically
`e^104 / 2^150 ≈ 1.03`: the threshold is nearly tight; only `exp_104_gt` is proved.) -/
theorem c19_exp_underflow_correct (x : ℝ) (h : x ≤ -104) : Real.exp x < (2 : ℝ) ^ (-150 : ℤ) := by
  have h1 : Real.exp x ≤ Real.exp (-104) := Real.exp_le_exp.mpr h
  have h2 : Real.exp (-104) = (Real.exp 104)⁻¹ := Real.exp_neg 104
  have h3 : (Real.exp 104)⁻¹ < ((2 : ℝ) ^ 150)⁻¹ :=
    inv_strictAnti₀ (by positivity) exp_104_gt
  have h4 : ((2 : ℝ) ^ 150)⁻¹ = (2 : ℝ) ^ (-150 : ℤ) := by
    rw [zpow_neg]; norm_num
  rw [h2] at h1
  rw [← h4]
  exact lt_of_le_of_lt h1 h3

/-- Model and reals together: a finite input `q·2^-149 ≥ 104` takes the `+∞` select and its
true exponential exceeds every finite f32; symmetrically for `≤ −104`. -/
theorem c19_exp_clamps_are_ieee (q : Int) :
    (q ≥ 104 * scale → expValue (fun _ => .val) (.fin q) = .inf ∧
        (2 : ℝ) ^ 128 < Real.exp ((q : ℝ) / (scale : ℝ))) ∧
    (q ≤ -104 * scale → expValue (fun _ => .val) (.fin q) = .zero ∧
        Real.exp ((q : ℝ) / (scale : ℝ)) < (2 : ℝ) ^ (-150 : ℤ)) := by
  have hs : (0 : ℝ) < (scale : ℝ) := by exact_mod_cast scale_pos
  constructor
  · intro h
    have hg : geC (.fin q) 104 1 = true := by rw [geC_fin, decide_eq_true_eq]; omega
    refine ⟨?_, c19_exp_overflow_correct _ ?_⟩
    · unfold expValue; rw [c19_exp_overflow _ hg]
    · rw [le_div_iff₀ hs]; exact_mod_cast h
  · intro h
    have hl : leC (.fin q) (-104) 1 = true := by rw [leC_fin, decide_eq_true_eq]; omega
    refine ⟨?_, c19_exp_underflow_correct _ ?_⟩
    · unfold expValue; rw [c19_exp_underflow _ hl]
    · rw [div_le_iff₀ hs]; exact_mod_cast h

/-- **C19.T2f** `ReducedRangeExp` (`x ≤ 0` by contract): `0` where the ordered comparison
`x < cutoff` holds, the arithmetic result elsewhere, the cutoff `num/den` being a parameter (the
example below evaluates NaN, `−∞` and both ends of the documented bracket). -/
theorem c19_reduced_select (x : FVal) (num den : Int) :
    reducedSelect x num den = (if ltC x num den then .zero else .core) := rfl

example : reducedSelect .nan cutoffLoNum cutoffDen = .core ∧
    reducedSelect .negInf cutoffLoNum cutoffDen = .zero ∧
    reducedSelect (.fin (-88 * scale)) cutoffHiNum cutoffDen = .zero ∧
    reducedSelect (.fin (-87 * scale)) cutoffLoNum cutoffDen = .core := by decide +kernel

/-- **C19.T2g** `Tanh` branch selection: NaN takes the `exp`-based branch (and is propagated by
arithmetic), `±∞` saturate to magnitude 1, zeros take the `tiny` branch `y = |x|`; the result
carries the input's sign bit, so `tanh(±0.0) = ±0.0`. -/
theorem c19_tanh_select (sb : Bool) :
    tanhSelect .nan sb = (.medium, sb) ∧ tanhSelect .posInf false = (.one, false) ∧
    tanhSelect .negInf true = (.one, true) ∧ tanhSelect (.fin 0) sb = (.tiny, sb) := by
  cases sb <;> decide +kernel

/-- The full statement "signed zeros map as the reference does" was FALSE of the code as found:
its sign select `x <= 0` is true for `+0.0` too, so `tanh(+0.0)` was negated to `-0.0`
(finding `C19-tanh-pos-zero`, fixed in rten-vecmath/src/tanh.rs). -/
theorem c19_tanh_as_found_negates_pos_zero : tanhSelectLe (.fin 0) = (.tiny, true) := by
  decide +kernel

/-- For non-zero finite inputs the sign select as found (`x <= 0`, `tanhSelectLe`) and the fixed one
(sign bit) agree: sign bit ⇔ `q < 0` ⇔ `q ≤ 0`. -/
theorem c19_tanh_sign_agree (q : Int) (h : q ≠ 0) :
    tanhSelectLe (.fin q) = tanhSelect (.fin q) (decide (q < 0)) := by
  have hs := scale_pos
  rw [tanhSelectLe, tanhSelect, leC_fin]
  exact congrArg _ (decide_eq_decide.mpr (by omega))

section Softmax
open Finset

variable {ι : Type} [Fintype ι]

/-- Softmax as coded in `softmax.rs`: pass 1 computes `m` (the maximum), pass 2
`yᵢ = exp(xᵢ − m)` and `S = Σ yᵢ`, pass 3 multiplies by `1 / S`. -/
noncomputable def softmax (x : ι → ℝ) (m : ℝ) (i : ι) : ℝ :=
  Real.exp (x i - m) * (1 / ∑ j, Real.exp (x j - m))

theorem expSum_pos [Nonempty ι] (x : ι → ℝ) (m : ℝ) : 0 < ∑ j, Real.exp (x j - m) :=
  Finset.sum_pos (fun j _ => Real.exp_pos _) Finset.univ_nonempty

/-- **C19.T3a** every output is strictly positive (non-empty input). -/
theorem c19_softmax_pos [Nonempty ι] (x : ι → ℝ) (m : ℝ) (i : ι) : 0 < softmax x m i :=
  mul_pos (Real.exp_pos _) (one_div_pos.mpr (expSum_pos x m))

/-- **C19.T3b** the outputs sum to one (non-empty input). -/
theorem c19_softmax_sum_one [Nonempty ι] (x : ι → ℝ) (m : ℝ) : ∑ i, softmax x m i = 1 := by
  unfold softmax
  rw [← Finset.sum_mul]
  exact mul_one_div_cancel (ne_of_gt (expSum_pos x m))

/-- Each output is at most one. -/
theorem c19_softmax_le_one [Nonempty ι] (x : ι → ℝ) (m : ℝ) (i : ι) : softmax x m i ≤ 1 := by
  rw [← c19_softmax_sum_one x m]
  exact Finset.single_le_sum (f := fun i => softmax x m i)
    (fun j _ => le_of_lt (c19_softmax_pos x m j)) (Finset.mem_univ i)

/-- **C19.T3c** invariance under the subtracted constant: whatever `m` is subtracted (in the
code: the maximum) the result is the textbook `exp(xᵢ) / Σⱼ exp(xⱼ)`. -/
theorem c19_softmax_shift_invariant [Nonempty ι] (x : ι → ℝ) (m : ℝ) (i : ι) :
    softmax x m i = Real.exp (x i) / ∑ j, Real.exp (x j) := by
  unfold softmax
  have hc : 0 < Real.exp (-m) := Real.exp_pos _
  have hS : 0 < ∑ j, Real.exp (x j) := Finset.sum_pos (fun j _ => Real.exp_pos _) Finset.univ_nonempty
  have e : ∀ j, Real.exp (x j - m) = Real.exp (x j) * Real.exp (-m) := by
    intro j; rw [sub_eq_add_neg, Real.exp_add]
  simp only [e]
  rw [← Finset.sum_mul]
  field_simp

/-- Corollary: shifting all inputs by a constant does not change the result. -/
theorem c19_softmax_input_shift [Nonempty ι] (x : ι → ℝ) (c m : ℝ) (i : ι) :
    softmax (fun j => x j - c) m i = softmax x m i := by
  have : softmax (fun j => x j - c) m i = softmax x (c + m) i := by
    unfold softmax
    have e : ∀ j, x j - c - m = x j - (c + m) := by intro j; ring
    simp only [e]
  rw [this, c19_softmax_shift_invariant, c19_softmax_shift_invariant]

/-- Non-vacuity: a two-element input. -/
example : softmax (fun _ : Fin 2 => (0 : ℝ)) 0 0 = 1 / 2 := by
  simp [softmax]

/-- The hypothesis "non-empty" is needed: for the empty input the sum is `0 ≠ 1`. -/
example : ∑ i, softmax (fun _ : Fin 0 => (0 : ℝ)) 0 i = 0 := by simp

end Softmax

end RtenVerif.ExpBits
