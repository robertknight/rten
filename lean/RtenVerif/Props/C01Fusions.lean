import RtenVerif.Model.Pattern

/-!
# C01 — T2 (shape side of the scalar-constant fusions, MatMul scale algebra) and T4 witnesses

Shapes are lists of naturals under ONNX broadcasting (`bshape`), values exact integers. A fusion that
absorbs a single-element constant (`get_scalar_operand`) keeps the shape of `x` exactly when the rank of
the constant does not exceed that of `x`, which is what the fixed code checks (`constants_preserve_rank`).
T4 (matcher): only `decide`d witnesses on concrete graphs here (labelled tests, not proofs);
the matcher model is tied to the implementation by the structural correspondence.
-/
namespace RtenVerif.Optimize.Fusions

/-- ONNX multidirectional broadcasting of one dimension pair. -/
def bdim (a b : Nat) : Option Nat :=
  if a = b then some a else if b = 1 then some a else if a = 1 then some b else none

/-- broadcasting on reversed shapes (innermost dimension first) -/
def bshapeRev : List Nat → List Nat → Option (List Nat)
  | [], ys => some ys
  | xs, [] => some xs
  | x :: xs, y :: ys =>
    match bdim x y, bshapeRev xs ys with
    | some d, some r => some (d :: r)
    | _, _ => none

def bshape (a b : List Nat) : Option (List Nat) := (bshapeRev a.reverse b.reverse).map List.reverse

theorem bdim_comm (a b : Nat) : bdim a b = bdim b a := by
  unfold bdim
  by_cases hab : a = b
  · subst hab; rfl
  · rw [if_neg hab, if_neg (Ne.symm hab)]
    by_cases ha : a = 1 <;> by_cases hb : b = 1 <;> simp [ha, hb]

theorem bshapeRev_comm (xs ys : List Nat) : bshapeRev xs ys = bshapeRev ys xs := by
  induction xs generalizing ys with
  | nil => cases ys <;> rfl
  | cons x xs ih =>
    cases ys with
    | nil => rfl
    | cons y ys => simp only [bshapeRev, bdim_comm x y, ih ys]

theorem bshape_comm (a b : List Nat) : bshape a b = bshape b a := by
  unfold bshape; rw [bshapeRev_comm]

theorem bshapeRev_ones (xs : List Nat) : ∀ k, k ≤ xs.length → bshapeRev xs (List.replicate k 1) = some xs := by
  induction xs with
  | nil => intro k hk; have : k = 0 := by simpa using hk
           subst this; rfl
  | cons x xs ih =>
    intro k hk
    cases k with
    | zero => simp [bshapeRev]
    | succ k =>
      have hk' : k ≤ xs.length := by simpa using hk
      have hb : bdim x 1 = some x := by
        unfold bdim; by_cases h : x = 1 <;> simp [h]
      simp [List.replicate_succ, bshapeRev, hb, ih k hk']

/-- **T2 (shape).** A single-element constant whose rank does not exceed the rank of `x` does not
change the shape of `x ∘ c` for a broadcasting binary operator. -/
theorem c01_scalar_const_keeps_shape (xs : List Nat) (k : Nat) (hk : k ≤ xs.length) :
    bshape xs (List.replicate k 1) = some xs := by
  unfold bshape
  rw [List.reverse_replicate, bshapeRev_ones xs.reverse k (by simpa using hk)]
  simp

theorem bshapeRev_length (xs ys r : List Nat) (h : bshapeRev xs ys = some r) : r.length = max xs.length ys.length := by
  fun_induction bshapeRev xs ys generalizing r with
  | case1 | case2 => cases h; simp
  | case3 x xs y ys d r' hr hb ih =>
    cases h
    rw [List.length_cons, ih r' hr, List.length_cons, List.length_cons, Nat.succ_max_succ]
  | case4 => cases h

/-- Converse: with a higher-rank constant the output shape is never the shape of `x`. -/
theorem c01_scalar_const_rank_needed (xs : List Nat) (k : Nat) (hk : xs.length < k) :
    bshape xs (List.replicate k 1) ≠ some xs := by
  intro h
  -- the broadcast shape is as long as the longer operand
  obtain ⟨r, hr, rfl⟩ := Option.map_eq_some_iff.mp h
  have hl := bshapeRev_length _ _ _ hr
  simp only [List.length_reverse, List.length_replicate] at hl hk
  omega

/-- The unguarded statement (any single-element constant) is false: the pre-fix defect (`[3]` with a
`[1,1]` constant broadcasts to `[1,3]`), reproduced on the real code by the `identity/…/c2` templates. -/
theorem c01_scalar_const_shape_false : ¬ ∀ (xs : List Nat) (k : Nat), bshape xs (List.replicate k 1) = some xs := by
  intro h; have := h [3] 2; revert this; decide

example : bshape [3] [1, 1] = some [1, 3] := by decide
example : bshape [] [1] = some [1] := by decide
example : bshape [2, 3] [1, 1] = some [2, 3] := by decide

def dot : List Int → List Int → Int
  | a :: as, b :: bs => a * b + dot as bs
  | _, _ => 0

/-- **T2 (MatMulScale).** `(c·a) · b = c · (a · b) = a · (c·b)`: a scalar commutes with every
entry of a matrix product, the identity behind `MatMulScaleFusion` (exact over ℤ). -/
theorem c01_matmul_scale (c : Int) : ∀ (a b : List Int),
    dot (a.map (c * ·)) b = c * dot a b ∧ dot a (b.map (c * ·)) = c * dot a b := by
  intro a
  induction a with
  | nil => intro b; simp [dot]
  | cons x xs ih =>
    intro b
    cases b with
    | nil => simp [dot]
    | cons y ys =>
      obtain ⟨h1, h2⟩ := ih ys
      constructor
      · simp only [List.map, dot, h1]; rw [Int.mul_add, Int.mul_assoc]
      · simp only [List.map, dot, h2]; rw [Int.mul_add, ← Int.mul_assoc, Int.mul_comm x c, Int.mul_assoc]

/-- **T2 (identity fusions).** The value side of eliminating `x+0`, `x-0`, `x*1`, `x/1`, over ℤ. -/
theorem c01_identity_algebra (x : Int) : x + 0 = x ∧ x - 0 = x ∧ x * 1 = x ∧ x / 1 = x := by
  refine ⟨Int.add_zero x, Int.sub_zero x, Int.mul_one x, Int.ediv_one x⟩

open RtenVerif.Pattern

/-- values 0 = x, 1 = y; 2 = Sigmoid(x) (op 10); 3 = Mul(2, 0) (op 11); 4 = Sigmoid(y) (op 12); 5 = Mul(0, 4) (op 13) -/
def gSilu : GView :=
  { ops := [⟨10, "Sigmoid", [some 0], [2]⟩, ⟨11, "Mul", [some 2, some 0], [3]⟩,
            ⟨12, "Sigmoid", [some 1], [4]⟩, ⟨13, "Mul", [some 0, some 4], [5]⟩],
    consts := [], values := [0, 1, 2, 3, 4, 5] }

def siluP : Pat := .op "Mul" [.sym "x" false, .op "Sigmoid" [.sym "x" false] none] none
def cfg0 : MatchCfg := { strictKeys := true, rankGuard := true, rank := fun _ => none }

/-- commutative matching = operand permutation, with one consistent binding for `x` -/
example : matchPat gSilu cfg0 16 siluP 11 [] = some [("x", 0)] := by decide
/-- symbol consistency: `x * Sigmoid(y)` is not an embedding of `x * Sigmoid(x)` -/
example : matchPat gSilu cfg0 16 siluP 13 [] = none := by decide

/-- Where(IsNaN(S1(x)), 0, S2(x)) with two different Softmax operators (30, 31). -/
def gSafe : GView :=
  { ops := [⟨30, "Softmax", [some 0], [1]⟩, ⟨31, "Softmax", [some 0], [2]⟩, ⟨32, "IsNaN", [some 1], [3]⟩,
            ⟨33, "Where", [some 3, some 9, some 2], [4]⟩],
    consts := [⟨9, "f", [], [0], []⟩], values := [0, 1, 2, 3, 4] }
def safeP : Pat :=
  let y := Pat.op "Softmax" [.sym "x" false] (some "softmax")
  .op "Where" [.op "IsNaN" [y] none, .const 0 false, y] none

/-- the pre-fix matcher binds the key `softmax` twice (first wins) and reports a match … -/
example : (matchPat gSafe { cfg0 with strictKeys := false } 16 safeP 33 []).isSome = true := by decide
/-- **T4 witness.** … the fixed matcher requires the same operator. -/
theorem c01_repeated_key_same_operator : matchPat gSafe cfg0 16 safeP 33 [] = none := by decide

end RtenVerif.Optimize.Fusions
