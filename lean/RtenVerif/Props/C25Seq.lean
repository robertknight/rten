import RtenVerif.Props.C25
/-!
# C25.T2 — a run cannot affect later runs

`runReq` is `Graph::run` on the state earlier runs left behind: the constants (as memory that
an operator *would* overwrite if it were ever handed a constant mutably — `memAfter`) and the
plan cache.  `runSeq` is any sequence of requests on one model.

Constants and lent buffers are unchanged by T1, unconditionally.  The plan cache is the only other
surviving state, and a hit may return a plan made for another order of the same ids.  So every run of
a sequence observes what the same request observes alone on a freshly loaded model
(`c25_T2_sequence`) under `CacheTransparent`, which restates for this file's `runWith` what C02
proves on its executor model about two plans for one request (on that model the statement is proved
without it, `Props/C25Exec.lean`).  *Which* error a failing run reports may depend on the plan order
(`c02_error_depends_on_order`), hence "both fail" (`ObsEquiv`) and not "same error"; equal
observations need the stronger `CacheTransparentEq` (`c25_T2_sequence_eq`), which every planner whose
result depends only on the id sets satisfies.  The mutant that lets views be taken fails the statement
(`c25_T2_mutant_false`).

Kernel determinism (the abstract `Ops.run` being a function) is the assumption that is tested,
not proved.
-/
namespace RtenVerif.RunPurity

variable {V : Type}

/-- **C25.T2 (constants).** The constants after a run — with any plan, failing or not — are the
constants before it. -/
theorem c25_T2_consts_unchanged (ops : Ops V) (g : G) (consts : Nat → V) (q : Req V) (plan : List Nat) :
    (runWith .code ops g consts q plan).2 = consts := by
  unfold runWith
  simp only
  rw [c25_T1_memory]

/-- **C25.T2 (lent buffers).** What the caller finds in the buffers it lent is what it put there. -/
theorem c25_T2_lent_unchanged (ops : Ops V) (g : G) (consts : Nat → V) (q : Req V) (plan : List Nat) :
    (runWith .code ops g consts q plan).1.lent =
      q.ins.filterMap (fun e => if e.2.1 then none else some (q.borrowedFn e.1)) := by
  unfold runWith observe
  simp only
  rw [c25_T1_memory]

/-- The state of the plan cache always describes a plan the planner produced for some ordering
of the cached id sets. -/
def CacheInv (planner : List Nat → List Nat → Option (List Nat)) (cache : Option Cached) : Prop :=
  ∀ c, cache = some c → ∃ ins outs, c.ins = sortIds ins ∧ c.outs = sortIds outs ∧ planner ins outs = some c.plan

/-- Strong form (not what C02 proves for failing runs, see `CacheTransparent` below): plans for the
same id sets give *equal* observations, including the error class. -/
structure CacheTransparentEq (ops : Ops V) (g : G) (planner : List Nat → List Nat → Option (List Nat))
    (consts : Nat → V) : Prop where
  fail_iff : ∀ ins outs ins' outs', sortIds ins = sortIds ins' → sortIds outs = sortIds outs' →
    planner ins' outs' ≠ none → planner ins outs ≠ none
  same_run : ∀ (q : Req V) ins' outs' p p', sortIds q.ids = sortIds ins' → sortIds q.outs = sortIds outs' →
    planner ins' outs' = some p' → planner q.ids q.outs = some p →
    (runWith .code ops g consts q p').1 = (runWith .code ops g consts q p).1

theorem getPlan_hit_or_miss (planner : List Nat → List Nat → Option (List Nat))
    (cache : Option Cached) (ins outs : List Nat) :
    (∃ c, cache = some c ∧ c.matches ins outs = true ∧
      getPlan planner cache ins outs = some (c.plan, cache)) ∨
    getPlan planner cache ins outs = getPlan planner none ins outs := by
  cases cache with
  | none => exact .inr rfl
  | some c =>
    by_cases hm : c.matches ins outs = true
    · exact .inl ⟨c, rfl, hm, by rw [getPlan, if_pos hm]⟩
    · exact .inr (by rw [getPlan, if_neg hm]; rfl)

theorem getPlan_inv {planner : List Nat → List Nat → Option (List Nat)} {cache : Option Cached}
    (hc : CacheInv planner cache) {ins outs : List Nat} {plan : List Nat} {cache' : Option Cached}
    (h : getPlan planner cache ins outs = some (plan, cache')) : CacheInv planner cache' := by
  rcases getPlan_hit_or_miss planner cache ins outs with ⟨c, _, _, e⟩ | e
  · rw [e] at h; cases h; exact hc
  · rw [e, getPlan] at h
    split at h
    · next p hp => cases h; intro c hcc; cases hcc; exact ⟨ins, outs, rfl, rfl, hp⟩
    · cases h

theorem runReq_state (ops : Ops V) (g : G) (planner : List Nat → List Nat → Option (List Nat))
    (m : ModelSt V) (q : Req V) :
    (runReq .code ops g planner m q).2.consts = m.consts ∧
    (CacheInv planner m.cache → CacheInv planner (runReq .code ops g planner m q).2.cache) := by
  unfold runReq
  split
  · exact ⟨rfl, id⟩
  · next plan cache' hg =>
    exact ⟨c25_T2_consts_unchanged ops g m.consts q plan, fun hc => getPlan_inv hc hg⟩

/-- On a miss both runs are the same computation; on a hit the cached plan was created for the same
id sets, maybe in another order, so planning this request succeeds (`fail_iff`) and `R` relates
the runs with the two plans (`same`). -/
theorem runReq_fresh (R : Observed V → Observed V → Prop) (hR : ∀ a, R a a) (ops : Ops V) (g : G)
    (planner : List Nat → List Nat → Option (List Nat)) (m : ModelSt V) (q : Req V)
    (fail_iff : ∀ ins' outs', sortIds q.ids = sortIds ins' → sortIds q.outs = sortIds outs' →
      planner ins' outs' ≠ none → planner q.ids q.outs ≠ none)
    (same : ∀ ins' outs' p p', sortIds q.ids = sortIds ins' → sortIds q.outs = sortIds outs' →
      planner ins' outs' = some p' → planner q.ids q.outs = some p →
      R (runWith .code ops g m.consts q p').1 (runWith .code ops g m.consts q p).1)
    (hc : CacheInv planner m.cache) :
    R (runReq .code ops g planner m q).1
      (runReq .code ops g planner { consts := m.consts, cache := none } q).1 := by
  rcases getPlan_hit_or_miss planner m.cache q.ids q.outs with ⟨c, hceq, hm, e⟩ | e
  · obtain ⟨ins0, outs0, hi, ho, hpl⟩ := hc c hceq
    simp only [Cached.matches, Bool.and_eq_true, beq_iff_eq] at hm
    have h1 : sortIds q.ids = sortIds ins0 := hm.1.trans hi
    have h2 : sortIds q.outs = sortIds outs0 := hm.2.trans ho
    cases hp : planner q.ids q.outs with
    | none => exact absurd hp (fail_iff ins0 outs0 h1 h2 (by rw [hpl]; exact Option.some_ne_none _))
    | some p =>
      have hf : (runReq .code ops g planner { consts := m.consts, cache := none } q).1 =
          (runWith .code ops g m.consts q p).1 := by simp only [runReq, getPlan, hp]
      rw [hf, runReq, e]
      exact same ins0 outs0 p c.plan h1 h2 hpl hp
  · simp only [runReq, e]
    cases getPlan planner none q.ids q.outs <;> exact hR _

/-- **C25.T2, strong form.** Under `CacheTransparentEq` (more than C02 proves for failing runs;
holds e.g. for order-insensitive planners) every run of a sequence returns *exactly* what it
returns alone on a freshly loaded model: outputs, error class and contents of the lent buffers.
See `c25_T2_sequence` for the statement under the hypothesis C02 provides. -/
theorem c25_T2_sequence_eq (ops : Ops V) (g : G) (planner : List Nat → List Nat → Option (List Nat)) :
    ∀ (qs : List (Req V)) (m : ModelSt V), CacheTransparentEq ops g planner m.consts →
      CacheInv planner m.cache →
      runSeq .code ops g planner m qs =
        qs.map (fun q => (runReq .code ops g planner { consts := m.consts, cache := none } q).1) := by
  intro qs
  induction qs with
  | nil => intro m _ _; rfl
  | cons q qs ih =>
    intro m ht hc
    have h1 := runReq_fresh Eq (fun _ => rfl) ops g planner m q (ht.fail_iff q.ids q.outs)
      (ht.same_run q) hc
    obtain ⟨h2, h3⟩ := runReq_state ops g planner m q
    rw [runSeq, List.map_cons, h1, ih _ (h2 ▸ ht) (h3 hc), h2]

theorem cacheInv_none (planner : List Nat → List Nat → Option (List Nat)) : CacheInv planner none :=
  fun _ h => by cases h

/-- Two observations agree: the lent buffers hold the same, and the runs return the same outputs
or both fail (possibly with different errors). -/
def ObsEquiv (a b : Observed V) : Prop :=
  a.lent = b.lent ∧ ∀ vals, a.outcome = .ok vals ↔ b.outcome = .ok vals

theorem ObsEquiv.refl (a : Observed V) : ObsEquiv a a := ⟨rfl, fun _ => Iff.rfl⟩

theorem ObsEquiv.of_eq {a b : Observed V} (h : a = b) : ObsEquiv a b := h ▸ ObsEquiv.refl a

def SeqEquiv : List (Observed V) → List (Observed V) → Prop
  | [], [] => True
  | a :: as, b :: bs => ObsEquiv a b ∧ SeqEquiv as bs
  | _, _ => False

/-- **What `c02_plan_independent_iff` (Props/C02.lean) provides**, restated for this model's
`runWith`: for two plans the planner returns for the same id sets (both satisfy C03's `PlanOK`
for the request, `c03_plan_ok`), the run returns `.ok vals` with one iff it does with the other.
Nothing is assumed about *which* error failing runs report (`c02_error_depends_on_order` shows
it can differ).  `fail_iff`: planning succeeds for one order of the ids iff for the other
(C03 argument checks / `PlanOK` are permutation invariant: `PlanCache.ArgsOK_perm`,
`PlanCache.PlanOK_congr`; completeness `c03_complete`).

`same_ok` is an *interface*: with adversarial `Ops.run` (which sees whether an operand arrives in
`taken` or in `ins`) it can only hold if the operators satisfy the contract "in place ≡ out of
place" and are deterministic, and if every value has one producer.  Those assumptions are stated
separately, by name, where the corresponding statement is proved for the code's planner on
C02's executor model:
`C25Exec.Assumptions` (`noCaptures`, `unique`, `opContract`, `wf`) and
`C25Exec.cacheTransparent_exec` / `c25_T2_sequence_exec` (Props/C25Exec.lean). -/
structure CacheTransparent (ops : Ops V) (g : G) (planner : List Nat → List Nat → Option (List Nat))
    (consts : Nat → V) : Prop where
  fail_iff : ∀ ins outs ins' outs', sortIds ins = sortIds ins' → sortIds outs = sortIds outs' →
    planner ins' outs' ≠ none → planner ins outs ≠ none
  same_ok : ∀ (q : Req V) ins' outs' p p' vals, sortIds q.ids = sortIds ins' →
    sortIds q.outs = sortIds outs' → planner ins' outs' = some p' → planner q.ids q.outs = some p →
    ((runWith .code ops g consts q p').1.outcome = .ok vals ↔
      (runWith .code ops g consts q p).1.outcome = .ok vals)

theorem CacheTransparentEq.weaken {ops : Ops V} {g : G} {planner : List Nat → List Nat → Option (List Nat)}
    {consts : Nat → V} (h : CacheTransparentEq ops g planner consts) :
    CacheTransparent ops g planner consts where
  fail_iff := h.fail_iff
  same_ok := by
    intro q ins' outs' p p' vals h1 h2 hp' hp
    rw [h.same_run q ins' outs' p p' h1 h2 hp' hp]

/-- **C25.T2.** Any sequence of runs on one model observes, run by run, what that request
observes when executed alone on a freshly loaded model (same constants, empty plan cache): the
lent buffers hold the same and the run returns the same outputs, or both fail.  Induction over
the sequence, from T1 (constants unchanged) and `CacheTransparent`, which restates for `runWith`
what `c02_plan_independent_iff` (Props/C02.lean) proves on C02's executor model for two `PlanOK`
plans of one request; the
error class of a failing run is deliberately not compared (`c02_error_depends_on_order`). -/
theorem c25_T2_sequence (ops : Ops V) (g : G) (planner : List Nat → List Nat → Option (List Nat)) :
    ∀ (qs : List (Req V)) (m : ModelSt V), CacheTransparent ops g planner m.consts →
      CacheInv planner m.cache →
      SeqEquiv (runSeq .code ops g planner m qs)
        (qs.map (fun q => (runReq .code ops g planner { consts := m.consts, cache := none } q).1)) := by
  intro qs
  induction qs with
  | nil => intro m _ _; exact True.intro
  | cons q qs ih =>
    intro m ht hc
    have h1 := runReq_fresh ObsEquiv ObsEquiv.refl ops g planner m q (ht.fail_iff q.ids q.outs)
      (fun ins' outs' p p' hi ho hp' hp =>
        ⟨by rw [c25_T2_lent_unchanged, c25_T2_lent_unchanged],
         fun vals => ht.same_ok q ins' outs' p p' vals hi ho hp' hp⟩) hc
    obtain ⟨h2, h3⟩ := runReq_state ops g planner m q
    have h4 := ih _ (h2 ▸ ht) (h3 hc)
    rw [h2] at h4
    exact ⟨h1, h4⟩

def OrderInsensitive (planner : List Nat → List Nat → Option (List Nat)) : Prop :=
  ∀ ins outs ins' outs', sortIds ins = sortIds ins' → sortIds outs = sortIds outs' →
    planner ins outs = planner ins' outs'

theorem cacheTransparentEq_of_orderInsensitive (ops : Ops V) (g : G)
    (planner : List Nat → List Nat → Option (List Nat)) (consts : Nat → V)
    (h : OrderInsensitive planner) : CacheTransparentEq ops g planner consts where
  fail_iff := by
    intro ins outs ins' outs' h1 h2 hne
    rw [h ins outs ins' outs' h1 h2]
    exact hne
  same_run := by
    intro q ins' outs' p p' h1 h2 hp' hp
    rw [h q.ids q.outs ins' outs' h1 h2, hp'] at hp
    cases hp
    rfl

/-- **C25.T2 without hypotheses on the cache** for order-insensitive planners, starting from a
freshly loaded model. -/
theorem c25_T2_sequence_orderInsensitive (ops : Ops V) (g : G)
    (planner : List Nat → List Nat → Option (List Nat)) (h : OrderInsensitive planner)
    (consts : Nat → V) (qs : List (Req V)) :
    runSeq .code ops g planner { consts := consts, cache := none } qs =
      qs.map (fun q => (runReq .code ops g planner { consts := consts, cache := none } q).1) :=
  c25_T2_sequence_eq ops g planner qs { consts := consts, cache := none }
    (cacheTransparentEq_of_orderInsensitive ops g planner consts h) (cacheInv_none planner)

/-! ## Non-vacuity and negation witnesses -/

section Examples

/-- `y = Relu(c)` where `c` (node 0) is a constant, `y` node 1, the operator node 2; a second
operator (node 4) computes `z = Neg(x)` for a graph input `x` (node 3), `z` node 5. -/
def exG : G :=
  { nodes := [.constant, .value,
              .op { inputs := [some 0], outputs := [some 1], inPlace := [0], commutative := false,
                    capDeps := [], subgraph := false },
              .value,
              .op { inputs := [some 3], outputs := [some 5], inPlace := [0], commutative := false,
                    capDeps := [], subgraph := false },
              .value],
    captures := [] }

/-- Values are numbers; every operator adds one to its (single) operand, wherever it gets it. -/
def exOps : Ops Nat :=
  { len := fun _ => 1,
    run := fun _ _ taken ins _ _ =>
      match taken, ins with
      | (_, v) :: _, _ => some [v + 1]
      | [], some v :: _ => some [v + 1]
      | _, _ => none,
    dirty := fun _ _ v => v + 1 }

def exPlanner : List Nat → List Nat → Option (List Nat) := fun _ outs =>
  some ((if outs.contains 1 then [2] else []) ++ (if outs.contains 5 then [4] else []))

def exM : ModelSt Nat := { consts := fun _ => 10, cache := none }

/-- requests: `y`, `z` and the constant itself, with `x = 7` borrowed / owned (a constant's
reference count is 0 unless it is requested as an output, so only then could it be taken) -/
def exQ (owned : Bool) : Req Nat := { ins := [(3, owned, 7)], outs := [1, 5, 0] }

def exRun (owned : Bool) : Run Nat :=
  { g := exG, consts := exM.consts, borrowed := (exQ owned).borrowedFn, owned := (exQ owned).ownedIns,
    envView := fun _ => none, envTake := fun _ => none }

/-- The code: the constant feeds an in-place capable operator and is *not* taken (run as a
view); the owned input is taken in place, the borrowed one is not. -/
example :
    ((runPlan .code exOps (exRun true) [2, 4] [1, 5, 0]).recs.map
      (fun s => (s.op, s.inPlace, s.takes.map (fun t => (t.id, t.loc))))) =
      [(2, false, []), (4, true, [(3, Loc.temp 3)])] := by decide +kernel

example :
    ((runPlan .code exOps (exRun false) [2, 4] [1, 5, 0]).recs.map
      (fun s => (s.op, s.inPlace, s.takes.length))) = [(2, false, 0), (4, false, 0)] := by decide +kernel

/-- Two identical runs of the code observe the same: outputs `[11, 8, 10]`, lent buffer still 7. -/
example :
    (runSeq .code exOps exG exPlanner exM [exQ false, exQ false]).map (fun o => (o.outcome.toOption, o.lent)) =
      [(some [11, 8, 10], [some 7]), (some [11, 8, 10], [some 7])] := by decide +kernel

/-- **Negation witness (mutant, not the code).** If views could be taken — the
`temp_values.get(id).is_some()` conjunct dropped — the first run would overwrite the constant and
the caller's buffer, and the second identical run would return something else. -/
theorem c25_T2_mutant_false :
    (runSeq .viewsTakeable exOps exG exPlanner exM [exQ false, exQ false]).map
        (fun o => (o.outcome.toOption, o.lent)) =
      [(some [11, 8, 10], [some 8]), (some [12, 8, 11], [some 8])] := by decide +kernel

/-- … and T1 fails for the mutant: a constant and a borrowed input are handed out mutably. -/
theorem c25_T1_mutant_false :
    (allTakes (runPlan .viewsTakeable exOps (exRun false) [2, 4] [1, 5, 0]).recs).map (·.loc) =
      [Loc.const 0, Loc.borrowed 3] := by
  decide +kernel

theorem exPlannerSorted_orderInsensitive :
    OrderInsensitive (fun ins outs => exPlanner (sortIds ins) (sortIds outs)) := by
  intro ins outs ins' outs' h1 h2
  simp only [h1, h2]

example : CacheInv exPlanner exM.cache := cacheInv_none _

/-- **Closed**: `CacheTransparent` (the hypothesis of `c25_T2_sequence`) holds for this model's
`runWith`, `exOps`, `exG` and the sorting planner — no hypotheses.  (For an order-*sensitive*
planner — the code's — see `Props/C25Exec.lean`: `cacheTransparent_exec`,
`exec_example_assumptions`, `exec_example_T2`.) -/
theorem ex_cacheTransparent :
    CacheTransparent exOps exG (fun i o => exPlanner (sortIds i) (sortIds o)) exM.consts :=
  (cacheTransparentEq_of_orderInsensitive exOps exG _ exM.consts exPlannerSorted_orderInsensitive).weaken

/-- `c25_T2_sequence` applied to a closed instance. -/
example :
    SeqEquiv (runSeq .code exOps exG (fun i o => exPlanner (sortIds i) (sortIds o)) exM [exQ false, exQ true])
      ([exQ false, exQ true].map (fun q =>
        (runReq .code exOps exG (fun i o => exPlanner (sortIds i) (sortIds o)) exM q).1)) :=
  c25_T2_sequence exOps exG _ [exQ false, exQ true] exM ex_cacheTransparent (cacheInv_none _)

end Examples

end RtenVerif.RunPurity

