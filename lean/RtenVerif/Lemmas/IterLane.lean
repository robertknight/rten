import RtenVerif.Lemmas.IterSim

/-!
C07 lemmas: the element iterators over one lane, `Lane` and `LaneMut`
(`index`/`end` cursors, `LaneMut::nth` override), refine the deque over the lane's offsets.
-/
namespace RtenVerif.Iter

/-- Offsets still to be yielded by a lane iterator. -/
def absL (s : LaneIt) : List Nat := window (fun i => s.start + i * s.stride) s.index s.stop

theorem lane_nextOk : NextOk LaneIt.next (fun _ => True) absL := by
  intro s _
  unfold LaneIt.next absL
  rw [window_head?, window_tail]
  split
  · exact ⟨rfl, rfl, trivial⟩
  · next h =>
    have h' : s.stop ≤ s.index := Nat.le_of_not_lt h
    exact ⟨rfl, (window_of_le _ _ _ h').trans (window_of_le _ _ _ (by omega)).symm, trivial⟩

theorem lane_backOk : BackOk LaneIt.nextBack (fun _ => True) absL := by
  intro s _
  unfold LaneIt.nextBack absL
  rw [window_getLast?, window_dropLast]
  split
  · exact ⟨rfl, rfl, trivial⟩
  · next h =>
    have h' : s.stop ≤ s.index := Nat.le_of_not_lt h
    exact ⟨rfl, (window_of_le _ _ _ h').trans (window_of_le _ _ _ (by omega)).symm, trivial⟩

theorem lane_len (s : LaneIt) : LaneIt.len s = (absL s).length := (window_length ..).symm

/-- `LaneMut::nth` (cursor jump, clamped to `end`) agrees with the deque's `nth`. -/
theorem lane_nthMut (s : LaneIt) (n : Nat) :
    (LaneIt.nthMut s n).1 = ((absL s).drop n).head? ∧
      absL (LaneIt.nthMut s n).2 = (absL s).drop (n + 1) ∧ True := by
  obtain ⟨h1, h2, _⟩ := lane_nextOk { s with index := min (s.index + n) s.stop } trivial
  have habs : absL { s with index := min (s.index + n) s.stop } = (absL s).drop n := by
    show window _ (min (s.index + n) s.stop) s.stop = (window _ s.index s.stop).drop n
    rw [window_drop]
    by_cases hlt : s.index + n ≤ s.stop
    · rw [Nat.min_eq_left hlt]
    · rw [window_of_le _ (min (s.index + n) s.stop) s.stop (by omega), window_of_le _ _ _ (by omega)]
  rw [habs, List.tail_drop] at h2
  exact ⟨by rw [← habs]; exact h1, h2, trivial⟩

theorem lane_refines : RefinesNS LaneIt.ops (fun _ => True) absL where
  next := lane_nextOk
  nextBack := lane_backOk
  nth := fun s n hs => defaultNth_spec lane_nextOk n s hs
  len := fun s _ => lane_len s
  fold := fun s hs => drainFront_spec lane_nextOk _ s hs (by rw [lane_len]; exact Nat.le_refl _)
  rev := fun s hs => drainBack_spec lane_backOk _ s hs (by rw [lane_len]; exact Nat.le_refl _)

theorem laneMut_refines : RefinesNS LaneIt.opsMut (fun _ => True) absL :=
  { lane_refines with nth := fun s n _ => lane_nthMut s n }

/-- Any cursor state, consumed from either end or not (even `index > end`: nothing is left). -/
theorem lane_history (h : Hist) (hn : h.noSplit = true) (s : LaneIt) :
    run LaneIt.ops h s = run (listOps Nat) h (absL s) :=
  run_refines_ns lane_refines h hn s trivial

theorem laneMut_history (h : Hist) (hn : h.noSplit = true) (s : LaneIt) :
    run LaneIt.opsMut h s = run (listOps Nat) h (absL s) :=
  run_refines_ns laneMut_refines h hn s trivial

theorem lane_new (size stride start : Nat) :
    absL (LaneIt.new size stride start) = (laneItem size stride start).2 :=
  window_zero ..

end RtenVerif.Iter
