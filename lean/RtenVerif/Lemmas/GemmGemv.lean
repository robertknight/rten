import RtenVerif.Lemmas.GemmSem

/-! C16: the `gemv` fast path.  One output column sees the events of its column block only: the
k blocks, which telescope as the depth blocks of the general path do, then the bias. -/
namespace RtenVerif.Gemm

/-- Element `(r, c)` lies in the part of the (single) output row that the event writes. -/
def GemvEv.covers (ev : GemvEv) (r c : Nat) : Bool :=
  match ev with
  | .kernel cs ce _ _ _ => decide (r = 0) && decide (cs ≤ c) && decide (c < ce)
  | .bias cs ce => decide (r = 0) && decide (cs ≤ c) && decide (c < ce)

theorem gemvKCalls_false (cs ce : Nat) (l : List (Nat × Nat)) :
    gemvKCalls cs ce false l = l.map fun d => GemvEv.kernel cs ce d.1 d.2 false := by
  induction l with
  | nil => rfl
  | cons d t ih => rw [gemvKCalls, ih, List.map_cons]

/-- Events of one column block. -/
def gemvBlock (K kbs : Nat) (cr : Nat × Nat) : List GemvEv :=
  gemvKCalls cr.1 cr.2 true (depthBlocks K kbs) ++ [GemvEv.bias cr.1 cr.2]

theorem gemvBlock_covers {K kbs : Nat} {cr : Nat × Nat} {ev : GemvEv} (h : ev ∈ gemvBlock K kbs cr)
    (r c : Nat) : ev.covers r c = (decide (r = 0) && decide (cr.1 ≤ c) && decide (c < cr.2)) := by
  unfold gemvBlock at h
  rw [List.mem_append, List.mem_singleton] at h
  rcases h with h | rfl
  · cases hd : depthBlocks K kbs with
    | nil => rw [hd] at h; cases h
    | cons d t =>
      rw [hd, gemvKCalls, gemvKCalls_false, List.mem_cons, List.mem_map] at h
      rcases h with rfl | ⟨_, _, rfl⟩ <;> rfl
  · rfl

theorem gemvSchedule_eq (k : BlockConsts) (N K threads : Nat) (rs1 : Bool) :
    gemvSchedule k N K threads rs1 =
      (List.range (divCeil N (max (divCeil N threads) k.gemvColMin))).flatMap fun ci =>
        gemvBlock K (if rs1 then k.gemvKUnitRow else k.gemvKOther)
          (blockRange N (max (divCeil N threads) k.gemvColMin) ci) := rfl

theorem gemvSchedule_filter (k : BlockConsts) (N K threads : Nat) (rs1 : Bool)
    (hcm : 0 < k.gemvColMin) {c : Nat} (hc : c < N) :
    (gemvSchedule k N K threads rs1).filter (fun ev => ev.covers 0 c) =
      gemvBlock K (if rs1 then k.gemvKUnitRow else k.gemvKOther)
        (blockRange N (max (divCeil N threads) k.gemvColMin)
          (c / max (divCeil N threads) k.gemvColMin)) := by
  have hbs : 0 < max (divCeil N threads) k.gemvColMin := by omega
  rw [gemvSchedule_eq, filter_flatMap_unique _ _ _ (c / max (divCeil N threads) k.gemvColMin)
    List.nodup_range (List.mem_range.mpr (div_lt_divCeil hbs hc))]
  · rw [List.filter_eq_self]
    intro ev hev
    have := (block_contains_iff (i := c / max (divCeil N threads) k.gemvColMin) hbs hc).mpr rfl
    rw [gemvBlock_covers hev]
    simp [this.1, this.2]
  · intro i _ hne
    rw [List.filter_eq_nil_iff]
    intro ev hev
    rw [gemvBlock_covers hev]
    intro hcv
    simp only [Bool.and_eq_true, decide_eq_true_eq, and_assoc] at hcv
    exact hne ((block_contains_iff hbs hc).mp hcv.2).symm

theorem gemvSchedule_filter_out (k : BlockConsts) (N K threads : Nat) (rs1 : Bool)
    {r c : Nat} (h : ¬ (r = 0 ∧ c < N)) :
    (gemvSchedule k N K threads rs1).filter (fun ev => ev.covers r c) = [] := by
  rw [gemvSchedule_eq, List.filter_eq_nil_iff]
  intro ev hev
  rw [List.mem_flatMap] at hev
  obtain ⟨i, _, hev⟩ := hev
  rw [gemvBlock_covers hev]
  intro hcv
  simp only [blockRange, Bool.and_eq_true, decide_eq_true_eq] at hcv
  exact h ⟨hcv.1.1, Nat.lt_of_lt_of_le (of_decide_eq_true hcv.2) (Nat.min_le_right _ _)⟩

section
variable {α : Type} [CommSemiring α] [DecidableEq α]

/-- What one `gemv` event does to a covered element of the output row. -/
def gemvElemStep (alpha beta : α) (bias : Bias α) (A B : Nat → Nat → α) (c : Nat)
    (v : Option α) : GemvEv → Option α
  | .kernel _ _ ds de bu =>
    kernelElem alpha (dot A B 0 c ds (de - ds)) (if bu then beta else 1) v
  | .bias _ _ => addBias bias 0 c v

theorem runGemv_elem (alpha beta : α) (bias : Bias α) (A B : Nat → Nat → α) (r c : Nat)
    (evs : List GemvEv) (C : OutMat α) :
    runGemv alpha beta bias A B C evs r c =
      (evs.filter (fun ev => ev.covers r c)).foldl (gemvElemStep alpha beta bias A B c) (C r c) := by
  refine foldl_at _ r c _ _ (fun C ev => ?_) evs C
  cases ev <;> simp [applyGemv, GemvEv.covers, gemvElemStep, and_assoc]

theorem gemvBlock_fold (h1 : (1 : α) ≠ 0) (alpha beta : α) (bias : Bias α) (A B : Nat → Nat → α)
    (cr : Nat × Nat) (c K kbs : Nat) (hK : 0 < K) (hk : 0 < kbs) (v0 : Option α) :
    (gemvBlock K kbs cr).foldl (gemvElemStep alpha beta bias A B c) v0 =
      addBias bias 0 c (kernelElem alpha (dot A B 0 c 0 K) beta v0) := by
  rw [gemvBlock, List.foldl_append, depthBlocks_pos kbs hK, gemvKCalls, gemvKCalls_false,
    List.foldl_cons, List.foldl_cons, List.foldl_nil, List.foldl_map]
  simp only [gemvElemStep, if_true, Nat.sub_zero]
  congr 1
  exact foldl_rangeChunks _ (fun s => kernelElem alpha (dot A B 0 c 0 s) beta v0) hk (lo := 1)
    (fun s e _ hse => kernelElem_accum h1 _ _ _ _ _ _ _ _ (by omega) v0)
    _ _ _ (by omega) (by omega) (by omega)

/-- Any list of `gemv` events (the column blocks run in parallel, in any order) computes the
un-blocked result, provided the events covering an output column are those of one column block (its
k blocks in order, then the bias) and nothing outside row 0 / columns `< N` is covered. -/
theorem runGemv_of_cover (h1 : (1 : α) ≠ 0) {N K : Nat} (hK : 0 < K) {evs : List GemvEv}
    (hin : ∀ {c}, c < N → ∃ kbs cr, 0 < kbs ∧
      evs.filter (fun ev => ev.covers 0 c) = gemvBlock K kbs cr)
    (hout : ∀ {r c}, ¬ (r = 0 ∧ c < N) → evs.filter (fun ev => ev.covers r c) = [])
    (alpha beta : α) (bias : Bias α) (A B : Nat → Nat → α) (C : OutMat α) (r c : Nat) :
    runGemv alpha beta bias A B C evs r c =
      if r = 0 ∧ c < N then
        addBias bias 0 c (kernelElem alpha (dot A B 0 c 0 K) beta (C 0 c))
      else C r c := by
  rw [runGemv_elem]
  split
  · next h =>
    obtain ⟨rfl, hc⟩ := h
    obtain ⟨kbs, cr, hk, e⟩ := hin hc
    rw [e, gemvBlock_fold h1 _ _ _ _ _ _ _ _ _ hK hk]
  · next h => rw [hout h]; rfl

end

end RtenVerif.Gemm
