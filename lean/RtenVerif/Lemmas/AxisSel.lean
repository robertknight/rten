import RtenVerif.Lemmas.Gather

/-! C09: `resize_dim` as a `List.set`, selections that touch a single axis (`slice_axis`, `split`,
`clip_dim`), and what a view reads from a `drop` / `take` of its buffer (T4: `clip_dim`'s `copy_within` +
`truncate`, `materialize`). -/
namespace RtenVerif.Layout
open RtenVerif.Arr RtenVerif.Overlap

theorem resizeDim_eq_set (d : Dims) (axis c : Nat) :
    resizeDim d axis c = d.set axis (c, (d.getD axis (0, 0)).2) := by
  unfold resizeDim
  cases h : d[axis]? with
  | none => exact (List.set_eq_of_length_le (List.getElem?_eq_none_iff.mp h)).symm
  | some p => rw [List.getD_eq_getElem?_getD, h]; rfl

theorem resizeDim_stride (d : Dims) (axis c : Nat) :
    ((resizeDim d axis c).getD axis (0, 0)).2 = (d.getD axis (0, 0)).2 := by
  rw [resizeDim_eq_set, List.getD_eq_getElem?_getD, List.getElem?_set_self']
  cases h : d[axis]? with
  | none => rw [List.getD_eq_getElem?_getD, h]; rfl
  | some p => rfl

theorem sizes_resizeDim (d : Dims) (axis c : Nat) :
    sizes (resizeDim d axis c) = (sizes d).set axis c := by
  rw [resizeDim_eq_set]; exact List.map_set

theorem resizeDim_resizeDim (d : Dims) (axis a c : Nat) :
    resizeDim (resizeDim d axis a) axis c = resizeDim d axis c := by
  rw [resizeDim_eq_set, resizeDim_stride, resizeDim_eq_set, List.set_set, ← resizeDim_eq_set]

def axisASel (axis : Nat) (shape : List Nat) (sel : ASel) : List ASel :=
  (shape.take axis).map (fun n => ASel.arith 0 n 1) ++ [sel]

theorem axisASel_toSel (axis : Nat) (shape : List Nat) (a c : Nat) :
    (axisASel axis shape (.arith a c 1)).map ASel.toSel =
      NArr.axisSel axis shape (Sel.take ((List.range c).map (a + ·))) := by
  simp only [axisASel, NArr.axisSel, List.map_append, List.map_map, List.map_cons, List.map_nil,
    ASel.toSel]
  congr 1
  · apply List.map_congr_left
    intro n _
    simp only [Function.comp, ASel.toSel, Nat.zero_add, Nat.mul_one, List.map_id']
  · simp

theorem axisASel_spec (d : Dims) (axis a c : Nat) (hk : axis < d.length) :
    aDims d (axisASel axis (sizes d) (.arith a c 1)) = resizeDim d axis c ∧
    aOff d (axisASel axis (sizes d) (.arith a c 1)) = (d.getD axis (0, 0)).2 * a ∧
    (aOk (sizes d) (axisASel axis (sizes d) (.arith a c 1)) ↔
      (c = 0 ∨ a + (c - 1) < (d.getD axis (0, 0)).1)) := by
  induction axis generalizing d with
  | zero =>
    cases d with
    | nil => simp at hk
    | cons p ds =>
      obtain ⟨n, st⟩ := p
      simp [axisASel, sizes, aDims, aOff, aOk, resizeDim_eq_set]
  | succ k ih =>
    cases d with
    | nil => simp at hk
    | cons p ds =>
      obtain ⟨n, st⟩ := p
      have hk' : k < ds.length := by simpa using hk
      obtain ⟨h1, h2, h3⟩ := ih ds hk'
      simp only [axisASel, sizes] at h1 h2 h3
      refine ⟨?_, ?_, ?_⟩
      · simp only [axisASel, sizes, List.map_cons, List.take_succ_cons, List.cons_append, aDims,
          h1, Nat.mul_one]
        rw [resizeDim_eq_set, resizeDim_eq_set]
        rfl
      · simp only [axisASel, sizes, List.map_cons, List.take_succ_cons, List.cons_append, aOff, h2,
          List.getD_cons_succ]
        omega
      · simp only [axisASel, sizes, List.map_cons, List.take_succ_cons, List.cons_append, aOk, h3,
          List.getD_cons_succ]
        constructor
        · exact fun h => h.2
        · intro h
          exact ⟨by omega, h⟩

theorem axis_shape (d : Dims) (axis a c : Nat) (hk : axis < d.length)
    (hb : c = 0 ∨ a + (c - 1) < (d.getD axis (0, 0)).1) :
    sizes (resizeDim d axis c) =
      selShape (NArr.axisSel axis (sizes d) (Sel.take ((List.range c).map (a + ·)))) (sizes d) := by
  obtain ⟨h1, -, h3⟩ := axisASel_spec d axis a c hk
  have := sizes_aDims d _ (h3.mpr hb)
  rwa [h1, axisASel_toSel] at this

theorem axis_reindex {d : Dims} {axis a c : Nat} (hk : axis < d.length)
    (hb : c = 0 ∨ a + (c - 1) < (d.getD axis (0, 0)).1) :
    Reindex d ((d.getD axis (0, 0)).2 * a) (resizeDim d axis c)
      (selSrc (NArr.axisSel axis (sizes d) (Sel.take ((List.range c).map (a + ·))))) := by
  obtain ⟨h1, h2, h3⟩ := axisASel_spec d axis a c hk
  have := select_reindex d _ (h3.mpr hb)
  rwa [h1, h2, axisASel_toSel] at this

theorem axis_denote {α : Type} [Inhabited α] (v v' : View) (axis a c : Nat) (s : Nat → α)
    (hk : axis < v.dims.length) (hb : c = 0 ∨ a + (c - 1) < (v.dims.getD axis (0, 0)).1)
    (hd : v'.dims = resizeDim v.dims axis c)
    (hbase : numelD v'.dims ≠ 0 → v'.base = v.base + (v.dims.getD axis (0, 0)).2 * a) :
    denote v' s = NArr.gather
      (NArr.axisSel axis (sizes v.dims) (Sel.take ((List.range c).map (a + ·)))) (denote v s) := by
  have R := axis_reindex (a := a) hk hb
  rw [← hd] at R
  exact (R.denote s hbase).trans (congrArg (NArr.ofFn · _) (hd ▸ axis_shape v.dims axis a c hk hb))

theorem denote_take_drop (store : List Nat) (a n L L' : Nat) (d : Dims) (hn : minDataLen d ≤ n) :
    denote ⟨0, L, d⟩ (fun i => ((store.drop a).take n).getD i 0) =
      denote ⟨a, L', d⟩ (fun i => store.getD i 0) := by
  unfold denote
  refine NArr.ofFn_congr _ _ _ fun idx h => ?_
  have := offset_lt_minDataLen d idx h
  simp only [Nat.zero_add]
  rw [getD_take_drop _ _ _ _ (by omega)]

end RtenVerif.Layout
