import RtenVerif.Lemmas.IterSim

/-!
C07 lemmas: parallel schedules.  A rayon-style scheduler splits the iterator at
arbitrary points (a binary tree of `split_at`s) and folds every leaf; the concatenation of
the leaves' items is the deque content, whatever the tree.
-/
namespace RtenVerif.Iter

/-- A split schedule: `leaf` folds the piece, `node k l r` splits at `k` first. -/
inductive Sched where
  | leaf
  | node (k : Nat) (l r : Sched)

def Sched.toHist : Sched → Hist
  | .leaf => .fold
  | .node k l r => .split k l.toHist r.toHist

/-- Items passed to the fold closures, in leaf order. -/
def collected {ι : Type} : List (Obs ι) → List ι
  | [] => []
  | .folded l :: r => l ++ collected r
  | _ :: r => collected r

theorem collected_append {ι : Type} (a b : List (Obs ι)) :
    collected (a ++ b) = collected a ++ collected b := by
  induction a with
  | nil => rfl
  | cons x xs ih =>
    cases x <;> simp [collected, ih]

theorem sched_list {ι : Type} : ∀ (T : Sched) (l : List ι),
    Obs.panic ∉ run (listOps ι) T.toHist l → collected (run (listOps ι) T.toHist l) = l
  | .leaf, l, _ => by simp [Sched.toHist, run, listOps, collected]
  | .node k a b, l, h => by
    rw [Sched.toHist, run_list_split] at h ⊢
    split at h
    · rw [List.mem_append, not_or] at h
      rw [if_pos ‹_›, collected_append, sched_list a _ h.1, sched_list b _ h.2, List.take_append_drop]
    · exact absurd List.mem_cons_self h

end RtenVerif.Iter
