import RtenVerif.Lemmas.IndexSpace

/-! What the `is_contiguous` loop (`contigR`) maintains, stated on plain list expressions so that each model's name
for the product of the sizes and for `Σ (size - 1) * stride` is one unfolding away. -/
namespace RtenVerif.Overlap

/-- When `is_contiguous` accepts, its running product is the number of elements and, if no dimension
is empty, one more than the largest offset `Σ (size - 1) * stride`. -/
theorem contigR_spec : ∀ (dims : List (Nat × Nat)) (p : Nat), contigR dims = some p →
    p = (dims.map (·.1)).foldr (· * ·) 1 ∧
      (dims.any (fun d => d.1 == 0) = false → p = (dims.map (fun d => (d.1 - 1) * d.2)).sum + 1)
  | [], p, h => by cases Option.some.inj h; exact ⟨rfl, fun _ => rfl⟩
  | d :: ds, p, h => by
    obtain ⟨p', hc, ⟨h1, rfl⟩ | ⟨_, h2, rfl⟩⟩ := contigR_cons_some h
    · obtain ⟨ih1, ih2⟩ := contigR_spec ds p hc
      refine ⟨by simp only [List.map_cons, List.foldr_cons, h1, Nat.one_mul]; exact ih1, fun hz => ?_⟩
      simp only [List.any_cons, Bool.or_eq_false_iff] at hz
      simp only [List.map_cons, List.sum_cons, h1, Nat.sub_self, Nat.zero_mul, Nat.zero_add]
      exact ih2 hz.2
    · obtain ⟨ih1, ih2⟩ := contigR_spec ds p' hc
      refine ⟨by simp only [List.map_cons, List.foldr_cons, ← ih1]; exact Nat.mul_comm .., fun hz => ?_⟩
      simp only [List.any_cons, Bool.or_eq_false_iff, beq_eq_false_iff_ne] at hz
      obtain ⟨k, hk⟩ : ∃ k, d.1 = k + 1 := ⟨d.1 - 1, by omega⟩
      simp only [List.map_cons, List.sum_cons, h2, hk, Nat.add_sub_cancel, Nat.add_assoc,
        ← ih2 (by simpa using hz.2), Nat.mul_succ, Nat.mul_comm p' k]

end RtenVerif.Overlap

/-- `is_contiguous` accepts every layout produced by `from_shape`. -/
theorem RtenVerif.Layout.contigR_contigDims (shape : List Nat) :
    Overlap.contigR (contigDims shape) = some (Arr.numel shape) := by
  induction shape with
  | nil => rfl
  | cons n ns ih =>
    simp only [contigDims, Overlap.contigR, ih, Overlap.contigStep]
    by_cases h1 : n = 1
    · subst h1; simp [Arr.numel]
    · simp only [h1, if_false, ne_eq, not_true_eq_false]
      simp [Arr.numel, Nat.mul_comm]
