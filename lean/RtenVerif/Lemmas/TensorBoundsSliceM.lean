import RtenVerif.Lemmas.TensorBoundsSlice

/-! C06: the `slice_layout` fast path on wrap-around integers agrees with the ideal model for
resolved items with `start ≤ end ≤ size`. -/
namespace RtenVerif.TensorBounds
open RtenVerif.Overlap

namespace M

def viewToN (v : View) : TensorBounds.View := ⟨v.start.toNat, v.stop.toNat, toN v.dims⟩

theorem sliceLoopR_nil_items (ds : List (U × U)) : sliceLoopR ds [] = (0, ds) := by
  cases ds <;> rfl

theorem sliceLoopR_eq (d : List (U × U)) (items : List RItem)
    (hok : ItemsOk (toN d) (items.map RItem.toN)) :
    toN (sliceLoopR d items).2 = (TensorBounds.sliceLoopR (toN d) (items.map RItem.toN)).2 ∧
    (sliceLoopR d items).1.toNat =
      (TensorBounds.sliceLoopR (toN d) (items.map RItem.toN)).1 % wordSize := by
  fun_induction sliceLoopR d items
  case case1 => exact ⟨rfl, rfl⟩
  case case2 => rw [List.map_nil, TensorBounds.sliceLoopR_nil_items]; exact ⟨rfl, rfl⟩
  case case3 size stride ds its r p ih =>
    obtain _ | ⟨hit, hrest⟩ := hok
    obtain ⟨ih1, ih2⟩ := ih hrest
    simp only [toN_cons, List.map_cons, RItem.toN, TensorBounds.sliceLoopR]
    exact ⟨ih1, by rw [add_toNat, mul_toNat, ih2, Nat.mod_add_mod, Nat.add_mod_mod]⟩
  case case4 size stride ds its r s e ih =>
    obtain _ | ⟨hit, hrest⟩ := hok
    obtain ⟨ih1, ih2⟩ := ih hrest
    -- `start ≤ end`, so `end - start` does not wrap
    have hse : s ≤ e := UInt64.le_iff_toNat_le.mpr hit.1
    simp only [toN_cons, List.map_cons, RItem.toN, TensorBounds.sliceLoopR]
    exact ⟨by rw [ih1, UInt64.toNat_sub_of_le _ _ hse, UInt64.mul_one],
      by rw [add_toNat, mul_toNat, ih2, Nat.mod_add_mod, Nat.add_mod_mod]⟩
  case case5 size stride ds its r ih =>
    obtain _ | ⟨hit, hrest⟩ := hok
    obtain ⟨ih1, ih2⟩ := ih hrest
    simp only [toN_cons, List.map_cons, RItem.toN, TensorBounds.sliceLoopR]
    exact ⟨by rw [ih1], ih2⟩

/-- **Machine slice = ideal slice** on a tensor whose largest offset fits `isize`, for resolved
items with `start ≤ end ≤ size` (what the current `resolve` produces): neither `end - start`,
nor the offset of a non-empty result, nor `offset + min_data_len` wraps. -/
theorem trySliceR_eq (d : List (U × U)) (n : U) (items : List RItem)
    (hfit : TensorBounds.maxOffset (toN d) < isizeMax)
    (hok : ItemsOk (toN d) (items.map RItem.toN)) :
    (trySliceR d n items).map viewToN =
      TensorBounds.trySliceR (toN d) n.toNat (items.map RItem.toN) := by
  obtain ⟨h1, h2⟩ := sliceLoopR_eq d items hok
  have hW := isizeMax_lt_W
  unfold trySliceR TensorBounds.trySliceR
  simp only []
  rw [← h1, ← hasZero_eq]
  cases hz : hasZero (sliceLoopR d items).2
  · -- non-empty result
    have hle := (slice_embeds hok).maxOffset_le (by rw [← h1, ← hasZero_eq]; exact hz)
    rw [← h1] at hle
    have hoff : (sliceLoopR d items).1.toNat =
        (TensorBounds.sliceLoopR (toN d) (items.map RItem.toN)).1 := by
      rw [h2, Nat.mod_eq_of_lt]; omega
    rw [← hoff] at hle ⊢
    simp only [Bool.false_eq_true, if_false]
    have hm : (minDataLen (sliceLoopR d items).2).toNat =
        TensorBounds.minDataLen (toN (sliceLoopR d items).2) :=
      minDataLen_toNat _ (by omega)
    have hmv : TensorBounds.minDataLen (toN (sliceLoopR d items).2) =
        TensorBounds.maxOffset (toN (sliceLoopR d items).2) + 1 := by
      unfold TensorBounds.minDataLen; rw [← hasZero_eq, hz]; rfl
    have hsum : ((sliceLoopR d items).1 + minDataLen (sliceLoopR d items).2).toNat =
        (sliceLoopR d items).1.toNat + TensorBounds.minDataLen (toN (sliceLoopR d items).2) := by
      rw [add_toNat, hm, Nat.mod_eq_of_lt]; omega
    simp only [rangeValid, Bool.and_eq_true, decide_eq_true_eq, UInt64.le_iff_toNat_le, hsum]
    split
    · simp only [Option.map_some, viewToN, hsum]
    · rfl
  · -- empty result: offset reset to 0, nothing needed
    simp only [if_true]
    have hm0 : minDataLen (sliceLoopR d items).2 = 0 := by unfold minDataLen; rw [hz]; rfl
    have hm0' : TensorBounds.minDataLen (toN (sliceLoopR d items).2) = 0 := by
      unfold TensorBounds.minDataLen; rw [← hasZero_eq, hz]; rfl
    rw [hm0, hm0']
    have h00 : ((0 : U) + 0).toNat = 0 := rfl
    have h0 : (0 : U).toNat = 0 := rfl
    simp only [rangeValid, Bool.and_eq_true, decide_eq_true_eq, UInt64.le_iff_toNat_le, h00, h0,
      Nat.zero_le, and_self, if_true, Option.map_some, viewToN, Nat.add_zero]

end M
end RtenVerif.TensorBounds
