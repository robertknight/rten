import RtenVerif.Lemmas.OverlapCompleteOps

/-!
Completeness side of C08 (part 3): `merge_axes` keeps a dominance chain.

Merging an outer dimension `(n, t*m)` with the dimension `(m, t)` directly inside it gives
`(m*n, t)`.  In any passing ordering the two entries are neighbours (an entry strictly
between them would make the outer stride too small), and the merged entry has the inner
stride and exactly the sum of the two spans, so the ordering with the pair replaced by the
merged entry passes as well.
-/
namespace RtenVerif.Overlap

theorem span_plus_stride (t m : Nat) (hm : 1 ≤ m) : (m - 1) * t + t = t * m := by
  rw [← Nat.succ_mul, Nat.succ_eq_add_one, Nat.sub_add_cancel hm, Nat.mul_comm]

/-- Each side plus `t` is `t * m * n`. -/
theorem span_merge (t m n : Nat) (hm : 1 ≤ m) (hn : 1 ≤ n) :
    (m * n - 1) * t = (m - 1) * t + (n - 1) * (t * m) := by
  have h1 := span_plus_stride t m hm
  have h2 := span_plus_stride (t * m) n hn
  have h3 := span_plus_stride t (m * n) (Nat.mul_pos hm hn)
  rw [Nat.mul_assoc] at h2
  omega

theorem chain_merge {L K : List (Nat × Nat)} {t m n : Nat} (hm : 2 ≤ m) (hn : 2 ≤ n)
    (hperm : L.Perm ((t * m, n) :: (t, m) :: K)) (hs : ∀ x ∈ K, 2 ≤ x.2) (hp : Passes 0 L) :
    ∃ L', L'.Perm ((t, m * n) :: K) ∧ Passes 0 L' := by
  have hsL : ∀ x ∈ L, 2 ≤ x.2 := by
    intro x hx
    have := hperm.mem_iff.mp hx
    simp only [List.mem_cons] at this
    rcases this with rfl | rfl | h
    · exact hn
    · exact hm
    · exact hs x h
  have hy : (t, m) ∈ L := hperm.mem_iff.mpr (by simp)
  have hx : (t * m, n) ∈ L := hperm.mem_iff.mpr (by simp)
  have ht : 0 < t := (passes_strict L 0 hp hsL).1 _ hy
  have hst := span_plus_stride t m (by omega)
  have hspy : span (t, m) = (m - 1) * t := rfl
  have hspx : span (t * m, n) = (n - 1) * (t * m) := rfl
  -- the outer stride is the inner stride plus the inner span, so the two entries are neighbours
  obtain ⟨A, C, rfl⟩ := passes_adjacent hp hsL hy hx
    (by have := stride_le_span (t, m) hm; show t < t * m; omega) (by show t * m ≤ t + _; omega)
  rw [passes_append, passes_cons, passes_cons] at hp
  obtain ⟨hA, hty, _, hC⟩ := hp
  refine ⟨A ++ (t, m * n) :: C, ?_, ?_⟩
  · have h1 : (A ++ (t, m) :: (t * m, n) :: C).Perm ((t * m, n) :: (t, m) :: (A ++ C)) :=
      List.perm_middle.trans ((List.Perm.cons _ List.perm_middle).trans (List.Perm.swap _ _ _))
    have hK : (A ++ C).Perm K := ((h1.symm.trans hperm).cons_inv).cons_inv
    exact List.perm_middle.trans (hK.cons _)
  · rw [passes_append, passes_cons]
    refine ⟨hA, hty, ?_⟩
    have hsp : span (t, m * n) = span (t, m) + span (t * m, n) := by
      rw [hspy, hspx]; exact span_merge t m n (by omega) (by omega)
    rw [hsp, ← Nat.add_assoc]
    exact hC

/-- `merge_axes` step with the two dimensions in front: `(n, t*m)` outside `(m, t)` becomes
`(m*n, t)`.  No side condition. -/
theorem accept_merge_head {t m n : Nat} {rest : List (Nat × Nat)}
    (h : mayOverlap ((n, t * m) :: (m, t) :: rest) = false) :
    mayOverlap ((m * n, t) :: rest) = false := by
  rw [accepted_iff] at h ⊢
  -- an empty result is accepted; a non-empty result has a non-empty source, which is a chain
  by_cases hz' : NoZero ((m * n, t) :: rest)
  case neg => exact .inl hz'
  right
  obtain ⟨hmn0, hzr⟩ := (noZero_cons _ _).mp hz'
  obtain ⟨hm0, hn0⟩ := Nat.mul_ne_zero_iff.mp hmn0
  rcases h with h | ⟨L, hperm, hp⟩
  · exact absurd ((noZero_cons _ _).mpr ⟨hn0, (noZero_cons _ _).mpr ⟨hm0, hzr⟩⟩) h
  by_cases hn1 : n = 1
  · subst hn1
    exact ⟨L, by simpa [keys_cons] using hperm, hp⟩
  by_cases hm1 : m = 1
  · subst hm1
    exact ⟨L, by simpa [keys_cons, hn1] using hperm, hp⟩
  have hmn : m * n ≠ 1 := fun h1 => hm1 (Nat.eq_one_of_mul_eq_one_right h1)
  have hk : keys ((n, t * m) :: (m, t) :: rest) = (t * m, n) :: (t, m) :: keys rest := by
    simp [keys_cons, hn1, hm1]
  rw [hk] at hperm
  obtain ⟨L', hperm', hp'⟩ :=
    chain_merge (by omega) (by omega) hperm (keys_size_ge_two hzr) hp
  exact ⟨L', by simpa [keys_cons, hmn] using hperm', hp'⟩

end RtenVerif.Overlap
