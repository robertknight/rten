import RtenVerif.Lemmas.GemmPack
import RtenVerif.Lemmas.Blocks

/-! C16: the prepacked block lookup `PackedMatrixBase::block`.  The buffer is one packed block
per depth block; all but the last have depth `kc`, so depth block `idx` starts at
`idx · (⌈nm/t⌉·t·kc)`, and its panels have stride `t · blockDepth`.  Core Lean only. -/
namespace RtenVerif.Gemm

def blockDepth (K kc idx : Nat) : Nat := min (idx * kc + kc) K - idx * kc

theorem blockDepth_cases {K kc idx : Nat} (hkc : 0 < kc) (hidx : idx * kc < K) :
    (blockDepth K kc idx = kc ∧ idx + 1 ≤ K / kc) ∨
    (blockDepth K kc idx = K % kc ∧ idx = K / kc ∧ K % kc ≠ 0) := by
  by_cases h : idx * kc + kc ≤ K
  · exact .inl ⟨by rw [blockDepth, Nat.min_eq_left h, Nat.add_sub_cancel_left],
      (Nat.le_div_iff_mul_le hkc).mpr (by rwa [Nat.succ_mul])⟩
  · have hlt : K < idx * kc + kc := Nat.lt_of_not_le h
    have hq : K / kc = idx := Nat.div_eq_of_lt_le (Nat.le_of_lt hidx) (by rwa [Nat.succ_mul])
    have hdm := Nat.div_add_mod' K kc
    rw [hq] at hdm
    exact .inr ⟨by rw [blockDepth, Nat.min_eq_right (Nat.le_of_lt hlt)]; omega, hq.symm, by omega⟩

theorem blockDepth_pos {K kc idx : Nat} (hkc : 0 < kc) (hidx : idx * kc < K) :
    0 < blockDepth K kc idx := by
  unfold blockDepth; omega

/-- `block` in closed form: the panel stride it picks is `t · depth(idx)` (the tail stride exactly
for the short last block). -/
theorem prepack_block_eq {t nm K kc idx : Nat} (hkc : 0 < kc) (hidx : idx * kc < K) (s e : Nat) :
    (prepackBase t nm K kc).block s e idx =
      (idx * (nextMultipleOf nm t * kc) + (s / t) * (t * blockDepth K kc idx),
       idx * (nextMultipleOf nm t * kc) + divCeil e t * (t * blockDepth K kc idx),
       t * blockDepth K kc idx) := by
  have hps : (prepackBase t nm K kc).panelStrideAt idx = t * blockDepth K kc idx := by
    show (if idx = divCeil K kc - 1 then (if K % kc = 0 then t * kc else t * (K % kc))
      else t * kc) = _
    by_cases hm : K % kc = 0
    · -- `kc ∣ K`: every block is full and both strides are `t · kc`
      rw [if_pos hm, ite_self]
      rcases blockDepth_cases hkc hidx with ⟨hd, _⟩ | ⟨_, _, hm'⟩
      · rw [hd]
      · exact absurd hm hm'
    · -- otherwise the last block is the short one, `idx = K / kc`
      have hdc : divCeil K kc = K / kc + 1 := by rw [divCeil, if_pos (by omega)]
      rw [if_neg hm, hdc]
      rcases blockDepth_cases hkc hidx with ⟨hd, hi⟩ | ⟨hd, hi, _⟩
      · rw [hd, if_neg (by omega)]
      · rw [hd, if_pos (by omega)]
  simp only [PackedBase.block, hps]
  rfl

/-- Element `j` of panel `p` of `block(s..e, idx)` is element `j` of panel `s/t + p` of the piece of
depth block `idx`; the pieces before it are full, so that piece starts at `idx · (⌈nm/t⌉·t·kc)`. -/
theorem prepacked_block_get {β : Type} (f : Nat × Nat → List β) {t nm K kc idx s p j : Nat}
    (e : Nat) (ht : 0 < t) (hkc : 0 < kc) (hidx : idx * kc < K)
    (hlen : ∀ d, (f d).length = divCeil nm t * t * (d.2 - d.1))
    (hp : s / t + p < divCeil nm t) (hj : j < t * blockDepth K kc idx) :
    ((depthBlocks K kc).flatMap f)[((prepackBase t nm K kc).block s e idx).1 +
        (p * (t * blockDepth K kc idx) + j)]? =
      (f (idx * kc, min (idx * kc + kc) K))[(s / t + p) * (t * blockDepth K kc idx) + j]? := by
  have hget : ∀ i, i * kc < K →
      (rangeChunks K 0 K kc)[i]? = some (i * kc, min (i * kc + kc) K) := by
    intro i hi
    have := rangeChunks_get hkc (Nat.le_of_eq (Nat.sub_zero K)) (p := i) (by rwa [Nat.zero_add])
    rwa [Nat.zero_add] at this
  rw [prepack_block_eq hkc hidx, nextMultipleOf_eq ht]
  simp only
  rw [show idx * (divCeil nm t * t * kc) + s / t * (t * blockDepth K kc idx) +
        (p * (t * blockDepth K kc idx) + j) =
      idx * (divCeil nm t * t * kc) + ((s / t + p) * (t * blockDepth K kc idx) + j) by
    rw [Nat.add_mul]; omega]
  refine Blocks.getElem?_flatMap_prefix f _ _ idx _ (hget idx hidx) ?_ _ ?_
  · intro i' b hi' hb
    have hi'K : i' * kc + kc ≤ idx * kc := by
      have := Nat.mul_le_mul_right kc (Nat.succ_le_of_lt hi')
      rwa [Nat.succ_mul] at this
    have hfull : i' * kc + kc ≤ K := Nat.le_trans hi'K (Nat.le_of_lt hidx)
    rw [hget i' (Nat.lt_of_lt_of_le (Nat.lt_add_of_pos_right hkc) hfull)] at hb
    cases hb
    rw [hlen, Nat.min_eq_left hfull, Nat.add_sub_cancel_left]
  · rw [hlen, Nat.mul_assoc]
    exact mul_add_lt hp hj

/-- Panel `p` of a block `s..e` (start a multiple of `t`; end a multiple of `t` or the matrix end)
is panel `s/t + p` of the whole operand, with the same elements present. -/
theorem sub_block_cond {t s e nm p x : Nat} (ht : 0 < t) (hs : t ∣ s) (he : e ≤ nm)
    (hend : e = nm ∨ t ∣ e) (hp : s / t + p < divCeil e t) (hx : x < t) :
    (s / t + p) * t = s + p * t ∧ ((s / t + p) * t + x < nm ↔ p * t + x < e - s) := by
  have hpt : (s / t + p) * t = s + p * t := by rw [Nat.add_mul, Nat.div_mul_cancel hs]
  refine ⟨hpt, ?_⟩
  rw [hpt, Nat.add_assoc, ← Nat.lt_sub_iff_add_lt']
  rcases hend with rfl | ⟨q, hq⟩
  · exact Iff.rfl
  · -- a whole panel fits below `e`, so the element exists in both
    rw [hq, Nat.mul_comm, divCeil_mul_self ht] at hp
    have := Nat.mul_le_mul_right t (Nat.succ_le_of_lt hp)
    rw [Nat.succ_mul, hpt, Nat.mul_comm q t, ← hq] at this
    exact iff_of_true (by omega) (by omega)

end RtenVerif.Gemm
