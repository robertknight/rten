import RtenVerif.Lemmas.ListBasics

/-! Lists made of equal-length blocks: `l.flatMap f` where the blocks `f a` have a common length `L`.
Block `i` starts at position `i * L`; for that only the blocks before it need the common length. -/
namespace RtenVerif.Blocks
variable {ι β : Type}

theorem length_flatMap (l : List ι) (f : ι → List β) (L : Nat) (h : ∀ a ∈ l, (f a).length = L) :
    (l.flatMap f).length = l.length * L := by
  rw [List.length_flatMap, List.map_congr_left h, List.map_const', List.sum_replicate_nat]

theorem drop_flatMap (f : ι → List β) (L : Nat) : ∀ (l : List ι) (i : Nat),
    (∀ i' b, i' < i → l[i']? = some b → (f b).length = L) →
    (l.flatMap f).drop (i * L) = (l.drop i).flatMap f
  | l, 0, _ => by simp
  | [], i + 1, _ => by simp
  | a :: l, i + 1, h => by
    rw [List.flatMap_cons, Nat.succ_mul, Nat.add_comm, ← List.drop_drop,
      List.drop_left' (h 0 a (Nat.succ_pos i) rfl), List.drop_succ_cons]
    exact drop_flatMap f L l i fun i' b hi' hb => h (i' + 1) b (Nat.succ_lt_succ hi') hb

theorem getElem?_flatMap_prefix (f : ι → List β) (L : Nat) (l : List ι) (i : Nat) (a : ι)
    (hia : l[i]? = some a) (h : ∀ i' b, i' < i → l[i']? = some b → (f b).length = L)
    (j : Nat) (hj : j < (f a).length) : (l.flatMap f)[i * L + j]? = (f a)[j]? := by
  obtain ⟨hi, rfl⟩ := List.getElem?_eq_some_iff.mp hia
  rw [← List.getElem?_drop, drop_flatMap f L l i h, List.drop_eq_getElem_cons hi, List.flatMap_cons,
    List.getElem?_append_left hj]

theorem getElem?_flatMap (f : ι → List β) (L : Nat) (l : List ι) (h : ∀ a ∈ l, (f a).length = L)
    (i : Nat) {j : Nat} (hj : j < L) : (l.flatMap f)[i * L + j]? = (l[i]?).bind fun a => (f a)[j]? := by
  cases hia : l[i]? with
  | none =>
    have hi := List.getElem?_eq_none_iff.mp hia
    exact List.getElem?_eq_none_iff.mpr (by
      rw [length_flatMap l f L h]
      exact Nat.le_trans (Nat.mul_le_mul_right L hi) (Nat.le_add_right _ _))
  | some a =>
    have ha := h a (List.mem_of_getElem? hia)
    exact getElem?_flatMap_prefix f L l i a hia (fun _ b _ hb => h b (List.mem_of_getElem? hb)) j (ha ▸ hj)

theorem getElem?_flatMap_div (f : ι → List β) (L : Nat) (hL : 0 < L) (l : List ι)
    (h : ∀ a ∈ l, (f a).length = L) (i : Nat) :
    (l.flatMap f)[i]? = (l[i / L]?).bind fun a => (f a)[i % L]? := by
  have := getElem?_flatMap f L l h (i / L) (Nat.mod_lt i hL)
  rwa [Nat.mul_comm, Nat.div_add_mod] at this

/-! Loop nests of fixed trip counts, `for a in 0..A { for b in 0..B { push (f a b) } }` (two or
three levels deep): entry `a·B + b` resp. `a·(B·C) + (b·C + c)` is iteration `(a, b)` resp.
`(a, b, c)`. -/

theorem getElem?_nest₂ (f : Nat → Nat → β) {A B a b : Nat} (ha : a < A) (hb : b < B) :
    ((List.range A).flatMap fun a => (List.range B).map (f a))[a * B + b]? = some (f a b) := by
  rw [getElem?_flatMap _ B _ (fun a _ => by simp) a hb, List.getElem?_range ha, Option.bind_some,
    List.getElem?_map, List.getElem?_range hb, Option.map_some]

theorem length_nest₃ (A B C : Nat) (f : Nat → Nat → Nat → β) :
    ((List.range A).flatMap fun a => (List.range B).flatMap fun b =>
      (List.range C).map (f a b)).length = A * (B * C) := by
  rw [length_flatMap _ _ (B * C), List.length_range]
  intro a _
  rw [length_flatMap _ _ C (fun b _ => by simp), List.length_range]

theorem getElem?_nest₃ (f : Nat → Nat → Nat → β) {A B C a b c : Nat}
    (ha : a < A) (hb : b < B) (hc : c < C) :
    ((List.range A).flatMap fun a => (List.range B).flatMap fun b => (List.range C).map (f a b))[
      a * (B * C) + (b * C + c)]? = some (f a b c) := by
  rw [getElem?_flatMap _ (B * C) _ (fun a _ => by rw [length_flatMap _ _ C fun b _ => by simp]; simp) a
      (mul_add_lt hb hc), List.getElem?_range ha, Option.bind_some]
  exact getElem?_nest₂ (f a) hb hc

end RtenVerif.Blocks
