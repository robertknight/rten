import RtenVerif.Lemmas.LayoutSeq
import RtenVerif.Lemmas.Reindex

/-! C09: `min_data_len` is one more than the largest offset of the row-major sequence, so the
operations that keep that sequence (`merge_axes`, contiguous reshape, copies) keep the storage-window
invariant. -/
namespace RtenVerif.Layout
open RtenVerif.Arr RtenVerif.Overlap

theorem mem_rowMajor {d : Dims} {o : Nat} :
    o ∈ Iter.rowMajor d ↔ ∃ idx, validIdx (sizes d) idx = true ∧ offset d idx = o := by
  simp only [Iter.rowMajor, indices_eq_idxs, List.mem_map, mem_idxs]

theorem lt_minDataLen_of_mem {d : Dims} {o : Nat} (h : o ∈ Iter.rowMajor d) : o < minDataLen d :=
  let ⟨idx, hv, ho⟩ := mem_rowMajor.mp h
  ho ▸ offset_lt_minDataLen d idx hv

theorem pred_minDataLen_mem {d : Dims} (h : minDataLen d ≠ 0) : minDataLen d - 1 ∈ Iter.rowMajor d := by
  have hne : numelD d ≠ 0 := fun he => h (minDataLen_empty d he)
  refine mem_rowMajor.mpr ⟨_, validIdx_last d hne, ?_⟩
  rw [offset_last, minDataLen_nonempty d hne, Nat.add_sub_cancel]

theorem minDataLen_le_of_rowMajor {d d' : Dims} (h : ∀ o ∈ Iter.rowMajor d, o ∈ Iter.rowMajor d') :
    minDataLen d ≤ minDataLen d' := by
  by_cases h0 : minDataLen d = 0
  · omega
  · have := lt_minDataLen_of_mem (h _ (pred_minDataLen_mem h0)); omega

theorem minDataLen_congr {d d' : Dims} (h : Iter.rowMajor d = Iter.rowMajor d') :
    minDataLen d = minDataLen d' :=
  Nat.le_antisymm (minDataLen_le_of_rowMajor fun _ ho => h ▸ ho)
    (minDataLen_le_of_rowMajor fun _ ho => h ▸ ho)

theorem minDataLen_of_range {d : Dims} {n : Nat} (h : Iter.rowMajor d = List.range n) :
    minDataLen d = n := by
  refine Nat.le_antisymm ?_ ?_
  · by_cases h0 : minDataLen d = 0
    · omega
    · have := pred_minDataLen_mem h0; rw [h, List.mem_range] at this; omega
  · by_cases hn : n = 0
    · omega
    · have := lt_minDataLen_of_mem (d := d) (o := n - 1) (by rw [h, List.mem_range]; omega); omega

theorem minDataLen_contigDims (shape : List Nat) : minDataLen (contigDims shape) = numel shape :=
  minDataLen_of_range (rowMajor_contigDims shape)

theorem minDataLen_contiguous (d : Dims) (h : isContiguous d = true) :
    minDataLen d = numel (sizes d) := minDataLen_of_range (Seq.rowMajor_of_isContiguous d h)

theorem WF_ofArr (A : NArr Nat) (hlen : A.data.length = numel A.shape) : WF (TState.ofArr A).view := by
  unfold WF TState.ofArr
  simp only []
  rw [minDataLen_contigDims, hlen]
  exact Nat.le_refl _

theorem WF_mergedAxes (v : View) (h : WF v) : WF (mergedAxes v) :=
  Nat.le_trans (Nat.le_of_eq (minDataLen_congr (rowMajor_mergeAxes v.dims))) h

end RtenVerif.Layout
