/-
Lemmas for the binary-operator dispatch model (C14; C13 for its in-place variant): reading a view
through broadcast strides (stride 0 on stretched / padded axes) in row-major order is the reference
broadcast `bcast` of the view's own row-major element list — for every stride pattern of the source
view.  Both lists are tabulations over the target shape (`map_rowMajor_tab`, `bcastTo_tab`); that they
agree index by index is C09's `broadcast_core`.  The in-place variant writes through `writeLoop`, a
store function updated slot by slot; with pairwise distinct slots every slot is computed from its
original content (`writeLoop_read`).
-/
import RtenVerif.Lemmas.InPlace
import RtenVerif.Lemmas.LayoutSeq
import RtenVerif.Lemmas.Broadcast
import RtenVerif.Model.BinaryDispatch
import RtenVerif.Model.InPlaceView

namespace RtenVerif.Layout
open RtenVerif.Arr RtenVerif.Overlap RtenVerif.InPlace RtenVerif.Layout.Seq
open RtenVerif.FastBroadcast (bcastTo pairsTo padFrom)
open RtenVerif.Iter (rowMajor rowMajor_length)

theorem map_rowMajor_tab {α : Type} (d : Dims) (g : Nat → α) :
    (rowMajor d).map g = (Arr.idxs (sizes d)).map (fun idx => g (offset d idx)) := by
  rw [rowMajor, indices_eq_idxs, List.map_map]; rfl

/-- **Broadcast views read the reference broadcast.**  For any source layout `d` (any strides:
permuted, stepped, already-broadcast …) and any target shape it can be broadcast to, the
row-major offsets of the broadcast view (`broadcast_strides`) read exactly
`bcast (row-major elements of the source)`. -/
theorem rowMajor_broadcast {α : Type} (d : Dims) (t : List Nat) (hle : d.length ≤ t.length)
    (hc : Compat (pairsTo (sizes d) t)) (g : Nat → α) :
    (rowMajor (List.zip t (broadcastStrides d t))).map g =
      bcastTo ((rowMajor d).map g) (sizes d) t := by
  have hls : (sizes d).length ≤ t.length := by rwa [sizes_length]
  have hcb : canBroadcastTo d t = true := by
    have := (canBroadcastTo_iff _ _).mpr ⟨hls, hc⟩
    rwa [InPlace.canBroadcastTo, sizes_length] at this
  obtain ⟨hshape, hidx⟩ := broadcast_core d t hcb
  rw [map_rowMajor_tab, map_rowMajor_tab, hshape, ← FastBroadcast.idxs_eq, ← FastBroadcast.idxs_eq,
    bcastTo_tab _ _ _ hls hc, FastBroadcast.idxs_eq]
  apply List.map_congr_left
  intro idx hm
  rw [(hidx idx (mem_idxs.mp hm)).2, sizes_length]
  rfl

theorem bcastViewElems_eq {α : Type} (v : View) (out : List Nat) (s : Nat → α)
    (hle : (sizes v.dims).length ≤ out.length) (hc : Compat (pairsTo (sizes v.dims) out)) :
    bcastViewElems v out s = bcastTo (tensOf v s).data (sizes v.dims) out := by
  unfold bcastViewElems tensOf
  exact rowMajor_broadcast v.dims out (by simpa [sizes] using hle) hc _

theorem tensOf_data_length {α : Type} (v : View) (s : Nat → α) :
    (tensOf v s).data.length = FastBroadcast.numel (tensOf v s).shape := by
  simp only [tensOf, List.length_map, rowMajor_length, total_eq_numel]
  rfl

theorem viewData_eq {α : Type} (v : View) (s : Nat → α) (d : List α) (h : viewData v s = some d) :
    d = (tensOf v s).data := by
  unfold viewData at h
  split at h
  · rename_i hc
    injection h with h
    rw [← h, tensOf, rowMajor_of_isContiguous _ hc]
  · cases h

/-! ## The write loop of `binary_op_in_place` on a view (Model/InPlaceView.lean) -/

theorem writeLoop_not_mem {α β : Type} (f : α → β → α) : ∀ (ws : List (Nat × β)) (s : Nat → α) (o : Nat),
    o ∉ ws.map (·.1) → writeLoop f ws s o = s o
  | [], _, _, _ => rfl
  | (o', y) :: rest, s, o, h => by
    simp only [List.map_cons, List.mem_cons, not_or] at h
    rw [writeLoop, writeLoop_not_mem f rest _ o h.2]
    simp [h.1]

/-- Reading back the written slots: with pairwise distinct offsets every slot holds
`f (old value) y`, computed from the *original* content of that slot. -/
theorem writeLoop_read {α β : Type} (f : α → β → α) : ∀ (os : List Nat) (ys : List β) (s : Nat → α),
    os.Nodup → os.length = ys.length →
    os.map (writeLoop f (List.zip os ys) s) = List.zipWith f (os.map s) ys
  | [], [], _, _, _ => rfl
  | [], _ :: _, _, _, h => by cases h
  | _ :: _, [], _, _, h => by cases h
  | o :: os, y :: ys, s, hnd, hlen => by
    have hno : o ∉ os := (List.nodup_cons.mp hnd).1
    have hnd' : os.Nodup := (List.nodup_cons.mp hnd).2
    have hlen' : os.length = ys.length := by simpa using hlen
    simp only [List.zip_cons_cons, writeLoop, List.map_cons, List.zipWith_cons_cons]
    have hfst : (List.zip os ys).map (·.1) = os := List.map_fst_zip (by omega)
    congr 1
    · rw [writeLoop_not_mem f _ _ o (by rw [hfst]; exact hno)]; simp
    · rw [writeLoop_read f os ys _ hnd' hlen']
      congr 1
      apply List.map_congr_left
      intro i hi
      have : i ≠ o := fun e => hno (e ▸ hi)
      simp [this]

end RtenVerif.Layout
