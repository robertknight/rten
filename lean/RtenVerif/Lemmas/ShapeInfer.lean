import RtenVerif.Model.ShapeExec

/-! C10: `evalList`, the agreement relation `Agrees` between an inferred symbolic tensor and an
executed tensor, the homomorphism conditions on symbolic element rules, and the `mapO` lemmas
(`mapO_lift` is the one every element-wise rule goes through). -/
namespace RtenVerif.ShapeInfer

def evalList (σ : Env) (es : List Sym) : Option (List Int) := mapO (Sym.eval σ) es

/-- "Inference does not contradict execution": an inferred scalar / vector claims rank and every
element, an inferred shape claims rank and every dimension, `unknown` claims nothing. -/
def Agrees (σ : Env) : STn → CT → Prop
  | .unknown, _ => True
  | .scalar e, c => ∃ v, c = .scalar v ∧ e.eval σ = some v
  | .vector es, c => ∃ vs, c = .vector vs ∧ evalList σ es = some vs
  | .shape ds, c => evalList σ ds = some c.dims

def OpHom (σ : Env) (op : Sym → Sym → Option Sym) (f : Int → Int → Option Int) : Prop :=
  ∀ x y r vx vy w, op x y = some r → x.eval σ = some vx → y.eval σ = some vy →
    f vx vy = some w → r.eval σ = some w

def OpHomOn (σ : Env) (S : Sym → Prop) (op : Sym → Sym → Option Sym) (f : Int → Int → Option Int) : Prop :=
  ∀ x y r vx vy w, S x → S y → op x y = some r → x.eval σ = some vx → y.eval σ = some vy →
    f vx vy = some w → r.eval σ = some w

theorem OpHom.on {σ : Env} {op} {f} (h : OpHom σ op f) (S : Sym → Prop) : OpHomOn σ S op f :=
  fun x y r vx vy w _ _ => h x y r vx vy w

theorem mapO_cons_eq_some {α β : Type} {f : α → Option β} {a : α} {as : List α} {bs : List β} :
    mapO f (a :: as) = some bs ↔ ∃ b bs', f a = some b ∧ mapO f as = some bs' ∧ bs = b :: bs' := by
  simp only [mapO]
  cases f a with
  | none => simp
  | some b =>
    cases mapO f as with
    | none => simp
    | some bs' => simp [eq_comm]

/-- A successful `mapO` is a `map`: every list operation that commutes with `map` commutes with `mapO`. -/
theorem mapO_eq_some_iff {α β : Type} {f : α → Option β} : ∀ {l : List α} {out : List β},
    mapO f l = some out ↔ l.map f = out.map some
  | [], out => by cases out <;> simp [mapO]
  | a :: l, [] => by
    simp only [mapO]
    cases f a with
    | none => simp
    | some b => cases mapO f l <;> simp
  | a :: l, c :: cs => by
    simp only [mapO, List.map_cons, List.cons.injEq, ← mapO_eq_some_iff (l := l) (out := cs)]
    cases f a with
    | none => simp
    | some b => cases mapO f l <;> simp

theorem evalList_iff {σ : Env} {es : List Sym} {vs : List Int} :
    evalList σ es = some vs ↔ es.map (Sym.eval σ) = vs.map some := mapO_eq_some_iff

theorem mapO_length {α β : Type} {f : α → Option β} {l : List α} {out : List β}
    (h : mapO f l = some out) : out.length = l.length := by
  simpa using (congrArg List.length (mapO_eq_some_iff.mp h)).symm

theorem evalList_length (σ : Env) (es : List Sym) (vs : List Int) (h : evalList σ es = some vs) :
    es.length = vs.length :=
  (mapO_length h).symm

/-- `g` is the symbolic rule, `ev'` evaluates an input, `k` is the executed function and `ev`
evaluates a result. -/
theorem mapO_lift {α β γ δ : Type} {g : γ → Option α} {ev : α → Option β} {ev' : γ → Option δ}
    {k : δ → Option β} : ∀ {l : List γ} {out : List α} {ds : List δ} {w : List β},
    (∀ c ∈ l, ∀ a d b, g c = some a → ev' c = some d → k d = some b → ev a = some b) →
    mapO g l = some out → mapO ev' l = some ds → mapO k ds = some w → mapO ev out = some w
  | [], _, _, _, _, h1, h2, h3 => by cases h1; cases h2; cases h3; rfl
  | c :: l, _, _, _, h, h1, h2, h3 => by
    obtain ⟨a, out, ha, hout, rfl⟩ := mapO_cons_eq_some.mp h1
    obtain ⟨d, ds, hd, hds, rfl⟩ := mapO_cons_eq_some.mp h2
    obtain ⟨b, w, hb, hw, rfl⟩ := mapO_cons_eq_some.mp h3
    exact mapO_cons_eq_some.mpr ⟨b, w, h c (List.mem_cons_self ..) a d b ha hd hb,
      mapO_lift (fun c hc => h c (List.mem_cons_of_mem _ hc)) hout hds hw, rfl⟩

theorem mapO_pure {α β : Type} (h : α → β) (l : List α) : mapO (fun a => some (h a)) l = some (l.map h) :=
  mapO_eq_some_iff.mpr (by rw [List.map_map]; rfl)

theorem mapO_some {α : Type} (l : List α) : mapO some l = some l := by
  simpa using mapO_pure id l

def pairO {α β α' β' : Type} (f : α → Option α') (g : β → Option β') (p : α × β) : Option (α' × β') :=
  match f p.1, g p.2 with
  | some a, some b => some (a, b)
  | _, _ => none

theorem pairO_eq_some {α β α' β' : Type} {f : α → Option α'} {g : β → Option β'} {p : α × β} {q : α' × β'} :
    pairO f g p = some q ↔ f p.1 = some q.1 ∧ g p.2 = some q.2 := by
  unfold pairO
  cases f p.1 <;> cases g p.2 <;> simp [Prod.ext_iff]

theorem mapO_zip {α β α' β' : Type} {f : α → Option α'} {g : β → Option β'} :
    ∀ {l : List α} {r : List β} {l' : List α'} {r' : List β'}, mapO f l = some l' → mapO g r = some r' →
    mapO (pairO f g) (List.zip l r) = some (List.zip l' r')
  | [], _, _, _, h1, _ => by cases h1; rfl
  | _ :: _, [], _, _, _, h2 => by cases h2; simp [mapO]
  | a :: l, b :: r, _, _, h1, h2 => by
    obtain ⟨a', l', ha, hl, rfl⟩ := mapO_cons_eq_some.mp h1
    obtain ⟨b', r', hb, hr, rfl⟩ := mapO_cons_eq_some.mp h2
    exact mapO_cons_eq_some.mpr ⟨(a', b'), _, pairO_eq_some.mpr ⟨ha, hb⟩, mapO_zip hl hr, rfl⟩

end RtenVerif.ShapeInfer
