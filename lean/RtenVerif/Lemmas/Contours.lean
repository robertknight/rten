import RtenVerif.Model.Contours
import RtenVerif.Lemmas.ListBasics

/-!
Lemmas about the parts of `find_contours`: the working mask (`getM`, `setM`, `padMask`) and which
of its cells are zero, the eight neighbours as directions (`nb`), and `find_nonzero_neighbor` as
a search over directions (`findNN_iff`).
-/
namespace RtenVerif.Contours

def idx (W : Nat) (p : Pt) : Nat := p.1.toNat * W + p.2.toNat
def InR (W : Nat) (p : Pt) : Prop := ¬ (p.1 < 0 ∨ p.2 < 0 ∨ p.2 ≥ W)

theorem getM_ne_zero {m : List Int} {W : Nat} {p : Pt} (h : getM m W p ≠ 0) :
    InR W p ∧ m.getD (idx W p) 0 ≠ 0 := by
  unfold getM at h
  split at h
  · exact absurd rfl h
  · rename_i hg; exact ⟨hg, h⟩

theorem idx_inj {W : Nat} {c c' : Pt} (h : InR W c) (h' : InR W c') (e : idx W c = idx W c') :
    c = c' := by
  unfold InR at h h'
  have h1 := mul_add_div_mod c.1.toNat (show c.2.toNat < W by omega)
  have h2 := mul_add_div_mod c'.1.toNat (show c'.2.toNat < W by omega)
  rw [← idx, e, idx, h2.1, h2.2] at h1
  exact Prod.ext (by omega) (by omega)

theorem setM_zero_iff {m : List Int} {W : Nat} {c : Pt} {v : Int} (hv : v ≠ 0)
    (hc : getM m W c ≠ 0) (q : Pt) : getM (setM m W c v) W q = 0 ↔ getM m W q = 0 := by
  obtain ⟨hr, hnz⟩ := getM_ne_zero hc
  rw [setM, if_neg hr, getM, getM]
  split
  · exact Iff.rfl
  · rw [getD_set]
    split
    · rename_i h; rw [← h.1]; exact iff_of_false hv hnz
    · exact Iff.rfl

/-- `find_contours` only relabels non-zero cells with non-zero values and only tests cells for
zero, so all that matters of the working mask `m` is that its zero cells are those of the
padded input `m0`. -/
def SameZeros (W : Nat) (m m0 : List Int) : Prop := ∀ q, getM m W q = 0 ↔ getM m0 W q = 0

theorem SameZeros.refl (W : Nat) (m : List Int) : SameZeros W m m := fun _ => Iff.rfl

theorem SameZeros.setM {W : Nat} {m m0 : List Int} (h : SameZeros W m m0) {c : Pt} {v : Int}
    (hv : v ≠ 0) (hc : getM m0 W c ≠ 0) : SameZeros W (setM m W c v) m0 := fun q =>
  (setM_zero_iff hv (fun e => hc ((h c).1 e)) q).trans (h q)

theorem SameZeros.markStep {W : Nat} {m m0 : List Int} (h : SameZeros W m m0) {c : Pt}
    (hc : getM m0 W c ≠ 0) : SameZeros W (markStep m W c).1 m0 := by
  unfold Contours.markStep
  split
  · exact h.setM (by decide) hc
  · split
    · exact h.setM (by decide) hc
    · exact h

theorem SameZeros.findNN {W : Nat} {m m0 : List Int} (h : SameZeros W m m0) (c s : Pt)
    (cw sk : Bool) : findNonzeroNeighbor m W c s cw sk = findNonzeroNeighbor m0 W c s cw sk := by
  have e : (fun p => getM m W p != 0) = fun p => getM m0 W p != 0 := by
    funext p
    rw [Bool.eq_iff_iff, bne_iff_ne, bne_iff_ne, ne_eq, ne_eq, h p]
  unfold findNonzeroNeighbor
  simp only [e]

theorem markStep_pushes {m : List Int} {W : Nat} {p : Pt} (h : getM m W p = 1) :
    (markStep m W p).2 = true := by
  unfold markStep
  split
  · rfl
  · rfl

theorem findNonzeroNeighbor_nz {m : List Int} {W : Nat} {c s q : Pt} {cw sk : Bool}
    (h : findNonzeroNeighbor m W c s cw sk = some q) : getM m W q ≠ 0 := by
  unfold findNonzeroNeighbor at h
  have := List.find?_some h
  simpa using this

theorem getM_padMask (rows cols : Nat) (mask : List Bool) (r : Pt) :
    getM (padMask rows cols mask) (cols + 2) (r.1 + 1, r.2 + 1) =
      if maskAt rows cols mask r then 1 else 0 := by
  unfold getM maskAt
  split
  · rw [decide_eq_false (by omega)]; rfl
  · rename_i hr
    simp only at hr
    have h := mul_add_div_mod (r.1 + 1).toNat (show (r.2 + 1).toNat < cols + 2 by omega)
    simp only [padMask, getD_map_range, h]
    by_cases hc : 0 ≤ r.1 ∧ r.1 < rows ∧ 0 ≤ r.2 ∧ r.2 < cols
    · have := Nat.mul_le_mul_right (cols + 2) (show (r.1 + 1).toNat + 1 ≤ rows + 2 by omega)
      rw [Nat.succ_mul] at this
      have e : ∀ {a : Int}, 0 ≤ a → (a + 1).toNat - 1 = a.toNat := by omega
      rw [if_pos (by omega), if_pos (by omega), decide_eq_true hc, e hc.1, e hc.2.2.1]
      rfl
    · rw [decide_eq_false hc]
      split
      · rw [if_neg (by omega)]; rfl
      · rfl

def off (k : Nat) : Pt := nbOffsets.getD (k % 8) (0, 0)

/-- The neighbour of `c` in direction `k`: directions are indices into `nbOffsets` (clockwise from
north), taken mod 8. -/
def nb (c : Pt) (k : Nat) : Pt := (c.1 + (off k).1, c.2 + (off k).2)

theorem nb_congr (c : Pt) {i j : Nat} (h : i % 8 = j % 8) : nb c i = nb c j := by
  unfold nb off; rw [h]

theorem nb_mod (c : Pt) (k : Nat) : nb c (k % 8) = nb c k := nb_congr c (Nat.mod_mod k 8)

theorem nb_mod_add (c : Pt) (k j : Nat) : nb c (k % 8 + j) = nb c (k + j) :=
  nb_congr c (Nat.mod_add_mod k 8 j)

theorem nb_add_eight (c : Pt) (k : Nat) : nb c (k + 8) = nb c k := nb_congr c (Nat.add_mod_right k 8)

theorem neighbors_getD (c : Pt) (k : Nat) : (neighbors c).getD (k % 8) c = nb c k := by
  unfold nb off
  have : k % 8 < 8 := Nat.mod_lt _ (by decide)
  generalize k % 8 = j at this
  match j, this with
  | 0, _ | 1, _ | 2, _ | 3, _ | 4, _ | 5, _ | 6, _ | 7, _ => rfl

theorem nb_mem_neighbors (c : Pt) (k : Nat) : nb c k ∈ neighbors c := by
  have h : k % 8 < (neighbors c).length := Nat.mod_lt _ (by decide)
  rw [← neighbors_getD, List.getD_eq_getElem?_getD, List.getElem?_eq_getElem h]
  exact List.getElem_mem h

theorem nbIndex_nb (c : Pt) (k : Nat) : nbIndex c (nb c k) = k % 8 := by
  have e : nbIndex c (nb c k) = nbOffsets.findIdx (· == off k) := by
    rw [nbIndex, neighbors, List.findIdx_map]
    congr; funext d
    rw [Bool.eq_iff_iff]
    simp only [Function.comp, beq_iff_eq, Prod.ext_iff, nb]
    omega
  have : k % 8 < 8 := Nat.mod_lt _ (by decide)
  rw [e, off]
  generalize k % 8 = j at this
  revert j
  decide

theorem nb_nb (c : Pt) {k j i : Nat}
    (h : (off k).1 + (off j).1 = (off i).1 ∧ (off k).2 + (off j).2 = (off i).2) :
    nb (nb c k) j = nb c i := by
  simp only [nb, Int.add_assoc, h]

/-- The `i`-th direction (mod 8) `find_nonzero_neighbor` looks in when `start` lies in direction
`d`. -/
def look (d : Nat) : Bool → Bool → Nat → Nat
  | true, true, i => d + 1 + i
  | true, false, i => d + i
  | false, true, i => d + 7 - i
  | false, false, i => d + 8 - i

theorem findNN_eq (m : List Int) (W : Nat) (c : Pt) (d : Nat) (cw sk : Bool) :
    findNonzeroNeighbor m W c (nb c d) cw sk =
      ((List.range 8).find? fun i => getM m W (nb c (look d cw sk i)) != 0).map
        fun i => nb c (look d cw sk i) := by
  have e : (searchOrder (nbIndex c (nb c d)) cw sk).map (fun i => (neighbors c).getD i c) =
      (List.range 8).map fun i => nb c (look d cw sk i) := by
    rw [searchOrder, nbIndex_nb, List.map_map]
    refine List.map_congr_left fun i hi => ?_
    have := List.mem_range.1 hi
    cases cw <;> cases sk <;> refine (neighbors_getD c _).trans ?_ <;>
      simp only [look, Bool.false_eq_true, reduceIte]
    · exact nb_congr c (by omega)
    · exact nb_congr c (by omega)
    · exact nb_mod_add c d i
    · rw [nb_mod_add, Nat.add_assoc, nb_mod_add, Nat.add_assoc]
  rw [findNonzeroNeighbor, e, List.find?_map]; rfl

theorem findNN_iff {m : List Int} {W : Nat} {c q : Pt} {d : Nat} {cw sk : Bool} :
    findNonzeroNeighbor m W c (nb c d) cw sk = some q ↔
      ∃ i < 8, nb c (look d cw sk i) = q ∧ getM m W q ≠ 0 ∧
        ∀ j < i, getM m W (nb c (look d cw sk j)) = 0 := by
  simp only [findNN_eq, Option.map_eq_some_iff, List.find?_range_eq_some, List.mem_range,
    bne_iff_ne, Bool.not_eq_true', bne_eq_false_iff_eq]
  exact ⟨fun ⟨i, ⟨h1, h2, h3⟩, e⟩ => ⟨i, h2, e, e ▸ h1, h3⟩,
    fun ⟨i, h2, e, h1, h3⟩ => ⟨i, ⟨e ▸ h1, h2, h3⟩, e⟩⟩

theorem findNN_none {m : List Int} {W : Nat} {c : Pt} {d i : Nat} {cw sk : Bool}
    (h : findNonzeroNeighbor m W c (nb c d) cw sk = none) (hi : i < 8) :
    getM m W (nb c (look d cw sk i)) = 0 := by
  rw [findNN_eq, Option.map_eq_none_iff, List.find?_range_eq_none] at h
  simpa only [Bool.not_eq_true', bne_eq_false_iff_eq] using h i hi

/-- The clockwise search from the pixel found leads back to the pixel the counter-clockwise
search started from (if that is non-zero): it passes the same zeros in reverse. -/
theorem findNN_inverse {m : List Int} {W : Nat} {c q : Pt} {d : Nat}
    (h : findNonzeroNeighbor m W c (nb c d) false true = some q) (hs : getM m W (nb c d) ≠ 0) :
    findNonzeroNeighbor m W c q true true = some (nb c d) := by
  obtain ⟨i, hi, rfl, -, hz⟩ := findNN_iff.1 h
  refine findNN_iff.2 ⟨i, hi, ?_, hs, fun j hj => ?_⟩
  · rw [look, look, show d + 7 - i + 1 + i = d + 8 by omega, nb_add_eight]
  · rw [look, look, show d + 7 - i + 1 + j = d + 7 - (i - 1 - j) by omega]
    exact hz _ (by omega)

end RtenVerif.Contours
