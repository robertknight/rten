import RtenVerif.Lemmas.SymList

/-! The passes of `canonicalize` that drop adjacent equal / opposite operands keep the aggregate of the
operand values (for the sorting pass that is `isort_perm` with `aggO_perm`, in `SymList`); `canonicalize`
itself is in `SymWF` (C11.T4). -/
namespace RtenVerif.Sym

def Op.idem : Op → Bool
  | .max | .min | .broadcast => true
  | _ => false

theorem idem_comm {o : Op} (h : o.idem = true) : o.comm = true := by
  cases o <;> first | rfl | cases h

theorem opF_idem {o : Op} (h : o.idem = true) (x : Int) : opF o x x = x := by
  cases o
  case max | min => simp only [opF, ite_self]
  case broadcast => exact bcastI_self x
  all_goals cases h

section passes
variable {σ : Env} {R : SymExpr → Int → Prop} (hR : ∀ t v, R t v → ev σ t = .ok v)
include hR

theorem removeAdjEq_agg {o : Op} (h : o.idem = true) :
    ∀ {ts : List SymExpr} {vs : List Int}, Vals R ts vs →
      ∃ vs', Vals R (removeAdjEq ts) vs' ∧ aggO o vs' = aggO o vs
  | [], vs, hvs => ⟨vs, hvs, rfl⟩
  | [_], vs, hvs => ⟨vs, hvs, rfl⟩
  | a :: b :: rest, _, .cons hva hvs1 => by
    obtain ⟨vs', hvs', hagg⟩ := removeAdjEq_agg h hvs1
    simp only [removeAdjEq]
    split
    · rename_i hb
      cases hvs1 with | cons hvb hrs =>
      cases beq_ev_eq hb (hR _ _ hva) (hR _ _ hvb)
      refine ⟨vs', hvs', ?_⟩
      rw [hagg]
      simp only [aggO_cons]
      rw [← comb_assoc (idem_comm h)]
      simp only [comb, opF_idem h]
    · exact ⟨_ :: vs', .cons hva hvs', by simp only [aggO_cons, hagg]⟩

omit hR in
theorem isNegOf_sound {σ : Env} {a b : SymExpr} {x y : Int} (h : isNegOf a b = true)
    (hx : ev σ a = .ok x) (hy : ev σ b = .ok y) : x + y = 0 := by
  unfold isNegOf at h
  rw [Bool.or_eq_true] at h
  rcases h with h | h <;> split at h
  · obtain ⟨z, hz, rfl⟩ := ev_neg_ok.mp hy
    cases beq_ev_eq h hx hz; omega
  · cases h
  · obtain ⟨z, hz, rfl⟩ := ev_neg_ok.mp hx
    cases beq_ev_eq h hz hy; omega
  · cases h

theorem removeAdjOppF_sum :
    ∀ (n : Nat) {ts : List SymExpr} {vs : List Int}, Vals R ts vs →
      ∃ vs', Vals R (removeAdjOppF n ts) vs' ∧ sumL vs' = sumL vs
  | 0, _, vs, hvs => ⟨vs, hvs, rfl⟩
  | _ + 1, [], vs, hvs => ⟨vs, hvs, rfl⟩
  | _ + 1, [_], vs, hvs => ⟨vs, hvs, rfl⟩
  | n + 1, a :: b :: rest, _, .cons hva hvs1 => by
    simp only [removeAdjOppF]
    split
    · rename_i hb
      cases hvs1 with | cons hvb hrs =>
      obtain ⟨vs', hvs', hs⟩ := removeAdjOppF_sum n hrs
      have := isNegOf_sound hb (hR _ _ hva) (hR _ _ hvb)
      exact ⟨vs', hvs', by rw [hs, sumL_cons, sumL_cons]; omega⟩
    · obtain ⟨vs', hvs', hs⟩ := removeAdjOppF_sum n hvs1
      exact ⟨_ :: vs', .cons hva hvs', by rw [sumL_cons, sumL_cons, hs]⟩

end passes

end RtenVerif.Sym
