import RtenVerif.Lemmas.IterSim
import RtenVerif.Lemmas.OverlapCompleteOps

/-!
C07 lemmas: "each element at most once".  Whatever the history, the items handed
out by a deque are a permutation of a sublist of its content; with C08 (a layout accepted by
the overlap check maps distinct indices to distinct offsets) the offsets handed out by the
iterators are pairwise distinct.
-/
namespace RtenVerif.Iter
open RtenVerif.Overlap (mayOverlap offset indices mem_indices_valid indices_nodup accepted_injective)

/-- All items handed out during a run: single items, fold contents and reverse drains. -/
def yielded {ι : Type} : List (Obs ι) → List ι
  | [] => []
  | .item (some x) :: r => x :: yielded r
  | .folded l :: r => l ++ yielded r
  | .reved l :: r => l ++ yielded r
  | _ :: r => yielded r

theorem yielded_append {ι : Type} (a b : List (Obs ι)) :
    yielded (a ++ b) = yielded a ++ yielded b := by
  induction a with
  | nil => rfl
  | cons x xs ih => rcases x with (_ | _) | _ | _ | _ | _ <;> simp [yielded, ih]

def SubPerm {ι : Type} (a l : List ι) : Prop := ∃ l', a.Perm l' ∧ l'.Sublist l

theorem SubPerm.mono {ι : Type} {a l m : List ι} (h : SubPerm a l) (hs : l.Sublist m) : SubPerm a m := by
  obtain ⟨l', h1, h2⟩ := h
  exact ⟨l', h1, h2.trans hs⟩

theorem SubPerm.cons {ι : Type} {a l : List ι} (x : ι) (h : SubPerm a l) : SubPerm (x :: a) (x :: l) := by
  obtain ⟨l', h1, h2⟩ := h
  exact ⟨x :: l', h1.cons x, h2.cons_cons x⟩

/-- **Each item at most once**: over any history the deque hands out a permutation of a
sublist of its content. -/
theorem yielded_subperm {ι : Type} : ∀ (h : Hist) (l : List ι),
    SubPerm (yielded (run (listOps ι) h l)) l := by
  intro h
  induction h with
  | drop => intro l; exact ⟨[], List.Perm.refl _, List.nil_sublist _⟩
  | fold => intro l; exact ⟨l, by simp [run, listOps, yielded], List.Sublist.refl _⟩
  | rev =>
    intro l
    exact ⟨l, by simp only [run, listOps, yielded, List.append_nil]; exact List.reverse_perm l,
      List.Sublist.refl _⟩
  | next h ih =>
    intro l
    cases l with
    | nil => simpa [run, listOps, yielded] using ih []
    | cons x xs => simpa [run, listOps, yielded] using (ih xs).cons x
  | back h ih =>
    intro l
    rcases List.eq_nil_or_concat l with rfl | ⟨d, z, hl⟩
    · simpa [run, listOps, yielded] using ih []
    · rw [List.concat_eq_append] at hl
      subst hl
      obtain ⟨l', h1, h2⟩ := ih d
      refine ⟨l' ++ [z], ?_, h2.append (List.Sublist.refl _)⟩
      have : (z :: yielded (run (listOps ι) h d)).Perm (l' ++ [z]) :=
        (h1.cons z).trans (by simpa using (List.perm_append_comm (l₁ := [z]) (l₂ := l')))
      simpa [run, listOps, yielded] using this
  | len h ih => intro l; simpa [run, listOps, yielded] using ih l
  | nth k h ih =>
    intro l
    have htail : List.drop (k + 1) l = (List.drop k l).tail := by rw [List.tail_drop]
    have e : run (listOps ι) (.nth k h) l =
        .item (List.drop k l).head? :: run (listOps ι) h (List.drop (k + 1) l) := rfl
    rw [e]
    cases hd : List.drop k l with
    | nil =>
      exact (ih (List.drop (k + 1) l)).mono (List.drop_sublist _ _)
    | cons x xs =>
      have hxs : List.drop (k + 1) l = xs := by rw [htail, hd]; rfl
      rw [hxs]
      exact ((ih xs).cons x).mono (by rw [← hd]; exact List.drop_sublist _ _)
  | split k a b iha ihb =>
    intro l
    rw [run_list_split]
    split
    · obtain ⟨l1, p1, s1⟩ := iha (l.take k)
      obtain ⟨l2, p2, s2⟩ := ihb (l.drop k)
      rw [yielded_append]
      exact ⟨l1 ++ l2, p1.append p2, by simpa using s1.append s2⟩
    · exact ⟨[], List.Perm.refl _, List.nil_sublist _⟩

theorem yielded_nodup {ι : Type} (h : Hist) (l : List ι) (hn : l.Nodup) :
    (yielded (run (listOps ι) h l)).Nodup := by
  obtain ⟨l', h1, h2⟩ := yielded_subperm h l
  exact h1.nodup_iff.mpr (h2.nodup hn)

theorem sublist_flatMap {α β : Type} (f : α → List β) {a b : List α} (h : a.Sublist b) :
    (a.flatMap f).Sublist (b.flatMap f) := by
  induction h with
  | slnil => exact List.Sublist.refl _
  | cons x _ ih =>
    rw [List.flatMap_cons]
    exact ih.trans (List.sublist_append_right _ _)
  | cons_cons x _ ih =>
    rw [List.flatMap_cons, List.flatMap_cons]
    exact (List.Sublist.refl _).append ih

/-- Version for sub-view items: the element offsets of all items handed out are distinct when
those of the logical item list are. -/
theorem yielded_flat_nodup {ι κ : Type} (f : ι → List κ) (h : Hist) (l : List ι)
    (hn : (l.flatMap f).Nodup) : ((yielded (run (listOps ι) h l)).flatMap f).Nodup := by
  obtain ⟨l', h1, h2⟩ := yielded_subperm h l
  exact (h1.flatMap_right f).nodup_iff.mpr ((sublist_flatMap f h2).nodup hn)

/-- A layout accepted by `may_have_internal_overlap` (the check `TensorViewMut` constructors
apply) has pairwise distinct element offsets. -/
theorem rowMajor_nodup (dims : List (Nat × Nat)) (h : mayOverlap dims = false) :
    (indices dims |>.map (offset dims)).Nodup := by
  unfold List.Nodup
  rw [List.pairwise_map]
  refine (indices_nodup dims).imp_of_mem ?_
  intro a b ha hb hne heq
  exact hne (accepted_injective h (mem_indices_valid dims a ha) (mem_indices_valid dims b hb) heq)

end RtenVerif.Iter
