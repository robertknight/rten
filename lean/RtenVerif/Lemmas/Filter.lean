import RtenVerif.Model.Filter
import RtenVerif.Lemmas.InsertionSort

/-!
Lemmas for C31 (model `RtenVerif.Model.Filter`).  The f32 comparisons are read on the integer keys
`tkey` / `nkey`.  The top-K update loop is followed by a ghost loop (`stepX`, `loopX`) that also
records the candidates left out: kept and left out together are a permutation of the input
(`loopX_perm`), and under `Inv` every one left out is below every one kept, so the result has the
keys of a prefix of the fully sorted input (`keys_eq_sorted_prefix`).  The chunked loop of
`SimdTopK` is the scalar one (`chunkLoop_eq`).  Then the `TopP` prefix loop (`takeUntil_spec`) and
`Chain`.
-/
namespace RtenVerif.Filter

theorem tkey_inj {a b : Nat} (h : tkey a = tkey b) : a = b := by
  unfold tkey at h
  split at h <;> split at h <;> omega

/-- The IEEE key is the total-order key with `-0.0` and `+0.0` identified: the negative keys
move up by one. -/
theorem nkey_eq_tkey (b : Nat) :
    (tkey b < 0 ∧ nkey b = tkey b + 1) ∨ (0 ≤ tkey b ∧ nkey b = tkey b) := by
  unfold nkey tkey
  split <;> omega

theorem nkey_mono {a b : Nat} (h : tkey a ≤ tkey b) : nkey a ≤ nkey b := by
  have := nkey_eq_tkey a
  have := nkey_eq_tkey b
  omega

theorem fgt_iff_nkey {a b : Nat} (ha : isNaN a = false) (hb : isNaN b = false) :
    fgt a b = true ↔ nkey b < nkey a := by
  simp [fgt, ha, hb]

/-- On non-NaN values the IEEE `>` is the strict total order except on the one pair
`+0.0 > -0.0`, which IEEE denies. -/
theorem fgt_iff_tkey {a b : Nat} (ha : isNaN a = false) (hb : isNaN b = false)
    (h : a ≠ 0 ∨ b ≠ 2 ^ 31) : fgt a b = true ↔ tkey b < tkey a := by
  rw [fgt_iff_nkey ha hb]
  unfold nkey tkey
  split <;> split <;> omega

theorem fgt_nan_left {a b : Nat} (h : isNaN a = true) : fgt a b = false := by simp [fgt, h]
theorem fgt_nan_right {a b : Nat} (h : isNaN b = true) : fgt a b = false := by simp [fgt, h]

theorem xor_two_pow_of_lt {a n : Nat} (h : a < 2 ^ n) : a ^^^ 2 ^ n = 2 ^ n + a := by
  rw [← Nat.mul_one (2 ^ n), Nat.two_pow_add_eq_or_of_lt h 1, Nat.mul_one]
  apply Nat.eq_of_testBit_eq
  intro i
  rw [Nat.testBit_xor, Nat.testBit_or, Nat.testBit_two_pow]
  by_cases hi : n = i
  · subst hi; simp [Nat.testBit_lt_two_pow h]
  · simp [hi]

/-- The key std's `f32::total_cmp` compares (library/core/src/num/f32.rs):
`let mut left = self.to_bits() as i32; left ^= (((left >> 31) as u32) >> 1) as i32;`
— `>>` on `i32` is the arithmetic shift (`sshiftRight`), on `u32` the logical one, the casts
are bit-preserving, and the result is compared as `i32` (`toInt`). -/
def stdKey (x : BitVec 32) : Int := (x ^^^ ((x.sshiftRight 31) >>> 1)).toInt

theorem stdKey_eq_tkey (x : BitVec 32) : stdKey x = tkey x.toNat := by
  have hx := x.isLt
  have shr : ∀ y : BitVec 32, y.toNat < 2 ^ 31 → y >>> 31 = 0#32 := fun y hy =>
    BitVec.eq_of_toNat_eq (by rw [BitVec.toNat_ushiftRight, Nat.shiftRight_eq_div_pow]; simp; omega)
  unfold stdKey tkey
  cases hm : x.msb with
  | false =>
    have hlt : x.toNat < 2 ^ 31 := by simpa [BitVec.msb_eq_decide] using hm
    rw [BitVec.sshiftRight_eq_of_msb_false hm, shr x hlt, show (0#32 >>> 1) = 0#32 from rfl,
      BitVec.xor_zero, BitVec.toInt_eq_toNat_of_msb hm, if_pos hlt]
  | true =>
    have hge : 2 ^ 31 ≤ x.toNat := by simpa [BitVec.msb_eq_decide] using hm
    have hn : (~~~x).toNat = 2 ^ 32 - 1 - x.toNat := BitVec.toNat_not
    -- the mask is `0x7fffffff = allOnes ^^^ 0x80000000`, so the xor is `~~~x` with the sign bit set
    rw [BitVec.sshiftRight_eq_of_msb_true hm, shr (~~~x) (by omega),
      show (~~~(0#32) >>> 1) = BitVec.allOnes 32 ^^^ 0x80000000#32 from by decide,
      ← BitVec.xor_assoc, BitVec.xor_allOnes, BitVec.toInt_eq_msb_cond, BitVec.msb_xor, BitVec.msb_not,
      hm, show (decide (0 < 32) && !true ^^ (0x80000000#32).msb) = true from rfl, if_pos rfl, BitVec.toNat_xor, hn,
      show (0x80000000#32).toNat = 2 ^ 31 from rfl, xor_two_pow_of_lt (by omega), if_neg (by omega)]
    omega

section Generic
variable {α : Type} (key : α → Int) (gt : α → α → Bool) (val : α → Ext)

def Desc (l : List α) : Prop := l.Pairwise (fun a b => key b ≤ key a)

theorem insDesc_eq (x : α) (l : List α) :
    insDesc key x l = Overlap.insertBy (fun a b => decide (key b ≤ key a)) x l := by
  induction l with
  | nil => rfl
  | cons y ys ih =>
    rw [insDesc, Overlap.insertBy, ih]
    by_cases h : key x < key y
    · rw [if_pos h, if_neg (by simpa using h)]
    · rw [if_neg h, if_pos (by simpa using h)]

theorem sortDesc_eq (l : List α) :
    sortDesc key l = Overlap.isort (fun a b => decide (key b ≤ key a)) l := by
  induction l with
  | nil => rfl
  | cons x xs ih => rw [sortDesc, Overlap.isort, ih, insDesc_eq]

theorem sortDesc_perm (l : List α) : (sortDesc key l).Perm l :=
  sortDesc_eq key l ▸ Overlap.isort_perm _ l

theorem sortDesc_length (l : List α) : (sortDesc key l).length = l.length :=
  (sortDesc_perm key l).length_eq

theorem mem_sortDesc {a : α} {l : List α} : a ∈ sortDesc key l ↔ a ∈ l :=
  (sortDesc_perm key l).mem_iff

theorem sortDesc_desc (l : List α) : Desc key (sortDesc key l) :=
  sortDesc_eq key l ▸ Overlap.isort_pairwise _ (fun a b => key b ≤ key a) (fun _ => True)
    (fun _ _ => of_decide_eq_true)
    (fun _ _ h => Int.le_of_lt (Int.not_le.mp (of_decide_eq_false h)))
    (fun _ _ _ _ _ _ h1 h2 => Int.le_trans h2 h1) l fun _ _ => trivial

theorem desc_last_le {l : List α} {kth : α} (h : Desc key l) (hl : l.getLast? = some kth) :
    ∀ t ∈ l, key kth ≤ key t := by
  obtain ⟨ys, rfl⟩ := List.getLast?_eq_some_iff.mp hl
  unfold Desc at h
  rw [List.pairwise_append] at h
  intro t ht
  rcases List.mem_append.mp ht with ht | ht
  · exact h.2.2 t ht kth (by simp)
  · simp at ht; cases ht; omega

theorem updateTopK_length (topk : List α) (x : α) :
    (updateTopK key gt topk x).length = topk.length := by
  unfold updateTopK
  split
  · rfl
  · rename_i kth hl
    split
    · obtain ⟨ys, rfl⟩ := List.getLast?_eq_some_iff.mp hl
      simp [sortDesc_length]
    · rfl

theorem updateTopK_desc (topk : List α) (x : α) (h : Desc key topk) :
    Desc key (updateTopK key gt topk x) := by
  unfold updateTopK
  split
  · exact h
  · split
    · exact sortDesc_desc key _
    · exact h

theorem seqLoop_length (topk rest : List α) :
    (seqLoop key gt topk rest).length = topk.length :=
  List.foldlRecOn (motive := fun t => t.length = topk.length) rest _ rfl
    fun t ht x _ => (updateTopK_length key gt t x).trans ht

theorem seqLoop_desc (topk rest : List α) (h : Desc key topk) :
    Desc key (seqLoop key gt topk rest) :=
  List.foldlRecOn rest _ h fun t ht x _ => updateTopK_desc key gt t x ht

theorem updateTopK_eq_self (topk : List α) (x : α)
    (h : ∀ kth, topk.getLast? = some kth → gt x kth = false) : updateTopK key gt topk x = topk := by
  unfold updateTopK
  split
  · rfl
  · next kth hl => rw [h kth hl]; rfl

theorem seqLoop_eq_self (topk rest : List α)
    (h : ∀ x ∈ rest, ∀ kth, topk.getLast? = some kth → gt x kth = false) :
    seqLoop key gt topk rest = topk :=
  List.foldlRecOn (motive := (· = topk)) rest _ rfl fun t ht x hx => by
    subst ht; exact updateTopK_eq_self key gt _ x (h x hx)

theorem seqLoop_noGt (topk chunk : List α) (h : anyGt gt topk chunk = false) :
    seqLoop key gt topk chunk = topk :=
  seqLoop_eq_self key gt topk chunk fun x hx kth hl => by
    unfold anyGt at h
    rw [hl] at h
    exact Bool.eq_false_iff.mpr (List.any_eq_false.mp h x hx)

theorem seqLoop_append (topk a b : List α) :
    seqLoop key gt topk (a ++ b) = seqLoop key gt (seqLoop key gt topk a) b := by
  simp [seqLoop, List.foldl_append]

/-- `update_topk` on a state `(topk, excluded)`: the candidate that does not make it (the
new one, or the evicted k-th entry) is pushed on `excluded`. -/
def stepX (s : List α × List α) (x : α) : List α × List α :=
  match s.1.getLast? with
  | none => (s.1, x :: s.2)
  | some kth =>
    if gt x kth then (sortDesc key (s.1.dropLast ++ [x]), kth :: s.2) else (s.1, x :: s.2)

def loopX (s : List α × List α) (rest : List α) : List α × List α := rest.foldl (stepX key gt) s

theorem stepX_fst (s : List α × List α) (x : α) : (stepX key gt s x).1 = updateTopK key gt s.1 x := by
  unfold stepX updateTopK
  cases s.1.getLast? with
  | none => rfl
  | some kth => simp only []; split <;> rfl

theorem loopX_fst (s : List α × List α) (rest : List α) :
    (loopX key gt s rest).1 = seqLoop key gt s.1 rest :=
  (List.foldl_hom Prod.fst fun s x => (stepX_fst key gt s x).symm).symm

theorem stepX_perm (s : List α × List α) (x : α) :
    ((stepX key gt s x).1 ++ (stepX key gt s x).2).Perm (x :: (s.1 ++ s.2)) := by
  unfold stepX
  split
  · exact List.perm_middle
  · rename_i kth hl
    split
    · obtain ⟨ys, hys⟩ := List.getLast?_eq_some_iff.mp hl
      rw [hys, List.dropLast_concat]
      refine ((sortDesc_perm key _).append_right _).trans ?_
      simp
    · exact List.perm_middle

theorem loopX_perm (s : List α × List α) (rest : List α) :
    ((loopX key gt s rest).1 ++ (loopX key gt s rest).2).Perm (s.1 ++ s.2 ++ rest) := by
  induction rest generalizing s with
  | nil => simp [loopX]
  | cons x xs ih =>
    exact (ih (stepX key gt s x)).trans
      (((stepX_perm key gt s x).append_right xs).trans List.perm_middle.symm)

/-- The invariant of the loop w.r.t. a "numeric" key `nk` on which `gt` is exact for the
candidates satisfying `P`. -/
def Inv (nk : α → Int) (P : α → Prop) (s : List α × List α) : Prop :=
  Desc key s.1 ∧ (∀ t ∈ s.1, P t) ∧ ∀ e ∈ s.2, ∀ t ∈ s.1, nk e ≤ nk t

theorem stepX_inv (nk : α → Int) (P : α → Prop)
    (mono : ∀ a b, key a ≤ key b → nk a ≤ nk b)
    (hgt : ∀ a b, P a → P b → (gt a b = true ↔ nk b < nk a))
    (s : List α × List α) (x : α) (hx : P x) (h : Inv key nk P s) :
    Inv key nk P (stepX key gt s x) := by
  obtain ⟨hd, hP, hle⟩ := h
  unfold stepX
  split
  · next hl =>
    refine ⟨hd, hP, fun e _ t ht => ?_⟩
    rw [List.getLast?_eq_none_iff.mp hl] at ht
    cases ht
  · next kth hl =>
    have hk : kth ∈ s.1 := List.mem_of_getLast? hl
    have hmin : ∀ t ∈ s.1, nk kth ≤ nk t := fun t ht => mono _ _ (desc_last_le key hd hl t ht)
    split
    · next hg =>
      have hlt : nk kth < nk x := (hgt x kth hx (hP kth hk)).mp hg
      have hmem : ∀ t ∈ sortDesc key (s.1.dropLast ++ [x]), t ∈ s.1 ∨ t = x := fun t ht => by
        rcases List.mem_append.mp ((mem_sortDesc key).mp ht) with h | h
        · exact .inl (List.dropLast_subset _ h)
        · exact .inr (List.mem_singleton.mp h)
      -- so the evicted k-th entry is below everything kept now, and the older exclusions below it
      have hall : ∀ t ∈ sortDesc key (s.1.dropLast ++ [x]), nk kth ≤ nk t := fun t ht => by
        rcases hmem t ht with h | rfl
        · exact hmin t h
        · exact Int.le_of_lt hlt
      refine ⟨sortDesc_desc key _, fun t ht => ?_, fun e he t ht => ?_⟩
      · rcases hmem t ht with h | rfl
        · exact hP t h
        · exact hx
      · rcases List.mem_cons.mp he with rfl | he
        · exact hall t ht
        · exact Int.le_trans (hle e he kth hk) (hall t ht)
    · next hg =>
      have hnlt : ¬ nk kth < nk x := fun h => hg ((hgt x kth hx (hP kth hk)).mpr h)
      refine ⟨hd, hP, fun e he t ht => ?_⟩
      rcases List.mem_cons.mp he with rfl | he
      · exact Int.le_trans (Int.not_lt.mp hnlt) (hmin t ht)
      · exact hle e he t ht

theorem chunkLoop_eq (lanes : Nat) (hl : 1 ≤ lanes) (fuel : Nat) (topk rest : List α)
    (hf : rest.length ≤ fuel) : chunkLoop key gt lanes fuel topk rest = seqLoop key gt topk rest := by
  induction fuel generalizing topk rest with
  | zero =>
    have : rest = [] := List.length_eq_zero_iff.mp (by omega)
    subst this; rfl
  | succ n ih =>
    unfold chunkLoop
    split
    · rfl
    · next hlen =>
      -- skipped or not, the chunk is the first part of the scalar loop's work
      simp only []
      rw [ih _ _ (by rw [List.length_drop]; omega)]
      conv => rhs; rw [← List.take_append_drop lanes rest, seqLoop_append]
      split
      · rfl
      · next hg => rw [seqLoop_noGt key gt topk _ (Bool.eq_false_iff.mpr hg)]

theorem sortDesc_take_nonempty (k : Nat) (xs : List α) (hk : 0 < k) (hn : 0 < xs.length) :
    (sortDesc key (xs.take k)).isEmpty = false := by
  rw [List.isEmpty_eq_false_iff]
  intro h
  have := congrArg List.length h
  rw [sortDesc_length, List.length_take, List.length_nil] at this
  omega

theorem topK_eq_seq (lanes : Nat) (hl : 1 ≤ lanes) (k : Nat) (xs : List α) :
    topK key gt true lanes k xs = some (topKSeq key gt k xs) := by
  unfold topK topKSeq
  by_cases he : xs = []
  · subst he; simp [sortDesc]
  · have hemp : xs.isEmpty = false := by simpa using he
    have hn : 0 < xs.length := List.length_pos_iff.mpr he
    simp only [hemp, Bool.false_eq_true, ↓reduceIte, ← List.take_eq_take_min]
    by_cases h1 : k = 0 ∨ xs.length ≤ k
    · have h2 : min k xs.length = 0 ∨ xs.length = min k xs.length := by omega
      rw [if_pos h2, if_pos h1]
    · have hk : min k xs.length = k := by omega
      have h2 : ¬ (k = 0 ∨ xs.length = k) := by omega
      have h3 : ¬ xs.length < k := by omega
      rw [hk, if_neg h2, if_neg h1]
      simp only [sortDesc_take_nonempty key k xs (by omega) hn, Bool.false_eq_true, ↓reduceIte, h3]
      rw [chunkLoop_eq key gt lanes hl _ _ _ (by rw [List.length_drop]; omega)]

/-- The code before the clamp fix: panics exactly when there are fewer than `k` candidates
(and at least one). -/
theorem topK_unclamped_none_iff (lanes k : Nat) (xs : List α) :
    topK key gt false lanes k xs = none ↔ xs ≠ [] ∧ xs.length < k := by
  unfold topK
  by_cases he : xs = []
  · subst he; simp
  · have hemp : xs.isEmpty = false := by simpa using he
    have hn : 0 < xs.length := List.length_pos_iff.mpr he
    simp only [hemp, Bool.false_eq_true, ↓reduceIte]
    by_cases h1 : k = 0 ∨ xs.length = k
    · rw [if_pos h1]
      constructor
      · intro h; cases h
      · intro h; omega
    · rw [if_neg h1]
      simp only [sortDesc_take_nonempty key k xs (by omega) hn, Bool.false_eq_true, ↓reduceIte]
      by_cases h3 : xs.length < k
      · simp [h3, he]
      · simp [h3]

theorem topK_unclamped_eq (lanes k : Nat) (xs : List α) (h : k ≤ xs.length) :
    topK key gt false lanes k xs = topK key gt true lanes k xs := by
  unfold topK
  simp only [Bool.false_eq_true, ↓reduceIte, Nat.min_eq_left h]

theorem seqLoop_filter_nan (nan : α → Bool) (hn : ∀ a b, nan a = true → gt a b = false)
    (topk rest : List α) :
    seqLoop key gt topk rest = seqLoop key gt topk (rest.filter (fun x => !nan x)) := by
  induction rest generalizing topk with
  | nil => rfl
  | cons x xs ih =>
    simp only [seqLoop, List.foldl_cons, List.filter_cons] at ih ⊢
    cases hx : nan x with
    | true => simp only [Bool.not_true, Bool.false_eq_true, if_false]
              rw [updateTopK_eq_self key gt topk x fun kth _ => hn x kth hx]; exact ih topk
    | false => simp only [Bool.not_false, if_true, List.foldl_cons]; exact ih _

/-- The two branches of `topKSeq` are one: when nothing is left to scan, or `k = 0` and the
list to update is empty, the loop is the identity. -/
theorem topKSeq_eq (k : Nat) (xs : List α) :
    topKSeq key gt k xs = seqLoop key gt (sortDesc key (xs.take k)) (xs.drop k) := by
  unfold topKSeq
  split
  · next h =>
    rcases h with rfl | h
    · exact (seqLoop_eq_self key gt [] _ fun _ _ _ h => nomatch h).symm
    · rw [List.drop_of_length_le h]; rfl
  · rfl

/-- The candidates `topKSeq` leaves out (ghost definition used to state the contract). -/
def topKExcl (k : Nat) (xs : List α) : List α :=
  (loopX key gt (sortDesc key (xs.take k), []) (xs.drop k)).2

theorem topKSeq_length (k : Nat) (xs : List α) :
    (topKSeq key gt k xs).length = min k xs.length := by
  rw [topKSeq_eq, seqLoop_length, sortDesc_length, List.length_take]

theorem topKSeq_desc (k : Nat) (xs : List α) : Desc key (topKSeq key gt k xs) := by
  rw [topKSeq_eq]
  exact seqLoop_desc key gt _ _ (sortDesc_desc key _)

theorem topKSeq_perm (k : Nat) (xs : List α) :
    (topKSeq key gt k xs ++ topKExcl key gt k xs).Perm xs := by
  rw [topKSeq_eq, ← loopX_fst key gt (sortDesc key (xs.take k), [])]
  refine (loopX_perm key gt _ _).trans ?_
  rw [List.append_nil]
  refine ((sortDesc_perm key _).append (List.Perm.refl _)).trans ?_
  rw [List.take_append_drop]

theorem topKSeq_largest (nk : α → Int) (P : α → Prop)
    (mono : ∀ a b, key a ≤ key b → nk a ≤ nk b)
    (hgt : ∀ a b, P a → P b → (gt a b = true ↔ nk b < nk a))
    (k : Nat) (xs : List α) (hP : ∀ x ∈ xs, P x) :
    ∀ e ∈ topKExcl key gt k xs, ∀ t ∈ topKSeq key gt k xs, nk e ≤ nk t := by
  have hinv : Inv key nk P (sortDesc key (xs.take k), []) :=
    ⟨sortDesc_desc key _, fun t ht => hP t (List.mem_of_mem_take ((mem_sortDesc key).mp ht)),
      fun e he => by cases he⟩
  rw [topKSeq_eq, ← loopX_fst key gt (sortDesc key (xs.take k), [])]
  exact (List.foldlRecOn (xs.drop k) _ hinv fun s hs x hx =>
    stepX_inv key gt nk P mono hgt s x (hP x (List.mem_of_mem_drop hx)) hs).2.2

theorem keys_eq_sorted_prefix (out excl xs : List α) (hd : Desc key out)
    (hp : (out ++ excl).Perm xs) (hle : ∀ e ∈ excl, ∀ t ∈ out, key e ≤ key t) :
    out.map key = ((sortDesc key xs).take out.length).map key := by
  have hmap : ∀ {l : List α}, Desc key l → (l.map key).Pairwise (fun a b => b ≤ a) :=
    fun hl => List.pairwise_map.mpr hl
  have h1 : Desc key (out ++ sortDesc key excl) := List.pairwise_append.mpr
    ⟨hd, sortDesc_desc key excl, fun a ha b hb => hle b ((mem_sortDesc key).mp hb) a ha⟩
  have hp' : (out ++ sortDesc key excl).Perm (sortDesc key xs) :=
    ((sortDesc_perm key excl).append_left out).trans (hp.trans (sortDesc_perm key xs).symm)
  have heq := (hp'.map key).eq_of_pairwise (fun a b _ _ h1 h2 => Int.le_antisymm h2 h1)
    (hmap h1) (hmap (sortDesc_desc key xs))
  rw [List.map_take, ← heq, List.map_append, List.take_left' (List.length_map _)]

/-- Candidates after position `k` on which `gt` is never true (NaNs) are ignored. -/
theorem topKSeq_late_nan (nan : α → Bool) (hn : ∀ a b, nan a = true → gt a b = false)
    (k : Nat) (xs : List α) :
    topKSeq key gt k xs =
      topKSeq key gt k (xs.take k ++ (xs.drop k).filter (fun x => !nan x)) := by
  rw [topKSeq_eq, topKSeq_eq, seqLoop_filter_nan key gt nan hn]
  rcases Nat.le_total k xs.length with h | h
  · have hk := List.length_take_of_le h
    rw [List.take_left' hk, List.drop_left' hk]
  · rw [List.drop_of_length_le h, List.filter_nil, List.append_nil, List.take_take, Nat.min_self,
      List.drop_of_length_le (by rw [List.length_take]; omega)]

/-- If the k-th entry of the initial sorted prefix is a NaN the result is that prefix. -/
theorem topKSeq_frozen (nan : α → Bool) (hn : ∀ a b, nan b = true → gt a b = false)
    (k : Nat) (xs : List α) (kth : α)
    (hl : (sortDesc key (xs.take k)).getLast? = some kth) (hk : nan kth = true) :
    topKSeq key gt k xs = sortDesc key (xs.take k) := by
  unfold topKSeq
  split
  · rfl
  · exact seqLoop_eq_self key gt _ _ fun x _ k hl' => by
      rw [hl] at hl'; cases hl'; exact hn x kth hk

/-- The f32 running sum `((c + v₁) + v₂) + …` in `Ext`. -/
def sumE (c : Ext) (l : List α) : Ext := l.foldl (fun a x => a.add (val x)) c

theorem takeUntil_ne_nil (thr : Option Int) (c : Ext) (l : List α) (hc : c.lt thr = true)
    (hl : l ≠ []) : takeUntil val thr c l ≠ [] := by
  cases l with
  | nil => exact absurd rfl hl
  | cons x xs => simp [takeUntil, hc]

/-- `n` is the least count at which the f32 test `cum < threshold` fails: the sum reached the
threshold, or became NaN. -/
theorem takeUntil_spec (thr : Option Int) (c : Ext) (l : List α) :
    ∃ n, n ≤ l.length ∧ takeUntil val thr c l = l.take n ∧
      (∀ m, m < n → (sumE val c (l.take m)).lt thr = true) ∧
      (n < l.length → (sumE val c (l.take n)).lt thr = false) := by
  induction l generalizing c with
  | nil => exact ⟨0, Nat.le_refl _, rfl, fun m hm => absurd hm (Nat.not_lt_zero _),
      fun h => absurd h (Nat.lt_irrefl _)⟩
  | cons x xs ih =>
    unfold takeUntil
    cases hc : c.lt thr with
    | false => exact ⟨0, Nat.zero_le _, rfl, fun m hm => absurd hm (Nat.not_lt_zero _), fun _ => hc⟩
    | true =>
      obtain ⟨n, hn, he, hmin, hre⟩ := ih (c.add (val x))
      refine ⟨n + 1, Nat.succ_le_succ hn, by rw [if_pos rfl, he]; rfl, fun m hm => ?_,
        fun h => hre (Nat.lt_of_succ_lt_succ h)⟩
      cases m with
      | zero => exact hc
      | succ m => exact hmin m (Nat.lt_of_succ_lt_succ hm)

theorem sumE_fin (iv : α → Int) (l : List α) (h : ∀ x ∈ l, val x = .fin (iv x)) (c : Int) :
    sumE val (.fin c) l = .fin (c + (l.map iv).sum) := by
  induction l generalizing c with
  | nil => simp [sumE]
  | cons x xs ih =>
    have hx := h x (List.mem_cons_self)
    have := ih (fun y hy => h y (List.mem_cons_of_mem _ hy)) (c + iv x)
    simp only [sumE, List.foldl_cons, hx, Ext.add, List.map_cons, List.sum_cons] at this ⊢
    rw [this]; congr 1; omega

theorem sumE_lt_fin (iv : α → Int) (l : List α) (h : ∀ x ∈ l, val x = .fin (iv x)) (t : Int) :
    (sumE val (.fin 0) l).lt (some t) = decide ((l.map iv).sum < t) := by
  rw [sumE_fin val iv l h 0, Int.zero_add]; rfl

theorem chain_nil {β : Type} (x : β) : chain ([] : List (β → Option β)) x = some x := rfl

theorem chain_cons {β : Type} (f : β → Option β) (fs : List (β → Option β)) (x : β) :
    chain (f :: fs) x = (f x).bind (chain fs) := by
  simp [chain, List.foldlM_cons]
  rfl

theorem chain_append {β : Type} (fs gs : List (β → Option β)) (x : β) :
    chain (fs ++ gs) x = (chain fs x).bind (chain gs) := by
  induction fs generalizing x with
  | nil => simp [chain_nil]
  | cons f fs ih =>
    rw [List.cons_append, chain_cons, chain_cons]
    cases f x with
    | none => rfl
    | some y => simp [ih]

/-- A chain of total filters is the left fold of the filters. -/
theorem chain_total {β : Type} (gs : List (β → β)) (x : β) :
    chain (gs.map (fun g => fun y => some (g y))) x = some (gs.foldl (fun acc g => g acc) x) := by
  induction gs generalizing x with
  | nil => rfl
  | cons g gs ih => rw [List.map_cons, chain_cons]; simp [ih]

end Generic

end RtenVerif.Filter
