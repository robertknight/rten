import RtenVerif.Lemmas.Gemm
import RtenVerif.Lemmas.ListBasics

/-! C16 (T3): the slot order written by `pack_a_block` / `pack_b_block` (`packASlots` /
`packBSlots`) as an index map: both are three nested loops (panel, row, column resp. panel, row,
lane) of fixed trip counts — `packBSlots` as written, `packASlots` by `packASlots_nested` — so slot
`p·(X·Y) + a·Y + b` is the one of iteration `(p, a, b)` (`Blocks.getElem?_nest₃`, applied in Props/C16), and
an occupied slot determines its iteration (`slot_digits`).  Packing from a strided view fills the
same slots with storage offsets (`packASrc_eq_map`); `panelDot_eq_dot` is what a kernel reading such
panels accumulates.  Core Lean only. -/
namespace RtenVerif.Gemm

theorem slot_digits {β : Type} {l : List (Option β)} {n X Y : Nat} (hlen : l.length = n * (X * Y))
    (g : Nat → Nat → Nat → Option β)
    (hget : ∀ p a b, p < n → a < X → b < Y → l[p * (X * Y) + (a * Y + b)]? = some (g p a b))
    {i : Nat} {v : β} (h : l[i]? = some (some v)) :
    ∃ p a b, p < n ∧ a < X ∧ b < Y ∧ i = p * (X * Y) + (a * Y + b) ∧ g p a b = some v := by
  obtain ⟨hi, _⟩ := List.getElem?_eq_some_iff.mp h
  rw [hlen] at hi
  have hXY : 0 < X * Y := Nat.pos_of_ne_zero fun h0 => by rw [h0] at hi; omega
  have hY : 0 < Y := Nat.pos_of_mul_pos_left hXY
  have hdec : i = i / (X * Y) * (X * Y) + (i % (X * Y) / Y * Y + i % (X * Y) % Y) := by
    have h1 := Nat.div_add_mod' i (X * Y)
    have h2 := Nat.div_add_mod' (i % (X * Y)) Y
    omega
  have hp := (Nat.div_lt_iff_lt_mul hXY).mpr hi
  have ha := (Nat.div_lt_iff_lt_mul hY).mpr (Nat.mod_lt i hXY)
  have hb := Nat.mod_lt (i % (X * Y)) hY
  have hs := hget _ _ _ hp ha hb
  rw [← hdec, h] at hs
  exact ⟨_, _, _, hp, ha, hb, hdec, (Option.some.inj hs).symm⟩

theorem packBOffset_digits {nr j : Nat} (hj : j < nr) (rows row q : Nat) :
    packBOffset nr rows row (q * nr + j) = q * (rows * nr) + (row * nr + j) := by
  rw [packBOffset, (mul_add_div_mod q hj).1, (mul_add_div_mod q hj).2, Nat.add_assoc]

/-- One row panel written by `pack_a_block`, `f row col` being what is recorded of an element (its
coordinates for `packASlots`, its storage offset for `packASrc`): the rows present, then the zero
rows. -/
def panelA {β : Type} (f : Nat → Nat → β) (mr cols : Nat) (pr : Nat × Nat) : List (Option β) :=
  ((List.range' pr.1 (pr.2 - pr.1)).flatMap fun row =>
    (List.range cols).map fun col => some (f row col)) ++
  ((List.range' pr.2 (pr.1 + mr - pr.2)).flatMap fun _ => List.replicate cols none)

theorem panelA_eq {β : Type} (f : Nat → Nat → β) (mr cols : Nat) (pr : Nat × Nat)
    (h1 : pr.1 ≤ pr.2) (h2 : pr.2 ≤ pr.1 + mr) :
    panelA f mr cols pr = (List.range mr).flatMap fun j => (List.range cols).map fun col =>
      if pr.1 + j < pr.2 then some (f (pr.1 + j) col) else none := by
  have hsplit := List.range'_append_1 (s := pr.1) (m := pr.2 - pr.1) (n := pr.1 + mr - pr.2)
  rw [show pr.1 + (pr.2 - pr.1) = pr.2 by omega,
    show pr.2 - pr.1 + (pr.1 + mr - pr.2) = mr by omega] at hsplit
  have hrange := List.flatMap_map (pr.1 + ·) (fun row => (List.range cols).map fun col =>
    if row < pr.2 then some (f row col) else none) (List.range mr)
  rw [← List.range'_eq_map_range, ← hsplit, List.flatMap_append] at hrange
  refine Eq.trans ?_ hrange
  rw [panelA]
  congr 1
  · refine flatMap_congr' fun row hrow => ?_
    simp only [if_pos (show row < pr.2 by have := List.mem_range'_1.mp hrow; omega)]
  · refine flatMap_congr' fun row hrow => ?_
    simp only [if_neg (show ¬ row < pr.2 by have := List.mem_range'_1.mp hrow; omega)]
    rw [List.map_const', List.length_range]

theorem packA_nested {β : Type} (f : Nat → Nat → β) (mr cols : Nat) (hmr : 0 < mr)
    {fuel s e : Nat} (hf : e - s ≤ fuel) :
    (rangeChunks fuel s e mr).flatMap (panelA f mr cols) =
      (List.range (divCeil (e - s) mr)).flatMap fun p => (List.range mr).flatMap fun j =>
        (List.range cols).map fun col =>
          if s + p * mr + j < e then some (f (s + p * mr + j) col) else none := by
  rw [rangeChunks_eq_map hmr _ _ _ hf, List.flatMap_map]
  refine flatMap_congr' fun p hp => ?_
  have hpe : s + p * mr < e := by
    have := (lt_divCeil_iff hmr).mp (List.mem_range.mp hp); omega
  rw [panelA_eq f mr cols _ (Nat.le_min.mpr ⟨Nat.le_add_right .., Nat.le_of_lt hpe⟩)
    (Nat.min_le_left ..)]
  refine flatMap_congr' fun j hj => ?_
  simp only [Nat.lt_min, Nat.add_lt_add_iff_left, List.mem_range.mp hj, true_and]

theorem packASlots_nested (mr rows cols : Nat) (hmr : 0 < mr) :
    packASlots mr rows cols =
      (List.range (divCeil rows mr)).flatMap fun p => (List.range mr).flatMap fun j =>
        (List.range cols).map fun col =>
          if p * mr + j < rows then some (p * mr + j, col) else none := by
  have := packA_nested Prod.mk mr cols hmr (Nat.le_of_eq (Nat.sub_zero rows))
  simp only [Nat.zero_add, Nat.sub_zero] at this
  exact this

/-- Packing from strided storage records, slot by slot, the storage offset of the element that
`packASlots` names: `pack_a_block` on a view is `pack_a_block` on the logical matrix. -/
theorem packASrc_eq_map (mr rstr cstr r0 r1 c0 c1 : Nat) (hmr : 0 < mr) :
    packASrc mr rstr cstr r0 r1 c0 c1 = (packASlots mr (r1 - r0) (c1 - c0)).map
      (Option.map fun rc => (r0 + rc.1) * rstr + (c0 + rc.2) * cstr) := by
  have hnest : packASrc mr rstr cstr r0 r1 c0 c1 = _ :=
    packA_nested (fun row col => row * rstr + (c0 + col) * cstr) mr (c1 - c0) hmr (Nat.le_refl _)
  rw [hnest, packASlots_nested _ _ _ hmr, List.map_flatMap]
  refine flatMap_congr' fun p _ => ?_
  rw [List.map_flatMap]
  refine flatMap_congr' fun j _ => ?_
  rw [List.map_map]
  refine List.map_congr_left fun col _ => ?_
  simp only [Function.comp, Nat.add_assoc, Nat.lt_sub_iff_add_lt']
  split <;> rfl

theorem packAOffset_digits {mr j : Nat} (hj : j < mr) (cols q col : Nat) :
    packAOffset mr cols (q * mr + j) col = q * (mr * cols) + (j * cols + col) := by
  rw [packAOffset, (mul_add_div_mod q hj).1, (mul_add_div_mod q hj).2, Nat.add_assoc]

theorem sumFrom_shift {α : Type} [Add α] [Zero α] (f g : Nat → α) (a b : Nat) :
    ∀ n, (∀ k, k < n → f (a + k) = g (b + k)) → sumFrom f a n = sumFrom g b n := by
  intro n
  induction n with
  | zero => intro _; rfl
  | succ n ih =>
    intro h
    simp only [sumFrom]
    rw [ih (fun k hk => h k (by omega)), h n (by omega)]

/-- If the panels hold, at the offsets `simd_gemm` reads, row `r` of `A` and column `c` of `B`
over the depth range `[ds, ds + depth)`, the kernel accumulates their dot product. -/
theorem panelDot_eq_dot {α : Type} [Add α] [Mul α] [Zero α] (A B : Nat → Nat → α)
    (pa pb : List α) {mr nr depth i jt x y r c ds : Nat}
    (hA : ∀ k, k < depth → pa[i * (mr * depth) + (x * depth + k)]? = some (A r (ds + k)))
    (hB : ∀ k, k < depth → pb[jt * (depth * nr) + (k * nr + y)]? = some (B (ds + k) c)) :
    panelDot pa pb mr nr depth i jt x y = dot A B r c ds depth := by
  unfold panelDot dot
  apply sumFrom_shift
  intro k hk
  rw [Nat.zero_add, List.getD_eq_getElem?_getD, List.getD_eq_getElem?_getD, hA k hk, hB k hk]
  rfl

end RtenVerif.Gemm
