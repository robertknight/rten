import RtenVerif.Lemmas.Reindex

/-! C09 lemmas for `permute`: offsets as sums, "`is_valid_permutation` ⇒ permutation of `range n`",
and the index map of `permute_iter`; `transposed` reverses the dims. -/
namespace RtenVerif.Layout
open RtenVerif.Arr RtenVerif.Overlap

theorem transposed_dims (v : View) : (transposed v).dims = v.dims.reverse := by
  simp only [transposed, permuteIter]
  rw [List.map_reverse, map_getD_range]

theorem offset_eq_sum (d : Dims) (idx : List Nat) :
    offset d idx = ((List.range d.length).map (fun k => idx.getD k 0 * (d.getD k (0, 0)).2)).sum := by
  induction d generalizing idx with
  | nil => cases idx <;> simp [offset]
  | cons p ds ih =>
    obtain ⟨a, b⟩ := p
    cases idx with
    | nil =>
      simp [offset, List.map_const', List.sum_replicate_nat]
    | cons i is =>
      simp only [offset, List.length_cons, List.range_succ_eq_map, List.map_cons, List.map_map,
        List.sum_cons, ih is]
      congr 1

theorem perm_of_valid (n : Nat) (p : List Nat) (h : isValidPermutation n p = true) :
    p.Perm (List.range n) := by
  simp only [isValidPermutation, Bool.and_eq_true, beq_iff_eq, List.all_eq_true,
    List.mem_range] at h
  refine perm_range_of_count n p h.1 (fun d hd => ?_)
  rw [List.count_eq_length_filter]
  exact h.2 d hd

theorem sizes_permuteIter (d : Dims) (p : List Nat) :
    sizes (permuteIter d p) = p.map (fun k => (sizes d).getD k 0) := by
  simp only [permuteIter, sizes, List.map_map]
  exact List.map_congr_left fun k _ => (sizes_getD d k).symm

/-- Both offsets are the same sum, taken over `p` resp. over `range ndim`. -/
theorem permuteIter_reindex {d : Dims} {p : List Nat} (hperm : p.Perm (List.range d.length)) :
    Reindex d 0 (permuteIter d p) (NArr.unperm p) := by
  have hlen : p.length = d.length := hperm.length_eq.trans List.length_range
  have hnd : p.Nodup := hperm.nodup_iff.mpr List.nodup_range
  have hun : ∀ idx k, k < d.length → (NArr.unperm p idx).getD k 0 = idx.getD (p.idxOf k) 0 := by
    intro idx k hk
    unfold NArr.unperm
    rw [getD_map_lt _ _ _ (by simpa [hlen] using hk)]
    simp
  refine .of_eq fun idx h => ⟨?_, ?_⟩
  · rw [sizes_permuteIter, validIdx_iff] at h
    rw [validIdx_iff]
    refine ⟨by simp [NArr.unperm, hlen], fun k hk => ?_⟩
    rw [sizes_length] at hk
    rw [hun idx k hk]
    have hj : p.idxOf k < p.length :=
      List.idxOf_lt_length_of_mem (hperm.mem_iff.mpr (List.mem_range.mpr hk))
    have := h.2 (p.idxOf k) (by simpa using hj)
    rwa [getD_map_lt _ _ _ hj, List.getElem_idxOf hj] at this
  · let G : Nat → Nat := fun k => idx.getD (p.idxOf k) 0 * (d.getD k (0, 0)).2
    have h1 : offset (permuteIter d p) idx = (p.map G).sum := by
      rw [offset_eq_sum]
      congr 1
      apply List.ext_getElem
      · simp [permuteIter]
      · intro k h1 h2
        simp only [List.length_map, List.length_range, permuteIter] at h1 h2
        simp only [List.getElem_map, List.getElem_range, permuteIter, G]
        rw [getD_map_lt _ _ _ h2, hnd.idxOf_getElem k h2]
    have h2 : offset d (NArr.unperm p idx) = ((List.range d.length).map G).sum := by
      rw [offset_eq_sum]
      congr 1
      exact List.map_congr_left fun k hk => by rw [hun idx k (List.mem_range.mp hk)]
    exact h1.trans ((hperm.map G).sum_nat.trans h2.symm)

end RtenVerif.Layout
