import RtenVerif.Lemmas.CtcSelect

/-! Lemmas for C39 that hold for every carrier `Ops α`: the merge map and the extension tables of
one beam step; the beam keeps pairwise distinct, blank-free label sequences and has at most
`max beam_size 1` states. -/
namespace RtenVerif.Ctc

theorem lastIdxGo_isSome {β : Type} (p : β → Bool) (l : List β) : ∀ (i : Nat) (acc : Option Nat),
    (acc.isSome || l.any p) = true → (lastIdxGo p l i acc).isSome := by
  induction l with
  | nil => intro i acc h; simpa [lastIdxGo] using h
  | cons a l ih =>
    intro i acc h
    apply ih
    rw [List.any_cons] at h
    cases hpa : p a <;> simp_all

theorem lastIdxGo_sound {β : Type} (p : β → Bool) (l : List β) : ∀ (k : Nat) (acc : Option Nat)
    (i : Nat), lastIdxGo p l k acc = some i →
    acc = some i ∨ (k ≤ i ∧ ∃ x, l[i - k]? = some x ∧ p x = true) := by
  induction l with
  | nil => intro k acc i h; exact Or.inl h
  | cons a l ih =>
    intro k acc i h
    rcases ih (k + 1) _ i h with h1 | ⟨hk, x, hx, hp⟩
    · by_cases hpa : p a = true
      · rw [if_pos hpa, Option.some.injEq] at h1
        subst h1
        exact Or.inr ⟨Nat.le_refl _, a, by simp, hpa⟩
      · rw [if_neg hpa] at h1
        exact Or.inl h1
    · refine Or.inr ⟨by omega, x, ?_, hp⟩
      rw [show i - k = (i - (k + 1)) + 1 by omega, List.getElem?_cons_succ]
      exact hx

section
variable {α : Type} (ops : Ops α) (B L : Nat) (beam : List (BState α))

theorem mergeTarget_isSome (p1 : List Step) (l : Nat)
    (s2 : BState α) (h2 : s2 ∈ beam) (he : labels s2.pre = labels p1 ++ [l]) :
    (mergeTarget beam p1 l).isSome :=
  lastIdxGo_isSome _ _ _ _ (List.any_eq_true.mpr ⟨s2, h2, by simp [extends1, he]⟩)

theorem mergeTarget_sound (p1 : List Step) (l i : Nat)
    (h : mergeTarget beam p1 l = some i) :
    ∃ s2, beam[i]? = some s2 ∧ labels s2.pre = labels p1 ++ [l] := by
  rcases lastIdxGo_sound _ _ _ _ _ h with h1 | ⟨_, x, hx, hp⟩
  · cases h1
  · exact ⟨x, hx, by simpa [extends1] using hp⟩

theorem mergeTarget_lt (p1 : List Step) (l ti : Nat)
    (h : mergeTarget beam p1 l = some ti) : ti < beam.length := by
  obtain ⟨s2, h2, _⟩ := mergeTarget_sound beam p1 l ti h
  exact (List.getElem?_eq_some_iff.mp h2).1

/-- The cell of `next_prob_no_blank` into which the extension of the state at index `bi`
(prefix `pre`) by `label` is accumulated. -/
def extCell {α} (beam : List (BState α)) (pre : List Step) (bi label : Nat) : Nat × Nat :=
  match mergeTarget beam pre label with
  | some ti => (ti, 0)
  | none => (bi, label)

theorem extCell_some {beam : List (BState α)} {pre : List Step} {l ti : Nat}
    (h : mergeTarget beam pre l = some ti) (bi : Nat) : extCell beam pre bi l = (ti, 0) := by
  unfold extCell; rw [h]

theorem extCell_none {beam : List (BState α)} {pre : List Step} {l : Nat}
    (h : mergeTarget beam pre l = none) (bi : Nat) : extCell beam pre bi l = (bi, l) := by
  unfold extCell; rw [h]

/-- `extLabel` with the target cell, the entry and the "label differs from the last one"
test abstracted. -/
def extCore {α} (ops : Ops α) (c : Nat × Nat) (prob : α) (ne : Bool) (bi : Nat) (s : BState α)
    (t : Tabs α) : Tabs α :=
  if ne then
    let v := ops.add (ops.add (t.nnb c.1 c.2) (ops.mul s.pb prob)) (ops.mul s.pnb prob)
    { t with nnb := Table.upd t.nnb c.1 c.2 v }
  else
    let nnb1 := Table.upd t.nnb c.1 c.2 (ops.add (t.nnb c.1 c.2) (ops.mul s.pb prob))
    { t with nnb := Table.upd nnb1 bi 0 (ops.add (nnb1 bi 0) (ops.mul s.pnb prob)) }

theorem extLabel_eq_core (row : List α) (bi : Nat)
    (s : BState α) (t : Tabs α) (label : Nat) :
    extLabel ops beam row bi s t label =
      extCore ops (extCell beam s.pre bi label) (row.getD label ops.zero)
        (some label != (s.pre.getLast?).map (·.label)) bi s t := rfl

/-- `(i, l)` is an extension that the merge map redirects to another state. -/
def Merged {α} (beam : List (BState α)) (i l : Nat) : Prop :=
  ∃ s, beam[i]? = some s ∧ (mergeTarget beam s.pre l).isSome

/-- Cells of non-blank extensions: `nb` is never written, `nnb` is not written for
redirected extensions. -/
def TabInv {α} (ops : Ops α) (beam : List (BState α)) (t : Tabs α) : Prop :=
  (∀ i l, l ≠ 0 → t.nb i l = ops.zero) ∧
  (∀ i l, l ≠ 0 → Merged beam i l → t.nnb i l = ops.zero)

theorem extLabel_inv (row : List α) (bi : Nat)
    (s : BState α) (hs : beam[bi]? = some s) (t : Tabs α) (label : Nat)
    (h : TabInv ops beam t) : TabInv ops beam (extLabel ops beam row bi s t label) := by
  have hcell : ∀ i l, l ≠ 0 → Merged beam i l →
      ¬ (i = (extCell beam s.pre bi label).1 ∧ l = (extCell beam s.pre bi label).2) := by
    intro i l hl ⟨s', hs', hsome⟩ ⟨h1, h2⟩
    cases hmt : mergeTarget beam s.pre label with
    | some ti => rw [extCell_some hmt] at h2; exact hl h2
    | none =>
      rw [extCell_none hmt] at h1 h2
      subst h1 h2
      rw [hs] at hs'; cases hs'
      rw [hmt] at hsome; cases hsome
  have h0 : ∀ i l, l ≠ 0 → ¬ (i = bi ∧ l = 0) := fun i l hl hc => hl hc.2
  rw [extLabel_eq_core]
  unfold extCore
  split
  · refine ⟨h.1, fun i l hl hm => ?_⟩
    simp only [Table.upd, if_neg (hcell i l hl hm)]
    exact h.2 i l hl hm
  · refine ⟨h.1, fun i l hl hm => ?_⟩
    simp only [Table.upd, if_neg (hcell i l hl hm), if_neg (h0 i l hl)]
    exact h.2 i l hl hm

theorem extendAll_inv (row : List α) :
    TabInv ops beam (extendAll ops L beam row) := by
  refine List.foldlRecOn (motive := TabInv ops beam) _ _ ⟨fun _ _ _ => rfl, fun _ _ _ _ => rfl⟩ ?_
  intro t ht sb hmem
  refine List.foldlRecOn (motive := TabInv ops beam) _ _ ⟨fun i l hl => ?_, ht.2⟩ fun t' ht' label _ =>
    extLabel_inv ops beam row sb.2 sb.1 (List.mem_zipIdx_iff_getElem?.mp hmem) t' label ht'
  simp only [Table.upd, if_neg fun hc : i = sb.2 ∧ l = 0 => hl hc.2]
  exact ht.1 i l hl

end

/-- The beam invariant of the code comment "Each state in the beam should have a unique
prefix after each step": label sequences are pairwise distinct. -/
def Distinct {α} (beam : List (BState α)) : Prop := (beam.map (fun s => labels s.pre)).Nodup

def okSeq (L : Nat) (s : List Nat) : Prop := ∀ m ∈ s, m ≠ 0 ∧ m < L

section
variable {α : Type} (ops : Ops α) (B L : Nat) (beam : List (BState α))

theorem distinct_idx (h : Distinct beam) (i j : Nat)
    (si sj : BState α) (hi : beam[i]? = some si) (hj : beam[j]? = some sj)
    (he : labels si.pre = labels sj.pre) : i = j := by
  unfold Distinct List.Nodup at h
  rw [List.pairwise_map, List.pairwise_iff_getElem] at h
  obtain ⟨hi', hi''⟩ := List.getElem?_eq_some_iff.mp hi
  obtain ⟨hj', hj''⟩ := List.getElem?_eq_some_iff.mp hj
  rcases Nat.lt_trichotomy i j with hlt | heq | hgt
  · exact absurd (by rw [hi'', hj'']; exact he) (h i j hi' hj' hlt)
  · exact heq
  · exact absurd (by rw [hi'', hj'']; exact he.symm) (h j i hj' hi' hgt)

theorem mergeTarget_eq (hdist : Distinct beam) (p1 : List Step)
    (l i : Nat) (s : BState α) (hs : beam[i]? = some s) (he : labels s.pre = labels p1 ++ [l]) :
    mergeTarget beam p1 l = some i := by
  have hsome := mergeTarget_isSome beam p1 l s (List.mem_of_getElem? hs) he
  cases hmt : mergeTarget beam p1 l with
  | none => rw [hmt] at hsome; cases hsome
  | some i' =>
    obtain ⟨s2, hs2, hl2⟩ := mergeTarget_sound beam p1 l i' hmt
    rw [distinct_idx beam hdist i' i s2 s hs2 hs (hl2.trans he.symm)]

theorem beamStep_eq (pos : Nat)
    (row : List α) : beamStep ops B L beam pos row =
      (selectTopk ops B (candidates ops L beam.length (extendAll ops L beam row))).map
        (mkState ops beam pos (extendAll ops L beam row)) := rfl

theorem mkState_eq (pos : Nat) (t : Tabs α)
    (e : Ext α) (s : BState α) (hs : beam[e.index]? = some s) :
    mkState ops beam pos t e = ⟨if e.label = 0 then s.pre else s.pre ++ [⟨e.label, pos⟩],
      t.nb e.index e.label, t.nnb e.index e.label⟩ := by
  simp only [mkState, List.getD_eq_getElem?_getD, hs, Option.getD_some]

theorem labels_ext (pre : List Step) (l pos : Nat) :
    labels (if l = 0 then pre else pre ++ [⟨l, pos⟩]) =
      if l = 0 then labels pre else labels pre ++ [l] := by
  split <;> simp [labels]

theorem mem_beamStep (hne : beam ≠ [])
    (pos : Nat) (row : List α) (st : BState α) (hst : st ∈ beamStep ops B L beam pos row) :
    ∃ i s l, beam[i]? = some s ∧
      st = ⟨if l = 0 then s.pre else s.pre ++ [⟨l, pos⟩], (extendAll ops L beam row).nb i l,
        (extendAll ops L beam row).nnb i l⟩ ∧
      (l ≠ 0 → l < L ∧ ops.isZero (ops.add ((extendAll ops L beam row).nb i l)
        ((extendAll ops L beam row).nnb i l)) = false) := by
  obtain ⟨e, he, rfl⟩ := List.mem_map.mp hst
  have hidx : ∃ s, beam[e.index]? = some s ∧ (e.label ≠ 0 → e.label < L ∧
      ops.isZero (ops.add ((extendAll ops L beam row).nb e.index e.label)
        ((extendAll ops L beam row).nnb e.index e.label)) = false) := by
    rcases selectTopk_mem ops B L beam.length _ e he with ⟨h0, hl⟩ | ⟨hc, hz⟩
    · rw [h0]
      cases beam with
      | nil => exact absurd rfl hne
      | cons a r => exact ⟨a, rfl, fun h => absurd hl h⟩
    · obtain ⟨hi, hl, hp⟩ := mem_candidates ops L beam.length _ e hc
      exact ⟨beam[e.index], List.getElem?_eq_getElem hi, fun _ => ⟨hl, hp ▸ hz⟩⟩
  obtain ⟨s, hs, hl⟩ := hidx
  exact ⟨e.index, s, e.label, hs, mkState_eq ops beam pos _ e s hs, hl⟩

theorem beamStep_ne_nil (pos : Nat)
    (row : List α) : beamStep ops B L beam pos row ≠ [] :=
  fun hc => selectTopk_ne_nil ops B _ (List.map_eq_nil_iff.mp hc)

theorem beamStep_length_le (pos : Nat)
    (row : List α) : (beamStep ops B L beam pos row).length ≤ max B 1 := by
  rw [beamStep_eq, List.length_map]
  exact selectTopk_length_le ops B _

theorem beamStep_distinct (hz : ops.isZero (ops.add ops.zero ops.zero) = true)
    (B L : Nat) (beam : List (BState α)) (pos : Nat) (row : List α) (h : Distinct beam) :
    Distinct (beamStep ops B L beam pos row) := by
  rw [beamStep_eq, selectTopk_eq]
  split
  · simp [Distinct]
  have hinv := extendAll_inv ops L beam row
  generalize extendAll ops L beam row = t at hinv ⊢
  have q1 := foldl_pushExt_nodup ops B _ (candidates_keys_nodup ops L beam.length t)
  have q2 := mem_foldl_pushExt ops B (candidates ops L beam.length t)
  generalize (candidates ops L beam.length t).foldl (pushExt ops B) [] = topk at q1 q2 ⊢
  -- a selected non-blank extension has non-zero probability, so it is not a redirected one
  have fact : ∀ e ∈ topk, ∃ s, beam[e.index]? = some s ∧ s ∈ beam ∧
      (e.label ≠ 0 → ¬ Merged beam e.index e.label) ∧
      labels (mkState ops beam pos t e).pre =
        if e.label = 0 then labels s.pre else labels s.pre ++ [e.label] := by
    intro e he
    obtain ⟨hc, hnz⟩ := q2 e he
    obtain ⟨hidx, _, hprob⟩ := mem_candidates ops L beam.length t e hc
    have hs := List.getElem?_eq_getElem hidx
    refine ⟨_, hs, List.mem_of_getElem? hs, fun hl hm => ?_, ?_⟩
    · rw [hprob, hinv.1 _ _ hl, hinv.2 _ _ hl hm, hz] at hnz
      cases hnz
    · rw [mkState_eq ops beam pos t e _ hs, labels_ext]
  unfold Distinct List.Nodup at h ⊢
  rw [List.map_map, List.pairwise_map]
  unfold List.Nodup at q1
  rw [List.pairwise_map] at q1
  refine List.Pairwise.imp_of_mem ?_ q1
  intro a b ha hb hk hab
  apply hk
  obtain ⟨sa, hsa, hma, hna, hlabA⟩ := fact a ha
  obtain ⟨sb, hsb, hmb, hnb, hlabB⟩ := fact b hb
  simp only [Function.comp, hlabA, hlabB] at hab
  by_cases hla : a.label = 0 <;> by_cases hlb : b.label = 0
  · rw [if_pos hla, if_pos hlb] at hab
    simp only [Ext.key, distinct_idx beam h _ _ sa sb hsa hsb hab, hla, hlb]
  · rw [if_pos hla, if_neg hlb] at hab
    exact absurd ⟨sb, hsb, mergeTarget_isSome beam sb.pre b.label sa hma hab⟩ (hnb hlb)
  · rw [if_neg hla, if_pos hlb] at hab
    exact absurd ⟨sa, hsa, mergeTarget_isSome beam sa.pre a.label sb hmb hab.symm⟩ (hna hla)
  · rw [if_neg hla, if_neg hlb] at hab
    have h2 := List.append_inj' hab rfl
    simp only [Ext.key, distinct_idx beam h _ _ sa sb hsa hsb h2.1, List.cons.inj h2.2 |>.1]

theorem initBeam_distinct : Distinct (initBeam ops) := by
  simp [Distinct, initBeam]

/-- `d` collects the rows already processed, last one first. -/
theorem beamLoop_induct {ops : Ops α} {B L : Nat} (P : List (List α) → List (BState α) → Prop)
    (rows : List (List α))
    (step : ∀ d beam pos, ∀ row ∈ rows, P d beam → P (row :: d) (beamStep ops B L beam pos row)) :
    ∀ beam pos d, P d beam → P (rows.reverse ++ d) (beamLoop ops B L beam pos rows) := by
  induction rows with
  | nil => intro beam pos d h; exact h
  | cons row rows ih =>
    intro beam pos d h
    rw [List.reverse_cons, List.append_assoc]
    exact ih (fun d beam pos r hr => step d beam pos r (List.mem_cons_of_mem _ hr)) _ _ _
      (step d beam pos row List.mem_cons_self h)

/-- What every beam of a run satisfies besides `Distinct`: it is non-empty and its label sequences
use only the labels `1 .. L-1`. -/
def Reach {α} (L : Nat) (beam : List (BState α)) : Prop :=
  beam ≠ [] ∧ ∀ st ∈ beam, okSeq L (labels st.pre)

theorem initBeam_reach : Reach L (initBeam ops) :=
  ⟨List.cons_ne_nil _ _, fun st hst m hm => by rw [List.mem_singleton.mp hst] at hm; cases hm⟩

theorem beamStep_reach (pos : Nat)
    (row : List α) (h : Reach L beam) : Reach L (beamStep ops B L beam pos row) := by
  refine ⟨beamStep_ne_nil ops B L beam pos row, fun st hst m hm => ?_⟩
  -- the labels of a new state are those of an old one, plus at most one in `1 .. L-1`
  obtain ⟨i, s, l, hs, rfl, hl⟩ := mem_beamStep ops B L beam h.1 pos row st hst
  rw [labels_ext] at hm
  split at hm
  · exact h.2 s (List.mem_of_getElem? hs) m hm
  · rcases List.mem_append.mp hm with hm | hm
    · exact h.2 s (List.mem_of_getElem? hs) m hm
    · rw [List.mem_singleton.mp hm]; exact ⟨‹¬ l = 0›, (hl ‹_›).1⟩

theorem decodeBeamImpl_eq_some {ops : Ops α} {B L : Nat} {rows : List (List α)}
    {beam : List (BState α)} (h : decodeBeamImpl ops B L rows = some beam) :
    beam = beamLoop ops B L (initBeam ops) 0 rows ∧ (rows = [] ∨ (B ≠ 0 ∧ L ≠ 0)) := by
  unfold decodeBeamImpl at h
  split at h
  · next he =>
    cases h
    rw [List.isEmpty_iff.mp he]
    exact ⟨rfl, Or.inl rfl⟩
  · split at h
    · cases h
    · next hb => cases h; exact ⟨rfl, Or.inr (not_or.mp hb)⟩

/-- `d`: the rows processed, last one first. -/
theorem decodeBeamImpl_induct {ops : Ops α} {B L : Nat} {rows : List (List α)}
    {beam : List (BState α)} (h : decodeBeamImpl ops B L rows = some beam)
    (P : List (List α) → List (BState α) → Prop) (init : P [] (initBeam ops))
    (step : B ≠ 0 → L ≠ 0 → ∀ d beam pos, ∀ row ∈ rows, P d beam →
      P (row :: d) (beamStep ops B L beam pos row)) : P rows.reverse beam := by
  obtain ⟨rfl, rfl | ⟨hB, hL⟩⟩ := decodeBeamImpl_eq_some h
  · exact init
  · simpa using beamLoop_induct P rows (step hB hL) _ 0 [] init

theorem decodeBeamImpl_reach {ops : Ops α} {B L : Nat} {rows : List (List α)}
    {beam : List (BState α)} (h : decodeBeamImpl ops B L rows = some beam) : Reach L beam :=
  decodeBeamImpl_induct h (fun _ => Reach L) (initBeam_reach ops L)
    fun _ _ _ beam pos row _ => beamStep_reach ops B L beam pos row

theorem decodeBeamNbest_eq_some {ops : Ops α} {B N L : Nat} {rows : List (List α)}
    {hs : List (Hyp α)} (h : decodeBeamNbest ops B N L rows = some hs) :
    ∃ beam, decodeBeamImpl ops B L rows = some beam ∧ hs = (beam.take N).map (hypOf ops) := by
  unfold decodeBeamNbest at h
  cases hb : decodeBeamImpl ops B L rows with
  | none => rw [hb] at h; cases h
  | some beam => rw [hb] at h; cases h; exact ⟨beam, rfl, rfl⟩

theorem decodeBeam_eq_some {ops : Ops α} {B L : Nat} {rows : List (List α)} {h : Hyp α}
    (hd : decodeBeam ops B L rows = some h) :
    ∃ st rest, decodeBeamImpl ops B L rows = some (st :: rest) ∧ h = hypOf ops st := by
  unfold decodeBeam at hd
  split at hd
  · next s rest heq => cases hd; exact ⟨s, rest, heq, rfl⟩
  · cases hd

end

end RtenVerif.Ctc
