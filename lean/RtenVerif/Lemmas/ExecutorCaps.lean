import RtenVerif.Lemmas.ExecutorSim
/-!
# C02 — bookkeeping invariants that hold with any capture environment

Runs of subgraph bodies (`If` branches, `Loop` bodies) execute `run_plan` with a capture
environment: values of the enclosing scope, some of them passed by value (takeable).  The
refinement theorem T3 (`runPlan_refines_caps`) is stated for captures that are all by reference
(`CapsWF`); the lemmas here establish the
counter invariant (T1), "removed only when dead" (T2) and the kind of what `temp_values` holds
(T4) for **every** capture environment.
-/
namespace RtenVerif.Executor
open RtenVerif.Graph

theorem take_phase_gen {V : Type} {ops : Ops V} {r : Run V} {st st' : St V} {i : Nat} {tr : StepTrace}
    (P : StepParts ops r st st' i tr) : Took (opDeps r.g P.op) st P.st2 := by
  refine (take_phase_took P.htake P.hbyval).mono fun y hy => ?_
  rcases List.mem_append.mp hy with hy | hy
  · obtain ⟨c, hc, rfl⟩ := List.mem_map.mp hy
    exact mem_opDeps_input r.g (candidates_spec hc).1
  · exact mem_opDeps_cap hy

/-- **T2 with captures (step form).** Whatever a completed step removes from `temp_values`
or takes out of the capture environment has no use left — in the rest of the plan or among
the requested outputs. -/
theorem step_removes_only_dead {V : Type} {ops : Ops V} {r : Run V} {st st' : St V} {i : Nat}
    {tr : StepTrace} {total : Nat → Nat} {rest outs : List Nat} (hwf : WF r)
    (h : step ops r st i = .ok (st', tr)) (hb : RcBounded st.rc)
    (hinv : RcInv r.g total (i :: rest) outs st.rc) (x : Nat) (hx : isValue r.g x = true)
    (hrem : (st.temps x ≠ none ∧ st'.temps x = none) ∨ (st.caps x ≠ none ∧ st'.caps x = none)) :
    uses r.g rest outs x = 0 := by
  obtain ⟨P⟩ := step_parts h
  obtain ⟨hrc2, hT⟩ := take_phase_gen P
  obtain ⟨hcaps, F⟩ := post_step hwf.fixed (hrc2 ▸ hb) (hwf.outsValue i P.op P.hop) P.hstore P.hrel
  -- gone after the take phase: the counter was 1 and `x` is a dependency
  have dead_of_take : ∀ {β : Type} {a b : Option β}, Rem st.rc (opDeps r.g P.op) a b x → a ≠ none →
      b = none → uses r.g rest outs x = 0 := by
    rintro β a b (e | ⟨_, e1, e2⟩) hne hnone
    · rw [hnone] at e; exact absurd e.symm hne
    · exact (hinv.last_use P.hop hx e1 e2).2
  rcases hrem with ⟨hne, hnone⟩ | ⟨hne, hnone⟩
  · rcases F x with ⟨e, _⟩ | ⟨w, e, _⟩ | ⟨_, h0⟩
    · exact dead_of_take (hT x).1 hne (e ▸ hnone)
    · rw [e] at hnone; cases hnone
    · exact (RcInv.step h hb hinv).zero hx h0
  · exact dead_of_take (hT x).2 hne (hcaps ▸ hnone)

/-- What `temp_values` may hold: value nodes that were not supplied as views. -/
def TempsKind {V : Type} (r : Run V) (st : St V) : Prop :=
  ∀ x, st.temps x ≠ none → isValue r.g x = true ∧ isConstant r.g x = false ∧ r.borrowed x = none

theorem TempsKind.step {V : Type} {ops : Ops V} {r : Run V} {st st' : St V} {i : Nat}
    {tr : StepTrace} (hwf : WF r) (h : step ops r st i = .ok (st', tr)) (hb : RcBounded st.rc)
    (hk : TempsKind r st) : TempsKind r st' := by
  obtain ⟨P⟩ := step_parts h
  obtain ⟨hrc2, hT⟩ := take_phase_gen P
  obtain ⟨_, F⟩ := post_step hwf.fixed (hrc2 ▸ hb) (hwf.outsValue i P.op P.hop) P.hstore P.hrel
  intro x hx
  rcases F x with ⟨e, _⟩ | ⟨w, _, hv, hb, _⟩ | ⟨e, _⟩
  · rw [e] at hx
    exact hk x (((hT x).1.resolve_right fun e => hx e.1) ▸ hx)
  · exact ⟨hv, isValue_not_const hv, hb⟩
  · exact absurd e hx

theorem runSteps_caps_inv {V : Type} {ops : Ops V} {r : Run V} {total : Nat → Nat}
    {outs : List Nat} (hwf : WF r) (rest : List Nat) :
    ∀ (pre : List Nat) (st st' : St V), RcBounded st.rc →
      RcInv r.g total (pre ++ rest) outs st.rc → TempsKind r st →
      (runSteps ops r st pre).1 = .ok st' →
      RcBounded st'.rc ∧ RcInv r.g total rest outs st'.rc ∧ TempsKind r st' := by
  intro pre
  induction pre with
  | nil =>
    intro st st' hb hi hk h
    simp only [runSteps, Except.ok.injEq] at h
    subst h; exact ⟨hb, hi, hk⟩
  | cons i is ih =>
    intro st st' hb hi hk h
    simp only [runSteps] at h
    cases hs : step ops r st i with
    | error e => simp [hs] at h
    | ok p =>
      obtain ⟨st1, tr⟩ := p
      simp only [hs] at h
      exact ih st1 st' (step_rcBounded ops r st st1 i tr hs hb) (RcInv.step hs hb hi)
        (TempsKind.step hwf hs hb hk) h

end RtenVerif.Executor
