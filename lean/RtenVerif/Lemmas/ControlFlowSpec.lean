import RtenVerif.Model.ControlFlowSpec

/-!
# `loopCore` (the model of `Loop::run_subgraph`) = `loopSpec` (ONNX text), `evalG = evalGSpec`
-/
namespace RtenVerif.ControlFlow

variable {P V : Type}

theorem specFold_error (S : Sem P V) (body : Nat → List V → Except Err (List V)) (k : Nat) (e : Err) :
    ∀ (l : List Nat), l.foldl (specIter S body k) (.error e) = .error e
  | [] => rfl
  | _ :: l => by simp only [List.foldl_cons, specIter]; exact specFold_error S body k e l

theorem specFold_stopped (S : Sem P V) (body : Nat → List V → Except Err (List V)) (k : Nat)
    (st : LoopSt V) (h : st.keepGoing = 0) :
    ∀ (l : List Nat), l.foldl (specIter S body k) (.ok st) = .ok st
  | [] => rfl
  | _ :: l => by
    simp only [List.foldl_cons, specIter, h, if_true]
    exact specFold_stopped S body k st h l

theorem loopIter_eq_fold (S : Sem P V) (run : Nat → List V → Except Err (List V)) (k : Nat)
    (rem i : Nat) (c : Int) (cs : List V) (sc : List (List V)) :
      loopIter S run k rem i c cs sc =
        match (List.range' i rem).foldl (specIter S run k)
            (.ok { keepGoing := c, carried := cs, scans := sc }) with
        | .error e => .error e
        | .ok st => .ok (st.carried, st.scans) := by
  fun_induction loopIter S run k rem i c cs sc
  case case1 => rfl
  case case2 => rw [specFold_stopped S run k _ rfl]
  case case3 hc _ hr =>
    simp only [List.range'_succ, List.foldl_cons, specIter, hc, if_false, hr, specFold_error]
  case case4 hc hr =>
    simp only [List.range'_succ, List.foldl_cons, specIter, hc, if_false, hr, specFold_error]
  case case5 hc _ _ hr hi =>
    simp only [List.range'_succ, List.foldl_cons, specIter, hc, if_false, hr, hi, specFold_error]
  case case6 hc _ _ hr _ hi ih =>
    simp only [List.range'_succ, List.foldl_cons, specIter, hc, if_false, hr, hi]
    exact ih

theorem finishScans_eq_spec (S : Sem P V) (onnx : Bool) : ∀ (scans : List (List V)),
    finishScans S onnx scans = specScanOutputs S onnx scans
  | [] => rfl
  | sc :: rest => by
    have ih := finishScans_eq_spec S onnx rest
    unfold specScanOutputs at ih ⊢
    simp only [finishScans, List.foldr_cons, ih]
    cases List.foldr _ _ rest with
    | error e => rfl
    | ok vs =>
      cases sc with
      | nil => simp
      | cons x xs =>
        simp
        cases S.stack (x :: xs) <;> rfl

theorem loopCore_eq_loopSpec (S : Sem P V) (onnx : Bool) (run : Nat → List V → Except Err (List V))
    (bodyIn bodyOut : Nat) (tripV condV : Option V) (cs : List V) :
    loopCore S onnx run bodyIn bodyOut tripV condV cs =
      loopSpec S onnx run bodyIn bodyOut tripV condV cs := by
  unfold loopCore loopSpec
  rw [show specTripBound S tripV = (tripOf S tripV).map Int.toNat by cases tripV <;> rfl,
    show specKeepGoing S condV = condOf S condV by cases condV <;> rfl]
  cases tripOf S tripV with
  | none => rfl
  | some m =>
    cases condOf S condV with
    | none => rfl
    | some c0 =>
      -- the two arity tests are the same test, written once with `!=` and once with `≠ ∨ <`
      by_cases h1 : bodyIn = 2 + cs.length
      · by_cases h2 : bodyOut < 1 + cs.length
        · simp [h1, h2]
        · simp only [Option.map_some, h1, h2, bne_self_eq_false, Bool.false_eq_true, if_false,
            ne_eq, not_true, false_or, loopIter_eq_fold, List.range_eq_range', replicateNil,
            finishScans_eq_spec]
          cases List.foldl (specIter S run cs.length) _ (List.range' 0 m.toNat) with
          | error e => rfl
          | ok st => cases specScanOutputs S onnx st.scans <;> rfl
      · simp [h1]

theorem evalOp_eq_spec (S : Sem P V) (onnx : Bool)
    (ev : Env V → Graph P V → List V → Except Err (List V)) (σ : Env V) (op : Op P V) :
    evalOp S onnx ev σ op = evalOpSpec S onnx ev σ op := by
  cases op with
  | prim k ins out => rfl
  | ifOp c t e outs => rfl
  | loop trip cond car body outs =>
    simp only [evalOpSpec, evalOp, loopCore_eq_loopSpec]
    rfl

theorem evalOps_eq_spec (S : Sem P V) (onnx : Bool)
    (ev : Env V → Graph P V → List V → Except Err (List V)) :
    ∀ (ops : List (Op P V)) (σ : Env V), evalOps S onnx ev σ ops = evalOpsSpec S onnx ev σ ops
  | [], _ => rfl
  | op :: rest, σ => by
    simp only [evalOpsSpec, evalOps, evalOp_eq_spec, evalOps_eq_spec S onnx ev rest]
    rfl

theorem evalG_eq_spec (S : Sem P V) (onnx : Bool) : ∀ (fuel : Nat) (σ : Env V) (g : Graph P V)
    (args : List V), evalG S onnx fuel σ g args = evalGSpec S onnx fuel σ g args
  | 0, _, _, _ => rfl
  | fuel + 1, σ, g, args => by
    have hev : evalG S onnx fuel = evalGSpec S onnx fuel := by
      funext σ' g' a'; exact evalG_eq_spec S onnx fuel σ' g' a'
    simp only [evalGSpec, evalG, hev, evalOps_eq_spec]
    rfl

end RtenVerif.ControlFlow
