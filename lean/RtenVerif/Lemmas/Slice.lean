import RtenVerif.Lemmas.NArr

/-! C09.T3: `SliceRange::{resolve, clamp, steps, index_range}` and `IndexRange::steps` against the
CPython slice definition (`pyBounds`, `pyCount`, `pyIndices`), over unbounded `Int`. -/
namespace RtenVerif.Layout
open RtenVerif.Arr

/-! ### One bound

`pyAdjust`, `clampI` and the two offset functions are nested `if`s over linear conditions, so every
relation between them is linear arithmetic by cases; `omega` splits the `if`s itself. -/

theorem pyAdjust_eq (x t : Int) (n : Nat) :
    pyAdjust x t n =
      if x < 0 then (if x + n < 0 then (if t < 0 then -1 else 0) else x + n)
      else if x ≥ n then (if t < 0 then (n : Int) - 1 else n) else x := rfl

theorem pyAdjust_pos_inb (x t : Int) (n : Nat) (ht : t > 0) (hx : -(n : Int) ≤ x ∧ x ≤ n) :
    pyAdjust x t n = offsetFromStart x n := by
  rw [pyAdjust_eq]; unfold offsetFromStart; omega

theorem offsetFromStart_inRange (x : Int) (n : Nat) :
    (offsetFromStart x n ≥ 0 ∧ offsetFromStart x n ≤ n) ↔ (-(n : Int) ≤ x ∧ x ≤ n) := by
  unfold offsetFromStart; omega

theorem clamp_start_pos (x t : Int) (n : Nat) (ht : t > 0) :
    offsetFromStart (clampI x (-(n : Int)) n) n = pyAdjust x t n := by
  rw [pyAdjust_eq]; unfold offsetFromStart clampI; omega

theorem clamp_start_neg (x t : Int) (n : Nat) (ht : t < 0) :
    offsetFromStart (clampI x (-(n : Int) - 1) ((n : Int) - 1)) n = pyAdjust x t n := by
  rw [pyAdjust_eq]; unfold offsetFromStart clampI; omega

/-- Counting from the end is counting from the start, mirrored: the negative-step half of
`resolve` is the positive-step half read backwards. -/
theorem offsetFromEnd_eq (i : Int) (n : Nat) :
    offsetFromEnd i n = (n : Int) - 1 - offsetFromStart i n := by
  unfold offsetFromEnd offsetFromStart; omega

theorem pyAdjust_range_pos (x t : Int) (n : Nat) (ht : t > 0) :
    0 ≤ pyAdjust x t n ∧ pyAdjust x t n ≤ n := by
  rw [pyAdjust_eq]; omega

theorem pyAdjust_range_neg (x t : Int) (n : Nat) (ht : t < 0) :
    -1 ≤ pyAdjust x t n ∧ pyAdjust x t n ≤ (n : Int) - 1 := by
  rw [pyAdjust_eq]; omega

theorem neg_start_before (start t : Int) (n : Nat) (ht : t < 0) :
    pyAdjust start t n = -1 ↔ (start < -(n : Int) ∨ n = 0) := by
  rw [pyAdjust_eq]; omega

theorem pyBounds_pos {r : SliceRange} {n : Nat} {S E : Int} (ht : r.step > 0)
    (hp : pyBounds r.start r.stop r.step n = (S, E)) : 0 ≤ S ∧ S ≤ n ∧ 0 ≤ E ∧ E ≤ n := by
  have hS := pyAdjust_range_pos r.start r.step n ht
  cases hst : r.stop with
  | none => simp only [pyBounds, hst, Prod.mk.injEq] at hp; omega
  | some e =>
    have hE := pyAdjust_range_pos e r.step n ht
    simp only [pyBounds, hst, Prod.mk.injEq] at hp; omega

theorem pyBounds_neg {r : SliceRange} {n : Nat} {S E : Int} (ht : r.step < 0)
    (hp : pyBounds r.start r.stop r.step n = (S, E)) :
    -1 ≤ S ∧ S ≤ (n : Int) - 1 ∧ -1 ≤ E ∧ E ≤ (n : Int) - 1 := by
  have hS := pyAdjust_range_neg r.start r.step n ht
  cases hst : r.stop with
  | none => simp only [pyBounds, hst, Prod.mk.injEq] at hp; omega
  | some e =>
    have hE := pyAdjust_range_neg e r.step n ht
    simp only [pyBounds, hst, Prod.mk.injEq] at hp; omega

theorem pyCount_of_bounds {a : Int} {b : Option Int} {c : Int} {n : Nat} {S E : Int}
    (hp : pyBounds a b c n = (S, E)) :
    pyCount a b c n =
      if c < 0 then (if E < S then ((S - E - 1) / (-c) + 1).toNat else 0)
      else (if S < E then ((E - S - 1) / c + 1).toNat else 0) := by
  simp only [pyCount, hp]

/-- **T3 (resolve, positive step).** `resolve` succeeds exactly when no bound needs clamping, and
then returns the CPython-adjusted bounds (with `end := max end start`). -/
theorem resolve_pos (r : SliceRange) (n : Nat) (ht : r.step > 0) :
    r.resolve n =
      if NArr.inBounds r.start n && r.stop.all (NArr.inBounds · n) then
        some ((pyBounds r.start r.stop r.step n).1.toNat,
          (max (pyBounds r.start r.stop r.step n).2 (pyBounds r.start r.stop r.step n).1).toNat)
      else none := by
  obtain ⟨start, stop, step⟩ := r
  simp only at ht
  have hneg : ¬ step < 0 := by omega
  have hin := offsetFromStart_inRange
  cases stop with
  | none =>
    simp only [SliceRange.resolve, ht, hneg, if_true, if_false, Option.map_none, Option.getD_none,
      NArr.inBounds, Option.all_none, Bool.and_true, pyBounds, decide_eq_true_eq]
    refine ite_congr (propext ⟨fun h => (hin _ n).mp ⟨h.1, h.2.1⟩, fun h => ?_⟩)
      (fun hb => by rw [pyAdjust_pos_inb _ _ _ ht hb]) (fun _ => rfl)
    have := (hin _ n).mpr h
    exact ⟨this.1, this.2, by omega, by omega⟩
  | some e =>
    simp only [SliceRange.resolve, ht, if_true, Option.map_some, Option.getD_some, NArr.inBounds,
      Option.all_some, pyBounds, Bool.and_eq_true, decide_eq_true_eq]
    refine ite_congr (propext ⟨fun h => ⟨(hin _ n).mp ⟨h.1, h.2.1⟩, (hin _ n).mp h.2.2⟩, fun h => ?_⟩)
      (fun hb => by rw [pyAdjust_pos_inb _ _ _ ht hb.1, pyAdjust_pos_inb _ _ _ ht hb.2])
      (fun _ => rfl)
    have h1 := (hin _ n).mpr h.1
    exact ⟨h1.1, h1.2, (hin _ n).mpr h.2⟩

theorem clamp_pos (r : SliceRange) (n : Nat) (ht : r.step > 0) :
    r.clamp n = ⟨clampI r.start (-(n : Int)) n, r.stop.map (clampI · (-(n : Int)) n), r.step⟩ := by
  simp only [SliceRange.clamp, ht, if_true]

theorem clamp_neg (r : SliceRange) (n : Nat) (ht : ¬ r.step > 0) :
    r.clamp n = ⟨clampI r.start (-(n : Int) - 1) ((n : Int) - 1),
      r.stop.map (clampI · (-(n : Int) - 1) ((n : Int) - 1)), r.step⟩ := by
  simp only [SliceRange.clamp, ht, if_false]

/-- An omitted stop stands for `n`, resp. `-1`. -/
theorem clamp_fromStart (r : SliceRange) (n : Nat) (h0 : r.step ≠ 0) :
    offsetFromStart (r.clamp n).start n = (pyBounds r.start r.stop r.step n).1 ∧
    ((r.clamp n).stop.map (offsetFromStart · n)).getD (if r.step > 0 then (n : Int) else -1) =
      (pyBounds r.start r.stop r.step n).2 := by
  obtain ⟨start, stop, step⟩ := r
  by_cases ht : step > 0
  · have hneg : ¬ step < 0 := by omega
    rw [clamp_pos _ n ht]
    refine ⟨clamp_start_pos _ _ _ ht, ?_⟩
    cases stop <;> simp only [pyBounds, ht, hneg, if_true, if_false, Option.map_none, Option.map_some,
      Option.getD_none, Option.getD_some, clamp_start_pos _ _ _ ht]
  · have hn : step < 0 := by simp only at h0; omega
    rw [clamp_neg _ n ht]
    refine ⟨clamp_start_neg _ _ _ hn, ?_⟩
    cases stop <;> simp only [pyBounds, ht, hn, if_true, if_false, Option.map_none, Option.map_some,
      Option.getD_none, Option.getD_some, clamp_start_neg _ _ _ hn]

theorem clamp_fromEnd (r : SliceRange) (n : Nat) (ht : r.step < 0) :
    offsetFromEnd (r.clamp n).start n = (n : Int) - 1 - (pyBounds r.start r.stop r.step n).1 ∧
    ((r.clamp n).stop.map (offsetFromEnd · n)).getD (n : Int) =
      (n : Int) - 1 - (pyBounds r.start r.stop r.step n).2 := by
  obtain ⟨h1, h2⟩ := clamp_fromStart r n (by omega)
  rw [if_neg (by omega)] at h2
  rw [offsetFromEnd_eq, h1, ← h2]
  refine ⟨rfl, ?_⟩
  cases (r.clamp n).stop with
  | none => simp only [Option.map_none, Option.getD_none]; omega
  | some e => exact offsetFromEnd_eq e n

/-- `resolve_clamped` never fails (the `unwrap` in the code cannot panic); closed form. -/
theorem resolveClamped_pos {r : SliceRange} {n : Nat} {S E : Int} (ht : r.step > 0)
    (hp : pyBounds r.start r.stop r.step n = (S, E)) :
    r.resolveClamped n = some (S.toNat, (max E S).toNat) := by
  have hb := pyBounds_pos ht hp
  obtain ⟨h1, h2⟩ := clamp_fromStart r n (by omega)
  have hs : (r.clamp n).step = r.step := by rw [clamp_pos r n ht]
  simp only [ht, if_true, hp] at h1 h2
  simp only [SliceRange.resolveClamped, SliceRange.resolve, hs, ht, if_true, h1, h2]
  exact if_pos ⟨hb.1, hb.2.1, hb.2.2.1, hb.2.2.2⟩

theorem resolveClamped_neg {r : SliceRange} {n : Nat} {S E : Int} (ht : r.step < 0)
    (hp : pyBounds r.start r.stop r.step n = (S, E)) :
    r.resolveClamped n =
      some (((n : Int) - 1 - S).toNat, (max ((n : Int) - 1 - E) ((n : Int) - 1 - S)).toNat) := by
  have hb := pyBounds_neg ht hp
  obtain ⟨h1, h2⟩ := clamp_fromEnd r n ht
  have hpos : ¬ r.step > 0 := by omega
  have hs : (r.clamp n).step = r.step := by rw [clamp_neg r n hpos]
  simp only [hp] at h1 h2
  simp only [SliceRange.resolveClamped, SliceRange.resolve, hs, hpos, if_false, h1, h2]
  exact if_pos ⟨by omega, by omega, by omega, by omega⟩

theorem ceil_eq (L t : Nat) (hL : 0 < L) (ht : 0 < t) :
    (L + t - 1) / t = (((L : Int) - 1) / (t : Int) + 1).toNat := by
  have h1 : (L + t - 1) / t = (L - 1) / t + 1 := by
    rw [show L + t - 1 = (L - 1) + t by omega, Nat.add_div_right _ ht]
  have h2 : ((L : Int) - 1) / (t : Int) = (((L - 1) / t : Nat) : Int) := by
    rw [show ((L : Int) - 1) = ((L - 1 : Nat) : Int) by omega, Int.natCast_ediv]
  rw [h1, h2]
  generalize (L - 1) / t = x
  omega

/-- Count of a stepped range: `div_ceil` form equals CPython's `(hi - lo - 1) / t + 1`. -/
theorem count_eq (lo hi t : Int) (ht : t > 0) :
    ((max (hi - lo) 0).natAbs + t.natAbs - 1) / t.natAbs =
      if lo < hi then ((hi - lo - 1) / t + 1).toNat else 0 := by
  by_cases h : lo < hi
  · rw [if_pos h, show (max (hi - lo) 0).natAbs = (hi - lo).toNat by omega,
      ceil_eq _ _ (by omega) (by omega),
      ← show (hi - lo) = (((hi - lo).toNat : Nat) : Int) by omega,
      ← show t = ((t.natAbs : Nat) : Int) by omega]
  · rw [if_neg h, show (max (hi - lo) 0).natAbs = 0 by omega]
    exact Nat.div_eq_of_lt (by omega)

/-- `index_range` pushes the end `E` to the start `S` when nothing is selected. -/
theorem range_of_bounds {r : SliceRange} {n : Nat} {S E : Int} (s : Nat) (e : Int)
    (hp : pyBounds r.start r.stop r.step n = (S, E)) (h0 : r.step ≠ 0) (hs : (s : Int) = S)
    (he : e = if r.step > 0 then max E S else min E S) :
    (IndexRange.mk s e r.step).toList = pyIndices r.start r.stop r.step n ∧
    (IndexRange.mk s e r.step).steps = pyCount r.start r.stop r.step n := by
  have hsteps : (IndexRange.mk s e r.step).steps = pyCount r.start r.stop r.step n := by
    rw [pyCount_of_bounds hp]
    subst hs he
    by_cases ht : r.step > 0
    · have hneg : ¬ r.step < 0 := by omega
      simp only [IndexRange.steps, ht, hneg, if_true, if_false]
      rw [← count_eq s E r.step ht]
      congr 2
      omega
    · have hn : r.step < 0 := by omega
      simp only [IndexRange.steps, ht, hn, if_true, if_false]
      rw [← count_eq E s (-r.step) (by omega), Int.natAbs_neg]
      congr 2
      omega
  refine ⟨?_, hsteps⟩
  simp only [IndexRange.toList, pyIndices, hsteps, hp, hs]

/-- **T3 (index_range)**: for either sign of the step `index_range` never fails (the underflow
branch is unreachable after fix `6e0e117`) and enumerates exactly CPython's indices. -/
theorem indexRange_spec (r : SliceRange) (n : Nat) (h0 : r.step ≠ 0) :
    ∃ ir, r.indexRange n = .ok ir ∧ ir.toList = pyIndices r.start r.stop r.step n ∧
      ir.steps = pyCount r.start r.stop r.step n := by
  rcases hp : pyBounds r.start r.stop r.step n with ⟨S, E⟩
  unfold SliceRange.indexRange
  by_cases ht : r.step > 0
  · have hb := pyBounds_pos ht hp
    rw [resolveClamped_pos ht hp]
    simp only [ht, if_true]
    exact ⟨_, rfl, range_of_bounds _ _ hp h0 (Int.toNat_of_nonneg hb.1) (by rw [if_pos ht]; omega)⟩
  · have hn : r.step < 0 := by omega
    have hb := pyBounds_neg hn hp
    rw [resolveClamped_neg hn hp]
    simp only [ht, if_false]
    by_cases hSE : S ≤ E
    · -- nothing selected: the resolved range is empty
      rw [if_pos (by omega)]
      have hc : pyCount r.start r.stop r.step n = 0 := by
        rw [pyCount_of_bounds hp, if_pos hn, if_neg (by omega)]
      have hs : (IndexRange.mk 0 0 r.step).steps = 0 := by
        simp only [IndexRange.steps, ht, if_false]
        exact Nat.div_eq_of_lt (by omega)
      exact ⟨_, rfl, by simp only [IndexRange.toList, pyIndices, hs, hc]; rfl, by rw [hs, hc]⟩
    · rw [if_neg (by omega), if_neg (by omega)]
      exact ⟨_, rfl, range_of_bounds _ _ hp h0 (by omega) (by rw [if_neg ht]; omega)⟩

/-- Pre-fix `index_range`, negative step: either the adjusted start is "before the first
element" (`-1`: `start < -n`, or `n = 0`) and the code panics, or it enumerates exactly
CPython's indices. -/
theorem indexRangeOld_neg (r : SliceRange) (n : Nat) (ht : r.step < 0) :
    (r.indexRangeOld n = .error .panic ∧ (pyBounds r.start r.stop r.step n).1 = -1) ∨
    (∃ ir, r.indexRangeOld n = .ok ir ∧ (pyBounds r.start r.stop r.step n).1 ≠ -1 ∧
      ir.toList = pyIndices r.start r.stop r.step n ∧ ir.steps = pyCount r.start r.stop r.step n) := by
  rcases hp : pyBounds r.start r.stop r.step n with ⟨S, E⟩
  have hpos : ¬ r.step > 0 := by omega
  have hb := pyBounds_neg ht hp
  unfold SliceRange.indexRangeOld
  rw [resolveClamped_neg ht hp]
  simp only [hpos, if_false]
  by_cases hS : S = -1
  · exact Or.inl ⟨if_pos (by omega), hS⟩
  · rw [if_neg (by omega)]
    exact Or.inr ⟨_, rfl, hS,
      range_of_bounds _ _ hp (by omega) (by omega) (by rw [if_neg hpos]; omega)⟩

/-- **T3 (`SliceRange::steps`)**: the element count is CPython's, for every start/stop/step≠0/n. -/
theorem steps_eq_pyCount (r : SliceRange) (n : Nat) (h0 : r.step ≠ 0) :
    r.steps n = pyCount r.start r.stop r.step n := by
  rcases hp : pyBounds r.start r.stop r.step n with ⟨S, E⟩
  obtain ⟨h1, h2⟩ := clamp_fromStart r n h0
  have hs : (r.clamp n).step = r.step := by
    by_cases ht : r.step > 0
    · rw [clamp_pos r n ht]
    · rw [clamp_neg r n ht]
  simp only [hp] at h1 h2
  simp only [SliceRange.steps, h1, h2, hs]
  rw [pyCount_of_bounds hp]
  by_cases ht : r.step > 0
  · have hneg : ¬ r.step < 0 := by omega
    simp only [ht, hneg, true_and, false_and, or_false, if_true, if_false]
    by_cases hc : S < E
    · rw [if_neg (by omega), if_pos hc, Int.tdiv_eq_ediv_of_nonneg (by omega)]
      omega
    · rw [if_pos (by omega), if_neg hc]
  · have hn : r.step < 0 := by omega
    simp only [ht, hn, true_and, false_and, false_or, if_true, if_false]
    by_cases hc : E < S
    · rw [if_neg (by omega), if_pos hc, Int.tdiv_eq_ediv_of_nonneg (by omega)]
      omega
    · rw [if_pos (by omega), if_neg hc]

end RtenVerif.Layout
