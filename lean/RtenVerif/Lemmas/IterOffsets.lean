import RtenVerif.Lemmas.IterFold

/-!
C07 lemmas: `Offsets` (Range fast path + Indexing path) refines the deque over its
abstraction, for every operation; hence (by `run_refines`) for every history.
-/
namespace RtenVerif.Iter
open OffsetsBase

def OffInv : Offsets → Prop
  | .range _ _ => True
  | .indexing s => Inv s

/-- Offsets still to be yielded. -/
def absO : Offsets → List Nat
  | .range a b => window id a b
  | .indexing s => absB s

theorem offsets_next (s : Offsets) (hs : OffInv s) :
    (Offsets.next s).1 = (absO s).head? ∧ absO (Offsets.next s).2 = (absO s).tail ∧
      OffInv (Offsets.next s).2 := by
  cases s with
  | range a b =>
    have e : Offsets.next (.range a b) =
        if a < b then (some a, .range (a + 1) b) else (none, .range a b) := rfl
    rw [e, show absO (.range a b) = window id a b from rfl, window_head?, window_tail]
    split
    · exact ⟨rfl, rfl, trivial⟩
    · next h =>
      have h' : b ≤ a := Nat.le_of_not_lt h
      exact ⟨rfl, (window_of_le _ _ _ h').trans (window_of_le _ _ _ (by omega)).symm, trivial⟩
  | indexing b => exact next_spec hs

theorem offsets_nextBack (s : Offsets) (hs : OffInv s) :
    (Offsets.nextBack s).1 = (absO s).getLast? ∧
      absO (Offsets.nextBack s).2 = (absO s).dropLast ∧ OffInv (Offsets.nextBack s).2 := by
  cases s with
  | range a b =>
    have e : Offsets.nextBack (.range a b) =
        if a < b then (some (b - 1), .range a (b - 1)) else (none, .range a b) := rfl
    rw [e, show absO (.range a b) = window id a b from rfl, window_getLast?, window_dropLast]
    split
    · exact ⟨rfl, rfl, trivial⟩
    · next h =>
      have h' : b ≤ a := Nat.le_of_not_lt h
      exact ⟨rfl, (window_of_le _ _ _ h').trans (window_of_le _ _ _ (by omega)).symm, trivial⟩
  | indexing b => exact nextBack_spec hs

theorem offsets_nth (s : Offsets) (n : Nat) (hs : OffInv s) :
    (Offsets.nth s n).1 = ((absO s).drop n).head? ∧
      absO (Offsets.nth s n).2 = (absO s).drop (n + 1) ∧ OffInv (Offsets.nth s n).2 := by
  cases s with
  | range a b =>
    have e : Offsets.nth (.range a b) n =
        if a + n < b then (some (a + n), .range (a + n + 1) b) else (none, .range b b) := rfl
    rw [e, show absO (.range a b) = window id a b from rfl, window_drop, window_drop, window_head?]
    split
    · exact ⟨rfl, rfl, trivial⟩
    · next h =>
      exact ⟨rfl, (window_of_le _ _ _ (Nat.le_refl b)).trans (window_of_le _ _ _ (by omega)).symm,
        trivial⟩
  | indexing b => exact nth_spec hs n

theorem offsets_len (s : Offsets) : Offsets.len s = (absO s).length := by
  cases s with
  | range a b => exact (window_length ..).symm
  | indexing b => exact (absB_length b).symm

theorem offsets_split (s : Offsets) (k : Nat) (hs : OffInv s) (hk : k ≤ (absO s).length) :
    ∃ a b, Offsets.splitAt s k = some (a, b) ∧ absO a = (absO s).take k ∧
      absO b = (absO s).drop k ∧ OffInv a ∧ OffInv b := by
  rw [← offsets_len] at hk
  cases s with
  | range a b =>
    have hk' : k ≤ b - a := hk
    exact ⟨.range a (a + k), .range (a + k) b, if_pos hk', (window_take _ _ _ hk').symm,
      (window_drop ..).symm, trivial, trivial⟩
  | indexing s =>
    have hk' : k ≤ s.len := hk
    obtain ⟨t1, t2⟩ := truncate_spec hs k
    obtain ⟨s1, s2⟩ := stepBy_spec hs k
    exact ⟨.indexing (s.truncate k), .indexing (s.stepBy k),
      by simp only [Offsets.splitAt, OffsetsBase.splitAt, hk', if_true, Option.map_some], t1, s2, t2, s1⟩

theorem offsets_splitPanic (s : Offsets) (k : Nat) (hk : (absO s).length < k) :
    Offsets.splitAt s k = none := by
  rw [← offsets_len] at hk
  cases s with
  | range a b => exact if_neg (Nat.not_le_of_lt hk)
  | indexing s => exact if_neg (Nat.not_le_of_lt hk)

theorem offsets_refines : Refines Offsets.ops OffInv absO where
  next := offsets_next
  nextBack := offsets_nextBack
  nth := offsets_nth
  len := fun s _ => offsets_len s
  fold := fun s hs => by
    cases s with
    | range a b => exact (List.map_id _).symm
    | indexing b => exact fold_spec hs
  rev := fun s hs => by
    show drainBack Offsets.nextBack (Offsets.len s) s = _
    exact drainBack_spec offsets_nextBack _ s hs (by rw [offsets_len]; exact Nat.le_refl _)
  splitOk := offsets_split
  splitPanic := fun s k _ hk => offsets_splitPanic s k hk

end RtenVerif.Iter
