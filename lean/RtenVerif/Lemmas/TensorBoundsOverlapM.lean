import RtenVerif.Lemmas.TensorBoundsMachine
import RtenVerif.Lemmas.OverlapComplete

/-! C06/C08.T3: `may_have_internal_overlap` on wrap-around integers equals the ideal check
whenever the layout passed `checked_min_data_len`. -/
namespace RtenVerif.TensorBounds
open RtenVerif.Overlap

/-- The non-unit dimensions' total span (the quantity the overlap check accumulates, `spanSum`
of `Lemmas/OverlapComplete.lean`) is at most the layout's largest offset. -/
theorem spanSum_keys_le (dims : List (Nat × Nat)) : spanSum (keys dims) ≤ maxOffset dims := by
  induction dims with
  | nil => simp [keys, maxOffset]
  | cons x xs ih =>
    obtain ⟨size, stride⟩ := x
    simp only [keys, List.filter_cons, maxOffset] at ih ⊢
    split
    · simp only [List.map_cons, spanSum_cons, span]; omega
    · omega

theorem spanSum_sorted_le (dims : List (Nat × Nat)) :
    spanSum (Overlap.sortedStrideShape dims) ≤ maxOffset dims := by
  rw [Overlap.sortedStrideShape_eq, spanSum_perm (isort_perm _ _)]
  exact spanSum_keys_le dims

namespace M

def f (p : U × U) : Nat × Nat := (p.1.toNat, p.2.toNat)

theorem toN_eq_map (d : List (U × U)) : toN d = d.map f := rfl

theorem bne_one_eq (a : U) : (a != 1) = (a.toNat != 1) := by
  simp only [bne, beq_eq]; rfl

theorem pairLe_eq : pairLe = fun a b => Overlap.pairLe (f a) (f b) := by
  funext a b
  simp only [pairLe, Overlap.pairLe, f, beq_eq]
  rfl

theorem filter_map_eq (d : List (U × U)) :
    ((d.filter (fun x => x.1 != 1)).map (fun x => (x.2, x.1))).map f =
      ((toN d).filter (fun x => x.1 != 1)).map (fun x => (x.2, x.1)) := by
  induction d with
  | nil => rfl
  | cons x xs ih =>
    cases hb : (x.1 != 1)
    · have hb' : (x.1.toNat != 1) = false := by rw [← bne_one_eq]; exact hb
      simp only [List.filter_cons, toN_cons, hb, hb', Bool.false_eq_true, if_false]
      exact ih
    · have hb' : (x.1.toNat != 1) = true := by rw [← bne_one_eq]; exact hb
      simp only [List.filter_cons, toN_cons, hb, hb', if_true, List.map_cons]
      rw [ih]; rfl

theorem sortedStrideShape_eq (d : List (U × U)) :
    (sortedStrideShape d).map f = Overlap.sortedStrideShape (toN d) := by
  unfold sortedStrideShape Overlap.sortedStrideShape
  rw [pairLe_eq, map_isort, filter_map_eq]

theorem contigR_eq (d : List (U × U)) (hz : hasZero d = false)
    (hp : TensorBounds.prod (TensorBounds.shapeOf (toN d)) < wordSize) :
    (contigR d).map UInt64.toNat = Overlap.contigR (toN d) := by
  induction d with
  | nil => rfl
  | cons x xs ih =>
    obtain ⟨size, stride⟩ := x
    have hz := hasZero_cons_false.mp hz
    have hs : size.toNat ≠ 0 := fun h' => hz.1 ((eq_zero_iff _).mpr h')
    simp only [toN_cons, TensorBounds.shapeOf, List.map_cons, TensorBounds.prod] at hp
    have ih := ih hz.2 (Nat.lt_of_le_of_lt (Nat.le_mul_of_pos_left _ (by omega)) hp)
    simp only [contigR, toN_cons, Overlap.contigR, ← ih]
    cases hc : contigR xs with
    | none => rfl
    | some p =>
      rw [hc] at ih
      have hpe := contigR_some_eq ih.symm
      simp only [Option.map_some, contigStep, Overlap.contigStep, eq_one_iff, ne_eq,
        ← UInt64.toNat_inj (a := stride)]
      split
      · rfl
      · split
        · rfl
        · rw [Option.map_some, mul_toNat_of_lt (by rw [hpe, Nat.mul_comm]; exact hp)]

theorem stepsOver_eq (l : List (U × U)) (m : U) (hz : ∀ p ∈ l, p.2 ≠ 0)
    (hb : m.toNat + spanSum (l.map f) < wordSize) :
    (stepsOver m l).map UInt64.toNat = Overlap.stepsOver m.toNat (l.map f) := by
  induction l generalizing m with
  | nil => rfl
  | cons x xs ih =>
    obtain ⟨stride, size⟩ := x
    simp only [List.map_cons, f, spanSum_cons, span] at hb
    simp only [stepsOver, List.map_cons, f, Overlap.stepsOver, UInt64.le_iff_toNat_le]
    split
    · rfl
    · have hs : (size - 1).toNat = size.toNat - 1 := pred_toNat (hz (stride, size) (by simp))
      have hterm : ((size - 1) * stride).toNat = (size.toNat - 1) * stride.toNat := by
        rw [mul_toNat_of_lt (by rw [hs]; omega), hs]
      have hm := add_toNat_of_lt (a := m) (b := (size - 1) * stride) (by omega)
      rw [ih _ (fun p hp => hz p (by simp [hp])) (by omega), hm, hterm]

/-- **Machine overlap check = ideal overlap check** for layouts that pass
`checked_min_data_len`. -/
theorem mayOverlap_eq (d : List (U × U))
    (h1 : prodNZ (TensorBounds.shapeOf (toN d)) ≤ isizeMax)
    (h2 : TensorBounds.maxOffset (toN d) < isizeMax) :
    mayOverlap d = Overlap.mayOverlap (toN d) := by
  have hW := isizeMax_lt_W
  unfold mayOverlap Overlap.mayOverlap
  rw [← show (d.any fun x => x.1 == 0) = ((toN d).any fun x => x.1 == 0) from hasZero_eq d]
  cases hzz' : (d.any fun x => x.1 == 0)
  · have hzz : hasZero d = false := hzz'
    simp only [Bool.false_eq_true, if_false]
    have hp : TensorBounds.prod (TensorBounds.shapeOf (toN d)) < wordSize := by
      rw [prod_of_noZero (by rw [← hasZero_eq_anyZero, ← hasZero_eq]; exact hzz)]; omega
    have hc : isContiguous d = Overlap.isContiguous (toN d) := by
      rw [isContiguous_eq, ← contigR_eq d hzz hp, Option.isSome_map]; rfl
    have hnz : ∀ p ∈ sortedStrideShape d, p.2 ≠ 0 := by
      intro p hp h0
      have hp := (isort_perm _ _).mem_iff.mp hp
      simp only [List.mem_map, List.mem_filter] at hp
      obtain ⟨x, ⟨hx, _⟩, rfl⟩ := hp
      rw [List.any_eq_false] at hzz'
      exact hzz' x hx (by simpa using h0)
    have hso := stepsOver_eq (sortedStrideShape d) 0 hnz (by
      rw [sortedStrideShape_eq]
      have := spanSum_sorted_le (toN d)
      show 0 + _ < _
      omega)
    rw [sortedStrideShape_eq] at hso
    rw [hc, ← show _ = Overlap.stepsOver 0 _ from hso]
    cases stepsOver 0 (sortedStrideShape d) <;> rfl
  · rfl

end M
end RtenVerif.TensorBounds
