import RtenVerif.Model.Generator

/-!
Lemmas for C32: the refinement invariant between the generator model
(`State`, rule `.tracked`), the bookkeeping-free specification (`Spec`) and the model's
call log, and its preservation by every operation.  After it: `prev_tokens` is write-only, models
without KV cache are fed the recorded history again (`Refeed`), and the specification with its call
boundaries forgotten is `Sub` (`SubOf`).
-/
namespace RtenVerif.Generator

theorem fed_append (l : List Call) (c : Call) : fed (l ++ [c]) = fed l ++ c.toks := by
  simp [fed, List.flatMap_append]

theorem logRun_append (st : LogSt) (l : List Call) (c : Call) :
    logRun st (l ++ [c]) = logStep (logRun st l) c := by
  simp [logRun, List.foldl_append]

theorem logStep_good (st : LogSt) (c : Call) (h : (logStep st c).good = true) :
    st.good = true ∧ c.start = st.pos ∧ c.cacheIn = some st.held ∧
    c.attn = st.pos + c.toks.length ∧ c.flag = (st.pos != 0) ∧ c.encIn = st.enc := by
  unfold logStep at h
  cases hok : c.ok <;> simp only [hok, Bool.false_eq_true, ↓reduceIte, Bool.and_eq_true,
    beq_iff_eq] at h <;> obtain ⟨⟨⟨⟨⟨h1, h2⟩, h3⟩, h4⟩, h5⟩, h6⟩ := h <;>
    exact ⟨h1, h2, h3, h4, h5, h6⟩

theorem logRun_good_mono (l : List Call) (st : LogSt) (h : (logRun st l).good = true) :
    st.good = true := by
  induction l generalizing st with
  | nil => exact h
  | cons c cs ih =>
    have := ih (logStep st c) (by simpa [logRun] using h)
    exact (logStep_good st c this).1

theorem logRun_idx (l : List Call) (st : LogSt) : (logRun st l).idx = st.idx + l.length := by
  induction l generalizing st with
  | nil => simp [logRun]
  | cons c cs ih =>
    have h := ih (logStep st c)
    simp only [logRun, List.foldl_cons, List.length_cons] at h ⊢
    rw [h]; unfold logStep; cases c.ok <;> simp <;> omega

theorem logRun_get (l : List Call) (st : LogSt) (h : (logRun st l).good = true) (k : Nat)
    (hk : k < l.length) :
    l[k].start = (logRun st (l.take k)).pos ∧ l[k].cacheIn = some (logRun st (l.take k)).held ∧
    l[k].attn = (logRun st (l.take k)).pos + l[k].toks.length ∧
    l[k].flag = ((logRun st (l.take k)).pos != 0) ∧ l[k].encIn = (logRun st (l.take k)).enc := by
  -- split the run at call `k`; what follows cannot repair a failed check
  have hl : l.take k ++ l[k] :: l.drop (k + 1) = l := by
    rw [← List.drop_eq_getElem_cons hk, List.take_append_drop]
  rw [← hl, logRun, List.foldl_append, List.foldl_cons] at h
  exact (logStep_good _ _ (logRun_good_mono _ _ h)).2

theorem logStep_fail (st : LogSt) (c : Call) (h : c.ok = false) :
    (logStep st c).held = none ∧ (logStep st c).pos = st.pos := by
  simp [logStep, h]

theorem logRun_after_fail (l : List Call) (st : LogSt) (h : (logRun st l).good = true) (k : Nat)
    (hk : k + 1 < l.length) (hfail : (l[k]'(Nat.lt_of_succ_lt hk)).ok = false) :
    (l[k + 1]'hk).cacheIn = some none ∧ (l[k + 1]'hk).start = (l[k]'(Nat.lt_of_succ_lt hk)).start := by
  have hk' := Nat.lt_of_succ_lt hk
  have h1 := logRun_get l st h (k + 1) hk
  have h0 := logRun_get l st h k hk'
  have ht : l.take (k + 1) = l.take k ++ [l[k]] := by
    rw [List.take_add_one, List.getElem?_eq_getElem hk']; rfl
  rw [ht, logRun_append] at h1
  obtain ⟨hh, hp⟩ := logStep_fail (logRun st (l.take k)) l[k] hfail
  rw [h1.1, h1.2.1, h0.1, hh, hp]
  exact ⟨rfl, rfl⟩

theorem logStep_pos (st : LogSt) (c : Call) :
    (logStep st c).pos = st.pos + if c.ok then c.toks.length else 0 := by
  unfold logStep; split <;> rfl

theorem logRun_pos (l : List Call) (st : LogSt) :
    (logRun st l).pos = st.pos + (fed (okCalls l)).length := by
  induction l generalizing st with
  | nil => rfl
  | cons c cs ih =>
    rw [logRun, List.foldl_cons, ← logRun, ih, logStep_pos]
    cases h : c.ok <;> simp [fed, okCalls, h, Nat.add_assoc]

theorem logRun_all_ok (l : List Call) (st : LogSt) (hall : ∀ c ∈ l, c.ok = true)
    (len : Nat) (hheld : st.held = some (st.idx, len)) :
    (logRun st l).held = some (st.idx + l.length, len + (fed l).length) ∧
    (logRun st l).pos = st.pos + (fed l).length := by
  refine ⟨?_, by rw [logRun_pos, okCalls, List.filter_eq_self.mpr hall]⟩
  induction l generalizing st len with
  | nil => simpa [logRun, fed] using hheld
  | cons c cs ih =>
    have hc := hall c List.mem_cons_self
    rw [logRun, List.foldl_cons, ← logRun,
      ih _ (fun d hd => hall d (List.mem_cons_of_mem _ hd)) (len + c.toks.length)
        (by simp [logStep, hc, hheld])]
    simp [logStep, hc, fed]
    omega

theorem positions_okCalls (l : List Call) (st : LogSt) (h : (logRun st l).good = true) :
    positions (okCalls l) = List.range' st.pos (fed (okCalls l)).length := by
  induction l generalizing st with
  | nil => rfl
  | cons c cs ih =>
    have hrest : (logRun (logStep st c) cs).good = true := h
    have hc := (logStep_good st c (logRun_good_mono cs _ hrest)).2.1
    have := ih _ hrest
    rw [logStep_pos] at this
    cases hok : c.ok <;>
      simp only [okCalls, List.filter_cons, hok, ↓reduceIte, positions, fed, List.flatMap_cons,
        List.length_append, Bool.false_eq_true, Nat.add_zero] at this ⊢
    · exact this
    · rw [this, hc, List.range'_append_1]

theorem logOkNoKv_eq_all (l : List Call) : logOkNoKv l = l.all fun c =>
    c.start == 0 && c.cacheIn == none && c.attn == c.toks.length && c.flag == false := by
  induction l with
  | nil => rfl
  | cons c cs ih => rw [logOkNoKv, List.all_cons, ih]

theorem logOkNoKv_append (l : List Call) (c : Call) :
    logOkNoKv (l ++ [c]) = (logOkNoKv l && (c.start == 0 && c.cacheIn == none &&
      c.attn == c.toks.length && c.flag == false)) := by
  simp [logOkNoKv_eq_all]

theorem logOkNoKv_get (log : List Call) (h : logOkNoKv log = true) (k : Nat)
    (hk : k < log.length) :
    log[k].start = 0 ∧ log[k].cacheIn = none ∧ log[k].attn = log[k].toks.length ∧
    log[k].flag = false := by
  have := List.all_eq_true.mp (logOkNoKv_eq_all log ▸ h) log[k] (List.getElem_mem hk)
  simpa [and_assoc] using this

/-- Flags of the pending tokens: the first `k` are already in the history, the rest fresh. -/
def flagged (xs : List Nat) (k : Nat) : List (Nat × Bool) :=
  (xs.take k).map (·, false) ++ (xs.drop k).map (·, true)

theorem flagged_toks (xs : List Nat) (k : Nat) : (flagged xs k).map (·.1) = xs := by
  simp [flagged, List.map_append, List.map_map, Function.comp_def]

theorem filter_old (l : List Nat) : (l.map (fun x => (x, false))).filter (·.2) = [] := by
  induction l with
  | nil => rfl
  | cons x xs ih => simp [ih]

theorem filter_fresh (l : List Nat) :
    (l.map (fun x => (x, true))).filter (·.2) = l.map (fun x => (x, true)) := by
  induction l with
  | nil => rfl
  | cons x xs ih => simp [ih]

theorem flagged_fresh (xs : List Nat) (k : Nat) :
    ((flagged xs k).filter (·.2)).map (·.1) = xs.drop k := by
  unfold flagged
  rw [List.filter_append, filter_old, filter_fresh]
  simp [List.map_map, Function.comp_def]

theorem flagged_all (xs : List Nat) : flagged xs xs.length = xs.map (·, false) := by
  simp [flagged]

theorem flagged_snoc_all (xs : List Nat) (t : Nat) :
    flagged (xs ++ [t]) (xs.length + 1) = xs.map (·, false) ++ [(t, false)] := by
  have : xs.length + 1 = (xs ++ [t]).length := by simp
  rw [this, flagged_all]; simp

theorem flagged_isEmpty (xs : List Nat) (k : Nat) : (flagged xs k).isEmpty = xs.isEmpty := by
  cases xs with
  | nil => simp [flagged]
  | cons x xs =>
    cases k with
    | zero => simp [flagged]
    | succ k => simp [flagged]

theorem flagged_clear (xs : List Nat) (k : Nat) :
    (flagged xs k).map (fun x => (x.1, false)) = xs.map (·, false) := by
  have h := congrArg (List.map (·, false)) (flagged_toks xs k)
  simpa [List.map_map, Function.comp_def] using h

/-- The refinement invariant: the generator's bookkeeping (`recorded`, `prev`, `kv`, `offset`,
`enc`) is determined by the specification state and by what `logRun` expects after the calls logged
so far, and every logged call met that expectation. -/
structure Inv (hasKv : Bool) (s : State) (sp : Spec) (log : List Call) : Prop where
  rec_le : s.recorded ≤ s.inputIds.length
  pend : sp.pend = flagged s.inputIds s.recorded
  prev : s.prev = sp.hist
  calls : log.map (fun c => (c.toks, c.ok)) = sp.calls
  ncalls : s.calls = log.length
  kv : match hasKv with
    | true => s.kv = some (logRun LogSt.init log).held ∧ s.offset = (logRun LogSt.init log).pos ∧
        s.enc = (logRun LogSt.init log).enc ∧ (logRun LogSt.init log).good = true
    | false => s.kv = none ∧ s.offset = 0 ∧ logOkNoKv log = true

theorem inv_init (hasKv : Bool) : Inv hasKv (State.init hasKv) Spec.init [] := by
  cases hasKv <;> constructor <;>
    simp [State.init, Spec.init, flagged, logRun, LogSt.init, logOkNoKv]

theorem generateImpl_call (r : Rule) (s : State) (lg : Bool) :
    (generateImpl r s lg).2 = callOf s lg true := by
  unfold generateImpl; cases s.kv <;> rfl

theorem generateImpl_tracked (s : State) (lg : Bool) :
    (generateImpl .tracked s lg).1.prev = s.prev ++ s.inputIds.drop s.recorded ∧
    (generateImpl .tracked s lg).1.calls = s.calls + 1 ∧
    (generateImpl .tracked s lg).1.recorded = (generateImpl .tracked s lg).1.inputIds.length := by
  unfold generateImpl; cases s.kv <;> exact ⟨rfl, rfl, rfl⟩

theorem inv_generateImpl (hasKv : Bool) (s : State) (sp : Spec) (log : List Call) (lg : Bool)
    (h : Inv hasKv s sp log) :
    Inv hasKv (generateImpl .tracked s lg).1 (sp.feed hasKv)
      (log ++ [(generateImpl .tracked s lg).2]) := by
  obtain ⟨hrec, hpend, hprev, hcalls, hn, hkv⟩ := h
  obtain ⟨hp, hcl, hr⟩ := generateImpl_tracked s lg
  have hc := generateImpl_call .tracked s lg
  refine ⟨Nat.le_of_eq hr, ?_, by rw [hp, hprev]; simp [Spec.feed, hpend, flagged_fresh],
    by rw [hc]; simp [Spec.feed, hpend, flagged_toks, hcalls, callOf], by rw [hcl, hn]; simp, ?_⟩
  · rw [hr, flagged_all]
    cases hasKv with
    | true => simp [generateImpl, hkv.1, Spec.feed]
    | false => simp [generateImpl, hkv.1, Spec.feed, hpend, flagged_clear]
  · cases hasKv with
    | true =>
      obtain ⟨hk, hoffs, henc, hgood⟩ := hkv
      have hidx : (logRun LogSt.init log).idx = log.length := by rw [logRun_idx]; simp [LogSt.init]
      rw [logRun_append]
      simp only [generateImpl, logStep, callOf, hk, hoffs, henc, hgood, hidx, hn,
        beq_self_eq_true, Bool.and_self, ↓reduceIte]
      cases (logRun LogSt.init log).held <;> simp
    | false =>
      obtain ⟨hk, hoffs, hlog⟩ := hkv
      rw [logOkNoKv_append]
      simp [generateImpl, hlog, hoffs, hk, callOf]

theorem inv_generateFail (hasKv : Bool) (s : State) (sp : Spec) (log : List Call) (lg : Bool)
    (h : Inv hasKv s sp log) :
    Inv hasKv (generateFail s lg).1 sp.feedFail (log ++ [(generateFail s lg).2]) := by
  obtain ⟨hrec, hpend, hprev, hcalls, hn, hkv⟩ := h
  simp only [generateFail]
  refine ⟨hrec, hpend, hprev, by simp [Spec.feedFail, hpend, flagged_toks, hcalls, callOf],
    by simp [hn], ?_⟩
  cases hasKv with
  | true =>
    obtain ⟨hk, hoffs, henc, hgood⟩ := hkv
    rw [logRun_append]
    simp [logStep, callOf, hk, hoffs, henc, hgood]
  | false =>
    obtain ⟨hk, hoffs, hlog⟩ := hkv
    rw [logOkNoKv_append]
    simp [hlog, hoffs, hk, callOf]

theorem inv_step (hasKv : Bool) (s : State) (sp : Spec) (log : List Call) (op : Op)
    (h : Inv hasKv s sp log) :
    Inv hasKv (step .tracked s op).st (sp.step hasKv op)
      (log ++ (step .tracked s op).call.toList) := by
  cases op with
  | withPrompt _ | clear =>
    obtain ⟨hrec, hpend, hprev, hcalls, hn, hkv⟩ := h
    simp only [step, Spec.step, Option.toList, List.append_nil]
    exact ⟨by simp, by simp [flagged], hprev, hcalls, hn, hkv⟩
  | append p =>
    obtain ⟨hrec, hpend, hprev, hcalls, hn, hkv⟩ := h
    simp only [step, Spec.step, Option.toList, List.append_nil]
    have hp : sp.pend ++ p.map (·, true) = flagged (s.inputIds ++ p) s.recorded := by
      simp [hpend, flagged, List.take_append_of_le_length hrec, List.drop_append_of_le_length hrec]
    exact ⟨by simp; omega, hp, hprev, hcalls, hn, hkv⟩
  | process | nextBadLogits =>
    simpa [step, Spec.step, Option.toList] using inv_generateImpl hasKv s sp log _ h
  | processFail | nextFail =>
    simpa [step, Spec.step, Option.toList] using inv_generateFail hasKv s sp log _ h
  | nextEmpty =>
    have hg := inv_generateImpl hasKv s sp log true h
    by_cases he : s.inputIds.isEmpty = true <;>
      simpa [step, Spec.step, Option.toList, he] using hg
  | next t =>
    have hg := inv_generateImpl hasKv s sp log true h
    have hpe : sp.pend.isEmpty = s.inputIds.isEmpty := by rw [h.pend, flagged_isEmpty]
    by_cases he : s.inputIds.isEmpty = true
    · simpa [step, Spec.step, Option.toList, he, hpe] using hg
    · simp only [step, Spec.step, he, hpe, Option.toList, Bool.false_eq_true, ↓reduceIte]
      obtain ⟨grec, gpend, gprev, gcalls, gn, gkv⟩ := hg
      -- after a successful run everything pending is recorded, so the sampled token is the
      -- only pending token that is already in the history
      have hr := (generateImpl_tracked s true).2.2
      exact ⟨by simp; exact grec, by rw [hr, flagged_snoc_all, gpend, hr, flagged_all],
        by simp [gprev], gcalls, gn, gkv⟩

theorem inv_runFrom (hasKv : Bool) (ops : List Op) (s : State) (sp : Spec) (log : List Call)
    (h : Inv hasKv s sp log) :
    Inv hasKv (runFrom .tracked s ops).1 (Spec.runFrom hasKv sp ops)
      (log ++ (runFrom .tracked s ops).2) := by
  induction ops generalizing s sp log with
  | nil => simpa [runFrom, Spec.runFrom] using h
  | cons op ops ih =>
    have h1 := inv_step hasKv s sp log op h
    have h2 := ih _ _ _ h1
    simpa [runFrom, Spec.runFrom, List.append_assoc] using h2

theorem inv_run (hasKv : Bool) (ops : List Op) :
    Inv hasKv (run .tracked hasKv ops).1 (Spec.run hasKv ops) (run .tracked hasKv ops).2 := by
  have h := inv_runFrom hasKv ops _ _ _ (inv_init hasKv)
  simpa [run, Spec.run] using h

/-! ## `prev_tokens` is write-only

Nothing in a step reads `prev_tokens` or the recording rule except to compute the next
`prev_tokens`; so two generators that differ only there make the same model calls. -/

theorem generateImpl_prev (r r' : Rule) (s : State) (p : List Nat) (lg : Bool) :
    ∃ q, generateImpl r' { s with prev := p } lg =
      ({ (generateImpl r s lg).1 with prev := q }, (generateImpl r s lg).2) := by
  cases hk : s.kv <;> simp only [generateImpl, callOf, hk] <;> exact ⟨_, rfl⟩

theorem step_prev (r r' : Rule) (s : State) (p : List Nat) (op : Op) :
    (step r' { s with prev := p } op).call = (step r s op).call ∧
    ∃ q, (step r' { s with prev := p } op).st = { (step r s op).st with prev := q } := by
  have gen := generateImpl_prev r r' s p
  cases op with
  | process =>
    obtain ⟨q, h⟩ := gen false
    simp only [step, h, true_and]
    exact ⟨_, rfl⟩
  | nextBadLogits =>
    obtain ⟨q, h⟩ := gen true
    simp only [step, h, true_and]
    exact ⟨_, rfl⟩
  | next t | nextEmpty =>
    obtain ⟨q, h⟩ := gen true
    simp only [step, h]
    split <;> exact ⟨rfl, _, rfl⟩
  | _ => exact ⟨rfl, _, rfl⟩

theorem runFrom_prev (r r' : Rule) (ops : List Op) (s : State) (p : List Nat) :
    (runFrom r' { s with prev := p } ops).2 = (runFrom r s ops).2 := by
  induction ops generalizing s p with
  | nil => rfl
  | cons op ops ih =>
    obtain ⟨hc, q, hq⟩ := step_prev r r' s p op
    simp only [runFrom, hc, hq, ih]

theorem step_call_ok (r : Rule) (s : State) (op : Op) (hf : op.isFail = false) :
    ∀ c, (step r s op).call = some c → c.ok = true := by
  intro c hc
  have gen := fun lg => congrArg Call.ok (generateImpl_call r s lg)
  cases op with
  | processFail | nextFail => cases hf
  | withPrompt _ | append _ | clear => cases hc
  | process | nextBadLogits => cases hc; exact gen _
  | nextEmpty | next t => simp only [step] at hc; split at hc <;> cases hc <;> exact gen true

theorem runFrom_all_ok (r : Rule) (ops : List Op) (s : State)
    (hops : ∀ op ∈ ops, op.isFail = false) : ∀ c ∈ (runFrom r s ops).2, c.ok = true := by
  induction ops generalizing s with
  | nil => simp [runFrom]
  | cons op ops ih =>
    intro c hc
    simp only [runFrom, List.mem_append] at hc
    rcases hc with hc | hc
    · have hf := hops op List.mem_cons_self
      cases hcall : (step r s op).call with
      | none => simp [hcall] at hc
      | some d =>
        simp only [hcall, Option.toList, List.mem_singleton] at hc
        subst hc
        exact step_call_ok r s op hf c hcall
    · exact ih _ (fun o ho => hops o (List.mem_cons_of_mem _ ho)) c hc

/-! ## Models without KV cache: the whole recorded history is fed again -/

/-- `prev_tokens` is the already-recorded prefix of the pending tokens. -/
def Refeed (s : State) : Prop :=
  s.kv = none ∧ s.recorded ≤ s.inputIds.length ∧ s.prev = s.inputIds.take s.recorded

theorem refeed_step (s : State) (op : Op) (h : Refeed s) (hd : op.discards = false) :
    Refeed (step .tracked s op).st := by
  obtain ⟨hkv, hrec, hprev⟩ := h
  cases op with
  | withPrompt _ | clear => simp [Op.discards] at hd
  | append p =>
    refine ⟨hkv, by simp [step]; omega, ?_⟩
    simp [step, hprev, List.take_append_of_le_length hrec]
  | process | nextBadLogits => simp [step, generateImpl, hkv, Refeed, hprev]
  | processFail | nextFail => simp [step, generateFail, hkv, Refeed, hprev, hrec]
  | nextEmpty =>
    by_cases he : s.inputIds.isEmpty = true <;>
      simp [step, generateImpl, hkv, Refeed, hprev, he]
  | next t =>
    by_cases he : s.inputIds.isEmpty = true
    · simp [step, generateImpl, hkv, Refeed, hprev, he]
    · have ht : List.take (s.inputIds.length + 1) (s.inputIds ++ [t]) = s.inputIds ++ [t] := by
        apply List.take_of_length_le; simp
      simp [step, generateImpl, hkv, Refeed, hprev, he, ht]

theorem refeed_runFrom (ops : List Op) (s : State) (h : Refeed s)
    (hd : ∀ op ∈ ops, op.discards = false) : Refeed (runFrom .tracked s ops).1 := by
  induction ops generalizing s with
  | nil => simpa [runFrom] using h
  | cons op ops ih =>
    simp only [runFrom]
    exact ih _ (refeed_step s op h (hd op List.mem_cons_self))
      (fun o ho => hd o (List.mem_cons_of_mem _ ho))

/-! ## Every submitted token is fed exactly once (KV cache) -/

theorem fed_okCalls_append (l : List Call) (c : Call) :
    fed (okCalls (l ++ [c])) = fed (okCalls l) ++ (if c.ok then c.toks else []) := by
  cases h : c.ok <;> simp [fed, okCalls, List.filter_append, h]

theorem take_sub_append (acc xs : List Nat) :
    (acc ++ xs).take ((acc ++ xs).length - xs.length) = acc := by
  simp

/-- `Sub` is the specification with the call boundaries forgotten: the tokens of its successful
calls followed by the pending ones.  So "fed exactly once" is a fact about `Spec` and `Sub`
alone, and reaches the generator through `Inv`. -/
def SubOf (sp : Spec) : Sub :=
  ⟨(sp.calls.filter (·.2)).flatMap (·.1) ++ sp.pend.map (·.1), sp.pend.length⟩

theorem subOf_step (sp : Spec) (op : Op) : (SubOf sp).step op = SubOf (sp.step true op) := by
  cases op with
  | next t =>
    by_cases he : sp.pend = [] <;>
      simp [SubOf, Sub.step, Spec.step, Spec.feed, List.filter_append, he]
  | _ => simp [SubOf, Sub.step, Spec.step, Spec.feed, Spec.feedFail, List.filter_append,
      Function.comp_def]

theorem subOf_run (ops : List Op) (sp : Spec) :
    ops.foldl Sub.step (SubOf sp) = SubOf (Spec.runFrom true sp ops) := by
  induction ops generalizing sp with
  | nil => rfl
  | cons op ops ih => rw [List.foldl_cons, subOf_step, ih]; rfl

theorem fed_okCalls_eq (log : List Call) :
    fed (okCalls log) = ((log.map fun c => (c.toks, c.ok)).filter (·.2)).flatMap (·.1) := by
  induction log with
  | nil => rfl
  | cons c cs ih => cases h : c.ok <;> simp_all [fed, okCalls]

theorem runFrom_appends (r : Rule) (s : State) (ps : List (List Nat)) (rest : List Op) :
    runFrom r s (ps.map Op.append ++ rest) =
      runFrom r { s with inputIds := s.inputIds ++ ps.flatten } rest := by
  induction ps generalizing s with
  | nil => simp
  | cons p ps ih =>
    simp only [List.map_cons, List.cons_append, runFrom, step, Option.toList, List.nil_append]
    rw [ih]
    simp [List.append_assoc]

end RtenVerif.Generator
