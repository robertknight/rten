import RtenVerif.Model.Bpe

/-! The BPE model (`bpe_merge`): the in-place loop computes the functional `replacePairs`, `minByKey` is the
leftmost minimum, a round shortens the list (so surplus fuel changes nothing), and a reading of token lists
under which a merge result stands for its two parts survives merging (`replacePairs_inv`, `bpeMergeFuel_inv`). -/
namespace RtenVerif.Bpe

set_option linter.unusedSectionVars false

variable {α : Type} [DecidableEq α]

omit [DecidableEq α] in
theorem windows2_eq_zip : ∀ (l : List α), windows2 l = l.zip l.tail
  | [] => rfl
  | [_] => rfl
  | a :: b :: r => by rw [windows2, windows2_eq_zip (b :: r)]; rfl

theorem windows2_mem {l : List α} {p : α × α} (h : p ∈ windows2 l) : p.1 ∈ l ∧ p.2 ∈ l := by
  rw [windows2_eq_zip] at h
  exact ⟨(List.of_mem_zip h).1, List.mem_of_mem_tail (List.of_mem_zip h).2⟩

theorem windows2_length (l : List α) : (windows2 l).length = l.length - 1 := by
  rw [windows2_eq_zip, List.length_zip, List.length_tail]; omega

theorem windows2_map {β : Type} (f : α → β) (l : List α) :
    windows2 (l.map f) = (windows2 l).map (fun p => (f p.1, f p.2)) := by
  rw [windows2_eq_zip, windows2_eq_zip, ← List.map_tail, List.zip_map]; rfl

theorem replacePairs_nil (f s m : α) : replacePairs f s m [] = [] := rfl
theorem replacePairs_single (f s m x : α) : replacePairs f s m [x] = [x] := rfl
theorem replacePairs_cons_cons (f s m x y : α) (rest : List α) :
    replacePairs f s m (x :: y :: rest) =
      if x = f ∧ y = s then m :: replacePairs f s m rest
      else x :: replacePairs f s m (y :: rest) := by
  cases rest <;> simp [replacePairs, replaceGo]

theorem replacePairs_induct (f s : α) (motive : List α → Prop)
    (nil : motive []) (single : ∀ x, motive [x])
    (hit : ∀ x y rest, x = f ∧ y = s → motive rest → motive (x :: y :: rest))
    (miss : ∀ x y rest, ¬ (x = f ∧ y = s) → motive (y :: rest) → motive (x :: y :: rest)) :
    ∀ l, motive l := by
  intro l
  have : ∀ n, ∀ l : List α, l.length ≤ n → motive l := by
    intro n
    induction n with
    | zero => intro l h; cases l with | nil => exact nil | cons => simp at h
    | succ n ih =>
      intro l h
      match l, h with
      | [], _ => exact nil
      | [x], _ => exact single x
      | x :: y :: rest, h =>
        simp only [List.length_cons] at h
        by_cases hc : x = f ∧ y = s
        · exact hit x y rest hc (ih rest (by omega))
        · exact miss x y rest hc (ih (y :: rest) (by simp only [List.length_cons]; omega))
  exact this l.length l (Nat.le_refl _)

/-- A reading `I` of token lists that cannot tell `f, s` from `m` in any context is kept by the
replacement pass. -/
theorem replacePairs_inv (I : List α → Prop) (f s m : α)
    (hI : ∀ pre post, I (pre ++ f :: s :: post) → I (pre ++ m :: post)) (l : List α) :
    ∀ pre, I (pre ++ l) → I (pre ++ replacePairs f s m l) := by
  induction l using replacePairs_induct f s with
  | nil => exact fun _ h => h
  | single x => exact fun _ h => h
  | hit x y rest hc ih =>
    intro pre h
    rw [hc.1, hc.2] at h
    have := ih (pre ++ [m]) (by simpa using hI pre rest h)
    rw [replacePairs_cons_cons, if_pos hc]
    simpa using this
  | miss x y rest hc ih =>
    intro pre h
    have := ih (pre ++ [x]) (by simpa using h)
    rw [replacePairs_cons_cons, if_neg hc]
    simpa using this

theorem replacePairs_length_le (f s m : α) (l : List α) :
    (replacePairs f s m l).length ≤ l.length :=
  replacePairs_inv (·.length ≤ l.length) f s m
    (fun pre post h => by simp only [List.length_append, List.length_cons] at h ⊢; omega) l []
    (Nat.le_refl _)

/-- **T1 core**: if the pair occurs, the replacement strictly shortens the list. -/
theorem replacePairs_length_lt (f s m : α) (l : List α) (h : (f, s) ∈ windows2 l) :
    (replacePairs f s m l).length < l.length := by
  induction l using replacePairs_induct f s with
  | nil => simp [windows2] at h
  | single x => simp [windows2] at h
  | hit x y rest hc ih =>
    have := replacePairs_length_le f s m rest
    rw [replacePairs_cons_cons, if_pos hc]; simp only [List.length_cons]; omega
  | miss x y rest hc ih =>
    simp only [windows2, List.mem_cons, Prod.mk.injEq] at h
    rcases h with h | h
    · exact absurd ⟨h.1.symm, h.2.symm⟩ hc
    · have := ih h
      rw [replacePairs_cons_cons, if_neg hc]
      simp only [List.length_cons] at this ⊢; omega

/-- **T2 core**: the in-place loop started at index `pre.length` on `pre ++ suf` leaves `pre`
alone and performs the functional replacement on `suf`. -/
theorem replaceLoop_append (f s m : α) :
    ∀ (fuel : Nat) (pre suf : List α), suf.length ≤ fuel →
      replaceLoop f s m fuel pre.length (pre ++ suf) = pre ++ replacePairs f s m suf := by
  intro fuel
  induction fuel with
  | zero =>
    intro pre suf h
    rw [List.eq_nil_of_length_eq_zero (Nat.le_zero.mp h)]
    rfl
  | succ n ih =>
    intro pre suf h
    match suf, h with
    | [], _ => simp [replaceLoop, replacePairs]; omega
    | [x], _ => simp [replaceLoop, replacePairs, replaceGo]
    | x :: y :: rest, h =>
      have hlt : pre.length < (pre ++ x :: y :: rest).length - 1 := by
        simp only [List.length_append, List.length_cons]; omega
      have h0 : (pre ++ x :: y :: rest)[pre.length]? = some x := by simp
      have h1 : (pre ++ x :: y :: rest)[pre.length + 1]? = some y := by
        rw [List.getElem?_append_right (by omega)]; simp
      rw [replaceLoop, if_pos hlt, h0, h1, replacePairs_cons_cons]
      simp only [Option.some.injEq]
      by_cases hc : x = f ∧ y = s
      · have hset : ((pre ++ x :: y :: rest).set pre.length m).eraseIdx (pre.length + 1)
            = (pre ++ [m]) ++ rest := by
          rw [List.set_append_right _ _ (Nat.le_refl _), Nat.sub_self, List.set_cons_zero,
            List.eraseIdx_append_of_length_le (by omega)]
          simp
        have := ih (pre ++ [m]) rest (by simp only [List.length_cons] at h; omega)
        rw [List.length_append, List.length_singleton] at this
        rw [if_pos hc, if_pos hc, hset, this, List.append_assoc]; rfl
      · have := ih (pre ++ [x]) (y :: rest) (by simp only [List.length_cons] at h ⊢; omega)
        rw [List.length_append, List.length_singleton] at this
        rw [if_neg hc, if_neg hc]
        simpa using this

theorem replaceLoop_eq (f s m : α) (l : List α) :
    replaceLoop f s m l.length 0 l = replacePairs f s m l := by
  simpa using replaceLoop_append f s m l.length [] l (Nat.le_refl _)

theorem foldl_min_cons {β : Type} (key : β → Nat) : ∀ (ys : List β) (a y : β),
    (y :: ys).foldl (fun best z => if key z < key best then z else best) a =
      if key a ≤ key (ys.foldl (fun best z => if key z < key best then z else best) y) then a
      else ys.foldl (fun best z => if key z < key best then z else best) y := by
  intro ys
  induction ys with
  | nil =>
    intro a y
    show (if key y < key a then y else a) = if key a ≤ key y then a else y
    by_cases h : key y < key a
    · rw [if_pos h, if_neg (by omega)]
    · rw [if_neg h, if_pos (by omega)]
  | cons z zs ih =>
    intro a y
    have e := ih y z
    rw [List.foldl_cons, ih (if key y < key a then y else a) z, e]
    generalize zs.foldl (fun best z => if key z < key best then z else best) z = w
    by_cases h1 : key y < key a
    · rw [if_pos h1]
      by_cases h2 : key y ≤ key w
      · rw [if_pos h2, if_neg (by omega)]
      · rw [if_neg h2, if_neg (by omega)]
    · rw [if_neg h1]
      by_cases h2 : key y ≤ key w
      · rw [if_pos h2, if_pos (by omega), if_pos (by omega)]
      · rw [if_neg h2]

theorem minByKey_cons {β : Type} (key : β → Nat) (x : β) (xs : List β) :
    minByKey key (x :: xs) =
      match minByKey key xs with
      | none => some x
      | some b => if key x ≤ key b then some x else some b := by
  cases xs with
  | nil => rfl
  | cons y ys =>
    simp only [minByKey]
    rw [foldl_min_cons]
    split <;> rfl

theorem minByKey_eq_none {β : Type} (key : β → Nat) {l : List β} :
    minByKey key l = none ↔ l = [] := by
  cases l <;> simp [minByKey]

/-- `minByKey` returns the **leftmost** element of minimal key: everything before it has a strictly
larger key, everything after it a key at least as large (Rust `min_by_key` keeps the first of
several equally minimal elements). -/
theorem minByKey_first {β : Type} (key : β → Nat) {l : List β} {x : β}
    (h : minByKey key l = some x) :
    ∃ pre post, l = pre ++ x :: post ∧ (∀ y ∈ pre, key x < key y) ∧ ∀ y ∈ post, key x ≤ key y := by
  induction l generalizing x with
  | nil => cases h
  | cons a t ih =>
    rw [minByKey_cons] at h
    cases hm : minByKey key t with
    | none =>
      simp only [hm] at h
      rw [(minByKey_eq_none key).mp hm, ← Option.some.inj h]
      exact ⟨[], [], rfl, nofun, nofun⟩
    | some b =>
      obtain ⟨pre, post, ht, hpre, hpost⟩ := ih hm
      simp only [hm] at h
      by_cases hab : key a ≤ key b
      · rw [if_pos hab] at h
        rw [← Option.some.inj h]
        refine ⟨[], t, rfl, nofun, fun y hy => ?_⟩
        rw [ht, List.mem_append, List.mem_cons] at hy
        rcases hy with hy | rfl | hy
        · exact Nat.le_trans hab (Nat.le_of_lt (hpre y hy))
        · exact hab
        · exact Nat.le_trans hab (hpost y hy)
      · rw [if_neg hab] at h
        rw [← Option.some.inj h, ht]
        refine ⟨a :: pre, post, rfl, fun y hy => ?_, hpost⟩
        rcases List.mem_cons.mp hy with rfl | hy
        · omega
        · exact hpre y hy

theorem minByKey_mem {β : Type} (key : β → Nat) {l : List β} {x : β}
    (h : minByKey key l = some x) : x ∈ l := by
  obtain ⟨pre, post, rfl, _⟩ := minByKey_first key h
  simp

theorem minByKey_le {β : Type} (key : β → Nat) {l : List β} {x : β}
    (h : minByKey key l = some x) : ∀ y ∈ l, key x ≤ key y := by
  obtain ⟨pre, post, rfl, hpre, hpost⟩ := minByKey_first key h
  intro y hy
  rw [List.mem_append, List.mem_cons] at hy
  rcases hy with hy | rfl | hy
  · exact Nat.le_of_lt (hpre y hy)
  · exact Nat.le_refl _
  · exact hpost y hy

theorem minByKey_map {β γ : Type} (key : β → Nat) (key' : γ → Nat) (g : β → γ)
    (hk : ∀ x, key' (g x) = key x) (l : List β) :
    minByKey key' (l.map g) = (minByKey key l).map g := by
  induction l with
  | nil => rfl
  | cons a t ih =>
    rw [List.map_cons, minByKey_cons, minByKey_cons, ih]
    cases minByKey key t with
    | none => rfl
    | some b => simp only [Option.map_some, hk]; split <;> rfl

theorem lookup_mem {m : MergeMap α} {p : α × α} {v : Nat × α} (h : lookup m p = some v) :
    (p, v) ∈ m := by
  induction m with
  | nil => cases h
  | cons e rest ih =>
    rw [lookup] at h
    split at h
    · cases h; subst ‹e.1 = p›; exact List.mem_cons_self
    · exact List.mem_cons_of_mem _ (ih h)

theorem candidates_mem {m : MergeMap α} {toks : List α} {c : (α × α) × (Nat × α)}
    (h : c ∈ candidates m toks) : c.1 ∈ windows2 toks ∧ lookup m c.1 = some c.2 := by
  simp only [candidates, List.mem_filterMap, Option.map_eq_some_iff] at h
  obtain ⟨p, hp, r, hr, rfl⟩ := h
  exact ⟨hp, hr⟩

theorem findMinPair_some {m : MergeMap α} {toks : List α} {c : (α × α) × (Nat × α)}
    (h : findMinPair m toks = some c) : c.1 ∈ windows2 toks ∧ lookup m c.1 = some c.2 :=
  candidates_mem (minByKey_mem _ h)

/-- The inner loop's `tokens.len() - 1` never underflows: it is only reached with ≥ 2 tokens. -/
theorem findMinPair_some_length {m : MergeMap α} {toks : List α} {c : (α × α) × (Nat × α)}
    (h : findMinPair m toks = some c) : 2 ≤ toks.length := by
  have h1 := (findMinPair_some h).1
  have h2 : 0 < (windows2 toks).length := List.length_pos_of_mem h1
  rw [windows2_length] at h2; omega

theorem mergeRound_eq (m : MergeMap α) (toks : List α) :
    mergeRound m toks =
      (findMinPair m toks).map (fun c => replacePairs c.1.1 c.1.2 c.2.2 toks) := by
  unfold mergeRound
  cases h : findMinPair m toks with
  | none => rfl
  | some c =>
    obtain ⟨⟨f, s⟩, ⟨r, mid⟩⟩ := c
    simp only [Option.map_some, replaceLoop_eq]

theorem mergeRound_length_lt {m : MergeMap α} {toks t' : List α}
    (h : mergeRound m toks = some t') : t'.length < toks.length := by
  rw [mergeRound_eq] at h
  cases hf : findMinPair m toks with
  | none => simp [hf] at h
  | some c =>
    simp only [hf, Option.map_some, Option.some.injEq] at h
    subst h
    exact replacePairs_length_lt _ _ _ _ (findMinPair_some hf).1

theorem mergeRound_nil (m : MergeMap α) : mergeRound m ([] : List α) = none := by
  simp [mergeRound, findMinPair, candidates, windows2, minByKey]

theorem bpeMergeFuel_fixpoint (m : MergeMap α) :
    ∀ (n : Nat) (toks : List α), toks.length ≤ n → mergeRound m (bpeMergeFuel m n toks) = none := by
  intro n toks h
  fun_induction bpeMergeFuel m n toks with
  | case1 toks => rw [List.length_eq_zero_iff.mp (Nat.le_zero.mp h)]; exact mergeRound_nil m
  | case2 n toks hr => exact hr
  | case3 n toks t' hr ih => exact ih (by have := mergeRound_length_lt hr; omega)

theorem bpeMergeFuel_stable (m : MergeMap α) :
    ∀ (n k : Nat) (toks : List α), toks.length ≤ n → toks.length ≤ k →
      bpeMergeFuel m n toks = bpeMergeFuel m k toks := by
  intro n k toks h hk
  fun_induction bpeMergeFuel m n toks generalizing k with
  | case1 toks =>
    rw [List.length_eq_zero_iff.mp (Nat.le_zero.mp h)]
    cases k <;> simp [bpeMergeFuel, mergeRound_nil]
  | case2 n toks hr => cases k <;> simp [bpeMergeFuel, hr]
  | case3 n toks t' hr ih =>
    have := mergeRound_length_lt hr
    cases k with
    | zero => omega
    | succ k => simp only [bpeMergeFuel, hr]; exact ih k (by omega) (by omega)

/-- **The invariant of `bpe_merge`**: a reading of token lists under which every merge entry's
result stands for its two parts (in any context) survives merging. -/
theorem bpeMergeFuel_inv (M : MergeMap α) (I : List α → Prop)
    (hI : ∀ a b r m, lookup M (a, b) = some (r, m) →
      ∀ pre post, I (pre ++ a :: b :: post) → I (pre ++ m :: post)) :
    ∀ (n : Nat) (toks : List α), I toks → I (bpeMergeFuel M n toks) := by
  intro n toks h
  fun_induction bpeMergeFuel M n toks with
  | case1 toks => exact h
  | case2 n toks hr => exact h
  | case3 n toks t' hr ih =>
    rw [mergeRound_eq] at hr
    obtain ⟨c, hc, rfl⟩ := Option.map_eq_some_iff.mp hr
    exact ih (replacePairs_inv I _ _ _ (hI _ _ c.2.1 _ (findMinPair_some hc).2) toks [] h)

/-- The inner loop with the `usize` subtraction made partial: `none` where `tokens.len() - 1`
would underflow (panic in debug, wrap + out-of-bounds index in release). -/
def replaceLoopChecked (first second merged : α) : Nat → Nat → List α → Option (List α)
  | 0, _, toks => some toks
  | fuel + 1, i, toks =>
    if toks.length = 0 then none
    else if i < toks.length - 1 then
      if toks[i]? = some first ∧ toks[i + 1]? = some second then
        replaceLoopChecked first second merged fuel (i + 1) ((toks.set i merged).eraseIdx (i + 1))
      else
        replaceLoopChecked first second merged fuel (i + 1) toks
    else some toks

/-- Loop invariant: started on a non-empty vector the checked loop never hits the underflow, at
any iteration (a merge happens only at `i < len - 1`, i.e. `len ≥ 2`, and removes one element),
and computes what the unchecked model computes. -/
theorem replaceLoopChecked_eq (f s m : α) :
    ∀ (fuel i : Nat) (toks : List α), toks ≠ [] →
      replaceLoopChecked f s m fuel i toks = some (replaceLoop f s m fuel i toks) := by
  intro fuel
  induction fuel with
  | zero => intro i toks _; rfl
  | succ n ih =>
    intro i toks hne
    have hlen : toks.length ≠ 0 := fun h => hne (List.length_eq_zero_iff.mp h)
    simp only [replaceLoopChecked, replaceLoop, hlen, if_false]
    by_cases hi : i < toks.length - 1
    · simp only [hi, if_true]
      by_cases hc : toks[i]? = some f ∧ toks[i + 1]? = some s
      · simp only [hc, and_self, if_true]
        apply ih
        intro he
        have : ((toks.set i m).eraseIdx (i + 1)).length = 0 := by rw [he]; rfl
        rw [List.length_eraseIdx] at this
        simp only [List.length_set] at this
        split at this <;> omega
      · simp only [hc, if_false]
        exact ih _ _ hne
    · simp only [hi, if_false]

end RtenVerif.Bpe
