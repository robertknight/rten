import RtenVerif.Model.PlanCache
import RtenVerif.Lemmas.PlannerSpec
import RtenVerif.Props.C03
/-!
The plan cache of `Graph::get_cached_plan` (C22, C26).  A hit hands out a plan made for a permutation of
the request; that it is a plan for the request rests on `PlanOK` (C03) depending on the supplied and
requested ids only as sets (`PlanOK_congr`).
-/
namespace RtenVerif.PlanCache
open RtenVerif.Graph RtenVerif.Planner

theorem insertSorted_perm (x : Nat) (l : List Nat) : (insertSorted x l).Perm (x :: l) := by
  induction l with
  | nil => exact List.Perm.refl _
  | cons y ys ih =>
    simp only [insertSorted]
    split
    · exact List.Perm.refl _
    · exact (List.Perm.cons y ih).trans (List.Perm.swap x y ys)

theorem sortIds_perm (l : List Nat) : (sortIds l).Perm l := by
  induction l with
  | nil => exact List.Perm.refl _
  | cons x xs ih => exact (insertSorted_perm x (sortIds xs)).trans (List.Perm.cons x ih)

theorem perm_of_sortIds_eq {a b : List Nat} (h : sortIds a = sortIds b) : a.Perm b :=
  (sortIds_perm a).symm.trans (h ▸ sortIds_perm b)

theorem rContains_congr {g : Graph} {r r' : List Nat} (h : ∀ v, v ∈ r ↔ v ∈ r') (d : Nat) :
    rContains g r d = rContains g r' d :=
  Bool.eq_iff_iff.mpr (by rw [rContains_iff, rContains_iff, h d])

theorem Avail_congr {g : Graph} {am : Bool} {r r' : List Nat} (h : ∀ v, v ∈ r ↔ v ∈ r') {d : Nat} :
    Avail g am r d ↔ Avail g am r' d := by
  unfold Avail
  rw [rContains_congr h]

theorem ValidIds_congr {g : Graph} {am : Bool} :
    ∀ (plan : List Nat) {r r' : List Nat}, (∀ v, v ∈ r ↔ v ∈ r') →
      ValidIds g am r plan → ValidIds g am r' plan := by
  intro plan
  induction plan with
  | nil => intro _ _ _ _; trivial
  | cons i is ih =>
    intro r r' h hv
    obtain ⟨⟨op, hop, hd⟩, hrest⟩ := hv
    refine ⟨⟨op, hop, fun d hdm => (Avail_congr h).mp (hd d hdm)⟩, ?_⟩
    apply ih _ hrest
    intro v
    simp only [List.mem_append, h v]

theorem Needed_congr {g : Graph} {r r' outs outs' : List Nat} (hr : ∀ v, v ∈ r ↔ v ∈ r')
    (ho : ∀ v, v ∈ outs ↔ v ∈ outs') {p : Nat} (h : Needed g r outs p) : Needed g r' outs' p := by
  induction h with
  | root hmem hrc hsrc =>
    exact Needed.root ((ho _).mp hmem) (by rw [← rContains_congr hr]; exact hrc) hsrc
  | step _ hxop hd hrc hsrc ih =>
    exact Needed.step ih hxop hd (by rw [← rContains_congr hr]; exact hrc) hsrc

theorem PlanOK_congr {g : Graph} {am : Bool} {r r' outs outs' plan : List Nat}
    (hr : ∀ v, v ∈ r ↔ v ∈ r') (ho : ∀ v, v ∈ outs ↔ v ∈ outs')
    (h : PlanOK g am r outs plan) : PlanOK g am r' outs' plan := by
  refine ⟨h.nodup, ValidIds_congr plan hr h.valid, ?_, fun i hi => Needed_congr hr ho (h.minimal i hi)⟩
  intro o ho'
  have := h.outputs o ((ho o).mpr ho')
  refine (Avail_congr ?_).mp this
  intro v
  simp only [availAfter, List.mem_append, hr v]

theorem argsOK_of_createPlan_ok {g : Graph} {ins outs plan : List Nat} {opts : PlanOptions}
    (h : createPlan g ins outs opts = .ok plan) : ArgsOK g ins outs := by
  apply Classical.byContradiction
  intro hbad
  obtain ⟨e, he, _⟩ := createPlan_err_of_not_argsOK opts hbad
  rw [he] at h
  cases h

theorem ArgsOK_perm {g : Graph} {ins ins' outs outs' : List Nat} (hi : ins.Perm ins')
    (ho : outs.Perm outs') (h : ArgsOK g ins outs) : ArgsOK g ins' outs' := by
  obtain ⟨h1, h2, h3, h4⟩ := h
  exact ⟨ho.nodup_iff.mp h1, fun o hm => h2 o (ho.mem_iff.mpr hm),
    hi.nodup_iff.mp h3, fun i hm => h4 i (hi.mem_iff.mpr hm)⟩

/-- Every cached entry was produced by a successful `create_plan` for the ids it is keyed by. -/
def CacheInv (g : Graph) (isSub : Bool) : Option CachedPlan → Prop
  | none => True
  | some c => ∃ ins outs, c = CachedPlan.new ins outs c.plan ∧
      createPlan g ins outs (cacheOpts isSub) = .ok c.plan

theorem matchesFixed_perm {c : CachedPlan} {ins0 outs0 ins outs : List Nat}
    (hc : c = CachedPlan.new ins0 outs0 c.plan) (h : matchesFixed c ins outs = true) :
    ins.Perm ins0 ∧ outs.Perm outs0 := by
  simp only [matchesFixed, Bool.and_eq_true, beq_iff_eq] at h
  obtain ⟨⟨_, hi⟩, ⟨_, ho⟩⟩ := h
  have h1 : c.inputs = sortIds ins0 := by rw [hc]; rfl
  have h2 : c.outputs = sortIds outs0 := by rw [hc]; rfl
  exact ⟨perm_of_sortIds_eq (hi.trans h1), perm_of_sortIds_eq (ho.trans h2)⟩

theorem getCachedPlan_cases (v : Ver) (g : Graph) (isSub : Bool) (cache : Option CachedPlan)
    (ins outs : List Nat) :
    (∃ c, cache = some c ∧ c.matches v ins outs = true ∧
      getCachedPlan v g isSub cache ins outs = (.ok c.plan, cache)) ∨
    (∃ p, createPlan g ins outs (cacheOpts isSub) = .ok p ∧
      getCachedPlan v g isSub cache ins outs = (.ok p, some (CachedPlan.new ins outs p))) ∨
    (∃ e, createPlan g ins outs (cacheOpts isSub) = .error e ∧
      getCachedPlan v g isSub cache ins outs = (.error e, cache)) := by
  have hmiss : ∀ {r}, r = (match createPlan g ins outs (cacheOpts isSub) with
        | .ok p => ((.ok p : Except PlanError (List Nat)), some (CachedPlan.new ins outs p))
        | .error e => (.error e, cache)) →
      (∃ p, createPlan g ins outs (cacheOpts isSub) = .ok p ∧
        r = (.ok p, some (CachedPlan.new ins outs p))) ∨
      (∃ e, createPlan g ins outs (cacheOpts isSub) = .error e ∧ r = (.error e, cache)) := by
    intro r hr
    cases hp : createPlan g ins outs (cacheOpts isSub) with
    | ok p => exact Or.inl ⟨p, rfl, by rw [hr, hp]⟩
    | error e => exact Or.inr ⟨e, rfl, by rw [hr, hp]⟩
  cases cache with
  | none => exact Or.inr (hmiss rfl)
  | some c =>
    by_cases hm : c.matches v ins outs = true
    · exact Or.inl ⟨c, rfl, hm, by rw [getCachedPlan]; exact if_pos hm⟩
    · exact Or.inr (hmiss (by rw [getCachedPlan]; exact if_neg hm))

/-- `get_cached_plan` with the `matches` of the fix keeps the invariant, whatever the request. -/
theorem getCachedPlan_inv {g : Graph} {isSub : Bool} {cache : Option CachedPlan} (ins outs : List Nat)
    (h : CacheInv g isSub cache) : CacheInv g isSub (getCachedPlan .fixed g isSub cache ins outs).2 := by
  rcases getCachedPlan_cases .fixed g isSub cache ins outs with
    ⟨_, _, _, heq⟩ | ⟨p, hp, heq⟩ | ⟨_, _, heq⟩ <;> rw [heq]
  · exact h
  · exact ⟨ins, outs, rfl, hp⟩
  · exact h

/-- **Hit or miss, the plan handed out is a valid plan for the request it is handed out for**
(C22.T1): the request's ids are well-formed and the plan satisfies C03's `PlanOK` for them. -/
theorem getCachedPlan_ok {g : Graph} {isSub : Bool} {cache : Option CachedPlan} {ins outs plan : List Nat}
    (hinv : CacheInv g isSub cache)
    (h : (getCachedPlan .fixed g isSub cache ins outs).1 = .ok plan) :
    ArgsOK g ins outs ∧ PlanOK g false (resolvedNew g ins isSub) outs plan := by
  rcases getCachedPlan_cases .fixed g isSub cache ins outs with
    ⟨c, rfl, hm, heq⟩ | ⟨p, hp, heq⟩ | ⟨_, _, heq⟩ <;> rw [heq] at h
  · -- a hit: the entry was planned for a permutation of the request
    obtain rfl := Except.ok.inj h
    obtain ⟨ins0, outs0, hc, hp⟩ := hinv
    obtain ⟨hpi, hpo⟩ := matchesFixed_perm hc hm
    have hargs0 := argsOK_of_createPlan_ok hp
    exact ⟨ArgsOK_perm hpi.symm hpo.symm hargs0,
      PlanOK_congr (fun v => by simp only [resolvedNew, List.mem_append, hpi.symm.mem_iff]; rfl)
        (fun v => hpo.symm.mem_iff)
        (c03_plan_ok hargs0 hp)⟩
  · obtain rfl := Except.ok.inj h
    have hargs := argsOK_of_createPlan_ok hp
    exact ⟨hargs, c03_plan_ok hargs hp⟩
  · cases h

theorem getCachedPlan_error {g : Graph} {isSub : Bool} {cache : Option CachedPlan}
    {ins outs : List Nat} {e : PlanError} {v : Ver}
    (h : (getCachedPlan v g isSub cache ins outs).1 = .error e) :
    createPlan g ins outs (cacheOpts isSub) = .error e := by
  rcases getCachedPlan_cases v g isSub cache ins outs with
    ⟨_, _, _, heq⟩ | ⟨_, _, heq⟩ | ⟨e', he, heq⟩ <;> rw [heq] at h
  · cases h
  · cases h
  · exact he.trans h

theorem getCachedPlan_cold (v : Ver) (g : Graph) (isSub : Bool) (ins outs : List Nat) :
    (getCachedPlan v g isSub none ins outs).1 = createPlan g ins outs (cacheOpts isSub) := by
  rcases getCachedPlan_cases v g isSub none ins outs with
    ⟨_, h, _⟩ | ⟨_, hp, heq⟩ | ⟨_, hp, heq⟩
  · cases h
  · rw [heq, hp]
  · rw [heq, hp]

/-- A hit is impossible: every cached key is well-formed. -/
theorem getCachedPlan_of_not_argsOK {g : Graph} {isSub : Bool} {cache : Option CachedPlan}
    {ins outs : List Nat} (hinv : CacheInv g isSub cache) (hbad : ¬ArgsOK g ins outs) :
    getCachedPlan .fixed g isSub cache ins outs =
      (createPlan g ins outs (cacheOpts isSub), cache) := by
  rcases getCachedPlan_cases .fixed g isSub cache ins outs with
    ⟨_, _, _, heq⟩ | ⟨_, _, heq⟩ | ⟨_, hp, heq⟩
  · exact absurd (getCachedPlan_ok hinv (by rw [heq])).1 hbad
  · exact absurd (getCachedPlan_ok hinv (by rw [heq])).1 hbad
  · rw [heq, hp]

/-! ## A cache that always sees the same request is transparent

`If` and `Loop` always issue the same `(input_ids, output_ids)` to the graph of a branch / body
(`If`: no inputs, the branch graph's `output_ids()`; `Loop`: the body graph's input ids in
order, its `output_ids()`), so the body graph's plan cache only ever sees one request.  For such a
cache a hit returns *exactly* what `create_plan` returns — not merely some valid plan. -/

theorem sortIds_length (l : List Nat) : (sortIds l).length = l.length := (sortIds_perm l).length_eq

theorem matchesFixed_new (ins outs p : List Nat) :
    matchesFixed (CachedPlan.new ins outs p) ins outs = true := by
  simp [matchesFixed, CachedPlan.new, sortIds_length]

/-- **A cache hit on the request the entry was created for returns exactly `create_plan`'s plan.** -/
theorem getCachedPlan_same_request {g : Graph} {isSub : Bool} {ins outs p : List Nat}
    (hp : createPlan g ins outs (cacheOpts isSub) = .ok p) :
    getCachedPlan .fixed g isSub (some (CachedPlan.new ins outs p)) ins outs =
      (createPlan g ins outs (cacheOpts isSub), some (CachedPlan.new ins outs p)) := by
  have hm : (CachedPlan.new ins outs p).matches .fixed ins outs = true := matchesFixed_new ins outs p
  simp only [getCachedPlan, hm, if_true, hp]
  rfl

/-- The states of a cache that has only ever seen the request `(ins, outs)`. -/
def FixedCache (g : Graph) (isSub : Bool) (ins outs : List Nat) : Option CachedPlan → Prop
  | none => True
  | some c => ∃ p, c = CachedPlan.new ins outs p ∧ createPlan g ins outs (cacheOpts isSub) = .ok p

/-- In such a state `get_cached_plan` for `(ins, outs)` is `create_plan` — hit or miss, success or
error — and the state stays of that form. -/
theorem getCachedPlan_fixed_request {g : Graph} {isSub : Bool} {ins outs : List Nat}
    {cache : Option CachedPlan} (h : FixedCache g isSub ins outs cache) :
    (getCachedPlan .fixed g isSub cache ins outs).1 = createPlan g ins outs (cacheOpts isSub) ∧
      FixedCache g isSub ins outs (getCachedPlan .fixed g isSub cache ins outs).2 := by
  rcases getCachedPlan_cases .fixed g isSub cache ins outs with
    ⟨c, rfl, _, heq⟩ | ⟨p, hp, heq⟩ | ⟨_, hp, heq⟩ <;> rw [heq]
  · obtain ⟨p, hc, hp⟩ := h
    exact ⟨by rw [hp, hc]; rfl, p, hc, hp⟩
  · exact ⟨hp.symm, p, rfl, hp⟩
  · exact ⟨hp.symm, h⟩

end RtenVerif.PlanCache
