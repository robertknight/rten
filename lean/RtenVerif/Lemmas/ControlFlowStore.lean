import RtenVerif.Model.ControlFlow
import RtenVerif.Lemmas.ListBasics

/-!
# Association lists of the control-flow model (`look`, `erase`, `lookups`) and the two primitives
that move a value out of a store: `CaptureEnv::take_input` and `take_value`

`look` is `List.lookup` (`look_eq_lookup`) and `erase` a filter on keys, so their facts are read off
core's lookup lemmas and those of `Lemmas/ListBasics.lean`.  By-value extraction is a loop of
`take_value`; what every such take preserves, the loop preserves (`extractByVal_induct`).
-/
namespace RtenVerif.ControlFlow

variable {P V : Type}

theorem look_cons (m : Nat) (v : V) (σ : Env V) (n : Nat) :
    look ((m, v) :: σ) n = if m = n then some v else look σ n := rfl

theorem look_eq_lookup : ∀ (σ : Env V) (n : Nat), look σ n = σ.lookup n
  | [], _ => rfl
  | (m, v) :: rest, n => by
    rw [look, List.lookup_cons, look_eq_lookup rest n]
    by_cases h : m = n
    · rw [if_pos h, h, beq_self_eq_true]
    · rw [if_neg h, beq_eq_false_iff_ne.mpr (Ne.symm h)]

theorem look_append (a b : Env V) (n : Nat) :
    look (a ++ b) n = match look a n with | some v => some v | none => look b n := by
  simp only [look_eq_lookup, List.lookup_append]
  cases a.lookup n <;> rfl

theorem look_append_left (a b : Env V) (n : Nat) (v : V) (h : look a n = some v) :
    look (a ++ b) n = some v := by rw [look_append, h]

theorem look_append_right {a : Env V} (b : Env V) {n : Nat} (h : look a n = none) :
    look (a ++ b) n = look b n := by rw [look_append, h]

theorem look_append_ne_none {a b : Env V} {n : Nat} (h : look (a ++ b) n ≠ none) :
    look a n ≠ none ∨ look b n ≠ none := by
  rw [look_append] at h
  cases ha : look a n with
  | some v => exact Or.inl (Option.some_ne_none v)
  | none => rw [ha] at h; exact Or.inr h

theorem mem_of_look (σ : Env V) (n : Nat) (v : V) (h : look σ n = some v) : (n, v) ∈ σ :=
  lookup_mem (look_eq_lookup σ n ▸ h)

theorem look_none_of_not_key (σ : Env V) (n : Nat) (h : n ∉ σ.map (·.1)) : look σ n = none :=
  (look_eq_lookup σ n).trans (lookup_eq_none_iff_keys.mpr h)

theorem key_of_look {σ : Env V} {n : Nat} (h : look σ n ≠ none) : n ∈ σ.map (·.1) :=
  Decidable.by_contra fun hk => h (look_none_of_not_key σ n hk)

theorem look_zip_key {outs : List Nat} {r : List V} {n : Nat} (h : look (outs.zip r) n ≠ none) :
    n ∈ outs := by
  obtain ⟨p, hp, rfl⟩ := List.mem_map.mp (key_of_look h)
  exact (List.of_mem_zip hp).1

theorem look_erase (σ : Env V) (n m : Nat) :
    look (erase σ n) m = if m = n then none else look σ m := by
  rw [look_eq_lookup, look_eq_lookup, erase, lookup_filter_key (q := fun k => k != n)]
  by_cases h : m = n <;> simp [h]

theorem look_erase_self (σ : Env V) (n : Nat) : look (erase σ n) n = none := by
  rw [look_erase, if_pos rfl]

theorem look_erase_ne {σ : Env V} {n m : Nat} (h : m ≠ n) : look (erase σ n) m = look σ m := by
  rw [look_erase, if_neg h]

theorem look_erase_none {σ : Env V} (n : Nat) {m : Nat} (h : look σ m = none) : look (erase σ n) m = none := by
  rw [look_erase, h, ite_self]

theorem erase_eq_self (σ : Env V) (n : Nat) (h : look σ n = none) : erase σ n = σ :=
  List.filter_eq_self.mpr fun p hp => bne_iff_ne.mpr fun e =>
    lookup_eq_none_iff_keys.mp ((look_eq_lookup σ n).symm.trans h) (List.mem_map.mpr ⟨p, hp, e⟩)

theorem lookups_congr (f g : Nat → Option V) : ∀ (ns : List Nat), (∀ n, n ∈ ns → f n = g n) →
    lookups f ns = lookups g ns
  | [], _ => rfl
  | n :: ns, h => by
    simp only [lookups]
    rw [h n List.mem_cons_self, lookups_congr f g ns (fun m hm => h m (List.mem_cons_of_mem _ hm))]

theorem optLookup_congr (f g : Nat → Option V) (o : Option Nat) (h : ∀ n, n ∈ o.toList → f n = g n) :
    optLookup f o = optLookup g o := by
  cases o with
  | none => rfl
  | some n => simp only [optLookup]; rw [h n (by simp)]

theorem getInput_takeInput_ne {env : List (Frame V)} {n m : Nat} (h : m ≠ n) :
    getInput (takeInput env n).2 m = getInput env m := by
  cases env with
  | nil => rfl
  | cons f ps =>
    simp only [takeInput]
    split
    · simp only [getInput, look_erase_ne h]
    · rfl

theorem getInput_takeInput_none {env : List (Frame V)} (n : Nat) {m : Nat} (h : getInput env m = none) :
    getInput (takeInput env n).2 m = none := by
  cases env with
  | nil => rfl
  | cons f ps =>
    simp only [takeInput]
    split
    · simp only [getInput] at h ⊢
      split at h
      · rename_i hl
        rw [if_pos hl]
        cases ht : look f.tempRef m <;> rw [ht] at h
        · cases hb : look f.byVal m <;> rw [hb] at h
          · rw [look_erase_none n hb]; exact h
          · cases h
        · cases h
      · rename_i hl
        rw [if_neg hl]; exact h
    · exact h

/-- Only the by-value map of the innermost frame is consulted: a value captured by reference can
never be taken (hence never modified in place). -/
theorem canTake_iff (env : List (Frame V)) (n : Nat) :
    canTake env n = true ↔
      ∃ f ps, env = f :: ps ∧ (f.locals.contains n || f.caps.contains n) = true ∧
        (look f.byVal n).isSome = true := by
  cases env with
  | nil => simp [canTake]
  | cons f ps => simp [canTake]

theorem takeValue_none_of_rc_ne_one (gc : List Nat) (st : St V) (n : Nat) (h : st.rc n ≠ 1) :
    takeValue gc st n = (none, st) := by
  unfold takeValue
  rw [if_neg (by simpa using h)]

theorem takeValue_from_temp (gc : List Nat) (st : St V) (n : Nat) (v : V) (hrc : st.rc n = 1)
    (ht : look st.temp n = some v) :
    takeValue gc st n = (some v, { st with temp := erase st.temp n }) := by
  simp only [takeValue, hrc, beq_self_eq_true, if_true, ht]

theorem takeValue_from_env (gc : List Nat) (st : St V) (n : Nat) (hrc : st.rc n = 1)
    (ht : look st.temp n = none) (hg : gc.contains n = true) :
    takeValue gc st n = ((takeInput st.env n).1, { st with env := (takeInput st.env n).2 }) := by
  simp only [takeValue, hrc, beq_self_eq_true, if_true, ht, hg]

theorem takeValue_none_of (gc : List Nat) (st : St V) (n : Nat) (h : look st.temp n = none)
    (hc : gc.contains n = false) : takeValue gc st n = (none, st) := by
  unfold takeValue
  split
  · simp only [h, hc, Bool.false_eq_true, if_false]
  · rfl

theorem takeValue_cases (gc : List Nat) (st : St V) (n : Nat) :
    takeValue gc st n = (none, st) ∨
    (st.rc n = 1 ∧ ∃ v, look st.temp n = some v ∧
      takeValue gc st n = (some v, { st with temp := erase st.temp n })) ∨
    (st.rc n = 1 ∧ look st.temp n = none ∧ gc.contains n = true ∧
      takeValue gc st n = ((takeInput st.env n).1, { st with env := (takeInput st.env n).2 })) := by
  by_cases hrc : st.rc n = 1
  · cases ht : look st.temp n with
    | some v => exact Or.inr (Or.inl ⟨hrc, v, rfl, takeValue_from_temp gc st n v hrc ht⟩)
    | none =>
      by_cases hg : gc.contains n = true
      · exact Or.inr (Or.inr ⟨hrc, rfl, hg, takeValue_from_env gc st n hrc ht hg⟩)
      · exact Or.inl (takeValue_none_of gc st n ht (by simpa using hg))
  · exact Or.inl (takeValue_none_of_rc_ne_one gc st n hrc)

theorem takeValue_rc (gc : List Nat) (st : St V) (n : Nat) : (takeValue gc st n).2.rc = st.rc := by
  rcases takeValue_cases gc st n with h | ⟨_, _, _, h⟩ | ⟨_, _, _, h⟩ <;> rw [h]

theorem takeValue_some_rc (gc : List Nat) (st : St V) (n : Nat) (v : V)
    (h : (takeValue gc st n).1 = some v) : st.rc n = 1 := by
  rcases takeValue_cases gc st n with h' | ⟨hrc, _⟩ | ⟨hrc, _⟩
  · rw [h'] at h; cases h
  · exact hrc
  · exact hrc

theorem takeValue_temp_effect (gc : List Nat) (st : St V) (n m : Nat) :
    look (takeValue gc st n).2.temp m = look st.temp m ∨
    (m = n ∧ look (takeValue gc st n).2.temp m = none ∧ st.rc n = 1) := by
  rcases takeValue_cases gc st n with h | ⟨hrc, _, _, h⟩ | ⟨_, _, _, h⟩ <;> rw [h]
  · exact Or.inl rfl
  · by_cases hm : m = n
    · subst hm; exact Or.inr ⟨rfl, look_erase_self _ _, hrc⟩
    · exact Or.inl (look_erase_ne hm)
  · exact Or.inl rfl

theorem getInput_takeValue_ne (gc : List Nat) (st : St V) {n m : Nat} (h : m ≠ n) :
    getInput (takeValue gc st n).2.env m = getInput st.env m := by
  rcases takeValue_cases gc st n with e | ⟨_, _, _, e⟩ | ⟨_, _, _, e⟩ <;> rw [e]
  exact getInput_takeInput_ne h

theorem opLookup_takeValue_ne (views : Env V) (gc : List Nat) (st : St V) {n m : Nat} (h : m ≠ n) :
    opLookup views (takeValue gc st n).2 m = opLookup views st m := by
  unfold opLookup
  rw [(takeValue_temp_effect gc st n m).resolve_right fun e => h e.1, getInput_takeValue_ne gc st h]

theorem extractByVal_cons_of_input (gc ins : List Nat) (st : St V) (n : Nat) (ns : List Nat)
    (h : ins.contains n = true) :
    extractByVal gc ins st (n :: ns) = extractByVal gc ins st ns := by
  rw [extractByVal, if_pos h]

theorem extractByVal_cons (gc ins : List Nat) (st : St V) (n : Nat) (ns : List Nat)
    (h : ins.contains n = false) :
    extractByVal gc ins st (n :: ns) =
      ((extractByVal gc ins (takeValue gc st n).2 ns).1,
       (extractByVal gc ins (takeValue gc st n).2 ns).2 ++
         (takeValue gc st n).1.toList.map (fun v => (n, v))) := by
  rw [extractByVal, if_neg (by rw [h]; exact Bool.false_ne_true)]
  split <;> (rename_i htv; simp [htv])

theorem extractByVal_induct (gc ins : List Nat) (I : St V → Prop) : ∀ (ds : List Nat) (st : St V),
    I st → (∀ s n, I s → n ∈ ds → ins.contains n = false → I (takeValue gc s n).2) →
    I (extractByVal gc ins st ds).1
  | [], _, h, _ => h
  | n :: ns, st, h, step => by
    have step' := fun s m hs hm => step s m hs (List.mem_cons_of_mem n hm)
    by_cases hin : ins.contains n = true
    · rw [extractByVal_cons_of_input gc ins st n ns hin]
      exact extractByVal_induct gc ins I ns st h step'
    · have hin' : ins.contains n = false := by simpa using hin
      rw [extractByVal_cons gc ins st n ns hin']
      exact extractByVal_induct gc ins I ns _ (step st n h List.mem_cons_self hin') step'

theorem extractByVal_rc (gc ins : List Nat) (ds : List Nat) (st : St V) :
    (extractByVal gc ins st ds).1.rc = st.rc :=
  extractByVal_induct gc ins (fun s => s.rc = st.rc) ds st rfl
    (fun s n hs _ _ => (takeValue_rc gc s n).trans hs)

end RtenVerif.ControlFlow
