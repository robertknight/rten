import RtenVerif.Lemmas.OnnxRefIndex
import RtenVerif.Lemmas.ListBasics
/-! Shape-only operators: the element count of the shape `Reshape` resolves, the positions `Unsqueeze` inserts,
and the error-monad facts needed to run an operator definition backwards from a successful result. -/
namespace RtenVerif.OnnxRef

theorem prod_map_resolve (q : Nat) : ∀ dims : List Int,
    prod (dims.map (fun d => if d == -1 then q else d.toNat)) =
      q ^ (dims.filter (· == -1)).length * prod ((dims.filter (· != -1)).map Int.toNat)
  | [] => by simp [prod]
  | d :: ds => by
    have ih := prod_map_resolve q ds
    by_cases h : d = -1
    · subst h
      simp only [List.map_cons, List.filter_cons, beq_self_eq_true, bne_self_eq_false, if_true,
        Bool.false_eq_true, if_false, List.length_cons, prod, ih, Nat.pow_succ]
      rw [Nat.mul_assoc, Nat.mul_left_comm]
    · have h1 : (d == -1) = false := beq_eq_false_iff_ne.mpr h
      have h2 : (d != -1) = true := bne_iff_ne.mpr h
      simp only [List.map_cons, List.filter_cons, h1, h2, if_true, Bool.false_eq_true, if_false, prod, ih]
      rw [Nat.mul_left_comm]

theorem reshapeResolve_prod (n : Nat) (dims : List Int) (out : List Nat)
    (h : reshapeResolve n dims = .ok out) : prod out = n := by
  revert h
  fun_cases reshapeResolve n dims
  -- refused (two `-1`, count not divisible, count not matched) or ambiguous (known count 0): no `.ok`
  case case1 | case2 | case3 | case6 => nofun
  case case4 _ known hc _ hm =>
    -- exactly one `-1`: it is replaced by `n / known`, and `known` divides `n`
    intro h
    injection h with h
    rw [← h, prod_map_resolve]
    have hpos : 0 < (dims.filter (· == -1)).length :=
      List.length_pos_of_mem (List.mem_filter.mpr ⟨List.contains_iff_mem.mp hc, beq_self_eq_true _⟩)
    have hone : (dims.filter (· == -1)).length = 1 := by omega
    rw [hone, Nat.pow_one]
    exact Nat.div_mul_cancel (Nat.dvd_of_mod_eq_zero (by simpa using hm))
  case case5 _ known hc hk =>
    intro h
    injection h with h
    -- no `-1` present, so nothing was filtered out
    rw [show known = prod ((dims.filter (· != -1)).map Int.toNat) from rfl, List.filter_eq_self.mpr fun a ha =>
      bne_iff_ne.mpr fun (he : a = -1) => hc (he ▸ List.contains_iff_mem.mpr ha)] at hk
    rw [← h]; exact beq_iff_eq.mp hk

/-- Invariant of `insertOnes`, over the absolute positions `pos, pos + 1, …`. -/
theorem insertOnes_spec (axes : List Nat) : ∀ (fuel : Nat) (s : List Nat) (pos : Nat),
    fuel = s.length + ((List.range' pos fuel).filter axes.contains).length →
    (insertOnes s pos axes fuel).length = fuel ∧
    ((List.range' pos fuel).filter (fun p => !axes.contains p)).map
      (fun p => getN (insertOnes s pos axes fuel) (p - pos)) = s ∧
    (∀ p ∈ List.range' pos fuel, axes.contains p = true → getN (insertOnes s pos axes fuel) (p - pos) = 1) := by
  have hstep : ∀ (pos fuel a : Nat) (L : List Nat), ∀ p ∈ List.range' (pos + 1) fuel,
      getN (a :: L) (p - pos) = getN L (p - (pos + 1)) := by
    intro pos fuel a L p hp
    have := (List.mem_range'_1.mp hp).1
    rw [show p - pos = p - (pos + 1) + 1 by omega]
    rfl
  intro fuel s pos
  fun_induction insertOnes s pos axes fuel
  case case1 s _ _ =>
    intro h
    have : s = [] := List.eq_nil_of_length_eq_zero (by simpa using h.symm)
    subst this
    exact ⟨rfl, rfl, fun p hp => nomatch hp⟩
  case case2 s pos axes fuel hc ih =>
    -- a new axis is inserted here
    rw [Nat.succ_eq_add_one, List.range'_succ, List.filter_cons_of_pos hc, List.length_cons]
    intro h
    obtain ⟨ih1, ih2, ih3⟩ := ih (by omega)
    refine ⟨by rw [List.length_cons, ih1], ?_, fun p hp hcp => ?_⟩
    · rw [List.filter_cons_of_neg (by rw [hc]; exact Bool.false_ne_true),
        List.map_congr_left fun p hp => hstep _ _ _ _ p (List.mem_filter.mp hp).1]
      exact ih2
    · rcases List.mem_cons.mp hp with rfl | hp
      · rw [Nat.sub_self]; rfl
      · rw [hstep _ _ _ _ p hp]; exact ih3 p hp hcp
  case case3 pos axes fuel hc =>
    -- the input is used up although positions remain: the count excludes it
    rw [Nat.succ_eq_add_one, List.range'_succ, List.filter_cons_of_neg hc]
    intro h
    have := List.length_filter_le axes.contains (List.range' (pos + 1) fuel)
    rw [List.length_range'] at this
    simp only [List.length_nil] at h
    omega
  case case4 pos axes fuel hc d ds ih =>
    -- the next input dimension is copied
    rw [Nat.succ_eq_add_one, List.range'_succ, List.filter_cons_of_neg hc, List.length_cons]
    intro h
    obtain ⟨ih1, ih2, ih3⟩ := ih (by omega)
    refine ⟨by rw [List.length_cons, ih1], ?_, fun p hp hcp => ?_⟩
    · rw [List.filter_cons_of_pos (by rw [Bool.eq_false_iff.mpr hc]; rfl), List.map_cons, Nat.sub_self,
        List.map_congr_left fun p hp => hstep _ _ _ _ p (List.mem_filter.mp hp).1, ih2]
      rfl
    · rcases List.mem_cons.mp hp with rfl | hp
      · exact absurd hcp hc
      · rw [hstep _ _ _ _ p hp]; exact ih3 p hp hcp

theorem nodup_of_hasDup : ∀ ax : List Nat, hasDup ax = false → ax.Nodup
  | [], _ => List.nodup_nil
  | a :: t, h => by
    simp only [hasDup, Bool.or_eq_false_iff] at h
    exact List.nodup_cons.mpr ⟨by simpa using h.1, nodup_of_hasDup t h.2⟩

theorem count_positions (n : Nat) (ax : List Nat) (hd : hasDup ax = false) (hb : ∀ a ∈ ax, a < n) :
    ((List.range n).filter (fun j => ax.contains j)).length = ax.length := by
  refine List.Perm.length_eq
    ((List.perm_ext_iff_of_nodup (List.nodup_range.filter _) (nodup_of_hasDup ax hd)).mpr fun a => ?_)
  simp only [List.mem_filter, List.mem_range, List.contains_iff_mem]
  exact ⟨fun h => h.2, fun h => ⟨hb a h, h⟩⟩

end RtenVerif.OnnxRef
