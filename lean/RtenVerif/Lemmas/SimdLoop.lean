import RtenVerif.Model.SimdLoop

/-!
Which indices a mask, a chunk and a run of chunks touch; every slice loop of the model performs
the schedule `fullRun v off k ++ tailChunk v (off + k * v) t` (`k` whole vectors, then a masked
tail of `t < v` lanes), which touches `[off, off + k * v + t)`; lane arithmetic (`wrapS` is
`Int.bmod`).  Core Lean only.
-/
namespace RtenVerif.SimdLoop

theorem firstNMask_succ (v t : Nat) :
    firstNMask (v + 1) t = decide (0 < t) :: firstNMask v (t - 1) := by
  simp only [firstNMask, List.range_succ_eq_map, List.map_cons, List.map_map, List.cons.injEq,
    true_and]
  exact List.map_congr_left fun i _ => decide_eq_decide.mpr (by omega)

/-- `load_pad`'s `first_n_mask(min(rem, v))` is the same mask as `first_n_mask(rem)`. -/
theorem firstNMask_min (v t : Nat) : firstNMask v (min t v) = firstNMask v t :=
  List.map_congr_left fun i hi =>
    decide_eq_decide.mpr (by have := List.mem_range.mp hi; omega)

theorem maskIdx_firstN (v off t : Nat) :
    maskIdx off (firstNMask v t) = List.range' off (min t v) := by
  induction v generalizing off t with
  | zero => simp [firstNMask, maskIdx]
  | succ v ih =>
    rw [firstNMask_succ, maskIdx, ih]
    cases t with
    | zero => simp
    | succ t => simp [Nat.succ_min_succ, List.range'_succ]

theorem maskIdx_replicate_true (v off : Nat) :
    maskIdx off (List.replicate v true) = List.range' off v := by
  induction v generalizing off with
  | zero => rfl
  | succ v ih => simp [List.replicate_succ, maskIdx, ih, List.range'_succ]

@[simp] theorem full_indices (v off : Nat) : (full v off).indices = List.range' off v :=
  maskIdx_replicate_true v off

@[simp] theorem masked_indices (v off t : Nat) :
    (masked v off t).indices = List.range' off (min t v) :=
  maskIdx_firstN v off t

theorem firstNMask_get (v n i : Nat) (h : i < v) :
    (firstNMask v n)[i]'(by simp [firstNMask, h]) = decide (i < n) := by
  simp [firstNMask]

@[simp] theorem firstNMask_length (v n : Nat) : (firstNMask v n).length = v := by
  simp [firstNMask]

theorem bitLoopMask_succ (n : Nat) : bitLoopMask (n + 1) = bitLoopMask n ||| (1 <<< n) := by
  simp [bitLoopMask, List.range_succ, List.foldl_append]

theorem bitLoopMask_testBit (n i : Nat) : (bitLoopMask n).testBit i = decide (i < n) := by
  induction n with
  | zero => simp [bitLoopMask]
  | succ n ih =>
    rw [bitLoopMask_succ, Nat.testBit_or, ih, Nat.one_shiftLeft, Nat.testBit_two_pow,
      ← Bool.decide_or]
    exact decide_eq_decide.mpr (by omega)

@[simp] theorem touched_nil : touched [] = [] := rfl

@[simp] theorem touched_cons (c : Chunk) (cs : List Chunk) :
    touched (c :: cs) = c.indices ++ touched cs := by
  simp [touched]

@[simp] theorem touched_append (a b : List Chunk) : touched (a ++ b) = touched a ++ touched b := by
  simp [touched]

@[simp] theorem fullRun_zero (v off : Nat) : fullRun v off 0 = [] := rfl

theorem fullRun_append (v a off b : Nat) :
    fullRun v off (a + b) = fullRun v off a ++ fullRun v (off + a * v) b := by
  simp only [fullRun, List.range_add, List.map_append, List.map_map, List.append_cancel_left_eq]
  exact List.map_congr_left fun j _ => by
    simp only [Function.comp, Nat.add_mul, Nat.add_assoc]

theorem fullRun_succ (v off k : Nat) :
    fullRun v off (k + 1) = full v off :: fullRun v (off + v) k := by
  rw [Nat.add_comm k 1, fullRun_append]
  simp [fullRun]

theorem touched_fullRun (v k off : Nat) :
    touched (fullRun v off k) = List.range' off (k * v) := by
  induction k generalizing off with
  | zero => simp
  | succ k ih =>
    rw [fullRun_succ, touched_cons, full_indices, ih, List.range'_append_1, Nat.succ_mul,
      Nat.add_comm]

theorem touched_tailChunk (v off t : Nat) (h : t ≤ v) :
    touched (tailChunk v off t) = List.range' off t := by
  unfold tailChunk
  split
  · simp [Nat.min_eq_left h]
  · simp [show t = 0 by omega]

theorem touched_fullRun_tail (v off k t : Nat) (h : t ≤ v) :
    touched (fullRun v off k ++ tailChunk v (off + k * v) t) = List.range' off (k * v + t) := by
  rw [touched_append, touched_fullRun, touched_tailChunk _ _ _ h, List.range'_append_1]

theorem mapLoop_eq (v k : Nat) : ∀ (fuel off t : Nat), t < v → k ≤ fuel →
    mapLoop v fuel off (k * v + t) = fullRun v off k ++ tailChunk v (off + k * v) t := by
  induction k with
  | zero =>
    intro fuel off t ht _
    have hlt : ¬ (t ≥ v) := by omega
    cases fuel <;> simp [mapLoop, hlt]
  | succ k ih =>
    intro fuel off t ht hk
    cases fuel with
    | zero => omega
    | succ fuel =>
      have e : (k + 1) * v + t = k * v + t + v := by rw [Nat.succ_mul, Nat.add_right_comm]
      rw [mapLoop, e, if_pos (Nat.le_add_left _ _), Nat.add_sub_cancel,
        ih fuel (off + v) t ht (Nat.le_of_succ_le_succ hk), fullRun_succ, Nat.succ_mul,
        List.cons_append, Nat.add_assoc off, Nat.add_comm v]

theorem simdMap_eq (v n k t : Nat) (ht : t < v) (h : k * v + t = n) :
    simdMap v n = fullRun v 0 k ++ tailChunk v (k * v) t := by
  have hk : k ≤ n := by
    have := Nat.le_mul_of_pos_right k (Nat.zero_lt_of_lt ht)
    omega
  rw [simdMap, ← h, mapLoop_eq v k _ 0 t ht (h ▸ hk), Nat.zero_add]

theorem iterTail_eq_tailChunk (v off rem : Nat) : iterTail v off rem = tailChunk v off rem := by
  simp only [iterTail, tailChunk, masked, firstNMask_min]

theorem iterLoop_eq_mapLoop (v : Nat) : ∀ (fuel off n : Nat),
    iterLoop v fuel off n = mapLoop v fuel off n := by
  intro fuel
  induction fuel with
  | zero => intro off n; exact iterTail_eq_tailChunk v off n
  | succ fuel ih => intro off n; simp only [iterLoop, mapLoop, ih, iterTail_eq_tailChunk, ge_iff_le]

theorem flatMap_fullRun (v u nb : Nat) :
    (List.range nb).flatMap (fun b => fullRun v (b * (v * u)) u) = fullRun v 0 (nb * u) := by
  induction nb with
  | zero => simp
  | succ nb ih =>
    rw [List.range_succ, List.flatMap_append, ih, Nat.succ_mul, fullRun_append]
    simp only [List.flatMap_cons, List.flatMap_nil, List.append_nil, Nat.zero_add]
    rw [Nat.mul_comm v u, Nat.mul_assoc]

theorem two_pow_succ_int (k : Nat) : (2 : Int) ^ (k + 1) = 2 * 2 ^ k := by
  rw [Int.pow_succ, Int.mul_comm]

theorem two_pow_succ_half (k : Nat) :
    (2 : Int) ^ (k + 1) / 2 = 2 ^ k ∧ ((2 : Int) ^ (k + 1) + 1) / 2 = 2 ^ k := by
  have := two_pow_succ_int k
  omega

theorem wrapS_eq_bmod (k : Nat) (x : Int) : wrapS (k + 1) x = x.bmod (2 ^ (k + 1)) := by
  rw [Int.bmod_def, Int.natCast_pow, Int.cast_ofNat_Int, (two_pow_succ_half k).2,
    ← (two_pow_succ_half k).1]
  rfl

theorem wrapS_bounds (k : Nat) (x : Int) :
    -(2 ^ k : Int) ≤ wrapS (k + 1) x ∧ wrapS (k + 1) x < 2 ^ k := by
  have h1 := Int.le_bmod (x := x) (m := 2 ^ (k + 1)) (Nat.two_pow_pos _)
  have h2 := Int.bmod_lt (x := x) (m := 2 ^ (k + 1)) (Nat.two_pow_pos _)
  rw [Int.natCast_pow, Int.cast_ofNat_Int] at h1 h2
  rw [(two_pow_succ_half k).1] at h1
  rw [(two_pow_succ_half k).2] at h2
  rw [wrapS_eq_bmod]
  exact ⟨h1, h2⟩

theorem wrapS_of_inRange (k : Nat) (x : Int) (lo : -(2 ^ k : Int) ≤ x) (hi : x < 2 ^ k) :
    wrapS (k + 1) x = x := by
  have hm := two_pow_succ_int k
  rw [wrapS_eq_bmod]
  apply Int.bmod_eq_of_le_mul_two <;> rw [Int.natCast_pow, Int.cast_ofNat_Int] <;> omega

theorem wrapS_congr (w : Nat) (x y : Int) (h : x % 2 ^ w = y % 2 ^ w) : wrapS w x = wrapS w y := by
  unfold wrapS; simp only [h]

theorem wrapS_emod (w : Nat) (x : Int) : wrapS w x % 2 ^ w = x % 2 ^ w := by
  unfold wrapS
  simp only
  split
  · exact Int.emod_emod_of_dvd x (Int.dvd_refl _)
  · rw [Int.sub_emod, Int.emod_self, Int.sub_zero, Int.emod_emod_of_dvd _ (Int.dvd_refl _),
      Int.emod_emod_of_dvd _ (Int.dvd_refl _)]

/-- Wrapping `+ − ·` of wrapped operands is the wrap of the ideal result, at any width: whatever
the order of evaluation, a lane expression yields the wrap of its ideal integer value. -/
theorem wrapS_add (w : Nat) (x y : Int) : wrapS w (wrapS w x + wrapS w y) = wrapS w (x + y) :=
  wrapS_congr _ _ _ (by rw [Int.add_emod, wrapS_emod, wrapS_emod, ← Int.add_emod])

theorem wrapS_sub (w : Nat) (x y : Int) : wrapS w (wrapS w x - wrapS w y) = wrapS w (x - y) :=
  wrapS_congr _ _ _ (by rw [Int.sub_emod, wrapS_emod, wrapS_emod, ← Int.sub_emod])

theorem wrapS_mul (w : Nat) (x y : Int) : wrapS w (wrapS w x * wrapS w y) = wrapS w (x * y) :=
  wrapS_congr _ _ _ (by rw [Int.mul_emod, wrapS_emod, wrapS_emod, ← Int.mul_emod])

theorem pow_dvd_pow_int (a b : Nat) (h : a ≤ b) : (2 : Int) ^ a ∣ 2 ^ b := by
  obtain ⟨c, rfl⟩ := Nat.exists_eq_add_of_le h
  exact ⟨2 ^ c, by rw [Int.pow_add]⟩

/-- Truncating to `w` bits after computing in `w' ≥ w` bits gives the `w`-bit result: the
AVX2/AVX-512 8-bit `mul`/`shift_left` (extend → 16-bit op → `narrow_truncate`) equals the
direct 8-bit wrapping operation. -/
theorem wrapS_wrapS_of_le (w w' : Nat) (h : w ≤ w') (x : Int) :
    wrapS w (wrapS w' x) = wrapS w x := by
  apply wrapS_congr
  have hd := pow_dvd_pow_int w w' h
  rw [← Int.emod_emod_of_dvd _ hd, wrapS_emod, Int.emod_emod_of_dvd _ hd]

theorem wrapU_wrapU_of_le (w w' : Nat) (h : w ≤ w') (x : Int) :
    wrapU w (wrapU w' x) = wrapU w x :=
  Int.emod_emod_of_dvd _ (pow_dvd_pow_int w w' h)

theorem laneMin_eq_min (a b : Int) : laneMin a b = min a b := rfl

theorem laneMax_eq_max (a b : Int) : laneMax a b = max a b := by
  unfold laneMax
  split <;> omega

theorem narrowSat_eq (d : LaneTy) (x : Int) : narrowSat d x = min (max x d.lo) d.hi := by
  rw [narrowSat, laneMin_eq_min, laneMax_eq_max]

end RtenVerif.SimdLoop
