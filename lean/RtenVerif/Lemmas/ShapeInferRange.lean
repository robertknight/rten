import RtenVerif.Lemmas.ShapeInferZip
import RtenVerif.Lemmas.SymArith

/-!
`Sym.range` is sound for expressions that evaluate inside `i32` at every node (C10).

`Sym.eval` is over unbounded `Int` while `Sym.range` saturates, so `RangeSound σ e` is FALSE for
some `e` under every `σ` (`(2147483647 + 1)`).  It holds for every expression that is `good`:
every node's value is an `i32` (what the real `i32` evaluation produces without overflow),
non-negative symbols are instantiated non-negatively, `Broadcast` operands are non-negative.
The interval arithmetic of one node (`Sym.rangeOp_sound`) is that of `Lemmas/SymArith`, shared with C11;
`Sym.bin` presents the eight binary constructors as C11's one, keyed by the operator.
-/
namespace RtenVerif.ShapeInfer

def inI32 (v : Int) : Bool := decide (i32Min ≤ v) && decide (v ≤ i32Max)

def okVal : Option Int → Bool
  | none => true
  | some v => inI32 v

def nonnegVal : Option Int → Bool
  | none => true
  | some v => decide (0 ≤ v)

def good (σ : Env) : Sym → Bool
  | .val n => inI32 n
  | .var x p => match σ x with
    | none => true
    | some v => inI32 v && (!p || decide (0 ≤ v))
  | .neg a => good σ a && okVal ((Sym.neg a).eval σ)
  | .add a b => good σ a && good σ b && okVal ((Sym.add a b).eval σ)
  | .sub a b => good σ a && good σ b && okVal ((Sym.sub a b).eval σ)
  | .mul a b => good σ a && good σ b && okVal ((Sym.mul a b).eval σ)
  | .div a b => good σ a && good σ b && okVal ((Sym.div a b).eval σ)
  | .divCeil a b => good σ a && good σ b && okVal ((Sym.divCeil a b).eval σ)
  | .max a b => good σ a && good σ b && okVal ((Sym.max a b).eval σ)
  | .min a b => good σ a && good σ b && okVal ((Sym.min a b).eval σ)
  | .bcast a b => good σ a && good σ b && okVal ((Sym.bcast a b).eval σ) &&
      nonnegVal (a.eval σ) && nonnegVal (b.eval σ)

def RangeSound (σ : Env) (e : Sym) : Prop := ∀ v, e.eval σ = some v → e.range.1 ≤ v ∧ v ≤ e.range.2

theorem inI32_iff (v : Int) : inI32 v = true ↔ i32Min ≤ v ∧ v ≤ i32Max :=
  Sym.inI32_iff

theorem cdiv_eq (x y : Int) : cdiv x y = RtenVerif.Sym.divCeilI x y := by
  unfold cdiv RtenVerif.Sym.divCeilI
  by_cases hr : x.tmod y = 0
  · simp [hr]
  · by_cases hx : x < 0 <;> by_cases hy : y < 0 <;> simp [hr, hx, hy]

/-- The eight binary constructors as one, keyed by C11's `Op` (as `Model/Sym` has them). -/
def Sym.bin : Sym.Op → Sym → Sym → Sym
  | .add => .add | .sub => .sub | .mul => .mul | .div => .div | .divCeil => .divCeil
  | .max => .max | .min => .min | .broadcast => .bcast

theorem Sym.binRec {motive : Sym → Prop} (val : ∀ n, motive (.val n)) (var : ∀ x p, motive (.var x p))
    (neg : ∀ a, motive a → motive (.neg a))
    (bin : ∀ o a b, motive a → motive b → motive (Sym.bin o a b)) : ∀ e, motive e := by
  intro e
  induction e with
  | val n => exact val n
  | var x p => exact var x p
  | neg a ih => exact neg a ih
  | add a b iha ihb => exact bin .add a b iha ihb
  | sub a b iha ihb => exact bin .sub a b iha ihb
  | mul a b iha ihb => exact bin .mul a b iha ihb
  | div a b iha ihb => exact bin .div a b iha ihb
  | divCeil a b iha ihb => exact bin .divCeil a b iha ihb
  | max a b iha ihb => exact bin .max a b iha ihb
  | min a b iha ihb => exact bin .min a b iha ihb
  | bcast a b iha ihb => exact bin .broadcast a b iha ihb

theorem eval_bin {σ : Env} {o : Sym.Op} {a b : Sym} {v : Int} (h : (Sym.bin o a b).eval σ = some v) :
    ∃ x y, a.eval σ = some x ∧ b.eval σ = some y ∧ ((o = .div ∨ o = .divCeil) → y ≠ 0) ∧
      v = Sym.opF o x y := by
  cases o <;> simp only [Sym.bin, Sym.eval, Option.bind_eq_bind, Option.bind_eq_some_iff] at h <;>
    obtain ⟨x, hx, y, hy, h⟩ := h <;> refine ⟨x, y, hx, hy, ?_⟩
  case div => split at h <;> cases h; exact ⟨fun _ => ‹_›, rfl⟩
  case divCeil => split at h <;> cases h; exact ⟨fun _ => ‹_›, cdiv_eq x y⟩
  all_goals cases h; exact ⟨nofun, rfl⟩

theorem good_bin {σ : Env} {o : Sym.Op} {a b : Sym} (h : good σ (Sym.bin o a b) = true) :
    good σ a = true ∧ good σ b = true ∧ okVal ((Sym.bin o a b).eval σ) = true ∧
      (o = .broadcast → nonnegVal (a.eval σ) = true ∧ nonnegVal (b.eval σ) = true) := by
  cases o <;> simp only [Sym.bin, good, Bool.and_eq_true] at h <;> simp [Sym.bin, h]

theorem range_bin (o : Sym.Op) (a b : Sym) :
    (Sym.bin o a b).range = Sym.rangeOp o a.range b.range := by
  cases o
  case mul | div | divCeil =>
    simp only [Sym.bin, Sym.range, Sym.rangeOp, ge_iff_le, Bool.and_eq_true, decide_eq_true_eq]
    rfl
  all_goals rfl

theorem range_sound (σ : Env) : ∀ (e : Sym), good σ e = true →
    ∀ v, e.eval σ = some v → (e.range.1 ≤ v ∧ v ≤ e.range.2) ∧ (i32Min ≤ v ∧ v ≤ i32Max) := by
  intro e
  induction e using Sym.binRec with
  | val n =>
    intro hg v hv
    cases hv
    exact ⟨⟨Int.le_refl _, Int.le_refl _⟩, (inI32_iff _).mp hg⟩
  | var x p =>
    intro hg v hv
    simp only [Sym.eval] at hv
    simp only [good, hv, Bool.and_eq_true, Bool.or_eq_true, Bool.not_eq_true', decide_eq_true_eq] at hg
    have hi := (inI32_iff v).mp hg.1
    refine ⟨?_, hi⟩
    cases p with
    | true => exact ⟨hg.2.resolve_left Bool.noConfusion, hi.2⟩
    | false => exact hi
  | neg a ih =>
    intro hg v hv
    simp only [good, hv, Bool.and_eq_true] at hg
    have hok := (inI32_iff v).mp hg.2
    simp only [Sym.eval, Option.map_eq_some_iff] at hv
    obtain ⟨x, hx, rfl⟩ := hv
    obtain ⟨⟨hlo, hhi⟩, _⟩ := ih hg.1 x hx
    exact ⟨⟨Sym.sat_lo (by omega) hok, Sym.sat_hi (by omega) hok⟩, hok⟩
  | bin o a b iha ihb =>
    intro hg v hv
    obtain ⟨hga, hgb, hok, hB⟩ := good_bin hg
    obtain ⟨x, y, hx, hy, h0, rfl⟩ := eval_bin hv
    rw [hv] at hok
    have hr := (inI32_iff _).mp hok
    rw [range_bin]
    exact ⟨Sym.rangeOp_sound (iha hga x hx).1 (ihb hgb y hy).1 h0
      (fun h => by simpa [hx, hy, nonnegVal] using hB h) hr, hr⟩

/-- `RangeSound` holds for every `good` expression — the hypothesis of the `Equal` theorems is
dischargeable. -/
theorem rangeSound_of_good (σ : Env) (e : Sym) (h : good σ e = true) : RangeSound σ e :=
  fun v hv => (range_sound σ e h v hv).1

/-- `RangeSound` is NOT true of all expressions (so it must stay a local hypothesis): `2147483647 + 1`. -/
theorem rangeSound_not_universal (σ : Env) : ¬ ∀ e : Sym, RangeSound σ e := by
  intro h
  have := h (.add (.val 2147483647) (.val 1)) 2147483648 (by simp [Sym.eval])
  revert this
  decide

end RtenVerif.ShapeInfer
