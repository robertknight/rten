import RtenVerif.Model.RtenHeader
import RtenVerif.Lemmas.ListBasics

/-! `f16_to_f32` is exact.  Both formats are read as sign, exponent and mantissa fields; the
conversion copies the sign, re-biases the exponent (15 → 127) and widens the mantissa by 13 bits.
A subnormal f16 whose leading mantissa bit is bit `k` is renormalised: shifted left until that
bit reaches position 23, where the mask drops it (it becomes the implicit one). -/
namespace RtenVerif.RtenHeader

theorem and_mask (x lo w : Nat) {d : Nat} (h : x / 2 ^ lo % 2 ^ w = d) :
    x &&& (2 ^ w - 1) * 2 ^ lo = d * 2 ^ lo := by
  have hd : (x &&& (2 ^ w - 1) * 2 ^ lo) / 2 ^ lo = d := by
    rw [Nat.and_div_two_pow, Nat.mul_div_cancel _ (Nat.two_pow_pos lo),
      Nat.and_two_pow_sub_one_eq_mod, h]
  have hm : (x &&& (2 ^ w - 1) * 2 ^ lo) % 2 ^ lo = 0 := by
    rw [Nat.and_mod_two_pow, Nat.mul_mod_left, Nat.and_zero]
  rw [← Nat.div_add_mod' (x &&& _) (2 ^ lo), hd, hm, Nat.add_zero]

theorem valueCode_fields (eb mb s e m : Nat) (hs : s < 2) (he : e < 2 ^ eb) (hm : m < 2 ^ mb) :
    valueCode eb mb ((s * 2 ^ eb + e) * 2 ^ mb + m) =
      if e = 2 ^ eb - 1 then (if m = 0 then 1 * 2 ^ 512 + s * 2 ^ 511 else 2 * 2 ^ 512)
      else if e = 0 then s * 2 ^ 511 + m * 2 ^ (200 + 1 - (2 ^ (eb - 1) - 1) - mb)
      else s * 2 ^ 511 + (2 ^ mb + m) * 2 ^ (200 + e - (2 ^ (eb - 1) - 1) - mb) := by
  obtain ⟨hdiv, h3⟩ := mul_add_div_mod (s * 2 ^ eb + e) hm
  have h1 : ((s * 2 ^ eb + e) * 2 ^ mb + m) >>> (eb + mb) % 2 = s := by
    rw [Nat.add_comm eb, Nat.shiftRight_eq_div_pow, Nat.pow_add, ← Nat.div_div_eq_div_mul, hdiv,
      (mul_add_div_mod s he).1, Nat.mod_eq_of_lt hs]
  have h2 : ((s * 2 ^ eb + e) * 2 ^ mb + m) >>> mb % 2 ^ eb = e := by
    rw [Nat.shiftRight_eq_div_pow, hdiv, (mul_add_div_mod s he).2]
  simp only [valueCode, h1, h2, h3]

theorem or_fields (s e m : Nat) (he : e < 2 ^ 8) (hm : m < 2 ^ 23) :
    s * 2 ^ 31 ||| e * 2 ^ 23 ||| m = (s * 2 ^ 8 + e) * 2 ^ 23 + m := by
  have h : s * 2 ^ 31 = 2 ^ 8 * s * 2 ^ 23 := by omega
  rw [← Nat.shiftLeft_eq (s * 2 ^ 8 + e), Nat.shiftLeft_add_eq_or_of_lt hm, Nat.mul_comm s (2 ^ 8),
    Nat.two_pow_add_eq_or_of_lt he, Nat.shiftLeft_or_distrib, Nat.shiftLeft_eq, Nat.shiftLeft_eq, h]

theorem codeF16_fields (s e m : Nat) (hs : s < 2) (he : e < 2 ^ 5) (hm : m < 2 ^ 10) :
    codeF16 ((s * 2 ^ 5 + e) * 2 ^ 10 + m) =
      if e = 31 then (if m = 0 then 1 * 2 ^ 512 + s * 2 ^ 511 else 2 * 2 ^ 512)
      else if e = 0 then s * 2 ^ 511 + m * 2 ^ 176
      else s * 2 ^ 511 + (2 ^ 10 + m) * 2 ^ (e + 175) := by
  rw [show e + 175 = 200 + e - 15 - 10 by omega]
  exact valueCode_fields 5 10 s e m hs he hm

theorem codeF32_fields (s e m : Nat) (hs : s < 2) (he : e < 2 ^ 8) (hm : m < 2 ^ 23) :
    codeF32 ((s * 2 ^ 8 + e) * 2 ^ 23 + m) =
      if e = 255 then (if m = 0 then 1 * 2 ^ 512 + s * 2 ^ 511 else 2 * 2 ^ 512)
      else if e = 0 then s * 2 ^ 511 + m * 2 ^ 51
      else s * 2 ^ 511 + (2 ^ 23 + m) * 2 ^ (e + 50) := by
  rw [show e + 50 = 200 + e - 127 - 23 by omega]
  exact valueCode_fields 8 23 s e m hs he hm

theorem codeF32_f16ToF32Bits (i : Nat) (hi : i < 65536) : codeF32 (f16ToF32Bits i) = codeF16 i := by
  obtain ⟨s, e, m, hs, he, hm, hi'⟩ :
      ∃ s e m, s < 2 ∧ e < 2 ^ 5 ∧ m < 2 ^ 10 ∧ (s * 2 ^ 5 + e) * 2 ^ 10 + m = i :=
    ⟨i / 32768, i / 1024 % 32, i % 1024, by omega, by omega, by omega, by omega⟩
  have hz : i &&& 0x7FFF = e * 2 ^ 10 + m := (Nat.and_two_pow_sub_one_eq_mod i 15).trans (by omega)
  have hS : i &&& 0x8000 = s * 2 ^ 15 := and_mask i 15 1 (by omega)
  have hE : i &&& 0x7C00 = e * 2 ^ 10 := and_mask i 10 5 (by omega)
  have hM : i &&& 0x03FF = m := (Nat.and_two_pow_sub_one_eq_mod i 10).trans (by omega)
  have hsign : (s * 2 ^ 15) <<< 16 = s * 2 ^ 31 := by rw [Nat.shiftLeft_eq, Nat.mul_assoc]
  -- every branch of `f16_to_f32` returns `sign ||| exponent field ||| mantissa field`
  have hcode (E M : Nat) (hE : E < 2 ^ 8) (hM : M < 2 ^ 23) :
      codeF32 (s * 2 ^ 31 ||| E * 2 ^ 23 ||| M) = _ :=
    (congrArg codeF32 (or_fields s E M hE hM)).trans (codeF32_fields s E M hs hE hM)
  rw [← hi', codeF16_fields s e m hs he hm, hi']
  unfold f16ToF32Bits
  simp only [hz, hS, hE, hM, hsign, show e * 2 ^ 10 + m = 0 ↔ e = 0 ∧ m = 0 by omega,
    show e * 2 ^ 10 = 31744 ↔ e = 31 by omega, show e * 2 ^ 10 = 0 ↔ e = 0 by omega]
  by_cases h31 : e = 31
  · subst h31
    by_cases hm0 : m = 0
    · -- infinity
      subst hm0
      simp only [reduceIte, and_true, Nat.reduceEqDiff]
      rw [← Nat.or_zero (_ ||| _)]
      exact (hcode 255 0 (by omega) (by omega)).trans (by rw [if_pos rfl, if_pos rfl])
    · -- NaN: `0x7FC00000` is the exponent field 255 and the quiet bit 22, which may coincide with
      -- the top bit of the shifted payload; all that matters is that the mantissa field is not 0
      simp only [reduceIte, hm0, and_false, Nat.reduceEqDiff]
      have hq := Nat.left_le_or (n := 2 ^ 22) (m := m <<< 13)
      show codeF32 (s * 2 ^ 31 ||| (255 * 2 ^ 23 ||| 2 ^ 22) ||| m <<< 13) = _
      rw [← Nat.or_assoc (s * 2 ^ 31), Nat.or_assoc _ (2 ^ 22), hcode 255 _ (by omega)
        (Nat.or_lt_two_pow (by omega) (by rw [Nat.shiftLeft_eq]; omega)), if_pos rfl, if_neg (by omega)]
  · by_cases h0 : e = 0
    · subst h0
      by_cases hm0 : m = 0
      · -- zero: the early return `i << 16`
        subst hm0
        simp only [reduceIte, and_true, Nat.reduceEqDiff]
        rw [show i = s * 2 ^ 15 by omega, hsign, ← Nat.or_zero (s * 2 ^ 31), ← Nat.or_zero (_ ||| _)]
        exact (hcode 0 0 (by omega) (by omega)).trans (by rw [if_neg (by decide), if_pos rfl])
      · -- subnormal with leading bit `k`: `m * 2 ^ (23 - k)` lies in `[2 ^ 23, 2 ^ 24)`, so masking it
        -- to 23 bits removes exactly the implicit one that `codeF32` puts back
        simp only [reduceIte, hm0, and_false, Nat.reduceEqDiff]
        have hk : m.log2 < 10 := (Nat.log2_lt hm0).2 hm
        have h1 := Nat.mul_le_mul_right (2 ^ (23 - m.log2)) (Nat.log2_self_le hm0)
        have h2 := Nat.mul_lt_mul_of_pos_right (Nat.lt_log2_self (n := m)) (Nat.two_pow_pos (23 - m.log2))
        unfold clz16
        generalize m.log2 = k at *
        rw [← Nat.pow_add, show k + (23 - k) = 23 by omega] at h1
        rw [← Nat.pow_add, show k + 1 + (23 - k) = 24 by omega] at h2
        rw [show 127 - 15 - (16 - (k + 1) - 6) = 103 + k by omega,
          show 14 + (16 - (k + 1) - 6) = 23 - k by omega, Nat.shiftLeft_eq, Nat.shiftLeft_eq m,
          Nat.and_two_pow_sub_one_eq_mod _ 23,
          hcode (103 + k) _ (by omega) (Nat.mod_lt _ (Nat.two_pow_pos 23)), if_neg (by omega),
          if_neg (by omega), show 2 ^ 23 + m * 2 ^ (23 - k) % 2 ^ 23 = m * 2 ^ (23 - k) by omega,
          Nat.mul_assoc, ← Nat.pow_add, show 23 - k + (103 + k + 50) = 176 by omega]
    · -- normal: exponent re-biased by 127 - 15, mantissa widened by 13 bits
      simp only [reduceIte, h0, h31, false_and]
      rw [Nat.shiftRight_eq_div_pow, Nat.mul_div_cancel _ (Nat.two_pow_pos 10),
        (Nat.and_two_pow_sub_one_eq_mod m 10).trans (Nat.mod_eq_of_lt hm), Nat.shiftLeft_eq,
        Nat.shiftLeft_eq m, hcode (e + 112) _ (by omega) (by omega), if_neg (by omega),
        if_neg (by omega), show 2 ^ 23 + m * 2 ^ 13 = (2 ^ 10 + m) * 2 ^ 13 by omega, Nat.mul_assoc,
        ← Nat.pow_add, show 13 + (e + 112 + 50) = e + 175 by omega]

end RtenVerif.RtenHeader
