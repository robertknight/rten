import RtenVerif.Model.CopyRange
import RtenVerif.Lemmas.NArr
import RtenVerif.Lemmas.Blocks

/-! C09: given a destination of exactly `∏ steps` elements, the loop-level model of
`copy_range_into_slice` fires none of its assertions and computes the row-major gather `cart`,
which `gather_data` ties to the reference `NArr.gather`. -/
namespace RtenVerif.CopyRange
open RtenVerif.Arr

/-- Cartesian product of the index lists in row-major order (first list outermost). -/
def cart : List (List Nat) → List (List Nat)
  | [] => [[]]
  | r :: rs => r.flatMap (fun i => (cart rs).map (i :: ·))

theorem writeSeq_spec (src : List Nat → Nat) (L : List (List Nat)) (pre rest : List Nat)
    (h : rest.length = L.length) :
    writeSeq src L (pre ++ rest) pre.length = (pre ++ L.map src, pre.length + L.length) := by
  induction L generalizing pre rest with
  | nil =>
    cases rest with
    | nil => simp [writeSeq]
    | cons a as => simp at h
  | cons x xs ih =>
    cases rest with
    | nil => simp at h
    | cons y ys =>
      have h' : ys.length = xs.length := by simpa using h
      have := ih (pre ++ [src x]) ys h'
      simp only [writeSeq, List.foldl_cons] at this ⊢
      rw [List.set_append_right _ _ (Nat.le_refl _), Nat.sub_self, List.set_cons_zero]
      have e : pre ++ src x :: ys = (pre ++ [src x]) ++ ys := by simp
      have e2 : pre.length + 1 = (pre ++ [src x]).length := by simp
      rw [e, e2, this]
      simp
      omega

theorem cart_length (ranges : List (List Nat)) : (cart ranges).length = prodLen ranges := by
  induction ranges with
  | nil => rfl
  | cons r rs ih =>
    simp only [cart, prodLen, List.map_cons, List.foldr_cons]
    rw [Blocks.length_flatMap _ _ (cart rs).length (fun x _ => by simp)]
    simp only [prodLen] at ih
    rw [ih]

theorem cart_single (r : List Nat) : cart [r] = r.map (fun i => [i]) := by
  induction r with
  | nil => rfl
  | cons a as ih => simp only [cart, List.flatMap_cons, List.map_cons, List.map_nil] at ih ⊢; simp [ih]

theorem loop4_eq_cart (r0 r1 r2 r3 : List Nat) : loop4 r0 r1 r2 r3 = cart [r0, r1, r2, r3] := by
  have c1 := cart_single r3
  have c2 : cart [r2, r3] = r2.flatMap (fun i2 => r3.map (fun i3 => [i2, i3])) := by
    simp only [cart] at c1 ⊢
    rw [c1]; simp [List.map_map, Function.comp_def]
  have c3 : cart [r1, r2, r3] = r1.flatMap (fun i1 => r2.flatMap (fun i2 => r3.map (fun i3 => [i1, i2, i3]))) := by
    have : cart [r1, r2, r3] = r1.flatMap (fun i => (cart [r2, r3]).map (i :: ·)) := rfl
    rw [this, c2]; simp [List.map_flatMap, List.map_map, Function.comp_def]
  have : cart [r0, r1, r2, r3] = r0.flatMap (fun i => (cart [r1, r2, r3]).map (i :: ·)) := rfl
  rw [this, c3]; simp [loop4, List.map_flatMap, List.map_map, Function.comp_def]

theorem cart_map_cons (src : List Nat → Nat) (r : List Nat) (rs : List (List Nat)) :
    (cart (r :: rs)).map src = r.flatMap (fun i => (cart rs).map (fun idx => src (i :: idx))) := by
  simp [cart, List.map_flatMap, List.map_map, Function.comp_def]

theorem outerLoop_spec (rec : (List Nat → Nat) → List Nat → Except Err (List Nat))
    (src : List Nat → Nat) (rest : List (List Nat))
    (hrec : ∀ s d, d.length = prodLen rest → rec s d = .ok ((cart rest).map s))
    (r0 done remaining : List Nat) (h : remaining.length = r0.length * prodLen rest) :
    outerLoop rec src (prodLen rest) r0 done remaining =
      .ok (done ++ r0.flatMap (fun i => (cart rest).map (fun idx => src (i :: idx))), []) := by
  induction r0 generalizing done remaining with
  | nil =>
    simp only [List.length_nil, Nat.zero_mul] at h
    have : remaining = [] := List.length_eq_zero_iff.mp h
    simp [outerLoop, this]
  | cons i is ih =>
    simp only [List.length_cons, Nat.succ_mul] at h
    simp only [outerLoop]
    rw [if_neg (by omega)]
    rw [hrec _ _ (by rw [List.length_take]; omega)]
    simp only []
    rw [ih _ _ (by rw [List.length_drop]; omega)]
    simp [List.flatMap_cons]

theorem copyInner_spec (n : Nat) : ∀ (ranges : List (List Nat)) (src : List Nat → Nat)
    (dest : List Nat), ranges.length = n + 4 → dest.length = prodLen ranges →
    copyInner src dest ranges = .ok ((cart ranges).map src) := by
  induction n with
  | zero =>
    intro ranges src dest hl hd
    match ranges, hl with
    | [r0, r1, r2, r3], _ =>
      simp only [copyInner]
      rw [if_neg (by omega)]
      have := writeSeq_spec src (loop4 r0 r1 r2 r3) [] dest
        (by rw [loop4_eq_cart, cart_length]; exact hd)
      simp only [List.nil_append, List.length_nil] at this
      rw [this, loop4_eq_cart]
  | succ n ih =>
    intro ranges src dest hl hd
    match ranges, hl with
    | r0 :: r1 :: r2 :: r3 :: r4 :: rest, hl =>
      have hl' : (r1 :: r2 :: r3 :: r4 :: rest).length = n + 4 := by simpa using hl
      simp only [copyInner]
      have hsp := outerLoop_spec
        (fun s d => copyInner s d (r1 :: r2 :: r3 :: r4 :: rest)) src (r1 :: r2 :: r3 :: r4 :: rest)
        (fun s d hdl => ih _ s d hl' hdl) r0 [] dest
        (by simpa [prodLen] using hd)
      rw [hsp]
      simp only [List.nil_append, List.isEmpty_nil, if_true]
      rw [cart_map_cons]

theorem prodLen_pad (pad : Nat) (ranges : List (List Nat)) :
    prodLen (List.replicate pad [0] ++ ranges) = prodLen ranges := by
  induction pad with
  | zero => rfl
  | succ p ih =>
    simp only [List.replicate_succ, List.cons_append, prodLen, List.map_cons, List.foldr_cons,
      List.length_singleton, Nat.one_mul] at ih ⊢
    exact ih

theorem cart_pad (pad : Nat) (src : List Nat → Nat) (ranges : List (List Nat)) :
    (cart (List.replicate pad [0] ++ ranges)).map (fun idx => src (idx.drop pad)) =
      (cart ranges).map src := by
  induction pad generalizing src with
  | zero => simp
  | succ p ih =>
    have := ih (fun idx => src idx)
    simp only [List.replicate_succ, List.cons_append, cart, List.flatMap_cons, List.flatMap_nil,
      List.append_nil, List.map_map]
    rw [← ih src]
    apply List.map_congr_left
    intro idx _
    simp

theorem copyRangeIntoSlice_spec (ranges : List (List Nat)) (src : List Nat → Nat) (dest : List Nat)
    (hd : dest.length = prodLen ranges) :
    copyRangeIntoSlice src dest ranges = .ok ((cart ranges).map src) := by
  unfold copyRangeIntoSlice
  simp only []
  have hlen : (List.replicate (4 - ranges.length) [0] ++ ranges).length =
      (ranges.length - 4) + 4 := by
    simp; omega
  rw [copyInner_spec _ _ _ _ hlen (by rw [prodLen_pad]; exact hd), cart_pad]

theorem selShape_takes (ranges : List (List Nat)) (shape : List Nat)
    (h : ranges.length = shape.length) :
    selShape (ranges.map Sel.take) shape = ranges.map List.length := by
  induction ranges generalizing shape with
  | nil => cases shape with
    | nil => rfl
    | cons a as => simp at h
  | cons r rs ih =>
    cases shape with
    | nil => simp at h
    | cons n ns => simp only [List.map_cons, selShape, ih ns (by simpa using h)]

theorem cart_eq_idxs (ranges : List (List Nat)) :
    (idxs (ranges.map List.length)).map (selSrc (ranges.map Sel.take)) = cart ranges := by
  induction ranges with
  | nil => rfl
  | cons r rs ih =>
    simp only [List.map_cons, idxs, cart, List.map_flatMap, List.map_map]
    conv => rhs; rw [← map_getD_range r 0, List.flatMap_map]
    congr 1
    funext i
    rw [← ih, List.map_map]
    apply List.map_congr_left
    intro js _
    simp [selSrc]

theorem gather_data {α : Type} [Inhabited α] (A : NArr α) (ranges : List (List Nat))
    (h : ranges.length = A.shape.length) :
    (NArr.gather (ranges.map Sel.take) A).data = (cart ranges).map A.get := by
  simp only [NArr.gather, NArr.ofFn, selShape_takes ranges A.shape h]
  rw [← cart_eq_idxs, List.map_map]
  rfl

end RtenVerif.CopyRange
