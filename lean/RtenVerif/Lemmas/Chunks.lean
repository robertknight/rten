import RtenVerif.Model.Chunks

/-!
Lemmas about `chunkRanges` for C29 (core Lean only): how `fullCount` and `remSize` split `n`,
which window sits at which index (`ranges_get`), and from these two the bounds, the cover and the
relation between consecutive windows; at the end the lengths of `slice` and of an optional token.
-/
namespace RtenVerif.Chunks

theorem chunkRanges_eq {n size overlap : Nat} (h : overlap < size) :
    chunkRanges n size overlap =
      some ((List.range (fullCount n size (size - overlap))).map (fun i => (i * (size - overlap), size))
        ++ (if 0 < remSize n size (size - overlap) then
              [(n - remSize n size (size - overlap), remSize n size (size - overlap))] else [])) := by
  simp [chunkRanges, h]

theorem chunkRanges_none {n size overlap : Nat} (h : size ≤ overlap) :
    chunkRanges n size overlap = none := by
  simp [chunkRanges, Nat.not_lt.mpr h]

theorem chunkRanges_some_lt {n size overlap : Nat} {rs : List (Nat × Nat)}
    (h : chunkRanges n size overlap = some rs) : overlap < size := by
  by_cases hlt : overlap < size
  · exact hlt
  · rw [chunkRanges_none (Nat.le_of_not_lt hlt)] at h; cases h

theorem fullCount_pos_iff {n size stride : Nat} : 0 < fullCount n size stride ↔ size ≤ n := by
  unfold fullCount
  split
  · omega
  · exact ⟨fun _ => by omega, fun _ => Nat.succ_pos _⟩

theorem remSize_short {n size : Nat} (stride : Nat) (h : n < size) : remSize n size stride = n :=
  if_pos h

theorem remSize_le {n size : Nat} (stride : Nat) : remSize n size stride ≤ n := by
  unfold remSize
  split
  · exact Nat.le_refl _
  · exact Nat.le_trans (Nat.mod_le _ _) (Nat.sub_le _ _)

theorem full_add_rem {n size stride : Nat} (hs : 0 < stride) (h : size ≤ n) :
    (fullCount n size stride - 1) * stride + size + remSize n size stride = n ∧
      remSize n size stride < stride := by
  have hlt : ¬ n < size := Nat.not_lt.mpr h
  have hd := Nat.div_add_mod (n - size) stride
  rw [Nat.mul_comm] at hd
  simp only [fullCount, remSize, hlt, if_false, Nat.add_sub_cancel]
  exact ⟨by omega, Nat.mod_lt _ hs⟩

theorem full_mem_bound {n size stride i : Nat} (hs : 0 < stride)
    (hi : i < fullCount n size stride) : i * stride + size ≤ n := by
  have hn : size ≤ n := fullCount_pos_iff.mp (Nat.zero_lt_of_lt hi)
  have h1 : i * stride ≤ (fullCount n size stride - 1) * stride :=
    Nat.mul_le_mul_right _ (Nat.le_sub_one_of_lt hi)
  have := (full_add_rem hs hn).1
  omega

theorem ranges_get {n size overlap : Nat} {rs : List (Nat × Nat)}
    (hrs : chunkRanges n size overlap = some rs) (i : Nat) :
    rs[i]? =
      if i < fullCount n size (size - overlap) then some (i * (size - overlap), size)
      else if i = fullCount n size (size - overlap) ∧ 0 < remSize n size (size - overlap) then
        some (n - remSize n size (size - overlap), remSize n size (size - overlap))
      else none := by
  rw [chunkRanges_eq (chunkRanges_some_lt hrs), Option.some.injEq] at hrs
  subst hrs
  by_cases hi : i < fullCount n size (size - overlap)
  · rw [List.getElem?_append_left (by simpa using hi), if_pos hi]
    simp [hi]
  · rw [List.getElem?_append_right (by simpa using hi), if_neg hi, List.length_map, List.length_range]
    by_cases hp : 0 < remSize n size (size - overlap)
    · by_cases he : i = fullCount n size (size - overlap)
      · simp [hp, he]
      · have : i - fullCount n size (size - overlap) ≠ 0 := by omega
        simp [hp, he, this]
    · simp [hp]

theorem ranges_get_cases {n size overlap : Nat} {rs : List (Nat × Nat)}
    (hrs : chunkRanges n size overlap = some rs) {i : Nat} {r : Nat × Nat} (hr : rs[i]? = some r) :
    (i < fullCount n size (size - overlap) ∧ r = (i * (size - overlap), size)) ∨
    (i = fullCount n size (size - overlap) ∧ 0 < remSize n size (size - overlap) ∧
      r = (n - remSize n size (size - overlap), remSize n size (size - overlap))) := by
  rw [ranges_get hrs] at hr
  split at hr
  · exact .inl ⟨‹_›, (Option.some.inj hr).symm⟩
  · split at hr
    · exact .inr ⟨‹_ ∧ _›.1, ‹_ ∧ _›.2, (Option.some.inj hr).symm⟩
    · cases hr

theorem ranges_bounds {n size overlap : Nat} {rs : List (Nat × Nat)}
    (hrs : chunkRanges n size overlap = some rs) {r : Nat × Nat} (hr : r ∈ rs) :
    0 < r.2 ∧ r.2 ≤ size ∧ r.1 + r.2 ≤ n := by
  have hs : 0 < size - overlap := Nat.sub_pos_of_lt (chunkRanges_some_lt hrs)
  obtain ⟨i, hri⟩ := List.getElem?_of_mem hr
  rcases ranges_get_cases hrs hri with ⟨hi, rfl⟩ | ⟨_, hp, rfl⟩
  · have := full_mem_bound hs hi
    exact ⟨by omega, Nat.le_refl _, this⟩
  · refine ⟨hp, ?_, Nat.le_of_eq (Nat.sub_add_cancel (remSize_le _))⟩
    rcases Nat.lt_or_ge n size with hlt | hge
    · exact Nat.le_trans (remSize_le _) (Nat.le_of_lt hlt)
    · exact Nat.le_trans (Nat.le_of_lt (full_add_rem hs hge).2) (Nat.sub_le _ _)

/-- `p` lies in window `min (p / stride) k`. -/
theorem cover_full {stride size k p : Nat} (hs : 0 < stride) (hss : stride ≤ size)
    (hp : p < k * stride + size) : ∃ i, i ≤ k ∧ i * stride ≤ p ∧ p < i * stride + size := by
  have hq := Nat.div_mul_le_self p stride
  rcases Nat.le_total (p / stride) k with h | h
  · have := Nat.lt_mul_of_div_lt (Nat.lt_succ_self (p / stride)) hs
    rw [Nat.succ_mul] at this
    exact ⟨_, h, hq, by omega⟩
  · exact ⟨k, Nat.le_refl k, Nat.le_trans (Nat.mul_le_mul_right _ h) hq, hp⟩

theorem ranges_cover {n size overlap : Nat} {rs : List (Nat × Nat)}
    (hrs : chunkRanges n size overlap = some rs) {p : Nat} (hp : p < n) :
    ∃ r ∈ rs, r.1 ≤ p ∧ p < r.1 + r.2 := by
  have hs : 0 < size - overlap := Nat.sub_pos_of_lt (chunkRanges_some_lt hrs)
  have hget := ranges_get hrs
  have hrem := remSize_le (n := n) (size := size) (size - overlap)
  rcases Nat.lt_or_ge p (n - remSize n size (size - overlap)) with hfull | htail
  · have hge : size ≤ n := Nat.le_of_not_lt fun hlt => by
      rw [remSize_short _ hlt] at hfull; omega
    have hsum := (full_add_rem hs hge).1
    have hfc : 0 < fullCount n size (size - overlap) := fullCount_pos_iff.mpr hge
    obtain ⟨i, hi, h1, h2⟩ := cover_full (size := size) (p := p) (k := fullCount n size (size - overlap) - 1) hs
      (Nat.sub_le _ _) (by omega)
    exact ⟨_, List.mem_of_getElem? ((hget i).trans (if_pos (by omega))), h1, h2⟩
  · exact ⟨_, List.mem_of_getElem? ((hget _).trans
      (by rw [if_neg (Nat.lt_irrefl _), if_pos ⟨rfl, by omega⟩])), htail, by
        show p < _ - _ + _; omega⟩

theorem ranges_consecutive {n size overlap : Nat} {rs : List (Nat × Nat)}
    (hrs : chunkRanges n size overlap = some rs) {i : Nat} {r r' : Nat × Nat}
    (hr : rs[i]? = some r) (hr' : rs[i + 1]? = some r') :
    r.1 = i * (size - overlap) ∧ r.2 = size ∧
    ((i + 1 < fullCount n size (size - overlap) ∧ r'.1 = r.1 + (size - overlap) ∧ r'.2 = size) ∨
     (i + 1 = fullCount n size (size - overlap) ∧ 0 < remSize n size (size - overlap) ∧
       r'.2 = remSize n size (size - overlap) ∧ r'.1 = r.1 + size ∧ r'.1 + r'.2 = n)) := by
  have hs : 0 < size - overlap := Nat.sub_pos_of_lt (chunkRanges_some_lt hrs)
  rcases ranges_get_cases hrs hr' with ⟨hi', rfl⟩ | ⟨hi', hp, rfl⟩
  · rcases ranges_get_cases hrs hr with ⟨_, rfl⟩ | ⟨hi, _⟩
    · exact ⟨rfl, rfl, .inl ⟨hi', Nat.succ_mul _ _, rfl⟩⟩
    · omega
  · rcases ranges_get_cases hrs hr with ⟨_, rfl⟩ | ⟨hi, _⟩
    · have := (full_add_rem hs (fullCount_pos_iff.mp
        (by omega : 0 < fullCount n size (size - overlap)))).1
      rw [← hi', Nat.add_sub_cancel] at this
      exact ⟨rfl, rfl, .inr ⟨hi', hp, rfl, Nat.sub_eq_of_eq_add this.symm,
        Nat.sub_add_cancel (remSize_le _)⟩⟩
    · omega

theorem slice_length {α : Type} (xs : List α) (r : Nat × Nat) :
    (slice xs r).length = min r.2 (xs.length - r.1) := by
  simp only [slice, List.length_take, List.length_drop]

theorem optLen_toList (o : Option Nat) : o.toList.length = optLen o := by
  cases o <;> rfl

end RtenVerif.Chunks
