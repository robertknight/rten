import RtenVerif.Model.Ctc
import RtenVerif.Lemmas.NatListSum
import RtenVerif.Lemmas.ListBasics

/-!
# The CTC prefix recursion `dpRev` computes `exactTotal`

By induction on the rows, the last one split off (`collapse` and the alignments under snoc).  The
alignments that collapse to `s` are those that end in a blank or are empty (`PB s`) and those that
end in a non-blank (`PNB s`); the sums `gsum` of their weights obey the two recurrences of `dpRev`.
-/
namespace RtenVerif.Ctc

theorem sum_range_ite (L k v : Nat) :
    ((List.range L).map (fun l => if l = k then v else 0)).sum = if k < L then v else 0 := by
  split
  · next h =>
    rw [sum_map_eq_single List.nodup_range (List.mem_range.mpr h), if_pos rfl]
    intro x _ hx
    exact Decidable.by_contra fun hne => hx (if_neg hne)
  · next h =>
    exact sum_map_eq_zero fun x hx => if_neg fun (hxk : x = k) => h (hxk ▸ List.mem_range.mp hx)

theorem dedupAdj_snoc (a : List Nat) (l : Nat) :
    dedupAdj (a ++ [l]) = if a.getLast? = some l then dedupAdj a else dedupAdj a ++ [l] := by
  induction a using dedupAdj.induct with
  | case1 => simp [dedupAdj]
  | case2 x =>
    by_cases h : x = l
    · subst h; simp [dedupAdj]
    · simp [dedupAdj, h]
  | case3 x r ih =>
    have : (x :: x :: r) ++ [l] = x :: x :: (r ++ [l]) := rfl
    rw [this, dedupAdj, if_pos rfl, List.getLast?_cons_cons, dedupAdj, if_pos rfl]
    exact ih
  | case4 x y r hxy ih =>
    have : (x :: y :: r) ++ [l] = x :: y :: (r ++ [l]) := rfl
    rw [this, dedupAdj, if_neg hxy, List.getLast?_cons_cons]
    have ih' : dedupAdj (y :: (r ++ [l])) = _ := ih
    rw [ih', dedupAdj, if_neg hxy]
    split <;> simp

theorem dedupAdj_getLast? (a : List Nat) : (dedupAdj a).getLast? = a.getLast? := by
  induction a using snoc_induction with
  | nil => simp [dedupAdj]
  | snoc a l ih =>
    rw [dedupAdj_snoc]
    split
    · next h => rw [ih, h]; simp
    · simp

theorem dedupAdj_subset (a : List Nat) : ∀ x ∈ dedupAdj a, x ∈ a := by
  fun_induction dedupAdj a with
  | case1 => intro x hx; exact hx
  | case2 y => intro x hx; exact hx
  | case3 y r ih =>
    intro x hx; exact List.mem_cons_of_mem _ (ih x hx)
  | case4 y z r hne ih =>
    intro x hx
    rcases List.mem_cons.mp hx with rfl | hx
    · exact List.mem_cons_self
    · exact List.mem_cons_of_mem _ (ih x hx)

theorem collapse_snoc_zero (a : List Nat) : collapse (a ++ [0]) = collapse a := by
  unfold collapse
  rw [dedupAdj_snoc]
  split <;> simp [List.filter_append]

theorem collapse_snoc (a : List Nat) (l : Nat) (hl : l ≠ 0) :
    collapse (a ++ [l]) = if a.getLast? = some l then collapse a else collapse a ++ [l] := by
  unfold collapse
  rw [dedupAdj_snoc]
  split <;> simp [List.filter_append, hl]

theorem collapse_getLast? (a : List Nat) (l : Nat) (h : a.getLast? = some l) (hl : l ≠ 0) :
    (collapse a).getLast? = some l := by
  rw [← dedupAdj_getLast?, List.getLast?_eq_some_iff] at h
  obtain ⟨ys, hys⟩ := h
  unfold collapse
  rw [hys]
  simp [List.filter_append, hl]

theorem mem_allAligns (L : Nat) : ∀ t, ∀ a ∈ allAligns L t, a.length = t ∧ ∀ x ∈ a, x < L := by
  intro t
  induction t with
  | zero =>
    intro a ha
    rw [List.mem_singleton.mp ha]
    exact ⟨rfl, fun _ hx => nomatch hx⟩
  | succ t ih =>
    intro a ha
    simp only [allAligns, List.mem_flatMap, List.mem_map, List.mem_range] at ha
    obtain ⟨b, hb, l, hl, rfl⟩ := ha
    refine ⟨by rw [List.length_append, (ih b hb).1]; rfl, fun x hx => ?_⟩
    rcases List.mem_append.mp hx with h | h
    · exact (ih b hb).2 x h
    · rw [List.mem_singleton.mp h]; exact hl

theorem weight_snoc (rows : List (List Nat)) (row : List Nat) (a : List Nat) (l : Nat)
    (h : a.length = rows.length) :
    weight (rows ++ [row]) (a ++ [l]) = weight rows a * row.getD l 0 := by
  unfold weight
  rw [List.zip_append h.symm, List.foldl_append]
  simp

def gsum (L : Nat) (rows : List (List Nat)) (P : List Nat → Bool) : Nat :=
  ((allAligns L rows.length).map (fun a => if P a then weight rows a else 0)).sum

theorem gsum_false (L : Nat) (rows : List (List Nat)) : gsum L rows (fun _ => false) = 0 := by
  exact sum_map_eq_zero fun _ _ => rfl

theorem gsum_or (L : Nat) (rows : List (List Nat)) (P Q : List Nat → Bool)
    (hd : ∀ a, (P a && Q a) = false) :
    gsum L rows (fun a => P a || Q a) = gsum L rows P + gsum L rows Q := by
  unfold gsum
  rw [← sum_map_add]
  congr 1
  apply List.map_congr_left
  intro a _
  have := hd a
  cases hP : P a <;> cases hQ : Q a <;> simp_all

theorem gsum_snoc_sel (L : Nat) (rows : List (List Nat)) (row : List Nat) (hrow : row.length = L)
    (P Q : List Nat → Bool) (k : Nat)
    (h : ∀ a l, P (a ++ [l]) = (decide (l = k) && Q a)) :
    gsum L (rows ++ [row]) P = row.getD k 0 * gsum L rows Q := by
  unfold gsum
  rw [List.length_append, List.length_singleton, allAligns, sum_map_flatMap, Nat.mul_comm,
    ← sum_map_mul_const]
  congr 1
  apply List.map_congr_left
  intro a ha
  have hlen := (mem_allAligns L _ a ha).1
  rw [List.map_map]
  have : ((fun b => if P b = true then weight (rows ++ [row]) b else 0) ∘ fun l => a ++ [l])
      = fun l => if l = k then (if Q a = true then weight rows a else 0) * row.getD k 0 else 0 := by
    funext l
    simp only [Function.comp, h a l, weight_snoc rows row a l hlen]
    by_cases hlk : l = k
    · subst hlk; cases Q a <;> simp
    · simp [hlk]
  rw [this, sum_range_ite]
  split
  · rfl
  · next hk =>
    have : row.getD k 0 = 0 := by
      rw [List.getD_eq_getElem?_getD, List.getElem?_eq_none (by omega)]; rfl
    rw [this, Nat.mul_zero]

def endsNB (a : List Nat) : Bool :=
  match a.getLast? with
  | some l => l != 0
  | none => false

theorem endsNB_snoc (a : List Nat) (l : Nat) : endsNB (a ++ [l]) = (l != 0) := by
  simp [endsNB]

theorem endsNB_iff (a : List Nat) : endsNB a = true ↔ ∃ l, l ≠ 0 ∧ a.getLast? = some l := by
  unfold endsNB
  cases a.getLast? with
  | none => simp
  | some l => simp

def PAll (s a : List Nat) : Bool := collapse a == s
def PB (s a : List Nat) : Bool := collapse a == s && !endsNB a
def PNB (s a : List Nat) : Bool := collapse a == s && endsNB a

/-- The predecessors of an alignment in `PNB (s' ++ [m])` after its last label `m` is removed. -/
def QNB (s' : List Nat) (m : Nat) (a : List Nat) : Bool :=
  (PNB (s' ++ [m]) a || PB s' a) || (!(s'.getLast? == some m) && PNB s' a)

theorem PB_snoc (s a : List Nat) (l : Nat) :
    PB s (a ++ [l]) = (decide (l = 0) && PAll s a) := by
  by_cases hl : l = 0
  · subst hl; simp [PB, PAll, endsNB_snoc, collapse_snoc_zero]
  · simp [PB, endsNB_snoc, hl]

theorem PNB_nil (a : List Nat) : PNB [] a = false := by
  cases he : endsNB a with
  | false => simp [PNB, he]
  | true =>
    obtain ⟨l, hl, hg⟩ := (endsNB_iff a).mp he
    have := collapse_getLast? a l hg hl
    cases hc : collapse a with
    | nil => rw [hc] at this; cases this
    | cons x r => simp [PNB, hc]

theorem PNB_snoc (s' : List Nat) (m : Nat) (hm : m ≠ 0) (a : List Nat) (l : Nat) :
    PNB (s' ++ [m]) (a ++ [l]) = (decide (l = m) && QNB s' m a) := by
  rw [Bool.eq_iff_iff]
  simp only [PNB, QNB, PB, endsNB_snoc, Bool.and_eq_true, Bool.or_eq_true, beq_iff_eq,
    bne_iff_ne, decide_eq_true_eq, Bool.not_eq_true', beq_eq_false_iff_ne, ne_eq]
  have hlast : ∀ s, collapse a = s → endsNB a = true → ∃ l', l' ≠ 0 ∧ a.getLast? = some l' ∧
      s.getLast? = some l' := fun s hs he => by
    obtain ⟨l', hl', hg⟩ := (endsNB_iff a).mp he
    exact ⟨l', hl', hg, hs ▸ collapse_getLast? a l' hg hl'⟩
  constructor
  · rintro ⟨hc, hl⟩
    rw [collapse_snoc a l hl] at hc
    by_cases hg : a.getLast? = some l
    · rw [if_pos hg] at hc
      have := collapse_getLast? a l hg hl
      rw [hc, List.getLast?_concat] at this
      exact ⟨(Option.some.inj this).symm, Or.inl (Or.inl ⟨hc, (endsNB_iff a).mpr ⟨l, hl, hg⟩⟩)⟩
    · rw [if_neg hg] at hc
      have h2 := List.append_inj' hc rfl
      obtain rfl : l = m := (List.cons.inj h2.2).1
      refine ⟨rfl, ?_⟩
      cases he : endsNB a with
      | false => exact Or.inl (Or.inr ⟨h2.1, rfl⟩)
      | true =>
        obtain ⟨l', _, hg', hs'⟩ := hlast s' h2.1 he
        exact Or.inr ⟨fun h => hg (hg'.trans (hs'.symm.trans h)), h2.1, rfl⟩
  · rintro ⟨rfl, (⟨hc, he⟩ | ⟨hc, he⟩) | ⟨hne, hc, he⟩⟩
    · obtain ⟨l', _, hg', hs'⟩ := hlast _ hc he
      rw [List.getLast?_concat] at hs'
      rw [collapse_snoc a l hm, if_pos (hg'.trans hs'.symm)]
      exact ⟨hc, hm⟩
    · have hg : ¬ a.getLast? = some l := fun hg => by
        rw [(endsNB_iff a).mpr ⟨l, hm, hg⟩] at he; cases he
      rw [collapse_snoc a l hm, if_neg hg, hc]
      exact ⟨rfl, hm⟩
    · obtain ⟨l', _, hg', hs'⟩ := hlast _ hc he
      have hg : ¬ a.getLast? = some l := fun hg => hne (hs'.trans (hg'.symm.trans hg))
      rw [collapse_snoc a l hm, if_neg hg, hc]
      exact ⟨rfl, hm⟩

theorem gsum_PAll (L : Nat) (rows : List (List Nat)) (s : List Nat) :
    gsum L rows (PAll s) = gsum L rows (PB s) + gsum L rows (PNB s) := by
  rw [← gsum_or]
  · congr 1
    funext a
    simp only [PAll, PB, PNB]
    cases collapse a == s <;> cases endsNB a <;> rfl
  · intro a
    simp only [PB, PNB]
    cases collapse a == s <;> cases endsNB a <;> rfl

theorem gsum_QNB (L : Nat) (rows : List (List Nat)) (s' : List Nat) (m : Nat) :
    gsum L rows (QNB s' m) = gsum L rows (PNB (s' ++ [m])) + gsum L rows (PB s') +
      (if s'.getLast? = some m then 0 else gsum L rows (PNB s')) := by
  have h1 : gsum L rows (QNB s' m) =
      gsum L rows (fun a => PNB (s' ++ [m]) a || PB s' a) +
        gsum L rows (fun a => !(s'.getLast? == some m) && PNB s' a) := by
    refine (gsum_or L rows _ _ fun a => ?_).symm ▸ rfl
    -- the first two classes collapse to `s' ++ [m]` or end in a blank, the third does neither
    simp only [PB, PNB]
    cases hc : collapse a == s' ++ [m] with
    | false => cases endsNB a <;> simp
    | true =>
      have : (collapse a == s') = false := by
        rw [beq_iff_eq.mp hc]; simp
      simp [this]
  have h2 : gsum L rows (fun a => PNB (s' ++ [m]) a || PB s' a) =
      gsum L rows (PNB (s' ++ [m])) + gsum L rows (PB s') := by
    apply gsum_or
    intro a
    simp only [PB, PNB]
    cases endsNB a <;> simp
  rw [h1, h2]
  congr 1
  split
  · next h => simp [h, gsum_false]
  · next h =>
    congr 1
    funext a
    simp [h]

theorem gsum_PB_snoc (L : Nat) (rows : List (List Nat)) (row : List Nat) (hrow : row.length = L)
    (s : List Nat) :
    gsum L (rows ++ [row]) (PB s) =
      row.getD 0 0 * (gsum L rows (PB s) + gsum L rows (PNB s)) := by
  rw [gsum_snoc_sel L rows row hrow (PB s) (PAll s) 0 (PB_snoc s), gsum_PAll]

theorem gsum_PNB_nil (L : Nat) (rows : List (List Nat)) : gsum L rows (PNB []) = 0 :=
  sum_map_eq_zero fun a _ => by rw [PNB_nil]; rfl

theorem gsum_PNB_snoc (L : Nat) (rows : List (List Nat)) (row : List Nat) (hrow : row.length = L)
    (s' : List Nat) (m : Nat) (hm : m ≠ 0) :
    gsum L (rows ++ [row]) (PNB (s' ++ [m])) =
      row.getD m 0 * (gsum L rows (PNB (s' ++ [m])) + gsum L rows (PB s') +
        (if s'.getLast? = some m then 0 else gsum L rows (PNB s'))) := by
  rw [gsum_snoc_sel L rows row hrow (PNB (s' ++ [m])) (QNB s' m) m (PNB_snoc s' m hm), gsum_QNB]

theorem dpRev_eq_gsum (L : Nat) (rr : List (List Nat)) (hw : ∀ r ∈ rr, r.length = L) :
    ∀ s : List Nat, (∀ m ∈ s, m ≠ 0) →
      (dpRev rr s).1 = gsum L rr.reverse (PB s) ∧ (dpRev rr s).2 = gsum L rr.reverse (PNB s) := by
  induction rr with
  | nil =>
    intro s _
    simp only [dpRev, gsum, List.reverse_nil, List.length_nil, allAligns, PB, PNB, endsNB, weight]
    cases s <;> simp [collapse, dedupAdj]
  | cons row before ih =>
    intro s hs
    have hrow : row.length = L := hw row (by simp)
    have ih' := ih (fun r hr => hw r (by simp [hr]))
    rw [List.reverse_cons]
    rcases List.eq_nil_or_concat s with rfl | ⟨s', m, rfl⟩
    · have := ih' [] (by simp)
      rw [gsum_PB_snoc L _ row hrow]
      simp [dpRev, this.1, this.2, gsum_PNB_nil]
    · rw [List.concat_eq_append] at hs ⊢
      have hm : m ≠ 0 := hs m (by simp)
      have h1 := ih' (s' ++ [m]) hs
      have h2 := ih' s' (fun x hx => hs x (by simp [hx]))
      rw [gsum_PB_snoc L _ row hrow, gsum_PNB_snoc L _ row hrow s' m hm]
      simp [dpRev, h1.1, h1.2, h2.1, h2.2]

/-- **The CTC prefix recursion is exact**: on a `T × L` matrix and a blank-free label
sequence, `dpRev` (run over the reversed rows) sums to the brute-force total over all
alignments collapsing to `s`. -/
theorem dpRev_eq_exactTotal (L : Nat) (rows : List (List Nat))
    (hw : ∀ r ∈ rows, r.length = L) (s : List Nat) (hs : ∀ m ∈ s, m ≠ 0) :
    (dpRev rows.reverse s).1 + (dpRev rows.reverse s).2 = exactTotal L rows s := by
  have h := dpRev_eq_gsum L rows.reverse (fun r hr => hw r (by simpa using hr)) s hs
  rw [h.1, h.2, List.reverse_reverse, ← gsum_PAll]
  unfold exactTotal gsum
  rw [sum_filter_map]
  rfl

end RtenVerif.Ctc
