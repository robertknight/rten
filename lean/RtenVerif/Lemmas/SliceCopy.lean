import RtenVerif.Lemmas.SliceT1
import RtenVerif.Lemmas.CopyRange

/-! C09: the copying path of `slice_copy` (fixed code) for range items with any non-zero step. -/
namespace RtenVerif.Layout
open RtenVerif.Arr RtenVerif.Overlap

/-- The reference selection for range-only items. -/
def rsels : Dims → List SliceItem → List Sel
  | (n, _) :: ds, .range r :: its => Sel.take (pyIndices r.start r.stop r.step n) :: rsels ds its
  | _, _ => []

/-- The per-axis index lists `copy_range_into_slice` enumerates (every axis). -/
def rlists : Dims → List SliceItem → List (List Nat)
  | [], _ => []
  | (n, _) :: ds, [] => List.range n :: rlists ds []
  | (n, _) :: ds, .range r :: its => pyIndices r.start r.stop r.step n :: rlists ds its
  | (_, _) :: ds, .index _ :: its => [] :: rlists ds its

def rangesOnly (items : List SliceItem) : Prop :=
  ∀ it ∈ items, ∃ r, it = SliceItem.range r ∧ r.step ≠ 0

theorem pyIndices_length (a : Int) (b : Option Int) (c : Int) (n : Nat) :
    (pyIndices a b c n).length = pyCount a b c n := by
  simp [pyIndices]

theorem copyRanges_nil (d : Dims) : copyRanges d [] = .ok (rlists d []) := by
  induction d with
  | nil => rfl
  | cons p ds ih =>
    obtain ⟨n, st⟩ := p
    simp only [copyRanges, ih, rlists, bind, Except.bind, pure, Except.pure]

theorem copy_path_spec (d : Dims) (items : List SliceItem) (hlen : items.length ≤ d.length)
    (hr : rangesOnly items) :
    copyRanges d items = .ok (rlists d items) ∧
    slicedShape d items = .ok (selShape (rsels d items) (sizes d)) ∧
    NArr.copySels (items.map toRefItem) (sizes d) = .ok (rsels d items) ∧
    (rlists d items).map List.length = selShape (rsels d items) (sizes d) := by
  induction d generalizing items with
  | nil =>
    cases items with
    | nil => exact ⟨rfl, rfl, rfl, rfl⟩
    | cons it its => simp at hlen
  | cons p ds ih =>
    obtain ⟨n, st⟩ := p
    cases items with
    | nil =>
      have h := ih [] (by simp) (fun it h => by cases h)
      refine ⟨copyRanges_nil _, rfl, rfl, ?_⟩
      have h4 := h.2.2.2
      simp only [rlists, rsels, selShape, List.map_cons, List.length_range, sizes] at h4 ⊢
      rw [h4]
    | cons it its =>
      have hlen' : its.length ≤ ds.length := by simpa using hlen
      obtain ⟨r, hit, h0⟩ := hr it List.mem_cons_self
      subst hit
      have hr' : rangesOnly its := fun it h => hr it (List.mem_cons_of_mem _ h)
      obtain ⟨h1, h2, h3, h4⟩ := ih its hlen' hr'
      obtain ⟨ir, hir, htl, hst⟩ := indexRange_spec r n h0
      refine ⟨?_, ?_, ?_, ?_⟩
      · simp only [copyRanges, SliceItem.indexRange, hir, h1, rlists, htl, bind, Except.bind, pure,
          Except.pure]
      · simp only [slicedShape, h2, hir, rsels, sizes, List.map_cons, selShape, hst,
          pyIndices_length, bind, Except.bind, pure, Except.pure]
      · simp only [List.map_cons, toRefItem, sizes, NArr.copySels, h0, if_false, rsels]
        simp only [sizes] at h3
        rw [h3]; rfl
      · simp only [rlists, rsels, sizes, List.map_cons, selShape]
        simp only [sizes] at h4
        rw [h4]

theorem rlists_length (d : Dims) (items : List SliceItem) : (rlists d items).length = d.length := by
  fun_induction rlists d items <;> simp [*]

/-- The index tuples the loop visits are the source indices of the reference selection, in the same
order: enumerating an un-sliced axis explicitly (`0..n`) is the same as leaving it out. -/
theorem cart_rlists (d : Dims) (items : List SliceItem) (hlen : items.length ≤ d.length)
    (hr : rangesOnly items) :
    CopyRange.cart (rlists d items) =
      (idxs (selShape (rsels d items) (sizes d))).map (selSrc (rsels d items)) := by
  fun_induction rlists d items
  case case1 items =>
    cases items with
    | nil => rfl
    | cons it its => simp at hlen
  case case2 n st ds ih =>
    have hs : rsels ds [] = [] := by cases ds <;> rfl
    have ih' := ih (by simp) hr
    rw [hs] at ih'
    simp only [CopyRange.cart, ih', rsels, selShape, sizes_cons, idxs, List.map_flatMap, List.map_map]
    rfl
  case case3 n st ds r its ih =>
    simp only [CopyRange.cart, ih (by simpa using hlen) fun it h => hr it (List.mem_cons_of_mem _ h),
      rsels, selShape, sizes_cons, idxs, List.map_flatMap, List.map_map]
    generalize pyIndices r.start r.stop r.step n = l
    conv => lhs; rw [← map_getD_range l 0, List.flatMap_map]
    rfl
  case case4 =>
    obtain ⟨r, hit, -⟩ := hr _ List.mem_cons_self
    cases hit

end RtenVerif.Layout
