import RtenVerif.Lemmas.TensorBoundsViews
import RtenVerif.Lemmas.TensorBoundsMachine

/-! C06: `SliceRange::resolve` + the `step == 1` fast path of `slice_layout`. -/
namespace RtenVerif.TensorBounds
open RtenVerif.Overlap

/-- What `slice_layout` relies on. -/
def RItemOk (size : Nat) : RItem → Prop
  | .pick p => p < size
  | .span s e => s ≤ e ∧ e ≤ size
  | .keep => True

inductive ItemsOk : List (Nat × Nat) → List RItem → Prop
  | nil (ds : List (Nat × Nat)) : ItemsOk ds []
  | cons {size stride : Nat} {ds : List (Nat × Nat)} {it : RItem} {its : List RItem} :
      RItemOk size it → ItemsOk ds its → ItemsOk ((size, stride) :: ds) (it :: its)

theorem resolve1_ok {start : Int} {stop : Option Int} {n s e : Nat}
    (h : resolve1 true start stop n = some (s, e)) : s ≤ e ∧ e ≤ n := by
  revert h
  fun_cases resolve1 true start stop n <;> intro h
  case case1 s' e' hc => cases h; rw [if_pos rfl]; omega
  case case2 => cases h

theorem resolveItem_ok {size : Nat} {it : SItem} {r : RItem}
    (h : resolveItem true size it = some r) : RItemOk size r := by
  revert h
  fun_cases resolveItem true size it <;> intro h
  case case2 i pos hc => cases h; show pos.toNat < size; omega
  case case4 hr => cases h; exact resolve1_ok hr
  all_goals cases h

theorem resolveItems_ok : ∀ (dims : List (Nat × Nat)) (items : List SItem) (rs : List RItem),
    resolveItems true dims items = some rs → ItemsOk dims rs := by
  intro dims items
  fun_induction resolveItems true dims items <;> intro rs h
  case case1 => cases h; exact .nil _
  case case3 hrs hr ih => cases h; exact .cons (resolveItem_ok hr) (ih _ hrs)
  all_goals cases h

theorem sliceLoopR_nil_items (ds : List (Nat × Nat)) : sliceLoopR ds [] = (0, ds) := by
  cases ds <;> rfl

theorem slice_embeds {dims : List (Nat × Nat)} {items : List RItem} (hok : ItemsOk dims items) :
    Embeds dims (sliceLoopR dims items).2 (sliceLoopR dims items).1 := by
  induction hok with
  | nil ds => rw [sliceLoopR_nil_items]; exact .refl ds
  | @cons size stride ds it its hit _ ih =>
    cases it with
    | pick p =>
      simp only [sliceLoopR]
      rw [Nat.mul_comm]
      exact (Embeds.dim_pick stride hit).append ih
    | span s e =>
      have hit : s ≤ e ∧ e ≤ size := hit
      simp only [sliceLoopR]
      rw [Nat.mul_comm]
      exact (Embeds.dim_block stride (by omega)).append ih
    | keep =>
      simp only [sliceLoopR]
      simpa using (Embeds.refl [(size, stride)]).append ih

end RtenVerif.TensorBounds
