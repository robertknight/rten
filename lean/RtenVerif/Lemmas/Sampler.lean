import RtenVerif.Model.Sampler

/-! Lemmas for C33: the fold invariant of `ArgMax`; the `multinomial` loop in closed form (`firstExceed`,
else `lastPosFrom`) and what these two find. -/
namespace RtenVerif.Sampler

theorem foldl_nan_acc (xs : List (Nat × Option Int)) (acc : Nat × Option Int)
    (h : acc.2 = none) : xs.foldl reduceStep acc = acc := by
  induction xs with
  | nil => rfl
  | cons x xs ih =>
    have : reduceStep acc x = acc := by
      unfold reduceStep gt
      rw [h]
      cases x.2 <;> simp
    simp [List.foldl_cons, this, ih]

theorem reduceStep_spec (acc x : Nat × Option Int) (a : Int) (h : acc.2 = some a) :
    ∃ b, (reduceStep acc x).2 = some b ∧ a ≤ b ∧
      (reduceStep acc x = acc ∨ reduceStep acc x = x) ∧ ∀ w, x.2 = some w → w ≤ b := by
  cases hx : x.2 with
  | none =>
    have hs : reduceStep acc x = acc := by simp [reduceStep, gt, hx]
    exact ⟨a, by rw [hs, h], Int.le_refl _, .inl hs, fun w hw => by cases hw⟩
  | some v =>
    by_cases hgt : a < v
    · have hs : reduceStep acc x = x := by simp [reduceStep, gt, hx, h, hgt]
      exact ⟨v, by rw [hs, hx], Int.le_of_lt hgt, .inr hs, fun w hw => by cases hw; exact Int.le_refl _⟩
    · have hs : reduceStep acc x = acc := by simp [reduceStep, gt, hx, h, hgt]
      exact ⟨a, by rw [hs, h], Int.le_refl _, .inl hs, fun w hw => by cases hw; omega⟩

theorem foldl_spec (xs : List (Nat × Option Int)) (acc : Nat × Option Int) (a : Int)
    (h : acc.2 = some a) :
    ∃ m, (xs.foldl reduceStep acc).2 = some m ∧ a ≤ m ∧
      (xs.foldl reduceStep acc = acc ∨ xs.foldl reduceStep acc ∈ xs) ∧
      ∀ c ∈ xs, ∀ w, c.2 = some w → w ≤ m := by
  induction xs generalizing acc a with
  | nil => exact ⟨a, h, Int.le_refl _, Or.inl rfl, by simp⟩
  | cons x xs ih =>
    obtain ⟨b, hb, hab, hor, hx⟩ := reduceStep_spec acc x a h
    obtain ⟨m, h1, h2, h3, h4⟩ := ih (reduceStep acc x) b hb
    rw [List.foldl_cons]
    refine ⟨m, h1, Int.le_trans hab h2, ?_, fun c hc w hw => ?_⟩
    · rcases h3 with h3 | h3
      · rw [h3]
        exact hor.imp id fun e => by rw [e]; exact List.mem_cons_self
      · exact .inr (List.mem_cons_of_mem _ h3)
    · rcases List.mem_cons.mp hc with rfl | hc
      · exact Int.le_trans (hx w hw) h2
      · exact h4 c hc w hw

theorem mnLoop_fixed_eq (add : Int → Int → Int) (r : Int) (cs : List (Nat × Int)) (cum : Int)
    (last : Option (Nat × Int)) :
    mnLoop .fixed add r cum last cs =
      match firstExceed add r cum cs with
      | some c => some c
      | none => lastPosFrom last cs := by
  induction cs generalizing cum last with
  | nil => simp [mnLoop, firstExceed, lastPosFrom]
  | cons c cs ih =>
    simp only [mnLoop, hit, firstExceed]
    by_cases hh : r < add cum c.2
    · simp [hh]
    · simp only [hh, decide_false, Bool.false_eq_true, ↓reduceIte]
      rw [ih]
      simp [lastPosFrom]

theorem runSum_append_one (add : Int → Int → Int) (cum : Int) (l : List (Nat × Int))
    (c : Nat × Int) : runSum add cum (l ++ [c]) = add (runSum add cum l) c.2 := by
  simp [runSum, List.foldl_append]

theorem runSum_cons (add : Int → Int → Int) (cum : Int) (l : List (Nat × Int)) (c : Nat × Int) :
    runSum add cum (c :: l) = runSum add (add cum c.2) l := by
  simp [runSum]

theorem runSum_exact (cum : Int) (l : List (Nat × Int)) :
    runSum (· + ·) cum l = cum + sumProbs l := by
  induction l generalizing cum with
  | nil => simp [runSum, sumProbs]
  | cons c cs ih =>
    rw [runSum_cons, ih]; simp only [sumProbs]; omega

theorem not_exceed_cons {add : Int → Int → Int} {r cum : Int} {d : Nat × Int} {l : List (Nat × Int)}
    (hd : ¬ r < add cum d.2)
    (hl : ∀ n, 0 < n → n ≤ l.length → ¬ r < runSum add (add cum d.2) (l.take n)) :
    ∀ n, 0 < n → n ≤ (d :: l).length → ¬ r < runSum add cum ((d :: l).take n) := by
  intro n hn hle
  cases n with
  | zero => omega
  | succ n =>
    rw [List.take_succ_cons, runSum_cons]
    cases n with
    | zero => exact hd
    | succ m => exact hl (m + 1) (by omega) (by simpa using hle)

theorem firstExceed_none (add : Int → Int → Int) (r : Int) (cs : List (Nat × Int)) (cum : Int)
    (h : firstExceed add r cum cs = none) :
    ∀ n, 0 < n → n ≤ cs.length → ¬ r < runSum add cum (cs.take n) := by
  revert h
  fun_induction firstExceed add r cum cs
  next => intro _ n hn hle; simp at hle; omega
  next => intro h; cases h
  next hh ih => exact fun h => not_exceed_cons hh (ih h)

theorem firstExceed_none_all {add : Int → Int → Int} {r cum : Int} {cs : List (Nat × Int)}
    (h : firstExceed add r cum cs = none) (hne : cs ≠ []) : ¬ r < runSum add cum cs := by
  have := firstExceed_none add r cs cum h cs.length (List.length_pos_iff.mpr hne) (Nat.le_refl _)
  rwa [List.take_length] at this

theorem firstExceed_some (add : Int → Int → Int) (r : Int) (cs : List (Nat × Int)) (cum : Int)
    (c : Nat × Int) (h : firstExceed add r cum cs = some c) :
    ∃ pre post, cs = pre ++ c :: post ∧ r < runSum add cum (pre ++ [c]) ∧
      ∀ n, 0 < n → n ≤ pre.length → ¬ r < runSum add cum (pre.take n) := by
  revert h
  fun_induction firstExceed add r cum cs
  next => intro h; cases h
  next cum d ds hh =>
    intro h; cases h
    exact ⟨[], ds, rfl, hh, fun n hn hle => by simp at hle; omega⟩
  next cum d ds hh ih =>
    intro h
    obtain ⟨pre, post, hsplit, hex, hmin⟩ := ih h
    exact ⟨d :: pre, post, by rw [hsplit]; rfl, hex, not_exceed_cons hh hmin⟩

theorem lastPosFrom_spec (cs : List (Nat × Int)) (last : Option (Nat × Int)) :
    (∃ pre c post, cs = pre ++ c :: post ∧ 0 < c.2 ∧ (∀ d ∈ post, ¬ 0 < d.2) ∧
        lastPosFrom last cs = some c) ∨
    ((∀ d ∈ cs, ¬ 0 < d.2) ∧ lastPosFrom last cs = last) := by
  induction cs generalizing last with
  | nil => right; simp [lastPosFrom]
  | cons c cs ih =>
    have hstep : lastPosFrom last (c :: cs) = lastPosFrom (if 0 < c.2 then some c else last) cs := by
      simp [lastPosFrom]
    rcases ih (if 0 < c.2 then some c else last) with ⟨pre, e, post, hs, he, hpost, hres⟩ | ⟨hnone, hres⟩
    · left
      exact ⟨c :: pre, e, post, by simp [hs], he, hpost, by rw [hstep, hres]⟩
    · by_cases hp : 0 < c.2
      · left
        refine ⟨[], c, cs, rfl, hp, hnone, ?_⟩
        rw [hstep, hres]; simp [hp]
      · right
        refine ⟨?_, ?_⟩
        · intro d hd
          rcases List.mem_cons.mp hd with rfl | hd
          · exact hp
          · exact hnone d hd
        · rw [hstep, hres]; simp [hp]

/-- A candidate found by the walk cannot have probability 0: adding 0 would not have lifted the
running sum over the draw. -/
theorem firstExceed_ne_zero (add : Int → Int → Int) (hadd : ∀ c, add c 0 = c) (r : Int)
    (cs : List (Nat × Int)) (cum : Int) (hcum : ¬ r < cum) (c : Nat × Int)
    (h : firstExceed add r cum cs = some c) : c ∈ cs ∧ c.2 ≠ 0 := by
  obtain ⟨pre, post, hs, hex, hmin⟩ := firstExceed_some add r cs cum c h
  refine ⟨by rw [hs]; simp, fun hz => ?_⟩
  rw [runSum_append_one, hz, hadd] at hex
  cases pre with
  | nil => exact hcum hex
  | cons d ds => exact hmin (d :: ds).length (by simp) (Nat.le_refl _) (by simpa using hex)

/-- On integers `target ≤ cum` is `target - 1 < cum`: the loop as found is the walk for the draw
`target - 1`, without a fallback. -/
theorem mnLoop_legacy_eq (add : Int → Int → Int) (target : Int) (cs : List (Nat × Int)) (cum : Int)
    (last : Option (Nat × Int)) :
    mnLoop .legacy add target cum last cs = firstExceed add (target - 1) cum cs := by
  induction cs generalizing cum last with
  | nil => rfl
  | cons c cs ih =>
    simp only [mnLoop, hit, firstExceed, ih, Int.sub_one_lt_iff, decide_eq_true_eq]

/-- The executable check implies the `Prop` the theorems assume. -/
theorem softmaxFactsB_sound (cs : List (Nat × Option Int × Int)) (one tol : Int)
    (h : softmaxFactsB cs one tol = true) : SoftmaxFacts cs one tol := by
  simp only [softmaxFactsB, Bool.and_eq_true, List.all_eq_true, decide_eq_true_eq,
    Bool.or_eq_true, beq_iff_eq] at h
  obtain ⟨⟨⟨⟨h1, h2⟩, h3⟩, h4⟩, h5⟩ := h
  refine ⟨h1, ?_, ⟨h3, h4⟩, ?_⟩
  · intro c hc hn
    rcases h2 c hc with hs | hz
    · rw [hn] at hs; simp at hs
    · exact hz
  · intro c hc d hd a b ha hb hab
    have := h5 c hc d hd
    rw [ha, hb] at this
    simp only [decide_eq_true_eq] at this
    exact this hab

end RtenVerif.Sampler
