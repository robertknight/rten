import RtenVerif.Model.Normalizer
import RtenVerif.Lemmas.ListBasics

/-!
Helper lemmas for C30 (`Props/C30.lean`): byte lengths, char boundaries, the invariant `Good`
kept by every normalizer and by the `Sequence` composition, the equations of the `Sequence` loop,
and the bridges from the invariant to the decidable predicates of the property.
-/
namespace RtenVerif.Normalizer

theorem usize_pos (c : Char) : 0 < usize c := by
  unfold usize; repeat' split
  all_goals omega

theorem blen_append (a b : List Char) : blen (a ++ b) = blen a + blen b := by
  induction a with
  | nil => simp [blen]
  | cons c cs ih => simp [blen, ih]; omega

theorem isBoundary_zero (t : List Char) : isBoundary t 0 = true := by
  cases t <;> rfl

theorem isBoundary_cons_add (c : Char) (cs : List Char) (q : Nat) :
    isBoundary (c :: cs) (usize c + q) = isBoundary cs q := by
  have hp := usize_pos c
  match h : usize c + q with
  | 0 => omega
  | p + 1 =>
    have : ¬ (p + 1 < usize c) := by omega
    simp only [isBoundary, this, if_false]
    congr 1; omega

theorem isBoundary_cons_lt (c : Char) (cs : List Char) (p : Nat) (h0 : 0 < p) (h : p < usize c) :
    isBoundary (c :: cs) p = false := by
  match p with
  | 0 => omega
  | p + 1 => simp [isBoundary, h]

theorem split_spec : ∀ (t : List Char) (p : Nat),
    (isBoundary t p = true → ∃ pre post, t = pre ++ post ∧ blen pre = p ∧
      dropBytes t p = some post ∧ takeBytes t p = some pre) ∧
    (isBoundary t p = false → dropBytes t p = none ∧ takeBytes t p = none)
  | [], 0 => ⟨fun _ => ⟨[], [], rfl, rfl, rfl, rfl⟩, fun h => nomatch h⟩
  | c :: cs, 0 => ⟨fun _ => ⟨[], c :: cs, rfl, rfl, rfl, rfl⟩, fun h => nomatch h⟩
  | [], p + 1 => ⟨fun h => (nomatch h), fun _ => ⟨rfl, rfl⟩⟩
  | c :: cs, p + 1 => by
    simp only [isBoundary, dropBytes, takeBytes]
    split
    · exact ⟨fun h => (nomatch h), fun _ => ⟨rfl, rfl⟩⟩
    · obtain ⟨ih1, ih2⟩ := split_spec cs (p + 1 - usize c)
      refine ⟨fun h => ?_, fun h => ?_⟩
      · obtain ⟨pre, post, h1, h2, h3, h4⟩ := ih1 h
        exact ⟨c :: pre, post, by rw [h1]; rfl, by rw [blen, h2]; omega, h3, by rw [h4]; rfl⟩
      · exact ⟨(ih2 h).1, by rw [(ih2 h).2]; rfl⟩

theorem isBoundary_le (t : List Char) (p : Nat) (h : isBoundary t p = true) : p ≤ blen t := by
  obtain ⟨pre, post, rfl, rfl, _⟩ := (split_spec t p).1 h
  rw [blen_append]; exact Nat.le_add_right _ _

theorem isBoundary_append_add (a b : List Char) (q : Nat) :
    isBoundary (a ++ b) (blen a + q) = isBoundary b q := by
  induction a with
  | nil => rw [List.nil_append, blen, Nat.zero_add]
  | cons c cs ih => rw [List.cons_append, blen, Nat.add_assoc, isBoundary_cons_add, ih]

theorem isBoundary_append_le (a b : List Char) : ∀ {p : Nat}, p ≤ blen a →
    isBoundary (a ++ b) p = isBoundary a p := by
  induction a with
  | nil => intro p hp; obtain rfl : p = 0 := Nat.le_zero.mp hp; rw [isBoundary_zero, isBoundary_zero]
  | cons c cs ih =>
    intro p hp
    rcases Nat.lt_or_ge p (usize c) with hlt | hge
    · cases p with
      | zero => rfl
      | succ p =>
        rw [List.cons_append, isBoundary_cons_lt c _ _ (Nat.succ_pos p) hlt,
          isBoundary_cons_lt c _ _ (Nat.succ_pos p) hlt]
    · obtain ⟨q, rfl⟩ : ∃ q, p = usize c + q := ⟨p - usize c, by omega⟩
      rw [List.cons_append, isBoundary_cons_add, isBoundary_cons_add,
        ih (Nat.le_of_add_le_add_left hp)]

theorem isBoundary_blen (t : List Char) : isBoundary t (blen t) = true := by
  have := isBoundary_append_add t [] 0
  rwa [List.append_nil] at this

theorem isBoundary_mid (pre seg post : List Char) (q : Nat) (h : isBoundary seg q = true) :
    isBoundary (pre ++ (seg ++ post)) (blen pre + q) = true := by
  rw [isBoundary_append_add, isBoundary_append_le _ _ (isBoundary_le _ _ h), h]

theorem slice_spec (t : List Char) (a b : Nat) (seg : List Char) (h : slice t a b = some seg) :
    a ≤ b ∧ ∃ pre post, t = pre ++ (seg ++ post) ∧ blen pre = a ∧ blen seg = b - a := by
  unfold slice at h
  split at h
  · refine ⟨‹_›, ?_⟩
    cases ha : isBoundary t a with
    | false => rw [((split_spec t a).2 ha).1] at h; cases h
    | true =>
      obtain ⟨pre, r, rfl, rfl, hd, _⟩ := (split_spec t a).1 ha
      rw [hd, Option.bind_some] at h
      cases hb : isBoundary r (b - blen pre) with
      | false => rw [((split_spec r _).2 hb).2] at h; cases h
      | true =>
        obtain ⟨_, post, rfl, hl, _, ht⟩ := (split_spec r _).1 hb
        rw [ht] at h; cases h; exact ⟨pre, post, rfl, rfl, hl⟩
  · cases h

def Bnd (S : Nat → Prop) (norm : List Char) (offs : List Nat) : Prop :=
  ∀ p o, offs[p]? = some o → isBoundary norm p = true → S o

/-- What every normalizer guarantees about `(norm, offs)` relative to its input `src`. -/
structure Good (src norm : List Char) (offs : List Nat) : Prop where
  /-- T1: one offset per byte of the normalized text -/
  len : offs.length = blen norm
  /-- T2: non-decreasing -/
  mono : offs.Pairwise (· ≤ ·)
  /-- offsets are positions in (or the end of) the source -/
  le : ∀ o ∈ offs, o ≤ blen src
  /-- T3: char boundaries map to char boundaries -/
  bnd : Bnd (fun o => isBoundary src o = true) norm offs

theorem bnd_append {S : Nat → Prop} (a b : List Char) (oa ob : List Nat)
    (hl : oa.length = blen a) (ha : Bnd S a oa) (hb : Bnd S b ob) : Bnd S (a ++ b) (oa ++ ob) := by
  intro p o h hp
  rcases Nat.lt_or_ge p oa.length with hlt | hge
  · rw [List.getElem?_append_left hlt] at h
    rw [isBoundary_append_le a b (by omega)] at hp
    exact ha p o h hp
  · obtain ⟨q, rfl⟩ : ∃ q, p = oa.length + q := ⟨p - oa.length, by omega⟩
    rw [List.getElem?_append_right (Nat.le_add_right _ _), Nat.add_sub_cancel_left] at h
    rw [hl, isBoundary_append_add] at hp
    exact hb q o h hp

theorem bnd_range' {S : Nat → Prop} (seg : List Char) (a : Nat)
    (h : ∀ q, isBoundary seg q = true → S (a + q)) : Bnd S seg (List.range' a (blen seg)) := by
  intro p o hp hb
  obtain ⟨hlt, he⟩ := List.getElem?_eq_some_iff.mp hp
  simp at he
  subst he; exact h p hb

/-- What `Good` says, for a piece of the output whose offsets lie in `lo..=hi`.  Pieces
concatenate (`Seg.append`); the atoms are text copied from the source under the identity map
(`Seg.ident`) and inserted text attributed to a single source position (`Seg.const`). -/
structure Seg (src : List Char) (lo hi : Nat) (norm : List Char) (offs : List Nat) : Prop where
  len : offs.length = blen norm
  mono : offs.Pairwise (· ≤ ·)
  range : ∀ o ∈ offs, lo ≤ o ∧ o ≤ hi
  bnd : Bnd (fun o => isBoundary src o = true) norm offs

theorem Seg.good {src norm : List Char} {offs : List Nat} (h : Seg src 0 (blen src) norm offs) :
    Good src norm offs :=
  ⟨h.len, h.mono, fun o ho => (h.range o ho).2, h.bnd⟩

theorem Seg.mono_lo {src norm : List Char} {offs : List Nat} {lo lo' hi : Nat}
    (h : Seg src lo hi norm offs) (hle : lo' ≤ lo) : Seg src lo' hi norm offs :=
  ⟨h.len, h.mono, fun o ho => ⟨Nat.le_trans hle (h.range o ho).1, (h.range o ho).2⟩, h.bnd⟩

theorem Seg.append {src a b : List Char} {oa ob : List Nat} {lo mid hi : Nat}
    (ha : Seg src lo mid a oa) (hb : Seg src mid hi b ob) (h1 : lo ≤ mid) (h2 : mid ≤ hi) :
    Seg src lo hi (a ++ b) (oa ++ ob) where
  len := by rw [List.length_append, blen_append, ha.len, hb.len]
  mono := List.pairwise_append.mpr
    ⟨ha.mono, hb.mono, fun x hx y hy => Nat.le_trans (ha.range x hx).2 (hb.range y hy).1⟩
  range o ho := by
    rcases List.mem_append.mp ho with ho | ho
    · exact ⟨(ha.range o ho).1, Nat.le_trans (ha.range o ho).2 h2⟩
    · exact ⟨Nat.le_trans h1 (hb.range o ho).1, (hb.range o ho).2⟩
  bnd := bnd_append a b oa ob ha.len ha.bnd hb.bnd

theorem Seg.const {src : List Char} (seg : List Char) {s : Nat} (hs : isBoundary src s = true) :
    Seg src s s seg (List.replicate (blen seg) s) where
  len := List.length_replicate
  mono := List.pairwise_replicate.mpr (.inr (Nat.le_refl _))
  range o ho := by rw [(List.mem_replicate.mp ho).2]; exact ⟨Nat.le_refl _, Nat.le_refl _⟩
  bnd p o hp _ := by rw [(List.mem_replicate.mp (List.mem_of_getElem? hp)).2]; exact hs

theorem Seg.ident (pre seg post : List Char) :
    Seg (pre ++ (seg ++ post)) (blen pre) (blen pre + blen seg) seg
      (List.range' (blen pre) (blen seg)) where
  len := List.length_range'
  mono := List.pairwise_le_range' 1
  range o ho := by rw [List.mem_range'_1] at ho; omega
  bnd := bnd_range' seg _ (isBoundary_mid pre seg post)

/-- The identity byte map (`Bert` no-op, initial state of `Sequence`). -/
theorem identity_good (src : List Char) : Good src src (List.range' 0 (blen src)) where
  len := by simp
  mono := List.pairwise_le_range' 1
  le := by intro o ho; rw [List.mem_range'_1] at ho; omega
  bnd := bnd_range' src 0 (by intro q hq; simpa using hq)

theorem mem_expand_snd (buf : List (Char × Nat)) (o : Nat) (h : o ∈ (expand buf).2) :
    o ∈ buf.map (·.2) := by
  simp only [expand, List.mem_flatMap, List.mem_replicate] at h
  obtain ⟨p, hp, _, rfl⟩ := h
  exact List.mem_map_of_mem hp

theorem expand_seg (src : List Char) : ∀ (buf : List (Char × Nat)) (lo : Nat),
    (buf.map (·.2)).Pairwise (· ≤ ·) → (∀ o ∈ buf.map (·.2), lo ≤ o ∧ isBoundary src o = true) →
    Seg src lo (blen src) (expand buf).1 (expand buf).2
  | [], _, _, _ => ⟨rfl, .nil, fun _ h => (nomatch h), fun _ _ h => (nomatch h)⟩
  | (c, o) :: ps, lo, hm, hb => by
    rw [List.map_cons, List.pairwise_cons] at hm
    have ho := hb o List.mem_cons_self
    exact ((Seg.const [c] ho.2).append (expand_seg src ps o hm.2 fun x hx =>
      ⟨hm.1 x hx, (hb x (List.mem_cons_of_mem _ hx)).2⟩) (Nat.le_refl o)
      (isBoundary_le _ _ ho.2)).mono_lo ho.1

theorem expand_good (src : List Char) (buf : List (Char × Nat))
    (hm : (buf.map (·.2)).Pairwise (· ≤ ·))
    (hb : ∀ o ∈ buf.map (·.2), isBoundary src o = true) :
    Good src (expand buf).1 (expand buf).2 ∧ ∀ o ∈ (expand buf).2, isBoundary src o = true :=
  ⟨(expand_seg src buf 0 hm fun o ho => ⟨Nat.zero_le o, hb o ho⟩).good,
    fun o ho => hb o (mem_expand_snd buf o ho)⟩

theorem charIndices_spec : ∀ (rest : List Char) (start : Nat),
    ((charIndices rest start).map (·.1)).Pairwise (· ≤ ·) ∧
    ∀ oc ∈ charIndices rest start, start ≤ oc.1 ∧ isBoundary rest (oc.1 - start) = true
  | [], _ => ⟨.nil, fun _ h => (nomatch h)⟩
  | c :: cs, start => by
    obtain ⟨ih1, ih2⟩ := charIndices_spec cs (start + usize c)
    refine ⟨List.pairwise_cons.mpr ⟨fun o ho => ?_, ih1⟩, fun oc h => ?_⟩
    · obtain ⟨oc, hoc, rfl⟩ := List.mem_map.mp ho
      exact Nat.le_trans (Nat.le_add_right _ _) (ih2 oc hoc).1
    · rcases List.mem_cons.mp h with rfl | h
      · exact ⟨Nat.le_refl _, by rw [Nat.sub_self]; rfl⟩
      · obtain ⟨h1, h2⟩ := ih2 oc h
        refine ⟨by omega, ?_⟩
        rw [show oc.1 - start = usize c + (oc.1 - (start + usize c)) by omega, isBoundary_cons_add]
        exact h2

theorem charIndices_zero_boundary (src : List Char) (oc : Nat × Char) (h : oc ∈ charIndices src 0) :
    isBoundary src oc.1 = true :=
  ((charIndices_spec src 0).2 oc h).2

theorem flatMap_tag_pairwise (g : Char → List Char) (ocs : List (Nat × Char))
    (h : (ocs.map (·.1)).Pairwise (· ≤ ·)) :
    ((ocs.flatMap fun oc => (g oc.2).map (·, oc.1)).map (·.2)).Pairwise (· ≤ ·) := by
  rw [List.pairwise_map] at h ⊢
  refine List.pairwise_flatMap.mpr ⟨fun oc _ =>
    List.pairwise_map.mpr (List.pairwise_of_forall fun _ _ => Nat.le_refl _),
    h.imp fun hab x hx y hy => ?_⟩
  obtain ⟨_, _, rfl⟩ := List.mem_map.mp hx
  obtain ⟨_, _, rfl⟩ := List.mem_map.mp hy
  exact hab

/-- The char-wise path of `Bert`, for any per-char function. -/
theorem charwise_good (g : Char → List Char) (src : List Char) :
    let r := expand ((charIndices src 0).flatMap fun oc => (g oc.2).map (·, oc.1))
    Good src r.1 r.2 ∧ ∀ o ∈ r.2, isBoundary src o = true := by
  refine expand_good src _ (flatMap_tag_pairwise _ _ (charIndices_spec src 0).1) ?_
  intro o ho
  simp only [List.mem_map, List.mem_flatMap] at ho
  obtain ⟨_, ⟨oc, hoc, _, _, rfl⟩, rfl⟩ := ho
  exact charIndices_zero_boundary src oc hoc

theorem bert_good (u : Uni) (lower strip : Bool) (src : List Char) :
    Good src (bert u lower strip src).1 (bert u lower strip src).2 := by
  unfold bert
  split
  · exact identity_good src
  · exact (charwise_good _ src).1

theorem bert_allBoundaries (u : Uni) (lower strip : Bool) (src : List Char)
    (h : (lower || strip) = true) : ∀ o ∈ (bert u lower strip src).2, isBoundary src o = true := by
  have : (!lower && !strip) = false := by cases lower <;> cases strip <;> simp_all
  rw [bert, this]
  exact (charwise_good _ src).2

/-- Invariant of the (most-recent-first) `UnicodeBuf`: offsets non-increasing towards the past,
all at most `hi`, all satisfying `P`. -/
def Inv (P : Nat → Prop) (hi : Nat) (rb : List (Char × Nat)) : Prop :=
  (rb.map (·.2)).Pairwise (· ≥ ·) ∧ ∀ o ∈ rb.map (·.2), o ≤ hi ∧ P o

theorem Inv.weaken {P : Nat → Prop} {hi hi' : Nat} {rb : List (Char × Nat)} (h : Inv P hi rb)
    (hle : hi ≤ hi') : Inv P hi' rb :=
  ⟨h.1, fun o ho => ⟨Nat.le_trans (h.2 o ho).1 hle, (h.2 o ho).2⟩⟩

theorem Inv.push {P : Nat → Prop} {hi off : Nat} {rb : List (Char × Nat)} (h : Inv P hi rb)
    (hle : hi ≤ off) (hP : P off) (d : Char) : Inv P off ((d, off) :: rb) := by
  refine ⟨?_, ?_⟩
  · rw [List.map_cons, List.pairwise_cons]
    exact ⟨fun o ho => Nat.le_trans (h.2 o ho).1 hle, h.1⟩
  · intro o ho
    rw [List.map_cons, List.mem_cons] at ho
    rcases ho with rfl | ho
    · exact ⟨Nat.le_refl _, hP⟩
    · exact ⟨Nat.le_trans (h.2 o ho).1 hle, (h.2 o ho).2⟩

theorem Inv.pushCompose {P : Nat → Prop} {hi off : Nat} {rb : List (Char × Nat)} (u : Uni)
    (h : Inv P hi rb) (hle : hi ≤ off) (hP : P off) (d : Char) :
    Inv P off (pushCompose u rb d off) := by
  unfold RtenVerif.Normalizer.pushCompose
  match rb, h with
  | [], h => exact h.push hle hP d
  | (p, po) :: rest, h =>
    simp only
    split
    · -- the merged entry keeps the offset `po`, and `Inv` only looks at offsets
      exact h.weaken hle
    · exact h.push hle hP d

theorem Inv.foldl {P : Nat → Prop} {off : Nat} (step : List (Char × Nat) → Char → List (Char × Nat))
    (hstep : ∀ rb d, Inv P off rb → Inv P off (step rb d)) : ∀ (l : List Char)
    (rb : List (Char × Nat)), Inv P off rb → Inv P off (l.foldl step rb)
  | [], _, h => h
  | d :: l, rb, h => Inv.foldl step hstep l _ (hstep rb d h)

theorem Inv.step {P : Nat → Prop} {hi off : Nat} {rb : List (Char × Nat)} (u : Uni) (f : Form)
    (h : Inv P hi rb) (hle : hi ≤ off) (hP : P off) (c : Char) :
    Inv P off (unicodeStep u f rb (off, c)) := by
  have push := fun rb d (h : Inv P off rb) => h.push (Nat.le_refl off) hP d
  have pushC := fun rb d (h : Inv P off rb) => h.pushCompose u (Nat.le_refl off) hP d
  cases f
  · exact h.pushCompose u hle hP c
  · exact Inv.foldl _ push _ _ (h.weaken hle)
  · exact Inv.foldl _ pushC _ _ (h.weaken hle)
  · exact Inv.foldl _ push _ _ (h.weaken hle)

theorem Inv.fold {P : Nat → Prop} (u : Uni) (f : Form) : ∀ (rest : List Char) (start : Nat)
    (rb : List (Char × Nat)), Inv P start rb → (∀ oc ∈ charIndices rest start, P oc.1) →
    ∃ hi, Inv P hi ((charIndices rest start).foldl (unicodeStep u f) rb) := by
  intro rest
  induction rest with
  | nil => intro start rb h _; exact ⟨start, h⟩
  | cons c cs ih =>
    intro start rb h hP
    simp only [charIndices, List.foldl_cons]
    refine ih _ _ ?_ ?_
    · have := h.step u f (Nat.le_refl start) (hP (start, c) (by simp [charIndices])) c
      exact this.weaken (by omega)
    · intro oc hoc; exact hP oc (by simp [charIndices, hoc])

theorem unicode_good (u : Uni) (f : Form) (src : List Char) :
    Good src (unicode u f src).1 (unicode u f src).2 ∧
      ∀ o ∈ (unicode u f src).2, isBoundary src o = true := by
  unfold unicode
  obtain ⟨hi, h1, h2⟩ := Inv.fold (P := fun o => isBoundary src o = true) u f src 0 []
    ⟨by simp, by simp⟩ (fun oc hoc => charIndices_zero_boundary src oc hoc)
  refine expand_good src _ ?_ ?_
  · rw [List.map_reverse, List.pairwise_reverse]; exact h1
  · intro o ho
    rw [List.map_reverse, List.mem_reverse] at ho
    exact (h2 o ho).2

theorem Seg.slice {src seg : List Char} {a b : Nat} (h : slice src a b = some seg) :
    Seg src a b seg (List.range' a (b - a)) ∧ isBoundary src b = true := by
  obtain ⟨hab, pre, post, rfl, rfl, hseg⟩ := slice_spec _ _ _ _ h
  have h1 := Seg.ident pre seg post
  have h2 := isBoundary_mid pre seg post _ (isBoundary_blen seg)
  rw [hseg, Nat.add_sub_of_le hab] at h1 h2
  exact ⟨h1, h2⟩

theorem replaceFrom_seg (src content : List Char) : ∀ (ms : List (Nat × Nat)) (last : Nat)
    (r : List Char × List Nat), replaceFrom src content ms last = some r →
    Seg src last (blen src) r.1 r.2
  | [], last, r, h => by
    simp only [replaceFrom, Option.map_eq_some_iff] at h
    obtain ⟨tail, ht, rfl⟩ := h
    exact (Seg.slice ht).1
  | (s, e) :: ms, last, r, h => by
    simp only [replaceFrom] at h
    split at h
    · rename_i hse
      simp only [Option.bind_eq_some_iff, Option.map_eq_some_iff] at h
      obtain ⟨before, hb, rest, hrest, rfl⟩ := h
      obtain ⟨h1, hsB⟩ := Seg.slice hb
      have hls := (slice_spec _ _ _ _ hb).1
      exact ((h1.append (Seg.const content hsB) hls (Nat.le_refl s)).append
        ((replaceFrom_seg src content ms e rest hrest).mono_lo hse) hls (isBoundary_le _ _ hsB))
    · cases h

theorem replace_good (src content : List Char) (ms : List (Nat × Nat)) (r : List Char × List Nat)
    (h : replace src content ms = some r) : Good src r.1 r.2 :=
  (replaceFrom_seg src content ms 0 r h).good

/-- A lookup that misses (the end-of-input position `cur.len()`) yields `src.len()`, itself a char
boundary within the source. -/
theorem compose_good (src cur nx : List Char) (offs no : List Nat)
    (h1 : Good src cur offs) (h2 : Good cur nx no) :
    Good src nx (composeMap (blen src) offs no) where
  len := by rw [composeMap, List.length_map, h2.len]
  mono := h2.mono.map _ fun _ _ hab => getD_mono h1.mono h1.le hab
  le o ho := by
    obtain ⟨x, _, rfl⟩ := List.mem_map.mp ho
    exact getD_of_all (S := (· ≤ blen src)) offs _ x (Nat.le_refl _) fun v hv =>
      h1.le v (List.mem_of_getElem? hv)
  bnd p o hp hb := by
    simp only [composeMap, List.getElem?_map, Option.map_eq_some_iff] at hp
    obtain ⟨x, hx, rfl⟩ := hp
    exact getD_of_all offs _ x (isBoundary_blen src) fun v hv => h1.bnd x v hv (h2.bnd p x hx hb)

theorem runSeq_cons (u : Uni) (n : Norm) (ns : List Norm) (len : Nat) (st : List Char × List Nat) :
    runSeq u (n :: ns) len st =
      (run u n st.1).bind fun r => runSeq u ns len (r.1, composeMap len st.2 r.2) := by
  rw [runSeq]; cases run u n st.1 <;> rfl

theorem runSeq_append (u : Uni) (len : Nat) : ∀ (ns ms : List Norm) (st : List Char × List Nat),
    runSeq u (ns ++ ms) len st = (runSeq u ns len st).bind (runSeq u ms len)
  | [], _, _ => rfl
  | n :: ns, ms, st => by
    rw [List.cons_append, runSeq_cons, runSeq_cons, Option.bind_assoc]
    exact congrArg _ (funext fun _ => runSeq_append u len ns ms _)

/-! ### Bridges to the decidable predicates evaluated by the harness oracle -/

theorem nonDecreasing_of_pairwise : ∀ (l : List Nat), l.Pairwise (· ≤ ·) → nonDecreasing l = true
  | [], _ => rfl
  | [_], _ => rfl
  | a :: b :: rest, h => by
    rw [List.pairwise_cons] at h
    simp only [nonDecreasing, Bool.and_eq_true, decide_eq_true_eq]
    exact ⟨h.1 b (by simp), nonDecreasing_of_pairwise (b :: rest) h.2⟩

theorem boundaryOK_of_bnd (src norm : List Char) (offs : List Nat)
    (h : Bnd (fun o => isBoundary src o = true) norm offs) : boundaryOK src norm offs = true := by
  simp only [boundaryOK, List.all_eq_true, List.mem_range, Bool.or_eq_true, Bool.not_eq_true']
  intro p hp
  by_cases hb : isBoundary norm p = true
  · right
    apply h p _ _ hb
    rw [List.getD_eq_getElem?_getD, List.getElem?_eq_getElem hp]; rfl
  · left; simpa using hb

end RtenVerif.Normalizer
