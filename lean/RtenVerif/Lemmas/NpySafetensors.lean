import RtenVerif.Model.Safetensors
import RtenVerif.Lemmas.NpyFortran

/-!
# Lemmas for the safetensors wrapper model

What `is_contiguous` means for offsets and data length, so that for a contiguous view the
iteration order is the storage order; `from_le_bytes` on encoded elements is the identity; the
`try_from_data` at the end of `npy::read_typed` cannot fail.
-/
namespace RtenVerif.Npy

theorem dataTypeFromSafetensors_stDtypeOf (dt : DataType) :
    dataTypeFromSafetensors (stDtypeOf dt) = some dt := by
  cases dt <;> rfl

theorem contig_spec (shape : List Nat) : ∀ (strides : List Nat) (p : Nat),
    shape.length = strides.length → contigFrom shape strides = some p →
    p = prod shape ∧
    (∀ idx, validIdx shape idx → viewOffset strides idx = rowOffset shape idx) ∧
    (shape.any (· == 0) = false → maxOffset shape strides + 1 = prod shape) := by
  induction shape with
  | nil =>
    intro strides p hl h
    cases strides with
    | nil =>
      simp [contigFrom] at h
      refine ⟨by simp [prod, h], ?_, fun _ => rfl⟩
      intro idx hv
      cases idx <;> simp [validIdx, viewOffset, rowOffset] at *
    | cons _ _ => simp at hl
  | cons d ds ih =>
    intro strides p hl h
    cases strides with
    | nil => simp at hl
    | cons s ss =>
      simp only [List.length_cons, Nat.add_right_cancel_iff] at hl
      simp only [contigFrom] at h
      cases hq : contigFrom ds ss with
      | none => simp [hq] at h
      | some q =>
        obtain ⟨rfl, hoff, hmax⟩ := ih ss q hl hq
        simp only [hq] at h
        simp only [List.any_cons, Bool.or_eq_false_iff, beq_eq_false_iff_ne, maxOffset, prod]
        by_cases hd : d = 1
        · subst hd
          simp only [if_true, Option.some.injEq] at h
          refine ⟨by simp [← h], ?_, fun hz => by have := hmax hz.2; omega⟩
          intro idx hv
          match idx, hv with
          | i :: is, hv =>
            obtain rfl : i = 0 := by have := hv.1; omega
            simp [viewOffset, rowOffset, hoff is hv.2]
        · simp only [hd, if_false] at h
          by_cases hs : s = prod ds
          · subst hs
            simp only [ne_eq, not_true_eq_false, if_false, Option.some.injEq] at h
            refine ⟨by rw [← h, Nat.mul_comm], ?_, fun hz => ?_⟩
            · intro idx hv
              match idx, hv with
              | i :: is, hv => simp [viewOffset, rowOffset, hoff is hv.2]
            · have := hmax hz.2
              have : (d - 1) * prod ds + prod ds = d * prod ds := by
                rw [← Nat.succ_mul]; congr 1; omega
              omega
          · simp [hs] at h

theorem prod_eq_zero_of_any (shape : List Nat) (h : shape.any (· == 0) = true) : prod shape = 0 := by
  rw [prod_eq_numel]; exact (Arr.numel_eq_zero_iff shape).mpr h

theorem contig_minDataLen (shape strides : List Nat) (hl : shape.length = strides.length)
    (hc : isContig shape strides = true) : minDataLen shape strides = prod shape := by
  unfold isContig at hc
  obtain ⟨p, hp⟩ := Option.isSome_iff_exists.mp hc
  unfold minDataLen
  by_cases hz : shape.any (· == 0) = true
  · simp [hz, prod_eq_zero_of_any shape hz]
  · simp only [hz, Bool.false_eq_true, if_false]
    exact (contig_spec shape strides p hl hp).2.2 (Bool.eq_false_iff.mpr hz)

theorem viewIter_of_contig (v : SView) (hl : v.shape.length = v.strides.length)
    (hc : isContig v.shape v.strides = true) (hs : prod v.shape ≤ v.storage.length) :
    viewIter v = v.storage.take (prod v.shape) := by
  unfold isContig at hc
  obtain ⟨p, hp⟩ := Option.isSome_iff_exists.mp hc
  have hoff := (contig_spec v.shape v.strides p hl hp).2.1
  apply List.ext_getElem
  · simp [viewIter, List.length_take, Nat.min_eq_left hs]
  · intro i h1 h2
    have hi : i < prod v.shape := by simpa [viewIter] using h1
    have hi' : i < v.storage.length := by omega
    simp only [viewIter, List.getElem_map, List.getElem_range, List.getElem_take]
    rw [hoff _ (unravel_spec v.shape i hi).1, (unravel_spec v.shape i hi).2,
      List.getD_eq_getElem?_getD, List.getElem?_eq_getElem hi']
    rfl

theorem itemSize_pos (dt : DataType) : 0 < dt.itemSize := by cases dt <;> decide

theorem stFromLeBytes_encode (dt : DataType) (vals : List Nat) (hv : ∀ x ∈ vals, ValidElem dt x) :
    stFromLeBytes dt ((vals.map (encodeElem dt)).flatten) = vals := by
  unfold stFromLeBytes
  rw [flatten_encode_length, Nat.mul_div_cancel _ (itemSize_pos dt), chunks_encode,
    map_decode_encode dt vals hv]

theorem stFromLeBytes_length (dt : DataType) (bytes : List Nat) :
    (stFromLeBytes dt bytes).length = bytes.length / dt.itemSize := by
  simp [stFromLeBytes, chunks_length]

theorem chunks_one (l : List Nat) : chunks 1 l.length l = l.map (fun b => [b]) := by
  induction l with
  | nil => rfl
  | cons b t ih => simp [chunks, ih]

theorem stFromLeBytes_bool (bytes : List Nat) :
    stFromLeBytes .bool bytes = bytes.map (fun b => if b ≠ 0 then 1 else 0) := by
  unfold stFromLeBytes
  simp only [DataType.itemSize, Nat.div_one, chunks_one, List.map_map]
  apply List.map_congr_left
  intro b _
  simp [decodeElem]

theorem viewIter_valid (dt : DataType) (v : SView) (h : ∀ x ∈ v.storage, ValidElem dt x) :
    ∀ x ∈ viewIter v, ValidElem dt x := by
  intro x hx
  simp only [viewIter, List.mem_map, List.mem_range] at hx
  obtain ⟨i, _, rfl⟩ := hx
  rw [List.getD_eq_getElem?_getD]
  cases hg : v.storage[viewOffset v.strides (unravel v.shape i)]? with
  | none => cases dt <;> simp [ValidElem, DataType.itemSize]
  | some y => exact h y (List.mem_of_getElem? hg)

theorem checkedShapeLenGo_of_checkedProd (shape : List Nat) : ∀ (acc p : Nat) (e : Bool),
    checkedProd (shape.map (fun d => max d 1)) acc = some p →
    checkedShapeLenGo shape acc e = some (if e || shape.any (· == 0) then 0 else p) := by
  induction shape with
  | nil => intro acc p e h; simp [checkedProd] at h; simp [checkedShapeLenGo, h]
  | cons d ds ih =>
    intro acc p e h
    simp only [List.map_cons, checkedProd] at h
    split at h
    · rename_i hlt
      by_cases hd : d = 0
      · subst hd
        simp only [Nat.zero_le, Nat.max_eq_right, Nat.mul_one] at h hlt
        simp only [checkedShapeLenGo, if_true]
        rw [ih acc p true h]
        simp
      · have hm : max d 1 = d := Nat.max_eq_left (Nat.one_le_iff_ne_zero.mpr hd)
        rw [hm] at h hlt
        simp only [checkedShapeLenGo, hd, if_false, hlt, if_true]
        rw [ih (acc * d) p e h]
        simp [hd]
    · cases h

theorem prod_eq_of_no_zero (shape : List Nat) (h : shape.any (· == 0) = false) :
    prod shape = prod (shape.map (fun d => max d 1)) := by
  induction shape with
  | nil => rfl
  | cons d ds ih =>
    simp only [List.any_cons, Bool.or_eq_false_iff, beq_eq_false_iff_ne] at h
    simp only [List.map_cons, prod, ih h.2, Nat.max_eq_left (Nat.one_le_iff_ne_zero.mpr h.1)]

/-- Under the size guard of `read_typed`, `Tensor::try_from_data(shape, values)` with
`values.len() = ∏ shape` is accepted: the `"invalid npy array shape"` error is unreachable. -/
theorem tryFromDataOk_of_guard (shape : List Nat)
    (h : prod (shape.map (fun d => max d 1)) < isizeLimit) :
    tryFromDataOk shape (prod shape) = true := by
  unfold tryFromDataOk checkedShapeLen
  rw [checkedShapeLenGo_of_checkedProd shape 1 _ false (guard_of_prod shape h)]
  by_cases hz : shape.any (· == 0) = true
  · simp [hz, prod_eq_zero_of_any shape hz]
  · have hz' : shape.any (· == 0) = false := Bool.eq_false_iff.mpr hz
    simp only [hz', Bool.or_self, Bool.false_eq_true, if_false, beq_iff_eq]
    exact (prod_eq_of_no_zero shape hz').symm

end RtenVerif.Npy
