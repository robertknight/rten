import RtenVerif.Lemmas.ExecutorOrder
import RtenVerif.Lemmas.PlannerComplete
/-!
# C02 — order independence of the naive evaluation, and which operators a valid plan holds
-/
namespace RtenVerif.Executor
open RtenVerif.Graph RtenVerif.Planner

theorem naiveOutputs_congr {V : Type} {f g : Nat → Option V} (h : ∀ v, f v = g v)
    (l : List Nat) : naiveOutputs f l = naiveOutputs g l := by
  induction l with
  | nil => rfl
  | cons x xs ih => simp only [naiveOutputs, h x, ih]

/-- Running any valid sequence `todo` of entries of `P` after `done`: it succeeds, and the
environment is `EP` restricted to what has been written so far. -/
theorem order_main {V : Type} {ops : Ops V} {r : Run V} {P r0 : List Nat} {EP : Nat → Option V}
    (hP : naiveSteps ops r nocap (fun _ => none) P = .ok EP) (hnd : P.Nodup) (hdisj : Disj r.g P)
    (hvP : ValidIds r.g false r0 P) (hin : ∀ d ∈ r0, r.isInput d = true) :
    ∀ (todo done : List Nat) (E : Nat → Option V), (∀ i ∈ todo, i ∈ P) →
      (∀ v, E v = if v ∈ done.flatMap (outsOf r.g) then EP v else none) →
      ValidIds r.g false (r0 ++ done.flatMap (outsOf r.g)) todo →
      ∃ EQ, naiveSteps ops r nocap E todo = .ok EQ ∧
        ∀ v, EQ v = if v ∈ (done ++ todo).flatMap (outsOf r.g) then EP v else none := by
  intro todo
  induction todo with
  | nil => intro done E _ hinv _; exact ⟨E, rfl, by simpa using hinv⟩
  | cons i is ih =>
    intro done E hmem hinv hvalid
    obtain ⟨⟨op', hop', hav⟩, hvrest⟩ := hvalid
    obtain ⟨Ei, op, vs, hop, hlen, htr, hout⟩ :=
      plan_at hP hnd hdisj hvP hin (hmem i List.mem_cons_self)
    rw [hop] at hop'
    cases hop'
    have hdeps : ∀ d ∈ opDeps r.g op', val r EP d = val r E d := by
      intro d hd
      apply val_of_avail r hin (hav d hd)
      intro v hv
      rw [hinv v, if_pos hv]
    have hstep := htr E hdeps
    simp only [naiveSteps, hstep]
    have hinv' : ∀ v, naiveStore E op'.outputs vs v =
        if v ∈ (done ++ [i]).flatMap (outsOf r.g) then EP v else none := by
      intro v
      by_cases hv : v ∈ outsOf r.g i
      · have hv' : v ∈ op'.outputs.filterMap id := by rw [outsOf_eq hop] at hv; exact hv
        rw [if_pos (by simp [hv]), hout v hv]
        -- a written id holds the written value over any base map
        obtain ⟨w, hw⟩ := naiveStore_written op'.outputs vs v hlen hv'
        rw [naiveStore_apply E, naiveStore_apply Ei, hw]
      · have hv' : v ∉ op'.outputs.filterMap id := by rw [outsOf_eq hop] at hv; exact hv
        rw [naiveStore_other E op'.outputs vs hv', hinv v]
        simp [hv]
    have := ih (done ++ [i]) (naiveStore E op'.outputs vs)
      (fun j hj => hmem j (List.mem_cons_of_mem _ hj)) hinv'
      (by simpa [List.flatMap_append, List.append_assoc] using hvrest)
    simpa [List.append_assoc] using this

theorem evalNaive_order {V : Type} {ops : Ops V} {r : Run V} {P Q r0 outs : List Nat} {vals : List V}
    (hnd : P.Nodup) (hdisj : Disj r.g P) (hvP : ValidIds r.g false r0 P)
    (hvQ : ValidIds r.g false r0 Q) (hin : ∀ d ∈ r0, r.isInput d = true)
    (hsame : ∀ i, i ∈ P ↔ i ∈ Q)
    (h : evalNaive ops r nocap P outs = .ok vals) : evalNaive ops r nocap Q outs = .ok vals := by
  unfold evalNaive at h ⊢
  cases hP : naiveSteps ops r nocap (fun _ => none) P with
  | error e => simp [hP] at h
  | ok EP =>
    simp only [hP] at h
    obtain ⟨EQ, hQ, hEQ⟩ := order_main hP hnd hdisj hvP hin Q [] (fun _ => none)
      (fun i hi => (hsame i).mpr hi) (by simp) (by simpa using hvQ)
    simp only [hQ]
    rw [← h]
    apply naiveOutputs_congr
    intro v
    show val r EQ v = val r EP v
    have hEP : ∀ v, v ∉ P.flatMap (outsOf r.g) → EP v = none :=
      fun v hv => naiveSteps_other P hP hv
    apply val_congr
    rw [hEQ v]
    simp only [List.nil_append]
    by_cases hv : v ∈ Q.flatMap (outsOf r.g)
    · rw [if_pos hv]
    · rw [if_neg hv]
      symm
      apply hEP
      intro hv'
      apply hv
      rw [List.mem_flatMap] at hv' ⊢
      obtain ⟨j, hj, hvj⟩ := hv'
      exact ⟨j, (hsame j).mp hj, hvj⟩

/-- On a graph with unique producers, a valid complete minimal plan contains exactly the
needed operators; so any two such plans for one request have the same entries. -/
theorem planOK_mem_iff_needed {g : Graph} {r0 outs plan : List Nat} (hu : UniqueProducer g)
    (h : PlanOK g false r0 outs plan) (i : Nat) : i ∈ plan ↔ Needed g r0 outs i := by
  exact ⟨h.minimal i, needed_mem hu h⟩

end RtenVerif.Executor
