import RtenVerif.Model.Poly
import RtenVerif.Lemmas.InsertionSort

/-!
`convex_hull` (C35) as list processing.  The model's insertion sort is `Overlap.isort` (`isort_eq`), so its
facts come from `Lemmas/InsertionSort.lean` (its head, `isort_head_min`, for a comparator that need not be
transitive, is proved here); `dedup_by_key` leaves no duplicates in a list sorted by an
antisymmetric order (`dedupKey_nodup`); the stack scan keeps the left-turn invariant `TurnsR`.  Of the
order `exactLe` only what holds of all points is here (`exactLe_total`); that it is transitive and antisymmetric
on the points after the `min_by` pivot is in `Lemmas/PolyOrder.lean`.
-/
namespace RtenVerif.Poly

variable {α : Type}

theorem insertBy_eq (le : α → α → Bool) (x : α) (l : List α) :
    insertBy le x l = Overlap.insertBy le x l := by
  induction l with
  | nil => rfl
  | cons y ys ih => rw [insertBy, Overlap.insertBy, ih]

theorem isort_eq (le : α → α → Bool) (l : List α) : isort le l = Overlap.isort le l := by
  induction l with
  | nil => rfl
  | cons x xs ih => rw [isort, Overlap.isort, ih, insertBy_eq]

theorem mem_isort (le : α → α → Bool) (y : α) (l : List α) : y ∈ isort le l ↔ y ∈ l :=
  isort_eq le l ▸ Overlap.mem_isort le

theorem isort_sorted (le : α → α → Bool) (S : α → Prop)
    (htot : ∀ a b, le a b = true ∨ le b a = true)
    (htrans : ∀ a b c, S a → S b → S c → le a b = true → le b c = true → le a c = true)
    (l : List α) (hl : ∀ y ∈ l, S y) : (isort le l).Pairwise (fun a b => le a b = true) :=
  isort_eq le l ▸ Overlap.isort_pairwise le _ S (fun _ _ h => h)
    (fun a b h => (htot a b).resolve_left (ne_true_of_eq_false h)) htrans l hl

theorem isort_congr (le1 le2 : α → α → Bool) (l : List α)
    (h : ∀ x ∈ l, ∀ y ∈ l, le1 x y = le2 x y) : isort le1 l = isort le2 l := by
  rw [isort_eq, isort_eq, Overlap.isort_congr le1 le2 l h]

theorem isort_head_min (pt : α → Pt) (le : α → α → Bool) (m : Pt) :
    ∀ (xs : List α),
      (∀ x ∈ xs, ∀ y ∈ xs, le x y = true ∨ le y x = true) →
      (∀ x ∈ xs, ∀ y ∈ xs, pt x = m → pt y ≠ m → le y x = false) →
      (∃ x ∈ xs, pt x = m) → ∃ z, (isort le xs).head? = some z ∧ pt z = m := by
  intro xs
  induction xs with
  | nil => rintro _ _ ⟨x, hx, _⟩; cases hx
  | cons x xs ih =>
    intro htot hmin hex
    have ih' := ih (fun a ha b hb => htot a (.tail _ ha) b (.tail _ hb))
      (fun a ha b hb => hmin a (.tail _ ha) b (.tail _ hb))
    rw [isort]
    cases hs : isort le xs with
    | nil =>
      -- `xs` is empty, so the entry of `m` is `x`
      cases xs with
      | nil =>
        obtain ⟨z, hz, hzm⟩ := hex
        cases List.mem_singleton.mp hz
        exact ⟨x, rfl, hzm⟩
      | cons y ys =>
        have := (mem_isort le y (y :: ys)).mpr List.mem_cons_self
        rw [hs] at this; cases this
    | cons hd tl =>
      have hhd : hd ∈ x :: xs := .tail _ ((mem_isort le hd xs).mp (hs ▸ List.mem_cons_self))
      have hxm : x ∈ x :: xs := List.mem_cons_self
      -- if `x` is no entry of `m`, there is one in `xs`, and then `hd` is one
      have hcase : pt x = m ∨ pt hd = m := by
        by_cases hx : pt x = m
        · exact .inl hx
        · obtain ⟨z, hz, hzm⟩ := ih' (hex.imp fun z ⟨hz, hzm⟩ =>
            ⟨(List.mem_cons.mp hz).resolve_left fun e => hx (e ▸ hzm), hzm⟩)
          rw [hs] at hz; cases hz
          exact .inr hzm
      rw [insertBy]
      split
      · rename_i hle
        refine ⟨x, rfl, Classical.byContradiction fun hx => ?_⟩
        rw [hmin hd hhd x hxm (hcase.resolve_left hx) hx] at hle
        cases hle
      · rename_i hle
        refine ⟨hd, rfl, Classical.byContradiction fun hne => ?_⟩
        have h1 := hmin x hxm hd hhd (hcase.resolve_right hne) hne
        rcases htot x hxm hd hhd with h2 | h2
        · exact hle h2
        · rw [h1] at h2; cases h2

theorem dedupGo_sublist (pt : α → Pt) (prev : Pt) (l : List α) :
    (dedupGo pt prev l).Sublist l := by
  induction l generalizing prev with
  | nil => exact List.Sublist.refl _
  | cons y ys ih =>
    simp only [dedupGo]
    split
    · exact (ih prev).cons y
    · exact (ih (pt y)).cons_cons y

theorem dedupKey_sublist (pt : α → Pt) (l : List α) : (dedupKey pt l).Sublist l := by
  cases l with
  | nil => exact List.Sublist.refl _
  | cons x xs => exact (dedupGo_sublist pt (pt x) xs).cons_cons x

theorem mem_dedupGo {x prev : Pt} : ∀ {l : List Pt}, x ∈ l → x = prev ∨ x ∈ dedupGo id prev l
  | y :: ys, h => by
    rw [dedupGo]
    split
    · rename_i e
      rcases List.mem_cons.mp h with rfl | h
      · exact .inl e
      · exact mem_dedupGo h
    · rcases List.mem_cons.mp h with rfl | h
      · exact .inr (.head _)
      · exact (mem_dedupGo (prev := id y) h).elim (fun e => .inr (by rw [e]; exact .head _)) fun h => .inr (.tail _ h)

theorem mem_dedupKey {x : Pt} : ∀ {l : List Pt}, x ∈ l → x ∈ dedupKey id l
  | y :: ys, h => by
    rcases List.mem_cons.mp h with rfl | h
    · exact .head _
    · exact (mem_dedupGo (prev := id y) h).elim (fun e => by rw [e]; exact .head _) fun h => .tail _ h

theorem dedupKey_head? (pt : α → Pt) (l : List α) : (dedupKey pt l).head? = l.head? := by
  cases l <;> rfl

theorem dedupGo_nodup (le : Pt → Pt → Bool) (S : Pt → Prop)
    (hanti : ∀ a b, S a → S b → le a b = true → le b a = true → a = b) :
    ∀ (l : List Pt) (prev : Pt), S prev → (∀ y ∈ l, S y) →
      l.Pairwise (fun a b => le a b = true) → (∀ y ∈ l, le prev y = true) →
      (prev :: dedupGo id prev l).Nodup := by
  intro l
  induction l with
  | nil => intro prev _ _ _ _; exact List.nodup_cons.mpr ⟨List.not_mem_nil, List.nodup_nil⟩
  | cons y ys ih =>
    intro prev hprev hl hs hle
    obtain ⟨hyall, hsys⟩ := List.pairwise_cons.mp hs
    have hys : ∀ z ∈ ys, S z := fun z hz => hl z (.tail _ hz)
    rw [dedupGo]
    split
    · exact ih prev hprev hys hsys (fun z hz => hle z (.tail _ hz))
    · rename_i hne
      have hy := hl y List.mem_cons_self
      refine List.nodup_cons.mpr ⟨fun hmem => ?_, ih y hy hys hsys hyall⟩
      rcases List.mem_cons.mp hmem with rfl | hmem
      · exact hne rfl
      · -- `prev` comes again later: `y ≤ prev` (sorted) and `prev ≤ y` give `y = prev`
        exact hne (hanti y prev hy hprev (hyall prev ((dedupGo_sublist id _ ys).mem hmem))
          (hle y List.mem_cons_self))

theorem dedupKey_nodup (le : Pt → Pt → Bool) (S : Pt → Prop)
    (hanti : ∀ a b, S a → S b → le a b = true → le b a = true → a = b)
    (l : List Pt) (hl : ∀ y ∈ l, S y) (hs : l.Pairwise (fun a b => le a b = true)) :
    (dedupKey id l).Nodup := by
  cases l with
  | nil => exact List.nodup_nil
  | cons x xs =>
    obtain ⟨hxall, hsxs⟩ := List.pairwise_cons.mp hs
    exact dedupGo_nodup le S hanti xs x (hl x List.mem_cons_self) (fun z hz => hl z (.tail _ hz))
      hsxs hxall

theorem popWhile_cons_cons (p prev prev2 : Pt) (rest : List Pt) :
    popWhile p (prev :: prev2 :: rest) =
      if cross prev2 prev p > 0 then prev :: prev2 :: rest else popWhile p (prev2 :: rest) := by
  rw [popWhile]

/-- What the loop did: nothing, or it removed a prefix of the stack whose last entry `c`, the one
directly above the new top `a`, failed the test. -/
theorem popWhile_inv (p : Pt) (st : List Pt) : popWhile p st = st ∨
    ∃ pre c a rest, st = pre ++ c :: a :: rest ∧ popWhile p st = a :: rest ∧ cross a c p ≤ 0 := by
  -- case1, case2: fewer than two entries; case3: the test holds and the loop stops; case4: it pops
  fun_induction popWhile p st with
  | case1 | case2 | case3 => exact .inl rfl
  | case4 c a rest h ih =>
    rcases ih with e | ⟨pre, c', a', rest', e, e2, h2⟩
    · exact .inr ⟨[], c, a, rest, rfl, e, by omega⟩
    · exact .inr ⟨c :: pre, c', a', rest', by rw [e]; rfl, e2, h2⟩

theorem popWhile_suffix (p : Pt) (st : List Pt) : ∃ pre, st = pre ++ popWhile p st := by
  rcases popWhile_inv p st with e | ⟨pre, c, a, rest, e, e2, _⟩
  · exact ⟨[], e.symm⟩
  · exact ⟨pre ++ [c], by rw [e2, e]; simp⟩

theorem popWhile_keeps {P : List Pt → Prop} (p : Pt) (tail : ∀ c b st, P (c :: b :: st) → P (b :: st))
    {st : List Pt} (h : P st) : P (popWhile p st) := by
  fun_induction popWhile p st with
  | case1 | case2 | case3 => exact h
  | case4 c b rest _ ih => exact ih (tail c b rest h)

theorem popWhile_top (p : Pt) (st : List Pt) (prev prev2 : Pt) (rest : List Pt)
    (h : popWhile p st = prev :: prev2 :: rest) : cross prev2 prev p > 0 := by
  fun_induction popWhile p st with
  | case1 | case2 => cases h
  | case3 _ _ _ hc => cases h; exact hc
  | case4 _ _ _ _ ih => exact ih h

theorem popWhile_getLast? (p : Pt) (st : List Pt) : (popWhile p st).getLast? = st.getLast? := by
  fun_induction popWhile p st with
  | case1 | case2 | case3 => rfl
  | case4 _ _ _ _ ih => rw [ih, List.getLast?_cons_cons]

/-- Stack invariant (top first): every three consecutive entries `c, b, a` (pushed in the
order `a, b, c`) make a strict left turn. -/
def TurnsR (st : List Pt) : Prop :=
  ∀ pre c b a post, st = pre ++ c :: b :: a :: post → cross a b c > 0

theorem TurnsR.suffix {pre st : List Pt} (h : TurnsR (pre ++ st)) : TurnsR st := by
  intro pre' c b a post he
  exact h (pre ++ pre') c b a post (by rw [he, List.append_assoc])

theorem TurnsR.cons {c : Pt} {st : List Pt} (h : TurnsR st)
    (hc : ∀ b a post, st = b :: a :: post → cross a b c > 0) : TurnsR (c :: st) := by
  intro pre c' b a post he
  cases pre with
  | nil =>
    simp only [List.nil_append, List.cons.injEq] at he
    obtain ⟨rfl, he⟩ := he
    exact hc b a post he
  | cons x pre' =>
    simp only [List.cons_append, List.cons.injEq] at he
    exact h pre' c' b a post he.2

theorem TurnsR.push {p : Pt} {st : List Pt} (h : TurnsR st) : TurnsR (p :: popWhile p st) := by
  obtain ⟨pre0, hpre0⟩ := popWhile_suffix p st
  have hs : TurnsR (popWhile p st) := by rw [hpre0] at h; exact h.suffix
  exact hs.cons fun b a post he => popWhile_top p st b a post he

theorem scan_turns (ps st : List Pt) (h : TurnsR st) : TurnsR (scan ps st) := by
  induction ps generalizing st with
  | nil => exact h
  | cons p ps ih => exact ih _ h.push

theorem mem_popWhile {p q : Pt} {st : List Pt} (h : q ∈ popWhile p st) : q ∈ st := by
  obtain ⟨pre, hpre⟩ := popWhile_suffix p st
  rw [hpre]; exact List.mem_append_right _ h

theorem mem_scan {q : Pt} (ps st : List Pt) (h : q ∈ scan ps st) : q ∈ ps ∨ q ∈ st := by
  induction ps generalizing st with
  | nil => exact Or.inr h
  | cons p ps ih =>
    rcases ih _ h with h1 | h1
    · exact Or.inl (List.mem_cons_of_mem _ h1)
    · rcases List.mem_cons.mp h1 with rfl | h2
      · exact Or.inl List.mem_cons_self
      · exact Or.inr (mem_popWhile h2)

theorem scan_getLast? (ps st : List Pt) :
    (scan ps st).getLast? = if st = [] then ps.head? else st.getLast? := by
  induction ps generalizing st with
  | nil => cases st <;> rfl
  | cons p ps ih =>
    rw [scan, ih, if_neg (List.cons_ne_nil _ _), List.getLast?_cons, popWhile_getLast?]
    cases st with
    | nil => rfl
    | cons a tl => rw [if_neg (List.cons_ne_nil _ _), List.getLast?_cons]; rfl

theorem scan_sublist (ps st : List Pt) : (scan ps st).Sublist (ps.reverse ++ st) := by
  induction ps generalizing st with
  | nil => simp [scan]
  | cons p ps ih =>
    simp only [scan, List.reverse_cons, List.append_assoc, List.singleton_append]
    refine (ih _).trans (List.Sublist.append (List.Sublist.refl _) ?_)
    obtain ⟨pre, hpre⟩ := popWhile_suffix p st
    refine List.Sublist.cons_cons p ?_
    conv => rhs; rw [hpre]
    exact List.sublist_append_right _ _

theorem foldl_min_mem (f : Pt → Pt → Bool) (ps : List Pt) (p : Pt) :
    ps.foldl (fun best q => if f q best then q else best) p ∈ p :: ps := by
  induction ps generalizing p with
  | nil => simp
  | cons q qs ih =>
    simp only [List.foldl_cons]
    have := ih (if f q p then q else p)
    rcases List.mem_cons.mp this with h | h
    · rw [h]; split <;> simp
    · exact List.mem_cons_of_mem _ (List.mem_cons_of_mem _ h)

theorem minLt_iff {p q : Pt} : minLt p q = true ↔ q.2 < p.2 ∨ (p.2 = q.2 ∧ p.1 < q.1) := by
  unfold minLt
  split <;> rw [decide_eq_true_iff] <;> omega

theorem minLt_irrefl (p : Pt) : minLt p p = false := by
  rw [← Bool.not_eq_true, minLt_iff]; omega

theorem minLt_trans {p q r : Pt} (h1 : minLt p q = true) (h2 : minLt q r = true) :
    minLt p r = true := by
  rw [minLt_iff] at *; omega

theorem not_minLt_trans {p q r : Pt} (h1 : minLt q p = false) (h2 : minLt r q = false) :
    minLt r p = false := by
  rw [← Bool.not_eq_true, minLt_iff] at *; omega

theorem foldl_min_le (ps : List Pt) (p : Pt) :
    minLt p (ps.foldl (fun best q => if minLt q best then q else best) p) = false ∧
    ∀ q ∈ ps, minLt q (ps.foldl (fun best q => if minLt q best then q else best) p) = false := by
  induction ps generalizing p with
  | nil => exact ⟨minLt_irrefl p, fun _ h => (nomatch h)⟩
  | cons q qs ih =>
    rw [List.foldl_cons]
    obtain ⟨h1, h2⟩ := ih (if minLt q p then q else p)
    have hpq : minLt p (if minLt q p then q else p) = false ∧
        minLt q (if minLt q p then q else p) = false := by
      split
      · rename_i hq
        rw [minLt_iff] at hq
        exact ⟨by rw [← Bool.not_eq_true, minLt_iff]; omega, minLt_irrefl q⟩
      · rename_i hq
        exact ⟨minLt_irrefl p, (Bool.not_eq_true _).mp hq⟩
    refine ⟨not_minLt_trans h1 hpq.1, fun r hr => ?_⟩
    rcases List.mem_cons.mp hr with rfl | hr
    · exact not_minLt_trans h1 hpq.2
    · exact h2 r hr

theorem cross_neg (m p q : Pt) : cross m q p = -(cross m p q) := by
  unfold cross
  rw [Int.neg_sub, Int.mul_comm (p.2 - m.2), Int.mul_comm (p.1 - m.1)]

theorem exactLe_iff {m p q : Pt} (hp : p ≠ m) (hq : q ≠ m) :
    exactLe m p q = true ↔
      0 < cross m p q ∨ (cross m p q = 0 ∧ sqDist m p ≤ sqDist m q) := by
  simp only [exactLe, if_neg hp, if_neg hq]
  split
  · simp only [true_iff]; omega
  · split
    · simp only [Bool.false_eq_true, false_iff]; omega
    · rw [decide_eq_true_iff]; omega

theorem exactLe_total (m p q : Pt) : exactLe m p q = true ∨ exactLe m q p = true := by
  by_cases hp : p = m
  · exact .inl (by rw [exactLe, if_pos hp])
  · by_cases hq : q = m
    · exact .inr (by rw [exactLe, if_pos hq])
    · rw [exactLe_iff hp hq, exactLe_iff hq hp, cross_neg m p q]
      omega

theorem exactLe_refl (m p : Pt) : exactLe m p p = true :=
  (exactLe_total m p p).elim id id

end RtenVerif.Poly
