import RtenVerif.Model.Sym

/-! Integer facts behind the C11 proofs: truncating division and `div_ceil`, the `i32` tests of the
machine arithmetic, and the interval bounds that `range` computes with `imin`, `imax`, `sat`;
`rangeOp_sound` puts them together for one binary node (used by `range_sound` of C11 and of C10). -/
namespace RtenVerif.Sym

theorem sign_split (x : Int) : ∃ x', 0 ≤ x' ∧ (x = x' ∨ x = -x') := by
  by_cases h : 0 ≤ x
  · exact ⟨x, h, .inl rfl⟩
  · exact ⟨-x, by omega, .inr (by omega)⟩

theorem tdiv_tdiv_nonneg {x b c : Int} (hx : 0 ≤ x) (hb : 0 ≤ b) :
    (x.tdiv b).tdiv c = x.tdiv (b * c) := by
  have h1 : 0 ≤ x.tdiv b := Int.tdiv_nonneg hx hb
  rw [Int.tdiv_eq_ediv_of_nonneg h1, Int.tdiv_eq_ediv_of_nonneg hx, Int.tdiv_eq_ediv_of_nonneg hx,
    Int.ediv_ediv_of_nonneg hb]

theorem tdiv_tdiv (x b c : Int) : (x.tdiv b).tdiv c = x.tdiv (b * c) := by
  obtain ⟨x', hx', rfl | rfl⟩ := sign_split x <;>
  obtain ⟨b', hb', rfl | rfl⟩ := sign_split b <;>
  obtain ⟨c', hc', rfl | rfl⟩ := sign_split c <;>
  simp only [Int.neg_tdiv, Int.tdiv_neg, Int.neg_mul, Int.mul_neg, Int.neg_neg,
    tdiv_tdiv_nonneg hx' hb']

theorem mul_tdiv_mul_cancel (t a b : Int) (ht : t ≠ 0) : (t * a).tdiv (t * b) = a.tdiv b := by
  by_cases h : 0 < t
  · exact Int.mul_tdiv_mul_of_pos a b h
  · have h' : 0 < -t := by omega
    have := Int.mul_tdiv_mul_of_pos a b h'
    simp only [Int.neg_mul, Int.neg_tdiv, Int.tdiv_neg, Int.neg_neg] at this
    exact this

/-- For a positive divisor the code's `div_ceil` is the mathematical ceiling. -/
theorem divCeilI_pos {x y : Int} (hy : 0 < y) : divCeilI x y = -((-x) / y) := by
  unfold divCeilI
  have hyn : ¬ y < 0 := by omega
  by_cases hx : x < 0
  · -- opposite signs: truncation already rounds up
    have : x.tdiv y = -((-x) / y) := by
      rw [← Int.tdiv_eq_ediv_of_nonneg (by omega), Int.neg_tdiv, Int.neg_neg]
    simp [hx, hyn, this]
  · -- equal signs: `x / y` rounds down, and `-(-x / y)` adds one unless `y ∣ x`
    have hs : y.sign = 1 := Int.sign_eq_one_of_pos hy
    rw [Int.neg_ediv, Int.tdiv_eq_ediv_of_nonneg (by omega), Int.tmod_eq_emod_of_nonneg (by omega)]
    by_cases hd : y ∣ x
    · simp [hd, Int.emod_eq_zero_of_dvd hd]
    · have : x % y ≠ 0 := fun h => hd (Int.dvd_of_emod_eq_zero h)
      simp [hd, this, hx, hyn, hs]; omega

theorem divCeilI_divCeilI {x b c : Int} (hb : 0 < b) (hc : 0 < c) :
    divCeilI (divCeilI x b) c = divCeilI x (b * c) := by
  rw [divCeilI_pos hb, divCeilI_pos hc, divCeilI_pos (Int.mul_pos hb hc), Int.neg_neg,
    Int.ediv_ediv_of_nonneg (by omega)]

theorem divCeilI_self {x : Int} (hx : x ≠ 0) : divCeilI x x = 1 := by
  unfold divCeilI
  simp [Int.tdiv_self hx]

theorem divCeilI_one (x : Int) : divCeilI x 1 = x := by
  rw [divCeilI_pos (by decide), Int.ediv_one, Int.neg_neg]

/-- `div_ceil` is invariant under negating both operands (for a divisor `0` it is not:
`div_ceil(5, 0) = 1`, `div_ceil(-5, 0) = 0` in the model), so a negative divisor reduces to a
positive one. -/
theorem divCeilI_neg_neg {x y : Int} (hy : y ≠ 0) : divCeilI x y = divCeilI (-x) (-y) := by
  unfold divCeilI
  simp only [Int.neg_tdiv, Int.tdiv_neg, Int.neg_neg, Int.neg_tmod, Int.tmod_neg, ne_eq,
    Int.neg_eq_zero]
  split
  · -- a non-zero remainder means `x ≠ 0`, so negating both operands flips both sign tests
    rename_i hr
    have hx0 : x ≠ 0 := fun h => hr (by rw [h, Int.zero_tmod])
    have : (decide (x < 0) = decide (y < 0)) ↔ (decide (-x < 0) = decide (-y < 0)) := by
      simp only [decide_eq_decide]; omega
    simp only [this]
  · rfl

theorem bcastI_one_left (y : Int) : bcastI 1 y = y := if_pos rfl

theorem bcastI_one_right (x : Int) : bcastI x 1 = x := by
  unfold bcastI; split
  · exact (‹x = 1›).symm
  · exact if_pos rfl

theorem bcastI_self (x : Int) : bcastI x x = x := by
  simp only [bcastI, ite_self]

theorem bcastI_of_ne {x y : Int} (hx : x ≠ 1) (hy : y ≠ 1) :
    bcastI x y = max x y ∧ max x y ≠ 1 :=
  ⟨by rw [bcastI, if_neg hx, if_neg hy, Int.max_def], by omega⟩

theorem bcastI_comm (x y : Int) : bcastI x y = bcastI y x := by
  by_cases hx : x = 1
  · rw [hx, bcastI_one_left, bcastI_one_right]
  by_cases hy : y = 1
  · rw [hy, bcastI_one_left, bcastI_one_right]
  rw [(bcastI_of_ne hx hy).1, (bcastI_of_ne hy hx).1, Int.max_comm]

theorem bcastI_assoc (x y z : Int) : bcastI (bcastI x y) z = bcastI x (bcastI y z) := by
  by_cases hx : x = 1
  · rw [hx, bcastI_one_left, bcastI_one_left]
  by_cases hy : y = 1
  · rw [hy, bcastI_one_left, bcastI_one_right]
  by_cases hz : z = 1
  · rw [hz, bcastI_one_right, bcastI_one_right]
  rw [(bcastI_of_ne hx hy).1, (bcastI_of_ne hy hz).1, (bcastI_of_ne (bcastI_of_ne hx hy).2 hz).1,
    (bcastI_of_ne hx (bcastI_of_ne hy hz).2).1, Int.max_assoc]

theorem bcastI_dom_left {x y : Int} (hd : x = y ∨ x = 1 ∨ y = 1) (hx : x ≠ 1) : bcastI x y = x := by
  rcases hd with rfl | h | rfl
  · exact bcastI_self x
  · exact absurd h hx
  · exact bcastI_one_right x

theorem bcastI_dom_right {x y : Int} (hd : x = y ∨ x = 1 ∨ y = 1) (hy : y ≠ 1) :
    bcastI x y = y := by
  rw [bcastI_comm]; exact bcastI_dom_left (hd.imp Eq.symm Or.symm) hy

theorem inI32_iff {x : Int} : inI32 x = true ↔ I32MIN ≤ x ∧ x ≤ I32MAX := by
  simp [inI32]

theorem chk_some {x y : Int} (h : chk x = some y) : y = x ∧ I32MIN ≤ x ∧ x ≤ I32MAX := by
  unfold chk at h
  split at h
  · rename_i hx; exact ⟨(Option.some.inj h).symm, inI32_iff.mp hx⟩
  · cases h

theorem chk_cases (z : Int) : chk z = some z ∨ chk z = none := by
  unfold chk; split
  · exact .inl rfl
  · exact .inr rfl

theorem wrap32_id {x : Int} (h1 : I32MIN ≤ x) (h2 : x ≤ I32MAX) : wrap32 x = x := by
  unfold wrap32 I32MIN I32MAX at *; omega

/-! ### Interval bounds

`imin`, `imax` are `min`, `max`, which `omega` knows. -/

theorem imin_eq_min (x y : Int) : imin x y = min x y := (Int.min_def x y).symm
theorem imax_eq_max (x y : Int) : imax x y = max x y := (Int.max_def x y).symm

theorem sat_lo {b v : Int} (h : b ≤ v) (hv : I32MIN ≤ v ∧ v ≤ I32MAX) : sat b ≤ v := by
  unfold sat; omega

theorem sat_hi {b v : Int} (h : v ≤ b) (hv : I32MIN ≤ v ∧ v ≤ I32MAX) : v ≤ sat b := by
  unfold sat; omega

theorem sat_bounds {lo v hi : Int} (h : lo ≤ v ∧ v ≤ hi) (hv : I32MIN ≤ v ∧ v ≤ I32MAX) :
    sat lo ≤ v ∧ v ≤ sat hi := ⟨sat_lo h.1 hv, sat_hi h.2 hv⟩

theorem tdiv_bounds_abs (x y : Int) :
    imin x (-x) ≤ x.tdiv y ∧ x.tdiv y ≤ imax x (-x) := by
  have := Int.natAbs_tdiv_le_natAbs x y
  rw [imin_eq_min, imax_eq_max]; omega

theorem tdiv_bounds_pos {x y : Int} (hy : 0 < y) :
    imin x 0 ≤ x.tdiv y ∧ x.tdiv y ≤ imax x 0 := by
  have habs := Int.natAbs_tdiv_le_natAbs x y
  have hpos : 0 ≤ x → 0 ≤ x.tdiv y := fun h => Int.tdiv_nonneg h (Int.le_of_lt hy)
  have hneg : 0 ≤ -x → 0 ≤ -x.tdiv y := fun h =>
    Int.neg_tdiv .. ▸ Int.tdiv_nonneg h (Int.le_of_lt hy)
  rw [imin_eq_min, imax_eq_max]; omega

theorem divCeilI_bounds_pos {x y : Int} (hy : 0 < y) :
    imin x 0 ≤ divCeilI x y ∧ divCeilI x y ≤ imax x 0 := by
  rw [divCeilI_pos hy, imin_eq_min, imax_eq_max]
  by_cases hx : 0 ≤ x
  · have h1 := Int.ediv_nonpos_of_nonpos_of_neg (n := -x) (s := y) (by omega) hy
    have h2 : -x ≤ (-x) / y := by
      apply Int.le_ediv_of_mul_le hy
      have := Int.mul_le_mul_of_nonpos_left (a := -x) (b := y) (c := 1) (by omega) hy
      rwa [Int.mul_one] at this
    omega
  · have hx' : 0 ≤ -x := by omega
    have h1 := Int.ediv_nonneg hx' (Int.le_of_lt hy)
    have h2 := Int.ediv_le_self y hx'
    omega

theorem divCeilI_nonneg {x y : Int} (hx : 0 ≤ x) (hy : 0 < y) : 0 ≤ divCeilI x y := by
  have := (divCeilI_bounds_pos (x := x) hy).1
  rw [imin_eq_min] at this; omega

theorem bounds_abs_of_sign {x q : Int} (h : imin x 0 ≤ q ∧ q ≤ imax x 0) :
    imin x (-x) ≤ q ∧ q ≤ imax x (-x) := by
  rw [imin_eq_min, imax_eq_max] at *
  exact ⟨Int.le_trans (Int.le_min.mpr ⟨Int.min_le_left .., by omega⟩) h.1,
    Int.le_trans h.2 (Int.max_le.mpr ⟨Int.le_max_left .., by omega⟩)⟩

theorem divCeilI_bounds_abs {x y : Int} (hy : y ≠ 0) :
    imin x (-x) ≤ divCeilI x y ∧ divCeilI x y ≤ imax x (-x) := by
  by_cases hp : 0 < y
  · exact bounds_abs_of_sign (divCeilI_bounds_pos hp)
  · have := bounds_abs_of_sign (divCeilI_bounds_pos (x := -x) (y := -y) (by omega))
    rw [Int.neg_neg, imin_eq_min, imax_eq_max, Int.min_comm, Int.max_comm] at this
    rwa [divCeilI_neg_neg hy, imin_eq_min, imax_eq_max]

theorem sel_range {v x y la ha lb hb : Int} (hv : v = x ∨ v = y) (hx : la ≤ x ∧ x ≤ ha)
    (hy : lb ≤ y ∧ y ≤ hb) : imin la lb ≤ v ∧ v ≤ imax ha hb := by
  rw [imin_eq_min, imax_eq_max]
  rcases hv with rfl | rfl
  · exact ⟨Int.le_trans (Int.min_le_left ..) hx.1, Int.le_trans hx.2 (Int.le_max_left ..)⟩
  · exact ⟨Int.le_trans (Int.min_le_right ..) hy.1, Int.le_trans hy.2 (Int.le_max_right ..)⟩

theorem quot_range_pos {x q la ha : Int} (hx : la ≤ x ∧ x ≤ ha)
    (hq : imin x 0 ≤ q ∧ q ≤ imax x 0) : imin la 0 ≤ q ∧ q ≤ imax ha 0 := by
  simp only [imin_eq_min, imax_eq_max] at *
  exact ⟨Int.le_trans
      (Int.le_min.mpr ⟨Int.le_trans (Int.min_le_left ..) hx.1, Int.min_le_right ..⟩) hq.1,
    Int.le_trans hq.2
      (Int.max_le.mpr ⟨Int.le_trans hx.2 (Int.le_max_left ..), Int.le_max_right ..⟩)⟩

/-- `-x` need not be an `i32` (`x = i32::MIN`), but `q` is, and `sat` is applied to a bound of `q`. -/
theorem quot_range_abs {x q la ha : Int} (hx : la ≤ x ∧ x ≤ ha)
    (hq : imin x (-x) ≤ q ∧ q ≤ imax x (-x)) (hr : I32MIN ≤ q ∧ q ≤ I32MAX) :
    imin la (sat (-ha)) ≤ q ∧ q ≤ imax ha (sat (-la)) := by
  rw [imin_eq_min, imax_eq_max] at *
  constructor
  · rcases Std.min_le.mp hq.1 with h | h
    · exact Int.le_trans (Int.le_trans (Int.min_le_left ..) hx.1) h
    · exact Int.le_trans (Int.min_le_right ..) (sat_lo (by omega) hr)
  · rcases Std.le_max.mp hq.2 with h | h
    · exact Int.le_trans h (Int.le_trans hx.2 (Int.le_max_left ..))
    · exact Int.le_trans (sat_hi (by omega) hr) (Int.le_max_right ..)

/-- The exact result of a binary node, before the arithmetic delivers it (`evalOp_eq`). -/
def opF : Op → Int → Int → Int
  | .add, x, y => x + y
  | .sub, x, y => x - y
  | .mul, x, y => x * y
  | .div, x, y => Int.tdiv x y
  | .divCeil, x, y => divCeilI x y
  | .max, x, y => if x ≤ y then y else x
  | .min, x, y => if x ≤ y then x else y
  | .broadcast, x, y => bcastI x y

theorem opF_sel {o : Op} (h : o = .max ∨ o = .min ∨ o = .broadcast) (x y : Int) :
    opF o x y = x ∨ opF o x y = y := by
  rcases h with rfl | rfl | rfl <;> simp only [opF, bcastI] <;> (repeat' split) <;> simp

/-- The interval `range` gives a binary node, from those of its operands. -/
def rangeOp : Op → Int × Int → Int × Int → Int × Int
  | .sub, _, _ => (I32MIN, I32MAX)
  | .broadcast, ra, rb => (imax (imin ra.1 rb.1) 0, imax (imax ra.2 rb.2) 0)
  | .add, ra, rb => (sat (ra.1 + rb.1), sat (ra.2 + rb.2))
  | .mul, ra, rb =>
    if 0 ≤ ra.1 ∧ 0 ≤ rb.1 then (sat (ra.1 * rb.1), sat (ra.2 * rb.2)) else (I32MIN, I32MAX)
  | .div, ra, rb | .divCeil, ra, rb =>
    if 0 ≤ rb.1 then (imin ra.1 0, imax ra.2 0)
    else (imin ra.1 (sat (-ra.2)), imax ra.2 (sat (-ra.1)))
  | .max, ra, rb | .min, ra, rb => (imin ra.1 rb.1, imax ra.2 rb.2)

/-- Interval arithmetic of one node: operands inside their intervals, a non-zero divisor, non-negative
`Broadcast` operands and a result inside `i32` (which `sat` needs) put the result inside `rangeOp`. -/
theorem rangeOp_sound {o : Op} {x y : Int} {ra rb : Int × Int} (hxb : ra.1 ≤ x ∧ x ≤ ra.2)
    (hyb : rb.1 ≤ y ∧ y ≤ rb.2) (h0 : (o = .div ∨ o = .divCeil) → y ≠ 0)
    (hB : o = .broadcast → 0 ≤ x ∧ 0 ≤ y) (hr : I32MIN ≤ opF o x y ∧ opF o x y ≤ I32MAX) :
    (rangeOp o ra rb).1 ≤ opF o x y ∧ opF o x y ≤ (rangeOp o ra rb).2 := by
  cases o <;> simp only [rangeOp]
  case add => exact sat_bounds ⟨Int.add_le_add hxb.1 hyb.1, Int.add_le_add hxb.2 hyb.2⟩ hr
  case sub => exact hr
  case mul =>
    split
    · rename_i hpos
      exact sat_bounds ⟨Int.mul_le_mul hxb.1 hyb.1 hpos.2 (by omega),
        Int.mul_le_mul hxb.2 hyb.2 (by omega) (by omega)⟩ hr
    · exact hr
  case div =>
    have hy0 := h0 (.inl rfl)
    split
    · exact quot_range_pos hxb (tdiv_bounds_pos (by omega))
    · exact quot_range_abs hxb (tdiv_bounds_abs x y) hr
  case divCeil =>
    have hy0 := h0 (.inr rfl)
    split
    · exact quot_range_pos hxb (divCeilI_bounds_pos (by omega))
    · exact quot_range_abs hxb (divCeilI_bounds_abs hy0) hr
  case max => exact sel_range (opF_sel (.inl rfl) x y) hxb hyb
  case min => exact sel_range (opF_sel (.inr (.inl rfl)) x y) hxb hyb
  case broadcast =>
    have hsel := opF_sel (.inr (.inr rfl)) x y
    obtain ⟨h1, h2⟩ := sel_range hsel hxb hyb
    have hpos : 0 ≤ opF .broadcast x y := by
      rcases hsel with e | e <;> rw [e]
      · exact (hB rfl).1
      · exact (hB rfl).2
    rw [imax_eq_max, imax_eq_max]
    exact ⟨Int.max_le.mpr ⟨h1, hpos⟩, Int.le_trans h2 (Int.le_max_left ..)⟩

end RtenVerif.Sym
