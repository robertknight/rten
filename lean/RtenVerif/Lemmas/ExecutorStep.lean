import RtenVerif.Lemmas.ExecutorRc
/-!
# C02 — anatomy of one executor step

`step` is unfolded once, into the phases of a completed step (`StepParts`) and into its
continuation after the take phase (`step_unfold`); then the effect of each phase on the state:
the take phase (for any capture environment as the relation `Took`; when nothing can be taken by
value as `Moved`, the list of entries moved out of `temp_values`), output storage and the release
loop.
-/
namespace RtenVerif.Executor
open RtenVerif.Graph

/-- No capture environment (top-level run). -/
def NoCaps {V : Type} (st : St V) : Prop := ∀ v, st.caps v = none

/-- No capture can be taken by value: every captured value is visible by reference only
(`can_take_input` is false for every name). -/
def NoTake {V : Type} (st : St V) : Prop := ∀ v x b, st.caps v = some (x, b) → b = false

theorem NoCaps.noTake {V : Type} {st : St V} (h : NoCaps st) : NoTake st := by
  intro v x b hv; rw [h v] at hv; cases hv

/-- The phases of a completed step. -/
structure StepParts {V : Type} (ops : Ops V) (r : Run V) (st st' : St V) (i : Nat)
    (tr : StepTrace) where
  op : OpNode
  st1 : St V
  taken : List (Nat × V)
  st2 : St V
  byVal : List (Nat × V)
  ins : List (Option V)
  outs : List V
  temps3 : Nat → Option V
  stored : List Nat
  released : List Nat
  hop : getOp r.g i = some op
  htake : (if (!(candidates ops i op st.temps).isEmpty &&
      (candidates ops i op st.temps).all (fun c => canTake r st c.2) && !r.neverInPlace) = true
      then takeAll r st (candidates ops i op st.temps) else some (st, [])) = some (st1, taken)
  hbyval : (if ops.isSubgraph i = true then takeByValue r st1 (capDeps r.g op) else (st1, []))
      = (st2, byVal)
  hins : collectInputs r st2 (taken.map (fun t => t.1)) op.inputs 0 = some ins
  hrun : (if (!taken.isEmpty) = true then ops.runInPlace i taken ins
      else if ops.isSubgraph i = true then
        ops.run i ins ((capDeps r.g op).map (capView r st2 byVal))
      else ops.run i ins []) = some outs
  hlen : op.outputs.length ≤ outs.length
  hstore : storeOutputs r st2.temps op.outputs outs = (temps3, stored)
  hrel : releaseLoop r { st2 with temps := temps3 } (opDeps r.g op) = (st', released)
  htr : tr.taken = ((candidates ops i op st.temps).zip taken).map (fun ct => (ct.1.1, ct.1.2)) ∧
      tr.byVal = byVal.map (fun p => p.1) ∧ tr.released = released ∧ tr.stored = stored

theorem step_parts {V : Type} {ops : Ops V} {r : Run V} {st st' : St V} {i : Nat}
    {tr : StepTrace} (h : step ops r st i = .ok (st', tr)) :
    Nonempty (StepParts ops r st st' i tr) := by
  revert h
  fun_cases step ops r st i
  case case6 op hop cands rip st1 taken htake st2 byVal hbv ins hins result outs hrun hlen temps3
      stored hso st4 released hrl =>
    intro h
    cases h
    exact ⟨{ op := op, st1 := st1, taken := taken, st2 := st2, byVal := byVal, ins := ins,
             outs := outs, temps3 := temps3, stored := stored, released := released,
             hop := hop, htake := htake, hbyval := hbv, hins := hins, hrun := hrun,
             hlen := by omega, hstore := hso, hrel := hrl, htr := ⟨rfl, rfl, rfl, rfl⟩ }⟩
  all_goals exact fun h => nomatch h

/-- `step` after its take phase. -/
theorem step_unfold {V : Type} {ops : Ops V} {r : Run V} {st : St V} {i : Nat} {op : OpNode}
    {st1 : St V} {taken : List (Nat × V)} {st2 : St V} {byVal : List (Nat × V)}
    (hop : getOp r.g i = some op)
    (htake : (if (!(candidates ops i op st.temps).isEmpty &&
      (candidates ops i op st.temps).all (fun c => canTake r st c.2) && !r.neverInPlace) = true
      then takeAll r st (candidates ops i op st.temps) else some (st, [])) = some (st1, taken))
    (hbv : (if ops.isSubgraph i = true then takeByValue r st1 (capDeps r.g op) else (st1, []))
      = (st2, byVal)) :
    step ops r st i =
      match collectInputs r st2 (taken.map (fun t => t.1)) op.inputs 0 with
      | none => .error (.panicAt i)
      | some ins =>
        match (if (!taken.isEmpty) = true then ops.runInPlace i taken ins
          else if ops.isSubgraph i = true then
            ops.run i ins ((capDeps r.g op).map (capView r st2 byVal))
          else ops.run i ins []) with
        | none => .error (.opErr i)
        | some outs =>
          if outs.length < op.outputs.length then .error (.opErr i)
          else
            .ok ((releaseLoop r { st2 with temps := (storeOutputs r st2.temps op.outputs outs).1 }
                (opDeps r.g op)).1,
              { op := i
                rip := (!(candidates ops i op st.temps).isEmpty &&
                  (candidates ops i op st.temps).all (fun c => canTake r st c.2) && !r.neverInPlace)
                taken := ((candidates ops i op st.temps).zip taken).map (fun ct => (ct.1.1, ct.1.2))
                byVal := byVal.map (fun p => p.1)
                stored := (storeOutputs r st2.temps op.outputs outs).2
                released := (releaseLoop r
                  { st2 with temps := (storeOutputs r st2.temps op.outputs outs).1 }
                  (opDeps r.g op)).2 }) := by
  unfold step
  simp only [hop]
  rw [htake]
  simp only [hbv]
  rfl

def Rem {β : Type} (rc : Nat → Nat) (ids : List Nat) (before after : Option β) (x : Nat) : Prop :=
  after = before ∨ (after = none ∧ rc x = 1 ∧ x ∈ ids)

/-- `st'` arises from `st` by a take phase over some of the ids in `ids`. -/
def Took {V : Type} (ids : List Nat) (st st' : St V) : Prop :=
  st'.rc = st.rc ∧ ∀ x, Rem st.rc ids (st.temps x) (st'.temps x) x ∧
    Rem st.rc ids (st.caps x) (st'.caps x) x

theorem Took.refl {V : Type} (ids : List Nat) (st : St V) : Took ids st st :=
  ⟨rfl, fun _ => ⟨Or.inl rfl, Or.inl rfl⟩⟩

theorem Took.mono {V : Type} {ids ids' : List Nat} {st st' : St V} (h : Took ids st st')
    (hs : ∀ y ∈ ids, y ∈ ids') : Took ids' st st' :=
  ⟨h.1, fun x => ⟨(h.2 x).1.imp_right (fun ⟨a, b, c⟩ => ⟨a, b, hs x c⟩),
    (h.2 x).2.imp_right (fun ⟨a, b, c⟩ => ⟨a, b, hs x c⟩)⟩⟩

theorem Took.trans {V : Type} {ids : List Nat} {a b c : St V} (h1 : Took ids a b)
    (h2 : Took ids b c) : Took ids a c := by
  refine ⟨h2.1.trans h1.1, fun x => ?_⟩
  obtain ⟨t2, c2⟩ := h2.2 x
  rw [h1.1] at t2 c2
  constructor
  · rcases t2 with e | e
    · rw [e]; exact (h1.2 x).1
    · exact Or.inr e
  · rcases c2 with e | e
    · rw [e]; exact (h1.2 x).2
    · exact Or.inr e

theorem takeValue_cases {V : Type} (r : Run V) (st : St V) (id : Nat) :
    (∃ v, st.rc id = 1 ∧ st.temps id = some v ∧
      takeValue r st id = ({ st with temps := upd st.temps id none }, some v)) ∨
    (∃ v, st.rc id = 1 ∧ st.caps id = some (v, true) ∧
      takeValue r st id = ({ st with caps := upd st.caps id none }, some v)) ∨
    (takeValue r st id = (st, none) ∧ (st.rc id = 1 → st.temps id = none)) := by
  fun_cases takeValue r st id
  case case1 hrc v hv => exact Or.inl ⟨v, hrc, hv, rfl⟩
  case case2 hrc _ _ v hv => exact Or.inr (Or.inl ⟨v, hrc, hv, rfl⟩)
  case case5 hrc => exact Or.inr (Or.inr ⟨rfl, fun h => absurd h hrc⟩)
  all_goals exact Or.inr (Or.inr ⟨rfl, fun _ => ‹_›⟩)

theorem takeValue_took {V : Type} (r : Run V) (st : St V) (id : Nat) :
    Took [id] st (takeValue r st id).1 := by
  have key : ∀ {β : Type} (f : Nat → Option β) (x : Nat), st.rc id = 1 →
      Rem st.rc [id] (f x) (upd f id none x) x := by
    intro β f x hrc
    by_cases hx : x = id
    · subst hx; exact Or.inr ⟨upd_same _ _ _, hrc, List.mem_singleton_self _⟩
    · exact Or.inl (upd_ne _ _ hx)
  fun_cases takeValue r st id
  case case1 hrc _ _ => exact ⟨rfl, fun x => ⟨key _ x hrc, Or.inl rfl⟩⟩
  case case2 hrc _ _ _ _ => exact ⟨rfl, fun x => ⟨Or.inl rfl, key _ x hrc⟩⟩
  all_goals exact Took.refl _ _

theorem takeAll_took {V : Type} (r : Run V) {cs : List (Nat × Nat)} {st st' : St V}
    {tk : List (Nat × V)} (h : takeAll r st cs = some (st', tk)) :
    Took (cs.map (fun c => c.2)) st st' := by
  induction cs generalizing st tk with
  | nil => cases h; exact Took.refl _ _
  | cons c cs ih =>
    have h1 := takeValue_took r st c.2
    rw [takeAll] at h
    split at h
    · rename_i st1 v htv
      rw [htv] at h1
      split at h
      · rename_i st2 tk2 hta
        cases h
        exact (h1.mono (by simp)).trans
          ((ih hta).mono (fun y hy => List.mem_cons_of_mem _ hy))
      · cases h
    · cases h

theorem takeByValue_took {V : Type} (r : Run V) (st : St V) (ds : List Nat) :
    Took ds st (takeByValue r st ds).1 := by
  induction ds generalizing st with
  | nil => exact Took.refl _ _
  | cons d ds ih =>
    have h1 := takeValue_took r st d
    have key : ∀ st1, Took [d] st st1 → Took (d :: ds) st (takeByValue r st1 ds).1 := fun st1 h =>
      (h.mono (by simp)).trans ((ih st1).mono (fun y hy => List.mem_cons_of_mem _ hy))
    rw [takeByValue]
    split
    · rename_i st1 v htv; rw [htv] at h1; exact key st1 h1
    · rename_i st1 htv; rw [htv] at h1; exact key st1 h1

theorem take_phase_took {V : Type} {ops : Ops V} {r : Run V} {st : St V} {i : Nat} {op : OpNode}
    {st1 : St V} {taken : List (Nat × V)} {st2 : St V} {byVal : List (Nat × V)}
    (htake : (if (!(candidates ops i op st.temps).isEmpty &&
      (candidates ops i op st.temps).all (fun c => canTake r st c.2) && !r.neverInPlace) = true
      then takeAll r st (candidates ops i op st.temps) else some (st, [])) = some (st1, taken))
    (hbv : (if ops.isSubgraph i = true then takeByValue r st1 (capDeps r.g op) else (st1, []))
      = (st2, byVal)) :
    Took ((candidates ops i op st.temps).map (fun c => c.2) ++ capDeps r.g op) st st2 := by
  have h1 : Took ((candidates ops i op st.temps).map (fun c => c.2)) st st1 := by
    split at htake
    · exact takeAll_took r htake
    · cases htake; exact Took.refl _ _
  have h2 : Took (capDeps r.g op) st1 st2 := by
    split at hbv
    · have h := takeByValue_took r st1 (capDeps r.g op)
      rw [hbv] at h; exact h
    · cases hbv; exact Took.refl _ _
  exact (h1.mono fun y hy => List.mem_append_left _ hy).trans
    (h2.mono fun y hy => List.mem_append_right _ hy)

theorem release_rc {V : Type} {r : Run V} {st st2 st' : St V} {temps3 : Nat → Option V}
    {ds released : List Nat} (hrc2 : st2.rc = st.rc) (hb : RcBounded st.rc)
    (hrel : releaseLoop r { st2 with temps := temps3 } ds = (st', released)) (v : Nat) :
    st'.rc v = decN (ds.count v) (st.rc v) := by
  have := releaseLoop_rc r { st2 with temps := temps3 } ds v (show st2.rc v ≤ 255 from hrc2 ▸ hb v)
  rw [hrel] at this
  exact this.trans (congrArg (fun rc => decN _ (rc v)) hrc2)

theorem step_rc {V : Type} (ops : Ops V) (r : Run V) (st st' : St V) (i : Nat) (tr : StepTrace)
    (h : step ops r st i = .ok (st', tr)) (hb : RcBounded st.rc) :
    ∃ op, getOp r.g i = some op ∧
      ∀ v, st'.rc v = decN ((opDeps r.g op).count v) (st.rc v) := by
  obtain ⟨P⟩ := step_parts h
  exact ⟨P.op, P.hop, release_rc (take_phase_took P.htake P.hbyval).1 hb P.hrel⟩

theorem step_rcBounded {V : Type} (ops : Ops V) (r : Run V) (st st' : St V) (i : Nat)
    (tr : StepTrace) (h : step ops r st i = .ok (st', tr)) (hb : RcBounded st.rc) :
    RcBounded st'.rc := by
  obtain ⟨op, _, hrc⟩ := step_rc ops r st st' i tr h hb
  intro v; rw [hrc v]; exact decN_le (hb v)

theorem RcInv.step {V : Type} {ops : Ops V} {r : Run V} {st st' : St V} {i : Nat}
    {tr : StepTrace} {total : Nat → Nat} {rest outs : List Nat}
    (h : step ops r st i = .ok (st', tr)) (hb : RcBounded st.rc)
    (hinv : RcInv r.g total (i :: rest) outs st.rc) : RcInv r.g total rest outs st'.rc := by
  obtain ⟨op, hop, hrc⟩ := step_rc ops r st st' i tr h hb
  exact hinv.dec hop hrc

theorem takeValue_noTake {V : Type} (r : Run V) {st : St V} (hc : NoTake st) (id : Nat) :
    (∃ v, st.rc id = 1 ∧ st.temps id = some v ∧
      takeValue r st id = ({ st with temps := upd st.temps id none }, some v)) ∨
    takeValue r st id = (st, none) := by
  fun_cases takeValue r st id
  case case1 hrc v hv => exact Or.inl ⟨v, hrc, hv, rfl⟩
  case case2 v hv => cases hc id v true hv
  all_goals exact Or.inr rfl

/-- `st'` is `st` with the entries `got` (id, value) moved out of `temp_values`, each of them
at count 1; nothing else changed.  What a take phase does when no capture can be taken. -/
structure Moved {V : Type} (st st' : St V) (got : List (Nat × V)) : Prop where
  rc : st'.rc = st.rc
  caps : st'.caps = st.caps
  temps : ∀ x, st'.temps x = if x ∈ got.map (fun p => p.1) then none else st.temps x
  had : ∀ x v, (x, v) ∈ got → st.rc x = 1 ∧ st.temps x = some v

theorem Moved.refl {V : Type} (st : St V) : Moved st st [] :=
  ⟨rfl, rfl, fun _ => by simp, fun _ _ h => nomatch h⟩

theorem Moved.single {V : Type} {st : St V} {id : Nat} {v : V} (hrc : st.rc id = 1)
    (ht : st.temps id = some v) : Moved st { st with temps := upd st.temps id none } [(id, v)] := by
  refine ⟨rfl, rfl, fun x => ?_, fun x w h => ?_⟩
  · simp only [List.map_cons, List.map_nil, List.mem_singleton, upd_apply]
  · cases List.mem_singleton.mp h; exact ⟨hrc, ht⟩

/-- Two moves in a row: what the second one finds was not moved by the first. -/
theorem Moved.append {V : Type} {a b c : St V} {g1 g2 : List (Nat × V)} (h1 : Moved a b g1)
    (h2 : Moved b c g2) : Moved a c (g1 ++ g2) := by
  refine ⟨h2.rc.trans h1.rc, h2.caps.trans h1.caps, fun x => ?_, fun x v h => ?_⟩
  · rw [h2.temps x, h1.temps x]
    by_cases x1 : x ∈ g1.map (fun p => p.1) <;> by_cases x2 : x ∈ g2.map (fun p => p.1) <;>
      simp only [List.map_append, List.mem_append, x1, x2, or_self, or_true, true_or, if_true, if_false]
  · rcases List.mem_append.mp h with h | h
    · exact h1.had x v h
    · obtain ⟨hr, ht⟩ := h2.had x v h
      rw [h1.temps x] at ht
      split at ht
      · cases ht
      · exact ⟨h1.rc ▸ hr, ht⟩

theorem Moved.noTake {V : Type} {st st' : St V} {got : List (Nat × V)} (h : Moved st st' got)
    (hc : NoTake st) : NoTake st' := fun v x b hv => hc v x b (h.caps ▸ hv)

theorem takeAll_moved {V : Type} {r : Run V} {st st' : St V} {cs : List (Nat × Nat)}
    {tk : List (Nat × V)} (hc : NoTake st) (h : takeAll r st cs = some (st', tk)) :
    ∃ got, Moved st st' got ∧ got.map (fun p => p.1) = cs.map (fun c => c.2) ∧
      tk.map (fun t => t.1) = cs.map (fun c => c.1) ∧
      ∀ p v, (p, v) ∈ tk → ∃ id, (p, id) ∈ cs ∧ (id, v) ∈ got := by
  induction cs generalizing st tk with
  | nil => cases h; exact ⟨[], .refl _, rfl, rfl, fun _ _ h => nomatch h⟩
  | cons c cs ih =>
    rw [takeAll] at h
    rcases takeValue_noTake r hc c.2 with ⟨v, hrc, htemp, e⟩ | e <;> simp only [e] at h
    · split at h
      · rename_i st2 tk2 hta
        cases h
        have M := Moved.single hrc htemp
        obtain ⟨got, M2, hk, hp, hm⟩ := ih (M.noTake hc) hta
        refine ⟨(c.2, v) :: got, M.append M2, by rw [List.map_cons, hk]; rfl,
          by rw [List.map_cons, hp]; rfl, fun p w hpw => ?_⟩
        rcases List.mem_cons.mp hpw with e | hpw
        · cases e; exact ⟨c.2, List.mem_cons_self, List.mem_cons_self⟩
        · obtain ⟨id, h1, h2⟩ := hm p w hpw
          exact ⟨id, List.mem_cons_of_mem _ h1, List.mem_cons_of_mem _ h2⟩
      · cases h
    · cases h

theorem takeByValue_moved {V : Type} (r : Run V) {st : St V} (ds : List Nat) (hc : NoTake st) :
    Moved st (takeByValue r st ds).1 (takeByValue r st ds).2 ∧
      ∀ x v, (x, v) ∈ (takeByValue r st ds).2 → x ∈ ds := by
  induction ds generalizing st with
  | nil => exact ⟨.refl st, fun _ _ h => nomatch h⟩
  | cons d ds ih =>
    rw [takeByValue]
    rcases takeValue_noTake r hc d with ⟨v, hrc, htemp, e⟩ | e <;> simp only [e]
    · have M := Moved.single hrc htemp
      obtain ⟨M2, hm⟩ := ih (M.noTake hc)
      refine ⟨M.append M2, fun x w h => ?_⟩
      rcases List.mem_cons.mp h with e | h
      · cases e; exact List.mem_cons_self
      · exact List.mem_cons_of_mem _ (hm x w h)
    · exact ⟨(ih hc).1, fun x w h => List.mem_cons_of_mem _ ((ih hc).2 x w h)⟩

theorem naiveStore_apply {V : Type} (E : Nat → Option V) (ids : List (Option Nat)) (vs : List V)
    (x : Nat) :
    naiveStore E ids vs x =
      match naiveStore (fun _ => none) ids vs x with
      | some v => some v
      | none => E x := by
  induction ids generalizing E vs with
  | nil => simp [naiveStore]
  | cons oid ids ih =>
    cases vs with
    | nil => simp [naiveStore]
    | cons v vs =>
      cases oid with
      | none => simp only [naiveStore]; exact ih E vs
      | some id =>
        simp only [naiveStore]
        rw [ih (upd E id (some v)) vs, ih (upd (fun _ => none) id (some v)) vs]
        cases naiveStore (fun _ => none) ids vs x with
        | some w => rfl
        | none =>
          simp only [upd_apply]
          split <;> rfl

theorem naiveStore_cases {V : Type} (ids : List (Option Nat)) (vs : List V) (x : Nat) :
    (∃ w, naiveStore (fun _ => none) ids vs x = some w ∧
      ∀ E : Nat → Option V, naiveStore E ids vs x = some w) ∨
    (naiveStore (fun _ => none) ids vs x = none ∧
      ∀ E : Nat → Option V, naiveStore E ids vs x = E x) := by
  cases hw : naiveStore (fun _ => none) ids vs x with
  | some w => exact Or.inl ⟨w, rfl, fun E => by rw [naiveStore_apply, hw]⟩
  | none => exact Or.inr ⟨rfl, fun E => by rw [naiveStore_apply, hw]⟩

theorem naiveStore_none_mem {V : Type} (ids : List (Option Nat)) (vs : List V) (x : Nat) (y : V)
    (h : naiveStore (fun _ => none) ids vs x = some y) : x ∈ ids.filterMap id := by
  induction ids generalizing vs y with
  | nil => simp [naiveStore] at h
  | cons oid ids ih =>
    cases vs with
    | nil => simp [naiveStore] at h
    | cons v vs =>
      cases oid with
      | none => simp only [naiveStore] at h; simpa using ih vs y h
      | some k =>
        simp only [naiveStore] at h
        rw [naiveStore_apply] at h
        cases hw : naiveStore (fun _ => none) ids vs x with
        | some w => simp only [List.filterMap_cons, id]; exact List.mem_cons_of_mem _ (ih vs w hw)
        | none =>
          rw [hw] at h
          simp only [upd_apply] at h
          split at h
          · rename_i hx; subst hx; simp
          · simp at h

theorem naiveStore_other {V : Type} (E : Nat → Option V) (ids : List (Option Nat)) (vs : List V)
    {v : Nat} (h : v ∉ ids.filterMap id) : naiveStore E ids vs v = E v := by
  rw [naiveStore_apply]
  cases hw : naiveStore (fun _ => none) ids vs v with
  | none => rfl
  | some w => exact absurd (naiveStore_none_mem _ _ _ _ hw) h

theorem naiveStore_written {V : Type} (ids : List (Option Nat)) (vs : List V) (v : Nat)
    (hlen : ids.length ≤ vs.length) (h : v ∈ ids.filterMap id) :
    ∃ w, naiveStore (fun _ => none) ids vs v = some w := by
  induction ids generalizing vs with
  | nil => simp at h
  | cons oid ids ih =>
    cases vs with
    | nil => simp at hlen
    | cons x vs =>
      simp only [List.length_cons, Nat.add_le_add_iff_right] at hlen
      cases oid with
      | none =>
        simp only [naiveStore]
        exact ih vs hlen (by simpa using h)
      | some k =>
        simp only [naiveStore]
        rw [naiveStore_apply]
        cases hw : naiveStore (fun _ => none) ids vs v with
        | some w => exact ⟨w, rfl⟩
        | none =>
          simp only [upd_apply]
          by_cases hv : v = k
          · simp [hv]
          · exfalso
            simp only [List.filterMap_cons, id, List.mem_cons] at h
            rcases h with h | h
            · exact hv h
            · obtain ⟨w, hw'⟩ := ih vs hlen h
              rw [hw] at hw'; simp at hw'

theorem storeOutputs_apply {V : Type} (r : Run V) (hf : r.fixed = true) (temps : Nat → Option V)
    (ids : List (Option Nat)) (vs : List V) (x : Nat) :
    (storeOutputs r temps ids vs).1 x =
      if r.isInput x = true then temps x else naiveStore temps ids vs x := by
  induction ids generalizing temps vs with
  | nil => simp [storeOutputs, naiveStore]
  | cons oid ids ih =>
    cases vs with
    | nil => simp [storeOutputs, naiveStore]
    | cons v vs =>
      cases oid with
      | none => simp only [storeOutputs, naiveStore]; exact ih temps vs
      | some id =>
        simp only [storeOutputs, naiveStore, hf, Bool.true_and]
        by_cases hin : r.isInput id = true
        · simp only [hin, if_true]
          rw [ih temps vs]
          by_cases hx : r.isInput x = true
          · simp [hx]
          · simp only [hx]
            rw [naiveStore_apply temps, naiveStore_apply (upd temps id (some v))]
            have : x ≠ id := by rintro rfl; exact hx hin
            simp [upd_apply, this]
        · simp only [hin]
          have := ih (upd temps id (some v)) vs
          simp only [Bool.false_eq_true, if_false]
          rw [this]
          by_cases hx : r.isInput x = true
          · have : x ≠ id := by rintro rfl; exact hin hx
            simp [hx, upd_apply, this]
          · simp [hx]

theorem releaseLoop_caps {V : Type} (r : Run V) (st : St V) (ds : List Nat) :
    (releaseLoop r st ds).1.caps = st.caps := by
  induction ds generalizing st with
  | nil => rfl
  | cons d ds ih =>
    obtain ⟨t, _, e⟩ := releaseLoop_cons r st d ds
    rw [e]; exact ih _

theorem releaseLoop_temps {V : Type} (r : Run V) (st : St V) (ds : List Nat) (x : Nat)
    (hb : RcBounded st.rc) :
    (releaseLoop r st ds).1.temps x = st.temps x ∨
      ((releaseLoop r st ds).1.temps x = none ∧ (releaseLoop r st ds).1.rc x = 0) := by
  induction ds generalizing st with
  | nil => exact Or.inl rfl
  | cons d ds ih =>
    obtain ⟨t, ht, e⟩ := releaseLoop_cons r st d ds
    rw [e]
    rcases ih { st with rc := upd st.rc d (rcDecCount (st.rc d)), temps := t } (hb.dec d) with h | h
    · rcases ht with rfl | ⟨rfl, h0⟩
      · exact Or.inl h
      · by_cases hx : x = d
        · -- released: the counter was 1, is 0 now and stays 0
          subst hx
          refine Or.inr ⟨h.trans (upd_same _ _ _), ?_⟩
          rw [releaseLoop_rc _ _ _ _ (hb.dec x x)]
          show decN _ (upd st.rc x _ x) = 0
          rw [upd_same, rcDecRet_eq_zero h0]
          simp [decN, rcDecCount]
        · exact Or.inl (h.trans (upd_ne _ _ hx))
    · exact Or.inr h

end RtenVerif.Executor
