import RtenVerif.Lemmas.Overlap
import RtenVerif.Lemmas.InsertionSort

/-!
The sorted "steps over" check of C08 is a *dominance chain* test that does not depend on the
sort (completeness side, part 1), and a passing check makes the offset map injective
(soundness).  The loop passes iff every stride exceeds `max_offset` plus the total span
`Σ (size_j - 1) * stride_j` of the entries before it; by an exchange argument, if any ordering of
the non-unit, non-empty `(stride, size)` pairs passes, it is the sorted one.
-/
namespace RtenVerif.Overlap

/-- `(stride, size)` pairs of the dimensions whose size is not 1, in the original order
(what the code collects before `sort_unstable`). -/
def keys (dims : List (Nat × Nat)) : List (Nat × Nat) :=
  (dims.filter (fun d => d.1 != 1)).map (fun d => (d.2, d.1))

theorem sortedStrideShape_eq (dims : List (Nat × Nat)) :
    sortedStrideShape dims = isort pairLe (keys dims) := rfl

/-- Largest offset reachable along one `(stride, size)` entry. -/
def span (x : Nat × Nat) : Nat := (x.2 - 1) * x.1

def spanSum (L : List (Nat × Nat)) : Nat := (L.map span).sum

@[simp] theorem spanSum_nil : spanSum [] = 0 := rfl
@[simp] theorem spanSum_cons (x : Nat × Nat) (L : List (Nat × Nat)) :
    spanSum (x :: L) = span x + spanSum L := by simp [spanSum]
theorem spanSum_append (A B : List (Nat × Nat)) :
    spanSum (A ++ B) = spanSum A + spanSum B := by simp [spanSum]
theorem spanSum_perm {A B : List (Nat × Nat)} (h : A.Perm B) : spanSum A = spanSum B :=
  (h.map _).sum_nat

/-- The loop over `L` started at `max_offset = m` returns `false` (no overlap reported). -/
def Passes (m : Nat) (L : List (Nat × Nat)) : Prop := (stepsOver m L).isSome = true

theorem passes_nil (m : Nat) : Passes m [] := rfl

theorem passes_cons (m : Nat) (x : Nat × Nat) (L : List (Nat × Nat)) :
    Passes m (x :: L) ↔ m < x.1 ∧ Passes (m + span x) L := by
  obtain ⟨s, n⟩ := x
  simp only [Passes, stepsOver, span]
  by_cases h : s ≤ m
  · simp only [h, if_true, Option.isSome_none]
    constructor
    · intro h'; cases h'
    · intro h'; omega
  · simp only [h, if_false]
    constructor
    · intro h'; exact ⟨by omega, h'⟩
    · intro h'; exact h'.2

theorem stepsOver_value : ∀ (L : List (Nat × Nat)) (m r : Nat),
    stepsOver m L = some r → r = m + spanSum L := by
  intro L
  induction L with
  | nil => intro m r h; simp [stepsOver] at h; simp [h]
  | cons x L ih =>
    intro m r h
    obtain ⟨s, n⟩ := x
    simp only [stepsOver] at h
    by_cases hle : s ≤ m
    · simp [hle] at h
    · simp only [hle, if_false] at h
      have := ih _ _ h
      simp only [spanSum_cons, span]
      omega

theorem passes_append (A B : List (Nat × Nat)) (m : Nat) :
    Passes m (A ++ B) ↔ Passes m A ∧ Passes (m + spanSum A) B := by
  induction A generalizing m with
  | nil => simp [passes_nil]
  | cons x A ih =>
    simp only [List.cons_append, passes_cons, ih, spanSum_cons, Nat.add_assoc, and_assoc]

theorem passes_iff_dominates (L : List (Nat × Nat)) (m : Nat) :
    Passes m L ↔ ∀ L1 x L2, L = L1 ++ x :: L2 → m + spanSum L1 < x.1 := by
  induction L generalizing m with
  | nil =>
    constructor
    · intro _ L1 x L2 h; cases L1 <;> simp at h
    · intro _; exact passes_nil m
  | cons y L ih =>
    rw [passes_cons, ih]
    constructor
    · rintro ⟨h1, h2⟩ L1 x L2 h
      cases L1 with
      | nil =>
        simp only [List.nil_append, List.cons.injEq] at h
        rw [← h.1]; simpa using h1
      | cons z L1 =>
        simp only [List.cons_append, List.cons.injEq] at h
        have := h2 L1 x L2 h.2
        rw [← h.1, spanSum_cons]; omega
    · intro h
      refine ⟨by simpa using h [] y L rfl, ?_⟩
      intro L1 x L2 hL
      have := h (y :: L1) x L2 (by simp [hL])
      rw [spanSum_cons] at this; omega

/-- `Dom L L'`: `L'` is obtained from `L` by dropping entries and replacing kept entries by
ones with a stride at least as large and a span at most as large (what slicing or dropping a
dimension does to the keys). -/
inductive Dom : List (Nat × Nat) → List (Nat × Nat) → Prop
  | nil : Dom [] []
  | drop {x : Nat × Nat} {L L' : List (Nat × Nat)} : Dom L L' → Dom (x :: L) L'
  | keep {x y : Nat × Nat} {L L' : List (Nat × Nat)} :
      Dom L L' → x.1 ≤ y.1 → span y ≤ span x → Dom (x :: L) (y :: L')

theorem Dom.refl : ∀ (L : List (Nat × Nat)), Dom L L
  | [] => .nil
  | _ :: L => .keep (Dom.refl L) (Nat.le_refl _) (Nat.le_refl _)

theorem Dom.append {A A' B B' : List (Nat × Nat)} (hA : Dom A A') (hB : Dom B B') :
    Dom (A ++ B) (A' ++ B') := by
  induction hA with
  | nil => exact hB
  | drop _ ih => exact .drop ih
  | keep _ h1 h2 ih => exact .keep ih h1 h2

theorem Dom.passes {L L' : List (Nat × Nat)} (h : Dom L L') :
    ∀ {m m' : Nat}, m' ≤ m → Passes m L → Passes m' L' := by
  induction h with
  | nil => intro m m' _ _; exact passes_nil _
  | @drop x L L' _ ih =>
    intro m m' hm hp
    rw [passes_cons] at hp
    exact ih (by omega) hp.2
  | @keep x y L L' _ h1 h2 ih =>
    intro m m' hm hp
    rw [passes_cons] at hp ⊢
    exact ⟨by omega, ih (by omega) hp.2⟩

theorem passes_mono {L : List (Nat × Nat)} {m m' : Nat} (hm : m' ≤ m) (h : Passes m L) :
    Passes m' L := (Dom.refl L).passes hm h

theorem stride_le_span (b : Nat × Nat) (h : 2 ≤ b.2) : b.1 ≤ span b :=
  Nat.le_mul_of_pos_left _ (Nat.le_sub_one_of_lt h)

theorem passes_strict : ∀ (L : List (Nat × Nat)) (m : Nat),
    Passes m L → (∀ x ∈ L, 2 ≤ x.2) →
    (∀ x ∈ L, m < x.1) ∧ L.Pairwise (fun a b => a.1 < b.1) := by
  intro L
  induction L with
  | nil => intro m _ _; exact ⟨by simp, List.Pairwise.nil⟩
  | cons x L ih =>
    intro m hp hs
    rw [passes_cons] at hp
    obtain ⟨h1, h2⟩ := ih _ hp.2 (fun y hy => hs y (List.mem_cons_of_mem _ hy))
    have hspan := stride_le_span x (hs x List.mem_cons_self)
    refine ⟨?_, List.pairwise_cons.mpr ⟨?_, h2⟩⟩
    · intro y hy
      rcases List.mem_cons.mp hy with rfl | hy
      · exact hp.1
      · have := h1 y hy; omega
    · intro y hy
      have := h1 y hy; omega

/-- An entry between `y` and `x` would add its span, which is at least its stride, which exceeds
that of `y`. -/
theorem passes_adjacent {L : List (Nat × Nat)} {m : Nat} (hp : Passes m L)
    (hs : ∀ z ∈ L, 2 ≤ z.2) {x y : Nat × Nat} (hy : y ∈ L) (hx : x ∈ L) (hlt : y.1 < x.1)
    (hle : x.1 ≤ y.1 + span y) : ∃ A C, L = A ++ y :: x :: C := by
  have hsorted := (passes_strict L m hp hs).2
  obtain ⟨A, R, rfl⟩ := List.append_of_mem hy
  obtain ⟨_, hR, hAR⟩ := List.pairwise_append.mp hsorted
  have hxR : x ∈ R := by
    rcases List.mem_append.mp hx with h | h
    · exact absurd (hAR _ h y List.mem_cons_self) (Nat.lt_asymm hlt)
    · rcases List.mem_cons.mp h with rfl | h
      · exact absurd hlt (Nat.lt_irrefl _)
      · exact h
  obtain ⟨B, C, rfl⟩ := List.append_of_mem hxR
  rw [passes_append, passes_cons, passes_append, passes_cons] at hp
  have hxgt := hp.2.2.2.1
  cases B with
  | nil => exact ⟨A, C, rfl⟩
  | cons b B =>
    have hb : y.1 < b.1 := (List.pairwise_cons.mp hR).1 b List.mem_cons_self
    have hb2 := stride_le_span b (hs b (by simp))
    rw [spanSum_cons] at hxgt
    omega

theorem pairLe_total (a b : Nat × Nat) : pairLe a b = true ∨ pairLe b a = true := by
  simp only [pairLe, Bool.or_eq_true, Bool.and_eq_true, decide_eq_true_eq, beq_iff_eq]
  omega

theorem pairLe_trans {a b c : Nat × Nat} (h1 : pairLe a b = true) (h2 : pairLe b c = true) :
    pairLe a c = true := by
  simp only [pairLe, Bool.or_eq_true, Bool.and_eq_true, decide_eq_true_eq, beq_iff_eq] at *
  omega

theorem pairLe_antisymm {a b : Nat × Nat} (h1 : pairLe a b = true) (h2 : pairLe b a = true) :
    a = b := by
  simp only [pairLe, Bool.or_eq_true, Bool.and_eq_true, decide_eq_true_eq, beq_iff_eq] at *
  apply Prod.ext <;> omega

/-- **Exchange argument.**  If some ordering `L` of the entries `K` (all sizes ≥ 2) passes the
loop from 0, then `L` is strictly increasing in stride, so it is *the* sorted permutation
of `K`: the code's sort produces exactly `L`. -/
theorem isort_eq_of_passes {L K : List (Nat × Nat)} (hperm : L.Perm K)
    (hs : ∀ x ∈ K, 2 ≤ x.2) (hp : Passes 0 L) : isort pairLe K = L := by
  have hsL : ∀ x ∈ L, 2 ≤ x.2 := fun x hx => hs x (hperm.mem_iff.mp hx)
  have hstrict := (passes_strict L 0 hp hsL).2
  have hsortedL : L.Pairwise (fun a b => pairLe a b = true) :=
    hstrict.imp fun h => by simp [pairLe, h]
  exact List.Perm.eq_of_pairwise (le := fun a b => pairLe a b = true)
    (fun a b _ _ h1 h2 => pairLe_antisymm h1 h2)
    (isort_pairwise pairLe _ (fun _ => True) (fun _ _ h => h)
      (fun a b h => (pairLe_total a b).resolve_left (ne_true_of_eq_false h))
      (fun _ _ _ _ _ _ => pairLe_trans) K fun _ _ => trivial)
    hsortedL ((isort_perm pairLe K).trans hperm.symm)

def NoZero (dims : List (Nat × Nat)) : Prop := dims.any (fun d => d.1 == 0) = false

instance (dims : List (Nat × Nat)) : Decidable (NoZero dims) := by unfold NoZero; infer_instance

theorem noZero_iff (dims : List (Nat × Nat)) : NoZero dims ↔ ∀ d ∈ dims, d.1 ≠ 0 := by
  simp [NoZero]

def StepsOverSorted (dims : List (Nat × Nat)) : Prop := Passes 0 (sortedStrideShape dims)

/-- Some ordering of the non-unit `(stride, size)` pairs passes the loop, i.e. each stride
exceeds the total span of the entries before it (see `passes_iff_dominates`). -/
def DomChain (dims : List (Nat × Nat)) : Prop := ∃ L, L.Perm (keys dims) ∧ Passes 0 L

theorem keys_size_ge_two {dims : List (Nat × Nat)} (hz : NoZero dims) :
    ∀ x ∈ keys dims, 2 ≤ x.2 := by
  intro x hx
  simp only [keys, List.mem_map, List.mem_filter] at hx
  obtain ⟨d, ⟨hd, hne⟩, rfl⟩ := hx
  have h0 := (noZero_iff dims).mp hz d hd
  have h1 : d.1 ≠ 1 := by simpa using hne
  show 2 ≤ d.1
  omega

theorem stepsOverSorted_iff_domChain {dims : List (Nat × Nat)} (hz : NoZero dims) :
    StepsOverSorted dims ↔ DomChain dims := by
  constructor
  · intro h
    exact ⟨_, isort_perm pairLe (keys dims), h⟩
  · rintro ⟨L, hperm, hp⟩
    show Passes 0 (isort pairLe (keys dims))
    rw [isort_eq_of_passes hperm (keys_size_ge_two hz) hp]
    exact hp

theorem keys_perm {dims dims' : List (Nat × Nat)} (h : dims.Perm dims') :
    (keys dims).Perm (keys dims') := (h.filter _).map _

theorem noZero_perm {dims dims' : List (Nat × Nat)} (h : dims.Perm dims') :
    NoZero dims ↔ NoZero dims' := by
  unfold NoZero; rw [h.any_eq]

theorem domChain_perm {dims dims' : List (Nat × Nat)} (h : dims.Perm dims') :
    DomChain dims ↔ DomChain dims' := by
  constructor
  · rintro ⟨L, hp, hpass⟩; exact ⟨L, hp.trans (keys_perm h), hpass⟩
  · rintro ⟨L, hp, hpass⟩; exact ⟨L, hp.trans (keys_perm h.symm), hpass⟩

/-- `(stride, size, a, b)`: one dimension together with the two indices compared. -/
structure Quad where
  stride : Nat
  size : Nat
  a : Nat
  b : Nat

def Quad.key (q : Quad) : Nat × Nat := (q.stride, q.size)

def sumA (Q : List Quad) : Nat := (Q.map (fun q => q.a * q.stride)).sum
def sumB (Q : List Quad) : Nat := (Q.map (fun q => q.b * q.stride)).sum

/-- Mixed radix: every stride exceeds the largest offset reachable through the entries before it,
which act as the low digit. -/
theorem passes_inj : ∀ (Q : List Quad) (m x y : Nat),
    Passes m (Q.map Quad.key) → x ≤ m → y ≤ m →
    (∀ q ∈ Q, q.a < q.size ∧ q.b < q.size) →
    x + sumA Q = y + sumB Q → x = y ∧ ∀ q ∈ Q, q.a = q.b := by
  intro Q
  induction Q with
  | nil => intro m x y _ _ _ _ h; exact ⟨h, fun _ hq => (List.not_mem_nil hq).elim⟩
  | cons q Q ih =>
    intro m x y hs hx hy hv h
    obtain ⟨hlt, hs'⟩ := (passes_cons m q.key _).mp hs
    have hq := hv q List.mem_cons_self
    have hva : q.a * q.stride ≤ (q.size - 1) * q.stride :=
      Nat.mul_le_mul_right _ (Nat.le_sub_one_of_lt hq.1)
    have hvb : q.b * q.stride ≤ (q.size - 1) * q.stride :=
      Nat.mul_le_mul_right _ (Nat.le_sub_one_of_lt hq.2)
    have h' : x + q.a * q.stride + sumA Q = y + q.b * q.stride + sumB Q := by
      rw [Nat.add_assoc, Nat.add_assoc]; exact h
    obtain ⟨h1, h2⟩ := ih _ _ _ hs' (Nat.add_le_add hx hva) (Nat.add_le_add hy hvb)
      (fun q' hq' => hv q' (List.mem_cons_of_mem _ hq')) h'
    obtain ⟨hxy, hab⟩ := mixed_radix (Nat.lt_of_le_of_lt hx hlt) (Nat.lt_of_le_of_lt hy hlt) h1
    exact ⟨hxy, fun q' hq' => (List.mem_cons.mp hq').elim (fun e => e ▸ hab) (h2 q')⟩

theorem sumA_perm {Q Q' : List Quad} (h : Q.Perm Q') : sumA Q = sumA Q' :=
  (h.map _).sum_nat

theorem sumB_perm {Q Q' : List Quad} (h : Q.Perm Q') : sumB Q = sumB Q' :=
  (h.map _).sum_nat

def mkQuads : List (Nat × Nat) → List Nat → List Nat → List Quad
  | (size, stride) :: ds, i :: is, j :: js => ⟨stride, size, i, j⟩ :: mkQuads ds is js
  | _, _, _ => []

theorem mkQuads_spec : ∀ (dims : List (Nat × Nat)) (i j : List Nat),
    ValidIdx dims i → ValidIdx dims j →
    (mkQuads dims i j).map (fun q => (q.size, q.stride)) = dims ∧
    sumA (mkQuads dims i j) = offset dims i ∧
    sumB (mkQuads dims i j) = offset dims j ∧
    (∀ q ∈ mkQuads dims i j, q.a < q.size ∧ q.b < q.size) ∧
    ((∀ q ∈ mkQuads dims i j, q.a = q.b) → i = j) := by
  intro dims i j hi
  induction hi generalizing j with
  | nil => intro hj; cases hj; exact ⟨rfl, rfl, rfl, fun _ h => (List.not_mem_nil h).elim, fun _ => rfl⟩
  | @cons size stride i0 ds is hlt _ ih =>
    intro hj
    cases hj with
    | @cons _ _ j0 _ js hjlt hjrest =>
      obtain ⟨h1, h2, h3, h4, h5⟩ := ih js hjrest
      refine ⟨congrArg ((size, stride) :: ·) h1, congrArg (i0 * stride + ·) h2,
        congrArg (j0 * stride + ·) h3, ?_, ?_⟩
      · intro q hq
        rcases List.mem_cons.mp hq with rfl | hq
        · exact ⟨hlt, hjlt⟩
        · exact h4 q hq
      · intro hall
        have h0 : i0 = j0 := hall ⟨stride, size, i0, j0⟩ List.mem_cons_self
        rw [h0, h5 (fun q hq => hall q (List.mem_cons_of_mem _ hq))]

theorem sum_filter_size (Q : List Quad) (hv : ∀ q ∈ Q, q.a < q.size ∧ q.b < q.size) :
    sumA (Q.filter (fun q => q.size != 1)) = sumA Q ∧
    sumB (Q.filter (fun q => q.size != 1)) = sumB Q := by
  induction Q with
  | nil => simp
  | cons q Q ih =>
    have hq := hv q List.mem_cons_self
    obtain ⟨ihA, ihB⟩ := ih (fun q' hq' => hv q' (List.mem_cons_of_mem _ hq'))
    simp only [sumA, sumB] at ihA ihB ⊢
    by_cases h1 : q.size = 1
    · have ha : q.a = 0 := by omega
      have hb : q.b = 0 := by omega
      have hf : (q.size != 1) = false := by simp [h1]
      simp [hf, ha, hb, ihA, ihB]
    · have hf : (q.size != 1) = true := by simp [h1]
      simp [hf, ihA, ihB]

/-- Bundle each dimension with the two indices, drop the size-1 dimensions (their indices are 0)
and sort the bundles by the code's key; the sums of `index * stride` do not change, and
`passes_inj` applies. -/
theorem stepsOverSorted_inj {dims : List (Nat × Nat)} {i j : List Nat} (hp : StepsOverSorted dims)
    (hi : ValidIdx dims i) (hj : ValidIdx dims j) (hoff : offset dims i = offset dims j) : i = j := by
  obtain ⟨hmap, hA, hB, hv, hfin⟩ := mkQuads_spec dims i j hi hj
  apply hfin
  let F := (mkQuads dims i j).filter (fun q => q.size != 1)
  let S := isort (fun x y => pairLe x.key y.key) F
  have hperm : S.Perm F := isort_perm _ F
  have hkeys : S.map Quad.key = sortedStrideShape dims := by
    rw [map_isort Quad.key pairLe F, sortedStrideShape_eq, keys, ← hmap]
    simp only [F, List.filter_map, List.map_map]
    rfl
  have hvS : ∀ q ∈ S, q.a < q.size ∧ q.b < q.size := fun q hq =>
    hv q (List.mem_filter.mp (hperm.mem_iff.mp hq)).1
  obtain ⟨hFA, hFB⟩ := sum_filter_size _ hv
  have hsum : 0 + sumA S = 0 + sumB S := by
    rw [sumA_perm hperm, sumB_perm hperm, hFA, hFB, hA, hB, hoff]
  have hall := (passes_inj S 0 0 0 (by rw [hkeys]; exact hp) (Nat.le_refl _) (Nat.le_refl _) hvS
    hsum).2
  intro q hq
  by_cases h1 : q.size = 1
  · have := hv q hq
    omega
  · exact hall q (hperm.mem_iff.mpr (List.mem_filter.mpr ⟨hq, by simp [h1]⟩))

end RtenVerif.Overlap
