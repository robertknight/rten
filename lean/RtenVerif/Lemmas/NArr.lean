import RtenVerif.Lemmas.IndexSpace

/-! Helper lemmas for C09: the reference array (`NArr`) and the array a view denotes. -/
namespace RtenVerif.Arr

theorem assoc_map {α : Type} (g : List Nat → α) (idx : List Nat) (ks : List (List Nat))
    (h : idx ∈ ks) : assoc idx ks (ks.map g) = some (g idx) := by
  induction ks with
  | nil => cases h
  | cons k ks ih =>
    simp only [List.map_cons, assoc]
    by_cases hk : k = idx
    · simp [hk]
    · simp only [hk, if_false]
      rcases List.mem_cons.mp h with h | h
      · exact absurd h.symm hk
      · exact ih h

namespace NArr
variable {α : Type}

@[simp] theorem ofFn_shape (shape : List Nat) (g : List Nat → α) : (ofFn shape g).shape = shape := rfl

theorem get_ofFn [Inhabited α] (shape : List Nat) (g : List Nat → α) (idx : List Nat)
    (h : validIdx shape idx = true) : (ofFn shape g).get idx = g idx := by
  simp only [get, ofFn]
  rw [assoc_map g idx _ (mem_idxs.mpr h)]
  rfl

theorem ofFn_congr (shape : List Nat) (g g' : List Nat → α)
    (h : ∀ idx, validIdx shape idx = true → g idx = g' idx) : ofFn shape g = ofFn shape g' := by
  simp only [ofFn]
  congr 1
  exact List.map_congr_left (fun idx hidx => h idx (mem_idxs.mp hidx))

end NArr

end RtenVerif.Arr

namespace RtenVerif.Layout
open RtenVerif.Arr RtenVerif.Overlap

theorem numel_pos_of_valid {shape idx : List Nat} (h : validIdx shape idx = true) :
    0 < numel shape := by
  induction shape generalizing idx with
  | nil => simp [numel]
  | cons n ns ih =>
    cases idx with
    | nil => simp [validIdx] at h
    | cons i is =>
      simp only [validIdx, Bool.and_eq_true, decide_eq_true_eq] at h
      have := ih h.2
      simp only [numel, List.foldr_cons] at this ⊢
      exact Nat.mul_pos (by omega) this

@[simp] theorem shape_denote {α : Type} (v : View) (s : Nat → α) :
    (denote v s).shape = sizes v.dims := rfl

@[simp] theorem rank_denote {α : Type} (v : View) (s : Nat → α) :
    (denote v s).rank = v.dims.length := List.length_map _

theorem denote_ofFn_get {α : Type} [Inhabited α] (v : View) (s : Nat → α) :
    denote v s = NArr.ofFn (sizes v.dims) (fun idx => (denote v s).get idx) :=
  NArr.ofFn_congr _ _ _ fun idx h =>
    (NArr.get_ofFn (sizes v.dims) (fun idx => s (v.base + offset v.dims idx)) idx h).symm

end RtenVerif.Layout
