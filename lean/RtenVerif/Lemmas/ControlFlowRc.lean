import RtenVerif.Lemmas.ControlFlowStore

/-!
# Reference counts of `run_plan` in the presence of subgraph operators (C24.T2)

`RcInv g rest st`: before the steps `rest`, the count of every value node equals the number of
its remaining uses — occurrences in `operator_dependencies` of the remaining steps (inputs *and*
resolved capture names of subgraphs, every occurrence) plus occurrences among the requested outputs.
-/
namespace RtenVerif.ControlFlow

variable {P V : Type}

theorem takeAll_rc (gc : List Nat) : ∀ (cs : List (Nat × Nat)) (st st' : St V) (vs : List (Nat × V)),
    takeAll gc st cs = .ok (st', vs) → st'.rc = st.rc ∧ ∀ c ∈ cs, st.rc c.2 = 1
  | [], st, st', vs, h => by
    cases h; exact ⟨rfl, fun _ hc => nomatch hc⟩
  | (pos, n) :: rest, st, st', vs, h => by
    unfold takeAll at h
    split at h
    · cases h
    · rename_i v st1 htv
      have hrc1 : st1.rc = st.rc := by rw [← takeValue_rc gc st n, htv]
      split at h
      · cases h
      · rename_i st2 vs2 hrest
        cases h
        obtain ⟨h1, h2⟩ := takeAll_rc gc rest st1 st' vs2 hrest
        refine ⟨h1.trans hrc1, fun c hc => ?_⟩
        rcases List.mem_cons.mp hc with rfl | hc
        · exact takeValue_some_rc gc st n v (congrArg Prod.fst htv)
        · rw [← hrc1]; exact h2 c hc

/-- One decrement (`rc ≠ 0`): release at zero. -/
def dec1 (st : St V) (n : Nat) : St V :=
  { st with rc := fun m => if m = n then st.rc n - 1 else st.rc m,
            temp := if st.rc n - 1 == 0 then erase st.temp n else st.temp }

theorem decDeps_cons (st : St V) (n : Nat) (ns : List Nat) :
    decDeps st (n :: ns) = if st.rc n == 0 then decDeps st ns else decDeps (dec1 st n) ns := by
  rw [decDeps]; rfl

theorem decDeps_rc : ∀ (ds : List Nat) (st : St V) (n : Nat),
    (decDeps st ds).rc n = st.rc n - ds.count n
  | [], _, _ => rfl
  | m :: ms, st, n => by
    rw [decDeps_cons]
    by_cases hmn : m = n
    · subst hmn
      rw [List.count_cons_self]
      split
      · rename_i h0
        rw [decDeps_rc ms st m, eq_of_beq h0, Nat.zero_sub, Nat.zero_sub]
      · rw [decDeps_rc ms _ m]
        show (if m = m then st.rc m - 1 else st.rc m) - _ = _
        rw [if_pos rfl, Nat.sub_sub, Nat.add_comm]
    · rw [List.count_cons_of_ne hmn]
      split
      · exact decDeps_rc ms st n
      · rw [decDeps_rc ms _ n]
        show (if n = m then _ else st.rc n) - _ = _
        rw [if_neg (Ne.symm hmn)]

theorem decDeps_env : ∀ (ds : List Nat) (st : St V), (decDeps st ds).env = st.env
  | [], _ => rfl
  | n :: ns, st => by
    rw [decDeps_cons]
    split
    · exact decDeps_env ns st
    · exact decDeps_env ns (dec1 st n)

theorem deps_prim (g : Graph P V) (k : P) (ins : List Nat) (out : Nat) :
    deps g (.prim k ins out) = ins := by
  simp [deps, Op.directInputs, Op.capNames]

theorem stepOp_rc (S : Sem P V) (rec : Runner P V) (g : Graph P V) (views : Env V) (st st' : St V)
    (op : Op P V) (h : stepOp S rec g views st op = .ok st') (n : Nat) :
    st'.rc n = st.rc n - (deps g op).count n := by
  revert h
  -- every successful leaf is `decDeps` of a state whose counts are still those of `st`; `case4` is the one of a
  -- primitive operator, where in-place inputs may have been taken first
  fun_cases stepOp S rec g views st op <;> intro h <;> cases h
  case case4 st1 _ htk _ _ _ _ =>
    rw [deps_prim, decDeps_rc]
    split at htk
    · exact congrArg (fun r => r n - _) (takeAll_rc _ _ _ _ _ htk).1
    · cases htk; rfl
  all_goals exact (decDeps_rc _ _ n).trans (congrArg (fun r => r n - _) (extractByVal_rc _ _ _ st))

def remaining (g : Graph P V) (rest : List (Op P V)) (n : Nat) : Nat :=
  (if isValueNode g n then (rest.flatMap (deps g)).count n else 0) + g.outputs.count n

/-- The refcount invariant (C02.T1 extended with captures). -/
def RcInv (g : Graph P V) (rest : List (Op P V)) (st : St V) : Prop :=
  ∀ n, isValueNode g n = true → st.rc n = remaining g rest n

theorem rcInv_init (g : Graph P V) (temp : Env V) (env : List (Frame V)) :
    RcInv g g.ops { temp := temp, rc := rcInit g, env := env } := by
  intro n hn
  simp [rcInit, remaining, hn]

theorem remaining_cons (g : Graph P V) (op : Op P V) (rest : List (Op P V)) (n : Nat)
    (hn : isValueNode g n = true) :
    remaining g (op :: rest) n = (deps g op).count n + remaining g rest n := by
  simp only [remaining, hn, if_true, List.flatMap_cons, List.count_append]
  omega

theorem rcInv_of_rc_eq (g : Graph P V) (op : Op P V) (rest : List (Op P V)) (st st' : St V)
    (hinv : RcInv g (op :: rest) st) (h : ∀ n, st'.rc n = st.rc n - (deps g op).count n) :
    RcInv g rest st' := by
  intro n hn
  rw [h n, hinv n hn, remaining_cons g op rest n hn]
  omega

theorem rcInv_step (S : Sem P V) (rec : Runner P V) (g : Graph P V) (views : Env V)
    (st st' : St V) (op : Op P V) (rest : List (Op P V))
    (hinv : RcInv g (op :: rest) st) (h : stepOp S rec g views st op = .ok st') :
    RcInv g rest st' :=
  rcInv_of_rc_eq g op rest st st' hinv (stepOp_rc S rec g views st st' op h)

theorem rcInv_steps (S : Sem P V) (rec : Runner P V) (g : Graph P V) (views : Env V) :
    ∀ (ops rest : List (Op P V)) (st st' : St V), RcInv g (ops ++ rest) st →
      stepOps S rec g views st ops = .ok st' → RcInv g rest st'
  | [], rest, st, st', hinv, h => by
    cases h; exact hinv
  | op :: ops, rest, st, st', hinv, h => by
    unfold stepOps at h
    split at h
    · cases h
    · rename_i st1 h1
      exact rcInv_steps S rec g views ops rest st1 st'
        (rcInv_step S rec g views st st1 op (ops ++ rest) hinv h1) h

end RtenVerif.ControlFlow
