import RtenVerif.Lemmas.Slice
import RtenVerif.Lemmas.Gather

/-! C09: `slice_layout` / `try_slice` with positive steps refines the reference `slice`. -/
namespace RtenVerif.Layout
open RtenVerif.Arr RtenVerif.Overlap

/-- The reference's acceptance condition for one item of a view slice. -/
def itemOk (n : Nat) : SliceItem → Prop
  | .index i => 0 ≤ (if i ≥ 0 then i else i + n) ∧ (if i ≥ 0 then i else i + n) < n
  | .range r => (NArr.inBounds r.start n && r.stop.all (NArr.inBounds · n)) = true ∧ 0 < r.step

/-- The layout-level selector an accepted item amounts to. -/
def itemSel (n : Nat) : SliceItem → ASel
  | .index i => .pick (if i ≥ 0 then i else i + n).toNat
  | .range r => .arith (pyBounds r.start r.stop r.step n).1.toNat
      (pyCount r.start r.stop r.step n) r.step.toNat

/-- `(offset_adjust, kept dim)` of a selector on a `(size, stride)` axis. -/
def selStep (st : Nat) : ASel → Nat × Option (Nat × Nat)
  | .pick i => (st * i, none)
  | .arith a c t => (st * a, some (c, st * t))

theorem pyCount_step_one (r : SliceRange) (n : Nat) (h1 : r.step = 1) :
    pyCount r.start r.stop r.step n =
      (max (pyBounds r.start r.stop r.step n).2 (pyBounds r.start r.stop r.step n).1).toNat -
        (pyBounds r.start r.stop r.step n).1.toNat := by
  rcases hp : pyBounds r.start r.stop r.step n with ⟨S, E⟩
  have hb := pyBounds_pos (by omega) hp
  rw [pyCount_of_bounds hp, h1, if_neg (by decide), Int.ediv_one]
  split <;> omega

theorem sliceDim_range_ok (n st : Nat) (r : SliceRange) (hok : itemOk n (.range r)) :
    sliceDim n st (.range r) = .ok (selStep st (itemSel n (.range r))) := by
  obtain ⟨hin, ht⟩ := hok
  have hres := resolve_pos r n ht
  rw [if_pos hin] at hres
  simp only [sliceDim, hres]
  rw [if_neg (by omega)]
  by_cases h1 : r.step.toNat = 1
  · rw [if_pos h1]
    have h1' : r.step = 1 := by omega
    simp only [selStep, itemSel, pyCount_step_one r n h1']
  · rw [if_neg h1]
    obtain ⟨ir, hir, _, hsteps⟩ := indexRange_spec r n (by omega)
    rw [hir]
    simp only [selStep, itemSel, hsteps]

theorem toNat_lin (S step : Int) (j : Nat) (hS : 0 ≤ S) (ht : 0 ≤ step) :
    (S + (j : Int) * step).toNat = S.toNat + j * step.toNat := by
  have e1 : S = ((S.toNat : Nat) : Int) := (Int.toNat_of_nonneg hS).symm
  have e2 : step = ((step.toNat : Nat) : Int) := (Int.toNat_of_nonneg ht).symm
  rw [e1, e2, ← Int.natCast_mul, ← Int.natCast_add, Int.toNat_natCast, Int.toNat_natCast,
    Int.toNat_natCast]

/-- The reference side of an accepted range item: NumPy's index list is the arithmetic progression of
`itemSel`, whose last member (hence every member) is in range. -/
theorem range_ref_ok (n : Nat) (r : SliceRange) (hok : itemOk n (.range r)) :
    Sel.take (pyIndices r.start r.stop r.step n) = (itemSel n (.range r)).toSel ∧
    (pyCount r.start r.stop r.step n = 0 ∨
      (pyBounds r.start r.stop r.step n).1.toNat +
        (pyCount r.start r.stop r.step n - 1) * r.step.toNat < n) := by
  obtain ⟨_, ht⟩ := hok
  rcases hp : pyBounds r.start r.stop r.step n with ⟨S, E⟩
  have hb := pyBounds_pos ht hp
  constructor
  · simp only [itemSel, ASel.toSel, pyIndices, hp]
    congr 1
    apply List.map_congr_left
    intro j _
    exact toNat_lin _ _ j hb.1 (by omega)
  · rw [pyCount_of_bounds hp, if_neg (by omega)]
    by_cases hSE : S < E
    · right
      rw [if_pos hSE]
      have hq0 : 0 ≤ (E - S - 1) / r.step := Int.ediv_nonneg (by omega) (by omega)
      have hq := Int.ediv_mul_le (E - S - 1) (b := r.step) (by omega)
      generalize (E - S - 1) / r.step = q at hq0 hq
      have hcast : ((q.toNat * r.step.toNat : Nat) : Int) = q * r.step := by
        rw [Int.natCast_mul, Int.toNat_of_nonneg hq0, Int.toNat_of_nonneg (by omega)]
      rw [show (q + 1).toNat - 1 = q.toNat by omega]
      omega
    · exact Or.inl (if_neg hSE)

theorem item_ok (n st : Nat) (it : SliceItem) (hok : itemOk n it) :
    sliceDim n st it = .ok (selStep st (itemSel n it)) ∧
    (∀ ns its, NArr.sliceSels (toRefItem it :: its) (n :: ns) =
      (NArr.sliceSels its ns).map ((itemSel n it).toSel :: ·)) ∧
    (∀ ns ss, aOk ns ss → aOk (n :: ns) (itemSel n it :: ss)) := by
  cases it with
  | index i =>
    simp only [itemOk] at hok
    refine ⟨?_, fun ns its => ?_, fun ns ss h => ⟨by omega, h⟩⟩
    · simp only [sliceDim, selStep, itemSel]
      rw [if_neg (by omega)]
    · simp only [toRefItem, NArr.sliceSels, pyIndex]
      rw [if_pos hok]
      rfl
  | range r =>
    obtain ⟨href, hadm⟩ := range_ref_ok n r hok
    refine ⟨sliceDim_range_ok n st r hok, fun ns its => ?_, fun ns ss h => ⟨hadm, h⟩⟩
    simp only [toRefItem, NArr.sliceSels, hok.1, decide_eq_true hok.2, Bool.and_self, if_true, href]

theorem item_err (n st : Nat) (it : SliceItem) (hbad : ¬ itemOk n it)
    (hstep : ∀ r, it = .range r → r.step ≠ 0) :
    sliceDim n st it = .error .err ∧
    ∀ ns its, NArr.sliceSels (toRefItem it :: its) (n :: ns) = .error .err := by
  cases it with
  | index i =>
    simp only [itemOk] at hbad
    refine ⟨?_, fun ns its => ?_⟩
    · simp only [sliceDim]
      rw [if_pos (by omega)]
    · simp only [toRefItem, NArr.sliceSels, pyIndex]
      rw [if_neg hbad]
  | range r =>
    have h0 := hstep r rfl
    simp only [itemOk, not_and] at hbad
    by_cases ht : r.step > 0
    · have hcond : (NArr.inBounds r.start n && r.stop.all (NArr.inBounds · n)) = false :=
        Bool.eq_false_iff.mpr fun hc => hbad hc ht
      refine ⟨?_, fun ns its => by simp only [toRefItem, NArr.sliceSels, hcond, Bool.false_and]; rfl⟩
      have hres := resolve_pos r n ht
      rw [hcond] at hres
      simp only [sliceDim, hres]
      rfl
    · have hn : r.step < 0 := by omega
      refine ⟨?_, fun ns its => ?_⟩
      · simp only [sliceDim]
        cases r.resolve n with
        | none => rfl
        | some p => simp only []; rw [if_pos hn]
      · simp only [toRefItem, NArr.sliceSels, decide_eq_false (show ¬ 0 < r.step by omega),
          Bool.and_false]
        rfl

theorem sliceLoop_nil (d : Dims) : sliceLoop d [] = .ok (0, d) := by
  induction d with
  | nil => rfl
  | cons p ds ih =>
    obtain ⟨n, st⟩ := p
    simp only [sliceLoop, ih, bind, Except.bind, pure, Except.pure]

/-- **The `slice_layout` loop against the reference selection.**  Either both accept, and the
code's `(offset, dims)` are those of the admissible selection the reference chose, or both
report an error. -/
theorem sliceLoop_spec (d : Dims) (items : List SliceItem) (hlen : items.length ≤ d.length)
    (hsteps : ∀ r, SliceItem.range r ∈ items → r.step ≠ 0) :
    (∃ ss, aOk (sizes d) ss ∧ sliceLoop d items = .ok (aOff d ss, aDims d ss) ∧
      NArr.sliceSels (items.map toRefItem) (sizes d) = .ok (ss.map ASel.toSel)) ∨
    (sliceLoop d items = .error .err ∧
      NArr.sliceSels (items.map toRefItem) (sizes d) = .error .err) := by
  induction d generalizing items with
  | nil =>
    cases items with
    | nil => exact Or.inl ⟨[], trivial, rfl, rfl⟩
    | cons it its => simp at hlen
  | cons p ds ih =>
    obtain ⟨n, st⟩ := p
    cases items with
    | nil =>
      refine Or.inl ⟨[], trivial, ?_, rfl⟩
      rw [sliceLoop_nil]; rfl
    | cons it its =>
      have hlen' : its.length ≤ ds.length := by simpa using hlen
      have hsteps' : ∀ r, SliceItem.range r ∈ its → r.step ≠ 0 :=
        fun r hr => hsteps r (List.mem_cons_of_mem _ hr)
      by_cases hok : itemOk n it
      · obtain ⟨hcode, href, hadm⟩ := item_ok n st it hok
        rcases ih its hlen' hsteps' with ⟨ss, haok, hloop, hsel⟩ | ⟨hloop, hsel⟩
        · refine Or.inl ⟨itemSel n it :: ss, hadm _ _ haok, ?_, ?_⟩
          · simp only [sliceLoop, hcode, hloop, bind, Except.bind, pure, Except.pure]
            cases itemSel n it <;> rfl
          · rw [List.map_cons, sizes_cons, href, hsel]; rfl
        · refine Or.inr ⟨?_, ?_⟩
          · simp only [sliceLoop, hcode, hloop, bind, Except.bind]
          · rw [List.map_cons, sizes_cons, href, hsel]; rfl
      · obtain ⟨hcode, href⟩ := item_err n st it hok
          (fun r hr => hsteps r (hr ▸ List.mem_cons_self))
        refine Or.inr ⟨?_, ?_⟩
        · simp only [sliceLoop, hcode, bind, Except.bind]
        · rw [List.map_cons, sizes_cons, href]

end RtenVerif.Layout
