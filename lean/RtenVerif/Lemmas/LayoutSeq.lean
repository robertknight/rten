/-
Row-major element sequences of views (shared by C09, C13 T3 and C14 T2/T3).

`denote v s` (Model/Layout.lean) lists its elements in row-major index
order; that list is `rowMajor v.dims` (C07: storage offsets in row-major order) read through the
storage function.
-/
import RtenVerif.Model.Layout
import RtenVerif.Lemmas.Layout
import RtenVerif.Lemmas.IterLayout
import RtenVerif.Lemmas.RowMajor

namespace RtenVerif.Layout
open RtenVerif.Arr RtenVerif.Overlap
open RtenVerif.Iter (rowMajor total rowMajor_one rowMajor_cons_congr rowMajor_length contig_rowMajor)

/-! The basic facts about `denote`, `rowMajor` and `contigDims` are those of `Lemmas/RowMajor.lean`. -/
namespace Seq

theorem denote_data_length {α : Type} (v : View) (s : Nat → α) :
    (denote v s).data.length = numel (sizes v.dims) := by
  rw [denote_data, List.length_map, rowMajor_length, total_eq_numel]

theorem rowMajor_of_isContiguous (d : Dims) (h : isContiguous d = true) :
    rowMajor d = List.range (numel (sizes d)) := by
  rw [isContiguous_eq] at h
  obtain ⟨p, hp⟩ := Option.isSome_iff_exists.mp h
  obtain ⟨h1, _⟩ := contig_rowMajor d p hp
  have hl := rowMajor_length' d
  rw [h1, List.length_range] at hl
  rw [h1, hl]

theorem ofArr_arr (A : NArr Nat) (hwf : A.data.length = numel A.shape) : (TState.ofArr A).arr = A := by
  have hs : ((TState.ofArr A).arr).shape = A.shape := by
    simp [TState.arr, TState.ofArr, sizes_contigDims]
  have hd : ((TState.ofArr A).arr).data = A.data := by
    simp only [TState.arr, TState.ofArr, denote_data, rowMajor_contigDims, Nat.zero_add, ← hwf]
    exact map_getD_range A.data 0
  cases A with
  | mk sh da =>
    cases h : (TState.ofArr ⟨sh, da⟩).arr with
    | mk sh' da' =>
      rw [h] at hs hd
      simp only at hs hd
      rw [hs, hd]

theorem ofArr_denote_arr (v : View) (s : Nat → Nat) : (TState.ofArr (denote v s)).arr = denote v s :=
  ofArr_arr _ (by rw [denote_data_length, shape_denote])

theorem arr_wf (t : TState) : t.arr.data.length = numel t.arr.shape := by
  rw [TState.arr, denote_data_length, shape_denote]

theorem rowMajor_insertIdx (st : Nat) : ∀ (d : Dims) (k : Nat), k ≤ d.length →
    rowMajor (d.insertIdx k (1, st)) = rowMajor d
  | d, 0, _ => by rw [List.insertIdx_zero]; exact rowMajor_one st d
  | [], k + 1, h => by simp at h
  | p :: ps, k + 1, h => by
    rw [List.insertIdx_succ_cons]
    exact rowMajor_cons_congr p (rowMajor_insertIdx st ps k (by simpa using h))

theorem rowMajor_eraseIdx (d : Dims) (k : Nat) (hk : k < d.length) (h1 : (d.getD k (0, 0)).1 = 1) :
    rowMajor (d.eraseIdx k) = rowMajor d := by
  have hre := insertIdx_eraseIdx_getD d k (0, 0) hk
  have hp : d.getD k (0, 0) = (1, (d.getD k (0, 0)).2) := by
    rw [← h1]
  rw [hp] at hre
  have := rowMajor_insertIdx (d.getD k (0, 0)).2 (d.eraseIdx k) k (by rw [List.length_eraseIdx]; split <;> omega)
  rw [hre] at this
  exact this.symm

end Seq

end RtenVerif.Layout
