import RtenVerif.Lemmas.TensorBounds

/-! C06: the `UInt64` (wrap-around) model agrees with the ideal model under the guards. -/
namespace RtenVerif.TensorBounds
open RtenVerif.Overlap

namespace M

theorem W_eq : (2 : Nat) ^ 64 = wordSize := by decide

theorem toNat_lt_W (a : U) : a.toNat < wordSize := by
  have := a.toNat_lt
  rw [W_eq] at this
  exact this

theorem isizeMax_lt_W : isizeMax < wordSize := by decide

theorem mul_toNat (a b : U) : (a * b).toNat = a.toNat * b.toNat % wordSize := by
  rw [UInt64.toNat_mul, W_eq]

theorem add_toNat (a b : U) : (a + b).toNat = (a.toNat + b.toNat) % wordSize := by
  rw [UInt64.toNat_add, W_eq]

theorem mul_toNat_of_lt {a b : U} (h : a.toNat * b.toNat < wordSize) :
    (a * b).toNat = a.toNat * b.toNat := by
  rw [mul_toNat, Nat.mod_eq_of_lt h]

theorem add_toNat_of_lt {a b : U} (h : a.toNat + b.toNat < wordSize) :
    (a + b).toNat = a.toNat + b.toNat := by
  rw [add_toNat, Nat.mod_eq_of_lt h]

theorem eq_zero_iff (a : U) : a = 0 ↔ a.toNat = 0 := by
  rw [← UInt64.toNat_inj]; rfl

theorem eq_one_iff (a : U) : a = 1 ↔ a.toNat = 1 := by
  rw [← UInt64.toNat_inj]; rfl

theorem pred_toNat {a : U} (h : a ≠ 0) : (a - 1).toNat = a.toNat - 1 := by
  have h1 : (1 : U) ≤ a := by
    rw [UInt64.le_iff_toNat_le]
    have : a.toNat ≠ 0 := fun h' => h ((eq_zero_iff a).mpr h')
    show 1 ≤ a.toNat
    omega
  rw [UInt64.toNat_sub_of_le _ _ h1]
  rfl

theorem toNs_cons (x : U) (xs : List U) : toNs (x :: xs) = x.toNat :: toNs xs := rfl
theorem toN_cons (d : U × U) (ds : List (U × U)) : toN (d :: ds) = (d.1.toNat, d.2.toNat) :: toN ds := rfl

theorem shapeOf_toN (d : List (U × U)) : TensorBounds.shapeOf (toN d) = toNs (shapeOf d) := by
  simp [TensorBounds.shapeOf, toN, toNs, shapeOf, List.map_map, Function.comp_def]

theorem prod_toNat (l : List U) : (prod l).toNat = TensorBounds.prod (toNs l) % wordSize := by
  induction l with
  | nil => decide
  | cons s ss ih =>
    simp only [prod, toNs_cons, TensorBounds.prod]
    rw [mul_toNat, ih, Nat.mul_mod_mod]

theorem beq_eq (a b : U) : (a == b) = (a.toNat == b.toNat) := by
  by_cases h : a = b
  · subst h; simp
  · have h' : a.toNat ≠ b.toNat := fun h' => h (UInt64.toNat_inj.mp h')
    rw [beq_eq_false_iff_ne.mpr h, beq_eq_false_iff_ne.mpr h']

theorem hasZero_eq (d : List (U × U)) : hasZero d = TensorBounds.hasZero (toN d) := by
  induction d with
  | nil => rfl
  | cons x xs ih =>
    show (x.1 == 0 || hasZero xs) = (x.1.toNat == 0 || TensorBounds.hasZero (toN xs))
    rw [ih, beq_eq]; rfl

theorem hasZero_cons_false {s t : U} {ds : List (U × U)} :
    hasZero ((s, t) :: ds) = false ↔ s ≠ 0 ∧ hasZero ds = false := by
  simp [hasZero]

theorem maxOffset_toNat (d : List (U × U)) (hz : hasZero d = false) :
    (maxOffset d).toNat = TensorBounds.maxOffset (toN d) % wordSize := by
  induction d with
  | nil => decide
  | cons x xs ih =>
    obtain ⟨size, stride⟩ := x
    have hz := hasZero_cons_false.mp hz
    have ih := ih hz.2
    simp only [maxOffset, toN_cons, TensorBounds.maxOffset]
    rw [add_toNat, mul_toNat, pred_toNat hz.1, ih, Nat.mod_add_mod, Nat.add_mod_mod]

theorem offset_toNat (d : List (U × U)) (idx : List U) :
    (offset d idx).toNat = Overlap.offset (toN d) (toNs idx) % wordSize := by
  induction d generalizing idx with
  | nil => cases idx <;> rfl
  | cons x xs ih =>
    obtain ⟨size, stride⟩ := x
    cases idx with
    | nil => rfl
    | cons i is =>
      simp only [offset, toN_cons, toNs_cons, Overlap.offset]
      rw [add_toNat, mul_toNat, ih, Nat.mod_add_mod, Nat.add_mod_mod]

theorem validIdx_eq (d : List (U × U)) (idx : List U) :
    validIdx d idx = TensorBounds.validIdx (toN d) (toNs idx) := by
  induction d generalizing idx with
  | nil => cases idx <;> rfl
  | cons x xs ih =>
    obtain ⟨size, stride⟩ := x
    cases idx with
    | nil => rfl
    | cons i is =>
      simp only [validIdx, toN_cons, toNs_cons, TensorBounds.validIdx]
      rw [ih]
      congr 1

theorem checkedShapeLenGo_eq (ss : List U) (len : U) (e : Bool) :
    (checkedShapeLenGo ss len e).map UInt64.toNat =
      TensorBounds.checkedShapeLenGo (toNs ss) len.toNat e := by
  induction ss generalizing len e with
  | nil => cases e <;> rfl
  | cons s ss ih =>
    have hW := isizeMax_lt_W
    simp only [checkedShapeLenGo, toNs_cons, TensorBounds.checkedShapeLenGo, eq_zero_iff s]
    split
    · exact ih _ _
    · split
      · next h => rw [ih, mul_toNat_of_lt h.1, if_pos (mul_toNat_of_lt h.1 ▸ h.2)]
      · next h =>
        rw [if_neg]; · rfl
        exact fun hle => h ⟨by omega, by rw [mul_toNat_of_lt (by omega)]; exact hle⟩

theorem checkedShapeLen_eq (shape : List U) :
    (checkedShapeLen shape).map UInt64.toNat = TensorBounds.checkedShapeLen (toNs shape) := by
  unfold checkedShapeLen TensorBounds.checkedShapeLen
  exact checkedShapeLenGo_eq shape 1 false

theorem checkedMaxOffset_eq (d : List (U × U)) (acc : U) :
    (checkedMaxOffset d acc).map UInt64.toNat =
      if acc.toNat + TensorBounds.maxOffset (toN d) < wordSize then
        some (acc.toNat + TensorBounds.maxOffset (toN d)) else none := by
  induction d generalizing acc with
  | nil => simp [checkedMaxOffset, toN, TensorBounds.maxOffset, toNat_lt_W]
  | cons x xs ih =>
    obtain ⟨size, stride⟩ := x
    simp only [checkedMaxOffset, toN_cons, TensorBounds.maxOffset]
    have hsm1 : (if size = 0 then (0 : U) else size - 1).toNat = size.toNat - 1 := by
      split
      · next hs => rw [hs]; rfl
      · next hs => exact pred_toNat hs
    generalize (if size = 0 then (0 : U) else size - 1) = sm1 at hsm1 ⊢
    split
    · next h => rw [ih, add_toNat_of_lt h.2, mul_toNat_of_lt h.1, hsm1, Nat.add_assoc]
    · next h =>
      rw [if_neg]; · rfl
      intro hlt
      have h1 : sm1.toNat * stride.toNat < wordSize := by rw [hsm1]; omega
      exact h ⟨h1, by rw [mul_toNat_of_lt h1, hsm1]; omega⟩

theorem checkedMinDataLen_eq (d : List (U × U)) :
    (checkedMinDataLen d).map UInt64.toNat = TensorBounds.checkedMinDataLen (toN d) := by
  unfold checkedMinDataLen TensorBounds.checkedMinDataLen
  rw [shapeOf_toN, ← checkedShapeLen_eq]
  cases checkedShapeLen (shapeOf d) with
  | none => rfl
  | some n =>
    have hW := isizeMax_lt_W
    have hmo := checkedMaxOffset_eq d 0
    rw [show (0 : U).toNat = 0 from rfl, Nat.zero_add] at hmo
    simp only [Option.map_some]
    cases hm : checkedMaxOffset d 0 with
    | none =>
      rw [hm] at hmo
      rw [if_pos]; · rfl
      by_cases h : TensorBounds.maxOffset (toN d) < wordSize
      · rw [if_pos h] at hmo; cases hmo
      · omega
    | some mo =>
      rw [hm] at hmo
      split at hmo
      · have hmo' : mo.toNat = TensorBounds.maxOffset (toN d) := Option.some.inj hmo
        simp only [hmo', eq_zero_iff n]
        split
        · rfl
        · simp only [Option.map_some]
          congr 1
          split
          · rfl
          · rw [add_toNat_of_lt (by rw [hmo']; show _ + 1 < _; omega), hmo']; rfl
      · cases hmo

theorem minDataLen_toNat (d : List (U × U)) (h : TensorBounds.maxOffset (toN d) + 1 < wordSize) :
    (minDataLen d).toNat = TensorBounds.minDataLen (toN d) := by
  unfold minDataLen TensorBounds.minDataLen
  rw [← hasZero_eq]
  cases hz : hasZero d
  · simp only [Bool.false_eq_true, if_false]
    rw [add_toNat, maxOffset_toNat d hz]
    have : (1 : U).toNat = 1 := rfl
    rw [this, Nat.mod_add_mod, Nat.mod_eq_of_lt h]
  · simp only [if_true]; rfl

theorem len_toNat (d : List (U × U)) (h : TensorBounds.len (toN d) < wordSize) :
    (len d).toNat = TensorBounds.len (toN d) := by
  unfold len TensorBounds.len at *
  rw [prod_toNat, ← shapeOf_toN, Nat.mod_eq_of_lt h]

theorem toN_zip (a b : List U) : toN (a.zip b) = (toNs a).zip (toNs b) := by
  induction a generalizing b with
  | nil => rfl
  | cons x xs ih =>
    cases b with
    | nil => rfl
    | cons y ys => simp only [List.zip_cons_cons, toN_cons, toNs_cons, ih]

theorem contigStrides_toNs (s : List U) (h : prodNZ (toNs s) ≤ isizeMax) :
    toNs (contigStrides s) = TensorBounds.contigStrides (toNs s) := by
  induction s with
  | nil => rfl
  | cons x xs ih =>
    have h' : prodNZ (toNs xs) ≤ isizeMax := Nat.le_trans (prodNZ_tail_le _ _) h
    simp only [contigStrides, toNs_cons, TensorBounds.contigStrides]
    rw [ih h', prod_toNat, Nat.mod_eq_of_lt]
    have := prod_le_prodNZ (toNs xs)
    have := isizeMax_lt_W
    omega

theorem contigDims_toN (s : List U) (h : prodNZ (toNs s) ≤ isizeMax) :
    toN (contigDims s) = TensorBounds.contigDims (toNs s) := by
  unfold contigDims TensorBounds.contigDims
  rw [toN_zip, contigStrides_toNs s h]

end M
end RtenVerif.TensorBounds
