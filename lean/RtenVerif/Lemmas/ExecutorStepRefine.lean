import RtenVerif.Lemmas.ExecutorRefine
import RtenVerif.Lemmas.ListBasics
/-!
# C02 — the operator call of a step

From a `Sim` state, what the capture environment built for a subgraph operator yields for a
captured dependency (`capView`, after the by-value extraction) is the value the naive
evaluation assigns to it; with the contract, the executor's operator call is `run` on the naive
inputs (`call_eq_run`).
-/
namespace RtenVerif.Executor
open RtenVerif.Graph

theorem capView_val {V : Type} {ops : Ops V} {r : Run V} {caps0 : Nat → Option (V × Bool)}
    {total : Nat → Nat} {i : Nat}
    {rest outs : List Nat} {st : St V} {E : Nat → Option V} {op : OpNode} {taken : List (Nat × V)}
    {st2 : St V} {byVal : List (Nat × V)}
    (hs : Sim r caps0 total (i :: rest) outs st E) (hop : getOp r.g i = some op)
    (T : TakeFacts ops r st i op taken st2 byVal) (d : Nat) (hd : d ∈ capDeps r.g op)
    (hnc : r.g.captures.contains d = false) :
    capView r st2 byVal d = val r E d := by
  -- whatever was in `temp_values` before the step holds the naive value
  have old : ∀ x, st.temps d = some x → some x = val r E d := fun x h => (hs.agree d x h).2.2.symm
  fun_cases capView r st2 byVal d
  case case1 hc => rw [hnc] at hc; cases hc
  case case2 hn => simp [val, naiveLook, hn]
  case case3 hn v h2 =>
    -- still in `temp_values`: it was there before
    exact old v ((T.htemps d).elim (fun h => h ▸ h2) (fun h => by rw [h.1] at h2; cases h2))
  case case4 hn _ v hl => exact old v (T.hbyVal d v (lookup_mem hl)).2.1
  case case5 hn h2 hl =>
    -- neither in `temp_values` nor moved out by value: a borrowed input, or no value at all
    have hv : isValue r.g d = true := by simp [isValue, hn]
    cases hb : r.borrowed d with
    | some b => simp [val, naiveLook, hn, hb]
    | none =>
      have hu : 0 < uses r.g (i :: rest) outs d := by
        rw [uses_cons hop rest outs d hv]
        have := List.count_pos_iff.mpr (mem_opDeps_cap hd)
        omega
      rw [← hs.temps_eq_val hv hb hu]
      rcases T.capd d hd with h | ⟨_, v, _, hm⟩
      · rw [← h, h2]
      · obtain ⟨v', hv'⟩ := mem_keys_iff_lookup.mp (List.mem_map.mpr ⟨(d, v), hm, rfl⟩)
        rw [hl] at hv'; cases hv'
  case case6 hn1 hn2 =>
    -- an operator node or none: no naive value either
    unfold val naiveLook
    split
    · exact absurd ‹_› hn1
    · exact absurd ‹_› hn2
    · rfl

theorem capView_eq {V : Type} {ops : Ops V} {r : Run V} {caps0 : Nat → Option (V × Bool)}
    {total : Nat → Nat} {i : Nat}
    {rest outs : List Nat} {st : St V} {E : Nat → Option V} {op : OpNode} {taken : List (Nat × V)}
    {st2 : St V} {byVal : List (Nat × V)} (hcw : CapsWF r caps0)
    (hs : Sim r caps0 total (i :: rest) outs st E) (hop : getOp r.g i = some op)
    (T : TakeFacts ops r st i op taken st2 byVal) (d : Nat) (hd : d ∈ capDeps r.g op) :
    capView r st2 byVal d = valC r caps0 E d := by
  rw [valC_eq]
  by_cases hc : r.g.captures.contains d = true
  · obtain ⟨hv, hin, _⟩ := hcw.kind d hc
    obtain ⟨hb, ho⟩ := isInput_false hin
    have hval : val r E d = none := by rw [val_value hv hb, ho]; exact hs.capE d hc
    rw [hval]
    unfold capView
    simp only [hc, if_true, hv]
    rw [T.caps, hs.caps]
  · have hc' : r.g.captures.contains d = false := by simpa using hc
    rw [capView_val hs hop T d hd hc']
    cases hval : val r E d with
    | some x => rfl
    | none =>
      simp only
      have : caps0 d = none := by
        cases h : caps0 d with
        | none => rfl
        | some p => exact absurd (hcw.dom d (by rw [h]; simp)) hc
      rw [this]; simp

/-- The contract applies because the taken positions are the candidates': distinct, placeholders
in `ins`, a single one if commutative. -/
theorem call_eq_run {V : Type} {ops : Ops V} {r : Run V} {caps0 : Nat → Option (V × Bool)}
    {total : Nat → Nat} {i : Nat} {rest outs : List Nat} {st : St V} {E : Nat → Option V}
    {op : OpNode} {taken : List (Nat × V)} {st2 : St V} {byVal : List (Nat × V)}
    {ins full : List (Option V)} (hcw : CapsWF r caps0) (hct : Contract ops r.g)
    (hs : Sim r caps0 total (i :: rest) outs st E) (hop : getOp r.g i = some op)
    (T : TakeFacts ops r st i op taken st2 byVal)
    (hci : collectInputs r st2 (taken.map (fun t => t.1)) op.inputs 0 = some ins)
    (hfill : FillsFrom taken 0 ins full) :
    (if (!taken.isEmpty) = true then ops.runInPlace i taken ins
      else if ops.isSubgraph i = true then
        ops.run i ins ((capDeps r.g op).map (capView r st2 byVal))
      else ops.run i ins []) =
      ops.run i full (if ops.isSubgraph i = true then (capDeps r.g op).map (naiveLook r caps0 E)
        else []) := by
  by_cases htk : taken = []
  · subst htk
    have : ins = full := hfill.nil_taken
    subst this
    simp only [List.isEmpty_nil, Bool.not_true, Bool.false_eq_true, if_false]
    by_cases hsub : ops.isSubgraph i = true
    · simp only [hsub, if_true]
      congr 1
      apply List.map_congr_left
      intro d hd
      exact capView_eq hcw hs hop T d hd
    · have hsub' : ops.isSubgraph i = false := by simpa using hsub
      simp only [hsub', Bool.false_eq_true, if_false]
  · have hne : (!taken.isEmpty) = true := by
      cases taken with
      | nil => exact absurd rfl htk
      | cons _ _ => rfl
    rw [if_pos hne]
    have hns := hct.notSub i (T.nonempty htk)
    simp only [hns, Bool.false_eq_true, if_false]
    have hnodup : (taken.map (fun t => t.1)).Nodup := by
      rcases T.hpos with h | h
      · exact absurd h htk
      · rw [h]; exact candidates_fst_nodup i op st.temps (hct.idxNodup i)
    have hplace : ∀ p v, (p, v) ∈ taken → ins[p]? = some none := by
      intro p v hm
      obtain ⟨id, hid, _⟩ := T.htaken p v hm
      have hlen := collectInputs_length r st2 _ op.inputs 0 ins hci
      have hp : p < ins.length := by
        rw [hlen]
        exact (List.getElem?_eq_some_iff.mp hid).1
      exact hfill.none_at p v (by simpa using hm) hp
    have hsingle : op.commutative = true → taken.length = 1 := by
      intro hcomm
      rcases T.hpos with h | h
      · exact absurd h htk
      · have hl := congrArg List.length h
        simp only [List.length_map] at hl
        have := candidates_comm_length (ops := ops) i op st.temps hcomm
        have hpos : 0 < taken.length := List.length_pos_iff.mpr htk
        omega
    apply hct.inPlace i op hop taken ins full htk hnodup hplace hsingle _ hfill
    intro p hp
    rw [List.mem_map] at hp
    obtain ⟨⟨p', v⟩, hm, rfl⟩ := hp
    obtain ⟨_, _, h3, _⟩ := T.htaken p' v hm
    exact h3

end RtenVerif.Executor
