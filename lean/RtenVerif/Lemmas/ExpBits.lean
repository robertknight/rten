import RtenVerif.Model.ExpBits

/-! C19.T1 by complete enumeration of the finite ranges in the kernel (core Lean only). -/
namespace RtenVerif.ExpBits

/-- Executable check for one `k`: both factors are normal powers of two, the first is the
constant `2^127` (`k > 0`) or `2^-123` (`k ≤ 0`), the second is `2^(k - first)`. -/
def reconOk (k : Int) : Bool :=
  decide (expFactorExps k = (some (firstExp k), some (k - firstExp k)))

def reducedOk (k : Int) : Bool := reducedReconExp k == some k

theorem reconOk_all_list : (List.range 504).all (fun i => reconOk ((i : Int) - 249)) = true := by
  decide +kernel

theorem reducedOk_all_list : (List.range 254).all (fun i => reducedOk ((i : Int) - 126)) = true := by
  decide +kernel

/-- **C19.T1a** for every `k ∈ [-249, 254]` the reconstruction is exact at the level of
exponents. -/
theorem c19_exp_recon_exact (k : Int) (lo : -249 ≤ k) (hi : k ≤ 254) : reconOk k = true := by
  have h := List.all_eq_true.mp reconOk_all_list (k + 249).toNat (List.mem_range.mpr (by omega))
  rwa [show (((k + 249).toNat : Nat) : Int) - 249 = k by omega] at h

/-- **C19.T1b** `ReducedRangeExp`: `(k + 127) << 23` is the float `2^k` for every
`k ∈ [-126, 127]`. -/
theorem c19_reduced_recon_exact (k : Int) (lo : -126 ≤ k) (hi : k ≤ 127) :
    reducedReconExp k = some k := by
  have h := List.all_eq_true.mp reducedOk_all_list (k + 126).toNat (List.mem_range.mpr (by omega))
  rw [show (((k + 126).toNat : Nat) : Int) - 126 = k by omega] at h
  exact beq_iff_eq.mp h

theorem reconOk_spec (k : Int) (h : reconOk k = true) :
    ∃ a b, pow2Exp (expRecon (BitVec.ofInt 32 k)).1.toNat = some a ∧
      pow2Exp (expRecon (BitVec.ofInt 32 k)).2.toNat = some b ∧ a + b = k := by
  have e : expFactorExps k = (some (firstExp k), some (k - firstExp k)) := of_decide_eq_true h
  exact ⟨firstExp k, k - firstExp k, congrArg Prod.fst e, congrArg Prod.snd e, by omega⟩

/-- The reachable range `|k| ≤ 150` (inputs with `|x| < 104`) lies inside the exact range. -/
example : -249 ≤ -kReach ∧ kReach ≤ 254 := by decide
example : reconOk 150 = true ∧ reconOk (-150) = true ∧ reconOk 0 = true ∧ reconOk 1 = true := by
  decide +kernel
/-- Concrete patterns: `k = 3` gives `is = 0x7f000000 = 2^127`, `it = 0x01800000 = 2^-124`. -/
example : expRecon (BitVec.ofInt 32 3) = (0x7f000000#32, 0x01800000#32) := by decide +kernel
example : expRecon (BitVec.ofInt 32 (-5)) = (0x02000000#32, 0x7a800000#32) := by decide +kernel

/-- **C19.T1, sharpness.** One step outside `[-249, 254]` the second factor is not a normal power
of two: `k = 255` gives the `+∞` pattern, `k = -250` gives `0.0`.  This is why the code needs the
`|x| ≥ 104` selects, and `ReducedRangeExp` its lower cutoff (`k = -127` gives `0.0`). -/
theorem c19_exp_recon_range_sharp :
    reconOk 255 = false ∧ reconOk (-250) = false ∧
    (expRecon (BitVec.ofInt 32 255)).2 = 0x7f800000#32 ∧
    (expRecon (BitVec.ofInt 32 (-250))).2 = 0#32 ∧
    reducedReconExp (-127) = none ∧ reducedRecon (BitVec.ofInt 32 (-127)) = 0#32 ∧
    reducedReconExp 128 = none := by
  decide +kernel

end RtenVerif.ExpBits
