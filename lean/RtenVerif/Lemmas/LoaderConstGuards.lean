import RtenVerif.Lemmas.LoaderConstMode
import RtenVerif.Props.C21

/-!
C05.T3: the element-count steps of `Model/LoaderConst.lean` never take their explicit panic
branches (`unwrap`/`expect` on `ArcSlice::new`, `ArcSlice::from_bytes(Vec::new()).unwrap()`,
`DataSlice::data()`'s slice index, `spare_capacity[..n]`, `chunk.try_into().unwrap()`), and the
count they return is backed by the bytes that are present (`CntBacked`).
-/
namespace RtenVerif.LoaderConst
open RtenVerif.TensorBounds RtenVerif.Overlap

theorem castSliceLen_le {size b o n : U} (h : castSliceLen size b o = some n) :
    n.toNat * size.toNat ≤ b.toNat := by
  unfold castSliceLen at h
  split at h
  · cases h; simp
  · split at h
    · cases h; exact div_mul_le_toNat b size
    · cases h

theorem castSliceLen_zero {size o n : U} (h : castSliceLen size 0 o = some n) : n = 0 := by
  unfold castSliceLen at h
  simp at h
  exact h.symm

structure ExtSlice.Valid (d : ExtSlice) : Prop where
  le : d.start ≤ d.stop
  inb : d.stop ≤ d.bufLen
  fits : d.bufLen < wordSize

/-- `DataSlice::data()` does not panic on a valid slice (external_data.rs:48). -/
theorem ExtSlice.data_of_valid {d : ExtSlice} (hv : d.Valid) :
    ∃ bytes off, d.data = some (bytes, off) ∧ bytes.toNat = d.stop - d.start ∧
      off.toNat = d.start := by
  have hW : wordSize = 2 ^ 64 := by decide
  refine ⟨UInt64.ofNat (d.stop - d.start), UInt64.ofNat d.start, ?_, ?_, ?_⟩
  · unfold ExtSlice.data
    rw [if_pos ⟨hv.le, hv.inb⟩]
  · apply UInt64.toNat_ofNat_of_lt'
    have := hv.inb; have := hv.fits
    show _ < 2 ^ 64
    omega
  · apply UInt64.toNat_ofNat_of_lt'
    have := hv.inb; have := hv.fits; have := hv.le
    show _ < 2 ^ 64
    omega

theorem memRange_ok {o l f s e : Nat} (h : ExtData.memRange o l f = .ok (s, e)) :
    s = o ∧ e ≤ f ∧ (o ≤ ExtData.U64_MAX → o ≤ e) ∧ e - o ≤ l := by
  unfold ExtData.memRange at h
  simp only at h
  split at h
  · cases h
  · rename_i hle
    injection h with h
    injection h with h1 h2
    unfold ExtData.satAdd at hle h2
    refine ⟨h1.symm, by omega, fun ho => ?_, ?_⟩
    · split at h2 <;> omega
    · split at h2 <;> omega

/-- Memory-mapped external data files are shorter than `u64::MAX` bytes (they are Rust slices:
at most `isize::MAX`).  Needed for `MmapLoader` only, whose range end is recomputed unchecked. -/
def ExtFits : Ext → Prop
  | .ref .mmap _ _ buf => buf.toNat < ExtData.U64_MAX
  | _ => True

/-- Whatever a data loader returns is a valid slice of its storage, it is no longer than the
length the model file names, and the bytes it denotes lie inside the external file / buffer at
the offset the model file names (C21: `memRange`, `c21_mmap_range_sound`, `c21_file_read_exact'`). -/
theorem loadExt_valid {e : Ext} {d : ExtSlice} (hfit : ExtFits e) (h : loadExt e = .ok (some d)) :
    d.Valid ∧ ∃ kind len off buf, e = .ref kind len off buf ∧ d.stop - d.start ≤ len.toNat ∧
      off.toNat + (d.stop - d.start) ≤ buf.toNat ∧
      (kind = .file ∨ d.start = off.toNat) := by
  revert h
  have hW : wordSize = 18446744073709551616 := rfl
  have hU : ExtData.U64_MAX = 18446744073709551615 := rfl
  fun_cases loadExt e
  case case6 len off buf s e' heq => -- `MemLoader`, range accepted
    rintro ⟨⟩
    have ho := M.toNat_lt_W off
    obtain ⟨h1, h2, h3, h4⟩ := memRange_ok heq
    have h3' := h3 (by omega)
    subst h1
    refine ⟨⟨h3', h2, M.toNat_lt_W buf⟩, .mem, len, off, buf, rfl, h4, ?_, Or.inr rfl⟩
    show off.toNat + (e' - off.toNat) ≤ buf.toNat
    omega
  case case8 len off buf s e' heq => -- `MmapLoader`, range accepted
    rintro ⟨⟩
    obtain ⟨h1, h2, h3⟩ := ExtData.c21_mmap_range_sound _ _ _ _ _ hfit heq
    subst h1; subst h2
    refine ⟨⟨?_, h3, M.toNat_lt_W buf⟩, .mmap, len, off, buf, rfl, ?_, ?_, Or.inr rfl⟩
    · show off.toNat ≤ off.toNat + len.toNat
      omega
    · show off.toNat + len.toNat - off.toNat ≤ len.toNat
      omega
    · show off.toNat + (off.toNat + len.toNat - off.toNat) ≤ buf.toNat
      omega
  case case10 len off buf bytes heq => -- `FileLoader`, read succeeded
    rintro ⟨⟩
    obtain ⟨h1, h2, _⟩ := ExtData.c21_file_read_exact' _ _ _ _ heq
    rw [List.length_replicate] at h2
    refine ⟨⟨Nat.zero_le _, Nat.le_refl _, by rw [h1]; exact M.toNat_lt_W len⟩, .file, len, off, buf,
      rfl, ?_, ?_, Or.inl rfl⟩
    · show bytes.length - 0 ≤ len.toNat
      omega
    · show off.toNat + (bytes.length - 0) ≤ buf.toNat
      omega
  all_goals exact nofun

/-- C05.T3 (no panic): `offset as usize + length as usize` in `MmapLoader::load` cannot overflow
once the range check passed (for files shorter than `u64::MAX`). -/
theorem extAddPanics_false {e : Ext} (hfit : ExtFits e) {x : Option ExtSlice}
    (h : loadExt e = .ok x) (ovf : Bool) : extAddPanics ovf e = false := by
  revert h
  fun_cases loadExt e
  case case8 len off buf s e' heq => -- `MmapLoader`, range accepted
    intro _
    obtain ⟨_, _, h3⟩ := ExtData.c21_mmap_range_sound _ _ _ _ _ hfit heq
    have hb := M.toNat_lt_W buf
    have : ¬ wordSize ≤ off.toNat + len.toNat := by omega
    simp [extAddPanics, this]
  case case7 => exact nofun -- `MmapLoader`, range refused
  all_goals exact fun _ => rfl

/-- How many elements a count step may claim: they are present in the data source. -/
def CntBacked (size : Nat) (raw : Option U) (ext : Option ExtSlice) (typed : U) (len : Nat) : Prop :=
  match raw, ext with
  | some b, _ => len * size ≤ b.toNat
  | none, some d => d.start + len * size ≤ d.stop ∧ d.stop ≤ d.bufLen
  | none, none => len = typed.toNat

theorem arcSliceNewOk_sub {slen st b : Nat} (h1 : st + b ≤ slen) (h2 : b ≠ 0) :
    arcSliceNewOk slen (some st) b = true := by
  unfold arcSliceNewOk
  have : st < slen := by omega
  simp [this, h1]

/-- The `unwrap`/`expect` on `ArcSlice::new(storage, view)`: a view of `n` bytes cast from `b`
bytes at `off` is empty (then it may be the `&[]` literal, which lives nowhere) or lies inside
the storage. -/
theorem arcSliceNewOk_view {slen n : Nat} {b off : U} (hin : off.toNat + n ≤ slen)
    (hz : b = 0 → n = 0) :
    arcSliceNewOk slen (if b = 0 then none else some off.toNat) n = true := by
  by_cases hn : n = 0
  · subst hn; unfold arcSliceNewOk; split <;> simp
  · rw [if_neg (mt hz hn)]; exact arcSliceNewOk_sub hin hn

theorem Cnt.n_spec {k : U} {P : U → Prop} (h : P k) :
    Cnt.n k ≠ .panic ∧ ∀ k', Cnt.n k = .n k' → P k' :=
  ⟨nofun, fun _ h' => by cases h'; exact h⟩

theorem Cnt.err_spec {e : ErrC} {P : U → Prop} :
    Cnt.err e ≠ .panic ∧ ∀ k', Cnt.err e = .n k' → P k' :=
  ⟨nofun, nofun⟩

theorem Outcome.ok_spec {s : List Nat} {n : Nat} {P : List Nat → Nat → Prop} (h : P s n) :
    Outcome.ok s n ≠ .panic ∧ ∀ s' n', Outcome.ok s n = .ok s' n' → P s' n' :=
  ⟨nofun, fun _ _ h' => by cases h'; exact h⟩

theorem Outcome.err_spec {e : ErrC} {P : List Nat → Nat → Prop} :
    Outcome.err e ≠ .panic ∧ ∀ s n, Outcome.err e = .ok s n → P s n :=
  ⟨nofun, nofun⟩

theorem makeCount_spec (size : U) (raw : Option U)
    (ext : Option ExtSlice) (typed : U) (hv : ∀ d, ext = some d → d.Valid) :
    makeCount size raw ext typed ≠ .panic ∧
    ∀ k, makeCount size raw ext typed = .n k → CntBacked size.toNat raw ext typed k.toNat := by
  unfold makeCount CntBacked
  cases raw with
  | some b =>
    simp only
    unfold fromBytesLen
    split
    · next k hk =>
      refine Cnt.n_spec ?_
      split at hk
      · cases hk; exact div_mul_le_toNat b size
      · cases hk
    · exact Cnt.err_spec
  | none =>
    cases ext with
    | none => exact Cnt.n_spec rfl
    | some d =>
      simp only
      have hval := hv d rfl
      obtain ⟨bytes, off, hd, hb, ho⟩ := ExtSlice.data_of_valid hval
      rw [hd]
      simp only
      cases hc : castSliceLen size bytes off with
      | some k =>
        simp only
        have hle := castSliceLen_le hc
        have hok := arcSliceNewOk_view (slen := d.bufLen) (n := k.toNat * size.toNat) (b := bytes)
          (off := off) (by have := hval.inb; have := hval.le; omega)
          (fun hz => by subst hz; exact Nat.le_zero.mp hle)
        rw [if_pos hok]
        refine Cnt.n_spec ?_
        have := hval.le
        exact ⟨by omega, hval.inb⟩
      | none =>
        simp only
        split
        · have hfb : fromBytesLen size 0 = some 0 := by simp [fromBytesLen]
          rw [hfb]
          refine Cnt.n_spec ?_
          have := hval.le
          simp
          exact ⟨hval.le, hval.inb⟩
        · exact Cnt.err_spec

theorem convCount_spec (n : U) (raw : Option U) (ext : Option ExtSlice) (typed : U)
    (hv : ∀ d, ext = some d → d.Valid) :
    convCount n raw ext typed ≠ .panic ∧
    ∀ k, convCount n raw ext typed = .n k → CntBacked n.toNat raw ext typed k.toNat := by
  unfold convCount CntBacked
  cases raw with
  | some b => exact Cnt.n_spec (div_mul_le_toNat b n)
  | none =>
    cases ext with
    | none => exact Cnt.n_spec rfl
    | some d =>
      have hval := hv d rfl
      obtain ⟨bytes, off, hd, hb, ho⟩ := ExtSlice.data_of_valid hval
      simp only [hd]
      refine Cnt.n_spec ?_
      have := div_mul_le_toNat bytes n
      have := hval.le
      exact ⟨by omega, hval.inb⟩

theorem f16Count_spec (raw : Option U) (ext : Option ExtSlice) (typed : U)
    (hv : ∀ d, ext = some d → d.Valid) :
    f16Count raw ext typed ≠ .panic ∧
    ∀ k, f16Count raw ext typed = .n k → CntBacked 2 raw ext typed k.toNat := by
  unfold f16Count CntBacked vecCapacity
  cases ext with
  | none =>
    cases raw with
    | some b =>
      simp only [Option.map_none]
      cases hc : castSliceLen 2 b 0 with
      | none => exact Cnt.err_spec
      | some k =>
        simp only [Nat.le_refl, if_true]
        exact Cnt.n_spec (castSliceLen_le (size := 2) hc)
    | none =>
      simp only [Option.map_none, Nat.le_refl, if_true]
      exact Cnt.n_spec rfl
  | some d =>
    have hval := hv d rfl
    obtain ⟨bytes, off, hd, hb, ho⟩ := ExtSlice.data_of_valid hval
    simp only [Option.map_some, hd]
    cases raw with
    | some b =>
      simp only
      cases hc : castSliceLen 2 b 0 with
      | none => exact Cnt.err_spec
      | some k =>
        simp only [Nat.le_refl, if_true]
        exact Cnt.n_spec (castSliceLen_le (size := 2) hc)
    | none =>
      simp only
      cases hc : castSliceLen 2 bytes off with
      | none => exact Cnt.err_spec
      | some k =>
        simp only [Nat.le_refl, if_true]
        refine Cnt.n_spec ?_
        have h2 := castSliceLen_le (size := 2) hc
        rw [show (2 : U).toNat = 2 from rfl] at h2
        have := hval.le
        exact ⟨by omega, hval.inb⟩

theorem RType.size_cases {t : RType} : t.size = 1 ∨ t.size = 4 := by
  cases t <;> simp [RType.size]

theorem rtenCount_spec {size : U} (n offset slen : U) {byteLen stop : U}
    (hb : checkedMul n size = some byteLen) (hstop : checkedAdd offset byteLen = some stop)
    (hle : stop ≤ slen) :
    rtenCount size byteLen offset slen = .n (byteLen / size) := by
  have b := checkedMul_some hb
  have a := checkedAdd_some hstop
  rw [UInt64.le_iff_toNat_le] at hle
  have hmod : byteLen % size = 0 := by
    apply UInt64.toNat_inj.mp
    rw [UInt64.toNat_mod, b]
    exact Nat.mul_mod_left _ _
  unfold rtenCount
  rw [if_pos hmod]
  split
  · rw [if_pos (arcSliceNewOk_view (by omega) (fun hz => by rw [hz]; rfl))]
  · rfl

/-- The checked chain of `constant_data_from_storage_offset` in one equation: "invalid tensor
data offset" unless the checked product `n` exists and the ideal byte range
`[offset, offset + n * size)` lies inside the storage (then no later step overflows and the
view/copy step counts `byteLen / size = n` elements); what remains is `try_from_data` on `n`
elements. -/
theorem fromStorageOffset_eq (ovf : Bool) {size : U} (hs : size = 1 ∨ size = 4)
    (shape : List U) (offset slen : U) :
    fromStorageOffset ovf size shape offset slen =
      match checkedProd shape 1 with
      | none => .err .offset
      | some n =>
        if offset.toNat + n.toNat * size.toNat ≤ slen.toNat then tryFromData shape n
        else .err .offset := by
  have hW := M.toNat_lt_W slen
  have hpos : 0 < size.toNat := by rcases hs with rfl | rfl <;> decide
  unfold fromStorageOffset
  cases checkedProd shape 1 with
  | none => rfl
  | some n =>
    simp only
    by_cases h : offset.toNat + n.toNat * size.toNat ≤ slen.toNat
    · rw [if_pos h]
      have hb := checkedMul_of_lt (a := n) (b := size) (by omega)
      have hst := checkedAdd_of_lt (a := offset) (b := n * size) (by rw [checkedMul_some hb]; omega)
      have hle : offset + n * size ≤ slen := by
        rw [UInt64.le_iff_toNat_le, checkedAdd_some hst, checkedMul_some hb]; exact h
      simp only [hb, hst, hle, if_true, rtenCount_spec n offset slen hb hst hle,
        mul_div_cancel_of_lt (show n.toNat * size.toNat < wordSize by omega) hpos, finish,
        tryFromDataG_eq]
    · rw [if_neg h]
      split
      · rfl
      · next byteLen hb =>
        split
        · rfl
        · next stop hst =>
          have := checkedMul_some hb
          have := checkedAdd_some hst
          rw [if_neg (by rw [UInt64.le_iff_toNat_le]; omega)]

theorem inlineCount_spec (size n start slen : U)
    (hin : start.toNat + (n * size).toNat ≤ slen.toNat) :
    inlineCount size n start slen = .n n := by
  unfold inlineCount
  split
  · rw [if_pos (arcSliceNewOk_view hin (fun hz => by rw [hz]; rfl))]
  · rfl

theorem inlineCount_n {size n start slen k : U} (h : inlineCount size n start slen = .n k) :
    k = n := by
  unfold inlineCount at h
  by_cases h1 : castLeOk size (n * size) start = true
  · by_cases h2 : arcSliceNewOk slen.toNat (if n * size = 0 then none else some start.toNat)
        (n * size).toNat = true
    · rw [if_pos h1, if_pos h2] at h; exact (Cnt.n.inj h).symm
    · rw [if_pos h1, if_neg h2] at h; cases h
  · rw [if_neg h1] at h; exact (Cnt.n.inj h).symm

end RtenVerif.LoaderConst
