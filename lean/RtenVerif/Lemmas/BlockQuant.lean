import RtenVerif.Model.BlockQuant
import RtenVerif.Lemmas.Blocks

/-! C37: the block-quantised dot product.  The reference `dot3` (per-element scales) against the
factored per-block form and the int8 mode, sums whose scale is looked up through an index function,
and nibble packing.  Core Lean only; ring identities by `grind` over `Lean.Grind.CommRing`. -/

namespace RtenVerif.BlockQuant
open Lean.Grind

variable {R : Type} [CommRing R]

theorem dot3_nil_w (a q : List R) : dot3 a [] q = 0 := by
  cases a <;> simp [dot3]

theorem dot3_nil_a (w q : List R) : dot3 ([] : List R) w q = 0 := by
  simp [dot3]

theorem dot3_nil_q (a w : List R) : dot3 a w [] = 0 := by
  cases a <;> cases w <;> simp [dot3]

theorem dot3_append_w : ∀ (w1 w2 a q : List R),
    dot3 a (w1 ++ w2) q =
      dot3 (a.take w1.length) w1 (q.take w1.length) + dot3 (a.drop w1.length) w2 (q.drop w1.length)
  | [], w2, a, q => by simp [dot3_nil_w]; grind
  | w :: ws, w2, [], q => by simp [dot3_nil_a]; grind
  | w :: ws, w2, x :: xs, [] => by simp [dot3_nil_q]; grind
  | w :: ws, w2, x :: xs, y :: ys => by
    have ih := dot3_append_w ws w2 xs ys
    simp only [List.cons_append, dot3, List.length_cons, List.take_succ_cons, List.drop_succ_cons, ih]
    grind

/-- One block with constant scale `s`: the algebraic heart of the factored form.  Weights beyond the
end of `a` are ignored on both sides. -/
theorem dot3_replicate (s : R) : ∀ (n : Nat) (a q : List R), a.length ≤ q.length → a.length ≤ n →
    dot3 a (List.replicate n s) q = s * (rawDot a q - 8 * sumR a)
  | _, [], _, _, _ => by simp [dot3, rawDot, sumR]; grind
  | 0, _ :: _, _, _, h => by simp at h
  | _ + 1, _ :: _, [], h, _ => by simp at h
  | n + 1, x :: xs, y :: ys, hl, hn => by
    have ih := dot3_replicate s n xs ys (by simpa using hl) (by simpa using hn)
    simp only [List.replicate_succ, dot3, rawDot, sumR, ih]
    grind

omit [CommRing R] in
theorem expandScales_cons (bs : Nat) (s : R) (ss : List R) :
    expandScales bs (s :: ss) = List.replicate bs s ++ expandScales bs ss := by
  simp [expandScales]

omit [CommRing R] in
theorem expandScales_getD (bs : Nat) (hbs : 0 < bs) (z : R) (scales : List R) (k : Nat) :
    (expandScales bs scales).getD k z = scales.getD (k / bs) z := by
  rw [List.getD_eq_getElem?_getD, List.getD_eq_getElem?_getD, expandScales,
    Blocks.getElem?_flatMap_div _ bs hbs _ fun _ _ => List.length_replicate ..]
  cases scales[k / bs]? <;> simp [Nat.mod_lt k hbs]

omit [CommRing R] in
theorem expandScales_length (bs : Nat) (scales : List R) :
    (expandScales bs scales).length = scales.length * bs :=
  Blocks.length_flatMap _ _ bs fun _ _ => List.length_replicate ..

/-- **T1 core**: reference = factored form, whenever `q` is at least as long as `a` (the last block may
be partial, elements beyond the last scale contribute nothing on either side, nor do weights beyond
the end of `a`). -/
theorem refDot_eq_factoredBlocks (bs : Nat) : ∀ (scales a q : List R), a.length ≤ q.length →
    refDot bs scales a q = factoredBlocks bs scales a q
  | [], a, q, _ => by simp [refDot, expandScales, dot3_nil_w, factoredBlocks]
  | s :: ss, a, q, h => by
    have ih := refDot_eq_factoredBlocks bs ss (a.drop bs) (q.drop bs) (by simp; omega)
    unfold refDot at ih ⊢
    rw [expandScales_cons, dot3_append_w, List.length_replicate, ih,
      dot3_replicate s bs (a.take bs) (q.take bs) (by simp; omega) (by simp; omega)]
    simp [factoredBlocks]

theorem signedDot_eq : ∀ (l q : List R), l.length ≤ q.length →
    signedDot l q = rawDot l q - 8 * sumR l
  | [], _, _ => by simp [signedDot, rawDot, sumR]; grind
  | _ :: _, [], h => by simp at h
  | x :: xs, y :: ys, h => by
    have ih := signedDot_eq xs ys (by simpa using h)
    simp only [signedDot, rawDot, sumR, ih]
    grind

theorem scaleLhs_length_le (bs : Nat) (rs l : List R) : (scaleLhs bs rs l).length ≤ l.length := by
  unfold scaleLhs
  simp [List.length_zipWith]
  omega

theorem scaleLhs_nil_scales (bs : Nat) (l : List R) : scaleLhs bs ([] : List R) l = [] := by
  simp [scaleLhs, expandScales]

theorem factoredBlocks_nil_a (bs : Nat) : ∀ (scales q : List R),
    factoredBlocks bs scales ([] : List R) q = 0
  | [], q => by simp [factoredBlocks]
  | s :: ss, q => by
    simp only [factoredBlocks, List.take_nil, List.drop_nil, rawDot, sumR, factoredBlocks_nil_a bs ss]
    grind

theorem expandScales_zipWith (bs : Nat) : ∀ (cs rs : List R),
    expandScales bs (List.zipWith (· * ·) cs rs) =
      List.zipWith (· * ·) (expandScales bs cs) (expandScales bs rs)
  | [], _ => by simp [expandScales]
  | _ :: _, [] => by simp [expandScales]
  | c :: cs, r :: rs => by
    rw [List.zipWith_cons_cons, expandScales_cons, expandScales_cons, expandScales_cons,
      List.zipWith_append (by simp), expandScales_zipWith bs cs rs, List.zipWith_replicate,
      Nat.min_self]

/-- A scale on the LHS is a scale on the weight: the row scales of the Int8 mode can be moved next
to the column scales. -/
theorem dot3_zipWith_left : ∀ (r l c q : List R),
    dot3 (List.zipWith (· * ·) r l) c q = dot3 l (List.zipWith (· * ·) c r) q
  | [], l, c, q => by simp [dot3_nil_a, dot3_nil_w]
  | _ :: _, [], c, q => by simp [dot3_nil_a]
  | _ :: _, _ :: _, [], q => by simp [dot3_nil_w]
  | _ :: _, _ :: _, _ :: _, [] => by simp [dot3_nil_q]
  | r :: rs, x :: xs, c :: cs, y :: ys => by
    simp only [List.zipWith_cons_cons, dot3, dot3_zipWith_left rs xs cs ys]
    grind

/-- **Int8 mode is Float mode with the scales `col_scale·row_scale` on the quantised LHS**, for
both dot-product flavours. -/
theorem int8Blocks_eq_refDot (u : Bool) (bs : Nat) (cs rs l q : List R) (h : l.length ≤ q.length) :
    int8Blocks u bs cs rs l q = refDot bs (List.zipWith (· * ·) cs rs) l q := by
  rw [refDot_eq_factoredBlocks bs _ l q h]
  induction cs generalizing rs l q with
  | nil => simp [int8Blocks, factoredBlocks]
  | cons c cs ih =>
    cases rs with
    | nil => simp [int8Blocks, factoredBlocks]
    | cons r rs =>
      simp only [int8Blocks, List.zipWith_cons_cons, factoredBlocks,
        ih rs (l.drop bs) (q.drop bs) (by simp; omega)]
      cases u
      · simp only [Bool.false_eq_true, if_false,
          signedDot_eq (l.take bs) (q.take bs) (by simp; omega)]
      · rfl

/-- … which is the reference on the de-quantised LHS `row_scale·l`. -/
theorem refDot_scaleLhs (bs : Nat) (cs rs l q : List R) :
    refDot bs cs (scaleLhs bs rs l) q = refDot bs (List.zipWith (· * ·) cs rs) l q := by
  rw [refDot, refDot, scaleLhs, dot3_zipWith_left, expandScales_zipWith]

/-- The reference is linear in the LHS: the error of the Int8 mode is the quantisation error of the LHS. -/
theorem dot3_sub : ∀ (a a' w q : List R), a.length = a'.length →
    dot3 (List.zipWith (· - ·) a a') w q = dot3 a w q - dot3 a' w q
  | [], [], w, q, _ => by simp [dot3]; grind
  | x :: xs, y :: ys, [], q, _ => by simp [dot3_nil_w]; grind
  | x :: xs, y :: ys, w :: ws, [], _ => by simp [dot3_nil_q]; grind
  | x :: xs, y :: ys, w :: ws, p :: ps, h => by
    simp only [List.zipWith_cons_cons, dot3, dot3_sub xs ys ws ps (by simpa using h)]
    grind
  | [], _ :: _, _, _, h => by simp at h
  | _ :: _, [], _, _, h => by simp at h

theorem idxDot_eq_dot3 (f : Nat → R) : ∀ (k0 : Nat) (a w q : List R),
    (∀ i, i < a.length → f (k0 + i) = w.getD i 0) → idxDot f k0 a q = dot3 a w q
  | _, [], _, _, _ => by simp [idxDot, dot3]
  | _, _ :: _, _, [], _ => by simp [idxDot, dot3_nil_q]
  | k0, x :: xs, w, y :: ys, h => by
    have h0 : f k0 = w.getD 0 0 := h 0 (by simp)
    have ih := idxDot_eq_dot3 f (k0 + 1) xs w.tail ys fun i hi => by
      simpa [Nat.add_assoc, Nat.add_comm 1 i] using h (i + 1) (by simpa using hi)
    rw [idxDot, h0, ih]
    match w with
    | [] => rw [List.tail_nil, dot3_nil_w, dot3_nil_w, List.getD_nil]; grind
    | _ :: _ => rfl

theorem getD_zipWith_mul : ∀ (x y : List R) (i : Nat),
    (List.zipWith (· * ·) x y).getD i 0 = x.getD i 0 * y.getD i 0
  | [], _, _ => by simp; grind
  | _ :: _, [], _ => by simp; grind
  | _ :: _, _ :: _, 0 => by simp
  | _ :: xs, _ :: ys, i + 1 => by simpa using getD_zipWith_mul xs ys i

theorem idxDot2_eq_idxDot (f g : Nat → R) : ∀ (k : Nat) (l q : List R),
    idxDot2 f g k l q = idxDot (fun k => f k * g k) k l q
  | _, [], _ => by simp [idxDot2, idxDot]
  | _, _ :: _, [] => by simp [idxDot2, idxDot]
  | k, x :: xs, y :: ys => by
    simp only [idxDot2, idxDot, idxDot2_eq_idxDot f g (k + 1) xs ys]
    grind

theorem unpack_pack_byte (b : Nat) (h : b < 256) : packByte (loNibble b) (hiNibble b) = b := by
  unfold packByte loNibble hiNibble; omega

theorem pack_unpack_nibbles (lo hi : Nat) (h1 : lo < 16) (h2 : hi < 16) :
    loNibble (packByte lo hi) = lo ∧ hiNibble (packByte lo hi) = hi := by
  unfold packByte loNibble hiNibble; omega

theorem packNibbles_unpackBytes : ∀ (bytes : List Nat), (∀ b ∈ bytes, b < 256) →
    packNibbles (unpackBytes bytes) = bytes
  | [], _ => rfl
  | b :: bs, h => by
    simp only [unpackBytes, packNibbles]
    rw [unpack_pack_byte b (h b (by simp)), packNibbles_unpackBytes bs (fun x hx => h x (by simp [hx]))]

theorem unpackBytes_eq_flatMap : ∀ bytes : List Nat,
    unpackBytes bytes = bytes.flatMap fun b => [loNibble b, hiNibble b]
  | [] => rfl
  | b :: bs => by rw [unpackBytes, unpackBytes_eq_flatMap bs]; rfl

theorem unpackBytes_length : ∀ (bytes : List Nat), (unpackBytes bytes).length = 2 * bytes.length :=
  fun bytes => by
    rw [unpackBytes_eq_flatMap, Blocks.length_flatMap _ _ 2 fun _ _ => rfl, Nat.mul_comm]

theorem unpackBytes_getD (bytes : List Nat) (k : Nat) :
    (unpackBytes bytes).getD k 0 =
      if k % 2 = 0 then loNibble (bytes.getD (k / 2) 0) else hiNibble (bytes.getD (k / 2) 0) := by
  rw [unpackBytes_eq_flatMap, List.getD_eq_getElem?_getD, List.getD_eq_getElem?_getD,
    Blocks.getElem?_flatMap_div _ 2 (by decide) _ fun _ _ => rfl]
  cases bytes[k / 2]? <;> rcases Nat.mod_two_eq_zero_or_one k with h | h <;>
    simp [h, loNibble, hiNibble]

end RtenVerif.BlockQuant
