import RtenVerif.Lemmas.NpyFile
import RtenVerif.Lemmas.Blocks

/-!
# Lemmas for the npy model: `read ∘ write` and what an accepted file guarantees
-/
namespace RtenVerif.Npy

/-- Bit patterns that are values of the element type: `bool` is 0/1 (`bool as u8`), every other
type is any `8 * ITEM_SIZE`-bit pattern. -/
def ValidElem (dt : DataType) (x : Nat) : Prop :=
  if dt = .bool then x < 2 else x < 256 ^ dt.itemSize

instance (dt : DataType) (x : Nat) : Decidable (ValidElem dt x) := by
  unfold ValidElem; exact inferInstance

theorem encodeElem_length (dt : DataType) (x : Nat) : (encodeElem dt x).length = dt.itemSize :=
  toLE_length _ _

theorem decode_encode (dt : DataType) (x : Nat) (h : ValidElem dt x) :
    decodeElem dt (encodeElem dt x) = x := by
  cases dt
  case bool =>
    simp [ValidElem] at h
    simp only [decodeElem, encodeElem, DataType.itemSize, toLE, List.headD_cons]
    split <;> omega
  all_goals
    simp [ValidElem] at h
    simp only [decodeElem, encodeElem]
    exact fromLE_toLE _ _ h

theorem dataTypeOf_descr (dt : DataType) : dataTypeOf ⟨false, dt.kind, dt.itemSize⟩ = some dt := by
  cases dt <;> rfl

theorem mem_le_prod (l : List Nat) (h : ∀ x ∈ l, 1 ≤ x) : ∀ d ∈ l, d ≤ prod l := by
  induction l with
  | nil => simp
  | cons x xs ih =>
    intro d hd
    have hx := h x (by simp)
    have hp := prod_pos xs (fun y hy => h y (by simp [hy]))
    simp only [prod]
    rcases List.mem_cons.mp hd with rfl | hd
    · exact Nat.le_mul_of_pos_right _ hp
    · have := ih (fun y hy => h y (by simp [hy])) d hd
      exact Nat.le_trans this (Nat.le_mul_of_pos_left _ hx)

theorem one_le_of_mem_map_max (shape : List Nat) : ∀ x ∈ shape.map (fun d => max d 1), 1 ≤ x := by
  intro x hx
  obtain ⟨y, _, rfl⟩ := List.mem_map.mp hx
  exact Nat.le_max_right y 1

theorem dims_lt_of_prod (shape : List Nat)
    (h : prod (shape.map (fun d => max d 1)) < isizeLimit) : ∀ d ∈ shape, d < usizeLimit := by
  intro d hd
  have := mem_le_prod _ (one_le_of_mem_map_max shape) _ (List.mem_map.mpr ⟨d, hd, rfl⟩)
  have h1 : d ≤ max d 1 := Nat.le_max_left d 1
  simp only [isizeLimit] at h
  simp only [usizeLimit]
  omega

theorem guard_of_prod (shape : List Nat)
    (h : prod (shape.map (fun d => max d 1)) < isizeLimit) :
    checkedProd (shape.map (fun d => max d 1)) 1 = some (prod (shape.map (fun d => max d 1))) := by
  have := checkedProd_of_lt _ 1 (one_le_of_mem_map_max shape) (Nat.le_refl 1) (by simpa using h)
  simpa using this

theorem fortranToRowMajor_length (shape vals : List Nat) :
    (fortranToRowMajor shape vals).length = vals.length := by
  unfold fortranToRowMajor
  split <;> simp

theorem flatten_encode_length (dt : DataType) (vals : List Nat) :
    ((vals.map (encodeElem dt)).flatten).length = vals.length * dt.itemSize := by
  rw [← List.flatMap_def]
  exact Blocks.length_flatMap vals (encodeElem dt) dt.itemSize fun y _ => encodeElem_length dt y

theorem chunks_encode (dt : DataType) (vals : List Nat) :
    chunks dt.itemSize vals.length ((vals.map (encodeElem dt)).flatten) = vals.map (encodeElem dt) := by
  have := chunks_flatten dt.itemSize (vals.map (encodeElem dt)) (by
    intro x hx
    obtain ⟨y, _, rfl⟩ := List.mem_map.mp hx
    exact encodeElem_length dt y) []
  rwa [List.append_nil, List.length_map] at this

theorem map_decode_encode (dt : DataType) (vals : List Nat) (hvals : ∀ x ∈ vals, ValidElem dt x) :
    (vals.map (encodeElem dt)).map (decodeElem dt) = vals := by
  rw [List.map_map]
  conv => rhs; rw [← List.map_id vals]
  exact List.map_congr_left fun x hx => decode_encode dt x (hvals x hx)

theorem readTyped_encode (dt : DataType) (fo : Bool) (shape vals : List Nat)
    (hshape : prod (shape.map (fun d => max d 1)) < isizeLimit)
    (hbytes : prod shape * dt.itemSize < usizeLimit)
    (hlen : vals.length = prod shape) (hvals : ∀ x ∈ vals, ValidElem dt x) :
    readTyped ⟨⟨false, dt.kind, dt.itemSize⟩, fo, shape⟩ dt ((vals.map (encodeElem dt)).flatten) =
      .ok ⟨dt, shape, if fo then fortranToRowMajor shape vals else vals⟩ := by
  have hflen := flatten_encode_length dt vals
  rw [hlen] at hflen
  unfold readTyped
  simp only [guard_of_prod shape hshape, hflen, Nat.not_le.mpr hbytes, Nat.lt_irrefl, if_false,
    Bool.false_and, Bool.false_eq_true]
  rw [List.take_of_length_le (Nat.le_of_eq hflen), ← hlen, chunks_encode, map_decode_encode dt vals hvals]

/-- **T2**: `read (write a) = a`, for an array that passes the reader's size guards and whose values
are bit patterns of its element type. -/
theorem read_write (a : Array) (file : List Nat)
    (hshape : prod (a.shape.map (fun d => max d 1)) < isizeLimit)
    (hbytes : prod a.shape * a.dtype.itemSize < usizeLimit)
    (hlen : a.vals.length = prod a.shape)
    (hvals : ∀ x ∈ a.vals, ValidElem a.dtype x)
    (hw : write a = .ok file) : read file = .ok a := by
  obtain ⟨dt, shape, vals⟩ := a
  unfold write at hw
  cases hb : buildHeader dt shape with
  | error e => simp [hb] at hw
  | ok h =>
    simp only [hb, Except.ok.injEq] at hw
    subst hw
    unfold read
    rw [readHeader_buildHeader dt shape _ h (dims_lt_of_prod shape hshape) hb]
    simp only [dataTypeOf_descr]
    exact readTyped_encode dt false shape vals hshape hbytes hlen hvals

theorem readTyped_ok {h : Header} {dt : DataType} {data : List Nat} {a : Array}
    (hr : readTyped h dt data = .ok a) :
    a.dtype = dt ∧ a.shape = h.shape ∧ prod (h.shape.map (fun d => max d 1)) < isizeLimit ∧
      prod h.shape * dt.itemSize < usizeLimit ∧ prod h.shape * dt.itemSize ≤ data.length ∧
      a.vals.length = prod h.shape := by
  unfold readTyped at hr
  cases hc : checkedProd (h.shape.map (fun d => max d 1)) 1 with
  | none => rw [hc] at hr; cases hr
  | some p =>
    have hp := checkedProd_some _ 1 p (by decide) hc
    simp only [hc] at hr
    by_cases h1 : usizeLimit ≤ prod h.shape * dt.itemSize
    · rw [if_pos h1] at hr; cases hr
    by_cases h2 : data.length < prod h.shape * dt.itemSize
    · rw [if_neg h1, if_pos h2] at hr; cases hr
    rw [if_neg h1, if_neg h2] at hr
    cases hr
    refine ⟨rfl, rfl, by omega, by omega, by omega, ?_⟩
    simp only [apply_ite List.length, fortranToRowMajor_length, List.length_map, chunks_length,
      ite_self]

/-- **T4**: what an accepted file guarantees. -/
theorem read_ok_sizes (file : List Nat) (a : Array) (h : read file = .ok a) :
    ∃ hd data, readHeader file = .ok (hd, data) ∧ dataTypeOf hd.dtype = some a.dtype ∧
      a.shape = hd.shape ∧
      prod (a.shape.map (fun d => max d 1)) < isizeLimit ∧
      prod a.shape * a.dtype.itemSize < usizeLimit ∧
      prod a.shape * a.dtype.itemSize ≤ data.length ∧
      a.vals.length = prod a.shape := by
  unfold read at h
  split at h
  · cases h
  · rename_i hd data hr
    split at h
    · cases h
    · rename_i dt hdt
      obtain ⟨rfl, hs, h1, h2, h3, h4⟩ := readTyped_ok h
      rw [hs]
      exact ⟨hd, data, hr, hdt, rfl, h1, h2, h3, h4⟩

end RtenVerif.Npy
