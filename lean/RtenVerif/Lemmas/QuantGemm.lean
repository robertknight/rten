import RtenVerif.Model.QuantGemm
import RtenVerif.Lemmas.SimdLoop

/-! C17: the `u8 × i8` dot product with zero points.  Every tiled, depth-blocked entry of the kernel
model equals the definition `dotZ` on operands where `vpmaddubsw` cannot saturate (`Exact`), and
`wrap32` is the `i32` lane wrap of the SIMD model.  Core Lean only; ring identities are discharged
by `grind`. -/
namespace RtenVerif.QuantGemm

theorem dotZ_eq_factored (za zb : Int) : ∀ (a b : List Int), a.length = b.length →
    dotZ za zb a b = dot a b - za * sum b - zb * sum a + (a.length : Int) * za * zb
  | [], [], _ => by simp [dotZ, dot, sum]
  | x :: xs, y :: ys, h => by
    have ih := dotZ_eq_factored za zb xs ys (by simpa using h)
    simp only [dotZ, dot, sum, List.length_cons, ih]
    grind
  | [], _ :: _, h => by simp at h
  | _ :: _, [], h => by simp at h

theorem dot4_false (a0 a1 a2 a3 b0 b1 b2 b3 : Int) :
    dot4 false a0 a1 a2 a3 b0 b1 b2 b3 = a0 * b0 + a1 * b1 + a2 * b2 + a3 * b3 := by
  simp [dot4, pairSum]
  grind

/-- Lists of equal length are the two projections of their `zip`, and over a list of pairs the tile
patterns of `dotTiles` are exhaustive. -/
theorem dotTiles_false_unzip : ∀ l : List (Int × Int),
    dotTiles false (l.map (·.1)) (l.map (·.2)) = dot (l.map (·.1)) (l.map (·.2))
  | [] => rfl
  | [_] => by simp [dotTiles, dot, dot4_false]
  | [_, _] => by simp [dotTiles, dot, dot4_false]
  | [_, _, _] => by simp [dotTiles, dot, dot4_false]; grind
  | _ :: _ :: _ :: _ :: l => by
    simp only [List.map_cons, dotTiles, dot, dot4_false, dotTiles_false_unzip l]
    grind

theorem dotTiles_false_eq_dot (a b : List Int) (h : a.length = b.length) :
    dotTiles false a b = dot a b := by
  have := dotTiles_false_unzip (a.zip b)
  rwa [List.map_fst_zip (by omega), List.map_snd_zip (by omega)] at this

theorem dotZ_nil_left (za zb : Int) (b : List Int) : dotZ za zb [] b = 0 := by
  cases b <;> rfl

theorem dotZ_nil_right (za zb : Int) (a : List Int) : dotZ za zb a [] = 0 := by
  cases a <;> rfl

theorem dotZ_take_drop (za zb : Int) : ∀ (n : Nat) (a b : List Int),
    dotZ za zb (a.take n) (b.take n) + dotZ za zb (a.drop n) (b.drop n) = dotZ za zb a b
  | 0, _, _ => Int.zero_add _
  | _ + 1, [], _ => by rw [List.take_nil, List.drop_nil, dotZ_nil_left]; rfl
  | _ + 1, _ :: _, [] => by rw [List.take_nil, List.drop_nil, dotZ_nil_right, dotZ_nil_right]; rfl
  | n + 1, x :: xs, y :: ys => by
    rw [List.take_succ_cons, List.take_succ_cons, List.drop_succ_cons, List.drop_succ_cons, dotZ,
      dotZ, Int.add_assoc, dotZ_take_drop za zb n xs ys]

/-- Depth blocking for either blocked entry (`F` = `entryBlocks` / `entryGemvBlocks` with per-block
function `f`); `P` (equal lengths, value ranges) must survive cutting. -/
theorem blocks_eq_dotZ {kc : Nat} (hkc : 0 < kc) {za zb : Int} {P : List Int → List Int → Prop}
    (hP : ∀ a b n, P a b → P (a.take n) (b.take n) ∧ P (a.drop n) (b.drop n))
    {f : List Int → List Int → Int} (hf : ∀ a b, P a b → f a b = dotZ za zb a b)
    {F : Nat → List Int → List Int → Int} (hF0 : ∀ a b, F 0 a b = 0)
    (hF : ∀ fuel a b, F (fuel + 1) a b =
      if a.isEmpty then 0 else f (a.take kc) (b.take kc) + F fuel (a.drop kc) (b.drop kc)) :
    ∀ (fuel : Nat) (a b : List Int), P a b → a.length ≤ fuel → F fuel a b = dotZ za zb a b
  | 0, a, b, _, hfuel => by
    rw [hF0, List.length_eq_zero_iff.mp (Nat.le_zero.mp hfuel), dotZ_nil_left]
  | fuel + 1, a, b, h, hfuel => by
    rw [hF]
    split
    · next he => rw [List.isEmpty_iff.mp he, dotZ_nil_left]
    · next he =>
      have hpos : 0 < a.length := List.length_pos_iff.mpr (mt List.isEmpty_iff.mpr he)
      rw [hf _ _ (hP a b kc h).1, blocks_eq_dotZ hkc hP hf hF0 hF fuel _ _ (hP a b kc h).2
        (by rw [List.length_drop]; omega), dotZ_take_drop]

theorem sat16_id (x : Int) (h1 : -32768 ≤ x) (h2 : x ≤ 32767) : sat16 x = x := by
  unfold sat16
  split
  · omega
  · split
    · omega
    · rfl

theorem mul_bounds (a b A lo hi : Int) (ha0 : 0 ≤ a) (haA : a ≤ A) (hlo : lo ≤ b) (hhi : b ≤ hi)
    (hlo0 : lo ≤ 0) (hhi0 : 0 ≤ hi) : A * lo ≤ a * b ∧ a * b ≤ A * hi := by
  constructor
  · calc A * lo ≤ a * lo := Int.mul_le_mul_of_nonpos_right haA hlo0
      _ ≤ a * b := Int.mul_le_mul_of_nonneg_left hlo ha0
  · calc a * b ≤ a * hi := Int.mul_le_mul_of_nonneg_left hhi ha0
      _ ≤ A * hi := Int.mul_le_mul_of_nonneg_right haA hhi0

def AllIn (lo hi : Int) (l : List Int) : Prop := ∀ x ∈ l, lo ≤ x ∧ x ≤ hi

theorem AllIn.cons {lo hi : Int} {x : Int} {l : List Int} (h : AllIn lo hi (x :: l)) :
    (lo ≤ x ∧ x ≤ hi) ∧ AllIn lo hi l :=
  ⟨h x (by simp), fun y hy => h y (by simp [hy])⟩

theorem AllIn.pad {lo hi : Int} {l : List Int} (h : AllIn lo hi l) (h0 : lo ≤ 0 ∧ 0 ≤ hi) (n : Nat) :
    AllIn lo hi (l ++ List.replicate n 0) := fun x hx =>
  (List.mem_append.mp hx).elim (h x) fun hx => List.eq_of_mem_replicate hx ▸ h0

theorem AllIn.take {lo hi : Int} {l : List Int} (h : AllIn lo hi l) (n : Nat) :
    AllIn lo hi (l.take n) := fun x hx => h x (List.mem_of_mem_take hx)

theorem AllIn.drop {lo hi : Int} {l : List Int} (h : AllIn lo hi l) (n : Nat) :
    AllIn lo hi (l.drop n) := fun x hx => h x (List.mem_of_mem_drop hx)

/-- Operand ranges `[0, A] × [lo, hi]` in which no sum of two products leaves `i16`:
`2·A·lo ≥ −32768` and `2·A·hi ≤ 32767` (the padding zeros lie in both ranges). -/
structure NoSat (A lo hi : Int) : Prop where
  nonneg : 0 ≤ A
  lo_nonpos : lo ≤ 0
  hi_nonneg : 0 ≤ hi
  lo_fits : -32768 ≤ A * lo + A * lo
  hi_fits : A * hi + A * hi ≤ 32767

/-- The documented reduced ranges (`ReducedRangeRng`): RHS in `[−64, 63]`, or LHS in `[0, 127]`. -/
theorem noSat_reduced_b : NoSat 255 (-64) 63 := by constructor <;> decide
theorem noSat_reduced_a : NoSat 127 (-128) 127 := by constructor <;> decide

theorem pairSum_sat_eq {A lo hi : Int} (S : NoSat A lo hi) {a0 b0 a1 b1 : Int}
    (h0 : 0 ≤ a0 ∧ a0 ≤ A) (h1 : 0 ≤ a1 ∧ a1 ≤ A)
    (g0 : lo ≤ b0 ∧ b0 ≤ hi) (g1 : lo ≤ b1 ∧ b1 ≤ hi) :
    pairSum true a0 b0 a1 b1 = pairSum false a0 b0 a1 b1 := by
  have p0 := mul_bounds a0 b0 A lo hi h0.1 h0.2 g0.1 g0.2 S.lo_nonpos S.hi_nonneg
  have p1 := mul_bounds a1 b1 A lo hi h1.1 h1.2 g1.1 g1.2 S.lo_nonpos S.hi_nonneg
  have hL := S.lo_fits
  have hH := S.hi_fits
  simp only [pairSum, if_true, Bool.false_eq_true, if_false]
  exact sat16_id _ (by omega) (by omega)

theorem dot4_sat_eq {A lo hi : Int} (S : NoSat A lo hi) {a0 a1 a2 a3 b0 b1 b2 b3 : Int}
    (ha : AllIn 0 A [a0, a1, a2, a3]) (hb : AllIn lo hi [b0, b1, b2, b3]) :
    dot4 true a0 a1 a2 a3 b0 b1 b2 b3 = dot4 false a0 a1 a2 a3 b0 b1 b2 b3 := by
  rw [dot4, dot4,
    pairSum_sat_eq S (ha a0 (by simp)) (ha a1 (by simp)) (hb b0 (by simp)) (hb b1 (by simp)),
    pairSum_sat_eq S (ha a2 (by simp)) (ha a3 (by simp)) (hb b2 (by simp)) (hb b3 (by simp))]

theorem dotTiles_sat_eq {A lo hi : Int} (S : NoSat A lo hi) :
    ∀ (a b : List Int), AllIn 0 A a → AllIn lo hi b → dotTiles true a b = dotTiles false a b := by
  intro a b
  have z : (0 : Int) ≤ 0 ∧ (0 : Int) ≤ A := ⟨Int.le_refl 0, S.nonneg⟩
  have zb : lo ≤ 0 ∧ (0 : Int) ≤ hi := ⟨S.lo_nonpos, S.hi_nonneg⟩
  fun_induction dotTiles true a b with
  | case1 a0 a1 a2 a3 as b0 b1 b2 b3 bs ih =>
    intro ha hb
    rw [dotTiles, ih (ha.drop 4) (hb.drop 4), dot4_sat_eq S (ha.take 4) (hb.take 4)]
  | case2 => intro ha hb; exact dot4_sat_eq S (ha.pad z 1) (hb.pad zb 1)
  | case3 => intro ha hb; exact dot4_sat_eq S (ha.pad z 2) (hb.pad zb 2)
  | case4 => intro ha hb; exact dot4_sat_eq S (ha.pad z 3) (hb.pad zb 3)
  | case5 a b h1 h2 h3 h4 =>
    -- the catch-all (no tile pattern applies): `dotTiles` is `0` under either flag
    intro _ _
    rw [dotTiles.eq_5 false a b h1 h2 h3 h4]

/-- The dot-product instruction is exact on `a`, `b`: the kernel cannot saturate
(`may_saturate() = false`), or the operands lie in a `NoSat` range. -/
def Exact (sat : Bool) (a b : List Int) : Prop :=
  a.length = b.length ∧
    (sat = true → ∃ A lo hi, NoSat A lo hi ∧ AllIn 0 A a ∧ AllIn lo hi b)

theorem Exact.of_not_sat {sat : Bool} (hs : sat = false) {a b : List Int} (h : a.length = b.length) :
    Exact sat a b :=
  ⟨h, by subst hs; exact nofun⟩

theorem Exact.of_noSat {A lo hi : Int} (S : NoSat A lo hi) {sat : Bool} {a b : List Int}
    (h : a.length = b.length) (ha : AllIn 0 A a) (hb : AllIn lo hi b) : Exact sat a b :=
  ⟨h, fun _ => ⟨A, lo, hi, S, ha, hb⟩⟩

theorem Exact.take_drop {sat : Bool} (a b : List Int) (n : Nat) (h : Exact sat a b) :
    Exact sat (a.take n) (b.take n) ∧ Exact sat (a.drop n) (b.drop n) := by
  refine ⟨⟨by simp [h.1], fun hs => ?_⟩, ⟨by simp [h.1], fun hs => ?_⟩⟩ <;>
    obtain ⟨A, lo, hi, S, ha, hb⟩ := h.2 hs
  · exact ⟨A, lo, hi, S, ha.take n, hb.take n⟩
  · exact ⟨A, lo, hi, S, ha.drop n, hb.drop n⟩

theorem dotTiles_eq_dot {sat : Bool} {a b : List Int} (h : Exact sat a b) :
    dotTiles sat a b = dot a b := by
  rw [← dotTiles_false_eq_dot a b h.1]
  cases sat with
  | false => rfl
  | true => obtain ⟨A, lo, hi, S, ha, hb⟩ := h.2 rfl; exact dotTiles_sat_eq S a b ha hb

theorem entryBlock_eq_dotZ {sat : Bool} (za zb : Int) (a b : List Int) (h : Exact sat a b) :
    entryBlock sat za zb a b = dotZ za zb a b := by
  rw [entryBlock, dotTiles_eq_dot h, dotZ_eq_factored za zb a b h.1]
  grind

theorem dot_eq_dotZ : ∀ (a b : List Int), dot a b = dotZ 0 0 a b
  | [], _ => (dotZ_nil_left 0 0 _).symm
  | _ :: _, [] => rfl
  | x :: xs, y :: ys => by rw [dot, dotZ, dot_eq_dotZ xs ys, Int.sub_zero, Int.sub_zero]

theorem dot_take_drop (n : Nat) (a b : List Int) :
    dot (a.take n) (b.take n) + dot (a.drop n) (b.drop n) = dot a b := by
  simp only [dot_eq_dotZ, dotZ_take_drop]

theorem entryGemvBlock_eq_dotZ {sat : Bool} (tile : Nat) (za zb : Int) (a b : List Int)
    (h : Exact sat a b) : entryGemvBlock sat tile za zb a b = dotZ za zb a b := by
  rw [entryGemvBlock, gemvDot, dotTiles_eq_dot (h.take_drop a b _).1, dot_take_drop,
    dotZ_eq_factored za zb a b h.1]
  grind

theorem entrySimd_exact {sat : Bool} {kc : Nat} (hkc : 0 < kc) (za zb : Int) (a b : List Int)
    (h : Exact sat a b) : entrySimd sat kc za zb a b = dotZ za zb a b :=
  blocks_eq_dotZ hkc Exact.take_drop (entryBlock_eq_dotZ za zb) (fun _ _ => rfl)
    (fun _ _ _ => rfl) a.length a b h (Nat.le_refl _)

theorem entryGemv_exact {sat : Bool} {kc : Nat} (hkc : 0 < kc) (tile : Nat) (za zb : Int)
    (a b : List Int) (h : Exact sat a b) : entryGemv sat tile kc za zb a b = dotZ za zb a b :=
  blocks_eq_dotZ hkc Exact.take_drop (entryGemvBlock_eq_dotZ tile za zb) (fun _ _ => rfl)
    (fun _ _ _ => rfl) a.length a b h (Nat.le_refl _)

theorem dotZ_bound {za zb : Int} {Ma Mb : Nat} : ∀ (a b : List Int),
    (∀ x ∈ a, (x - za).natAbs ≤ Ma) → (∀ y ∈ b, (y - zb).natAbs ≤ Mb) →
      (dotZ za zb a b).natAbs ≤ Ma * Mb * a.length
  | [], b, _, _ => by simp [dotZ_nil_left]
  | _ :: _, [], _, _ => by simp [dotZ]
  | x :: xs, y :: ys, ha, hb => by
    have ih := dotZ_bound xs ys (fun z hz => ha z (List.mem_cons_of_mem _ hz))
      (fun z hz => hb z (List.mem_cons_of_mem _ hz))
    have hp : ((x - za) * (y - zb)).natAbs ≤ Ma * Mb := by
      rw [Int.natAbs_mul]
      exact Nat.mul_le_mul (ha x List.mem_cons_self) (hb y List.mem_cons_self)
    rw [dotZ, List.length_cons, Nat.mul_succ]
    exact Nat.le_trans (Int.natAbs_add_le _ _) (by omega)

theorem wrap32_eq_wrapS (x : Int) : wrap32 x = SimdLoop.wrapS 32 x := by
  unfold wrap32 SimdLoop.wrapS
  simp only [show (2 : Int) ^ 32 = 4294967296 from rfl]
  split <;> omega

theorem wrap32_id (x : Int) (h1 : -2147483648 ≤ x) (h2 : x ≤ 2147483647) : wrap32 x = x := by
  rw [wrap32_eq_wrapS]
  exact SimdLoop.wrapS_of_inRange 31 x h1 (by omega)

theorem wrap32_add (x y : Int) : wrap32 (wrap32 x + wrap32 y) = wrap32 (x + y) := by
  simp only [wrap32_eq_wrapS]
  exact SimdLoop.wrapS_add 32 x y

theorem wrap32_sub (x y : Int) : wrap32 (wrap32 x - wrap32 y) = wrap32 (x - y) := by
  simp only [wrap32_eq_wrapS]
  exact SimdLoop.wrapS_sub 32 x y

theorem wrap32_mul (x y : Int) : wrap32 (wrap32 x * wrap32 y) = wrap32 (x * y) := by
  simp only [wrap32_eq_wrapS]
  exact SimdLoop.wrapS_mul 32 x y

end RtenVerif.QuantGemm
