import RtenVerif.Model.Planner
import RtenVerif.Lemmas.ListBasics
/-!
# Basic facts about the graph IR and the planner model (core Lean only)

The last section defines the step that both traversal loops iterate (`resolveStep`).
-/
namespace RtenVerif.Planner
open RtenVerif.Graph

theorem isValueOrConstant_iff {g : Graph} {id : Nat} : isValueOrConstant g id = true ↔
    getNode g id = some .value ∨ getNode g id = some .constant := by
  unfold isValueOrConstant
  split <;> simp_all

theorem isConstant_iff {g : Graph} {id : Nat} :
    isConstant g id = true ↔ getNode g id = some .constant := by
  unfold isConstant
  split <;> simp_all

theorem isConstant_of_value {g : Graph} {id : Nat} (h : getNode g id = some .value) :
    isConstant g id = false := by
  rw [isConstant, h]

theorem sourceFrom_spec (v : Nat) (nodes : List Node) (i : Nat) (acc : Option Nat) (p : Nat)
    (h : sourceFrom v nodes i acc = some p) :
    acc = some p ∨ ∃ k op, p = i + k ∧ nodes[k]? = some (.operator op) ∧ some v ∈ op.outputs := by
  induction nodes generalizing i acc with
  | nil => exact Or.inl h
  | cons n rest ih =>
    have shift : (∃ k op, p = i + 1 + k ∧ rest[k]? = some (.operator op) ∧ some v ∈ op.outputs) →
        ∃ k op, p = i + k ∧ (n :: rest)[k]? = some (.operator op) ∧ some v ∈ op.outputs := by
      rintro ⟨k, op, h1, h2, h3⟩
      exact ⟨k + 1, op, by rw [h1, Nat.add_assoc, Nat.add_comm 1], h2, h3⟩
    cases n with
    | value => exact (ih _ _ h).imp_right shift
    | constant => exact (ih _ _ h).imp_right shift
    | operator op0 =>
      rcases ih _ _ h with h1 | h1
      · split at h1
        · rename_i hc
          exact Or.inr ⟨0, op0, (Option.some.inj h1).symm, rfl, List.contains_iff_mem.mp hc⟩
        · exact Or.inl h1
      · exact Or.inr (shift h1)

theorem sourceOf_spec {g : Graph} {v p : Nat} (h : sourceOf g v = some p) :
    ∃ op, getOp g p = some op ∧ v ∈ opOutputs op := by
  rcases sourceFrom_spec v g.nodes 0 none p h with h1 | ⟨k, op, hk, h2, h3⟩
  · cases h1
  · rw [Nat.zero_add] at hk
    subst hk
    exact ⟨op, by simp [getOp, getNode, h2], List.mem_filterMap.mpr ⟨some v, h3, rfl⟩⟩

theorem getSource_spec {g : Graph} {v p : Nat} {op : OpNode} (h : getSource g v = some (p, op)) :
    sourceOf g v = some p ∧ getOp g p = some op ∧ v ∈ opOutputs op := by
  unfold getSource at h
  cases hs : sourceOf g v with
  | none => simp [hs] at h
  | some q =>
    obtain ⟨op', h1, h2⟩ := sourceOf_spec hs
    simp only [hs, h1] at h
    injection h with h
    injection h with ha hb
    subst ha; subst hb
    exact ⟨rfl, h1, h2⟩

theorem getSource_none_iff {g : Graph} {v : Nat} : getSource g v = none ↔ sourceOf g v = none := by
  unfold getSource
  cases hs : sourceOf g v with
  | none => simp
  | some q =>
    obtain ⟨op', h1, _⟩ := sourceOf_spec hs
    simp [h1]

theorem getSource_of_output {g : Graph} (hu : UniqueProducer g) {p v : Nat} {op : OpNode}
    (hop : getOp g p = some op) (hv : v ∈ opOutputs op) : getSource g v = some (p, op) := by
  rw [getSource, hu p op v hop hv]
  simp only [hop]

theorem getNode_lt {g : Graph} {v : Nat} {n : Node} (h : getNode g v = some n) : v < g.nodes.length :=
  (List.getElem?_eq_some_iff.mp h).1

theorem lt_of_isVoC {g : Graph} {v : Nat} (h : isValueOrConstant g v = true) : v < g.nodes.length :=
  (isValueOrConstant_iff.mp h).elim getNode_lt getNode_lt

theorem getOp_lt {g : Graph} {p : Nat} {op : OpNode} (h : getOp g p = some op) :
    p < g.nodes.length := by
  unfold getOp at h
  split at h
  · rename_i hn
    exact getNode_lt hn
  · cases h

theorem forall_ops_of_check {g : Graph} {P : Nat → OpNode → Bool}
    (h : (List.range g.nodes.length).all (fun p =>
      match getOp g p with
      | some op => P p op
      | none => true) = true) {p : Nat} {op : OpNode} (hop : getOp g p = some op) :
    P p op = true := by
  have := List.all_eq_true.mp h p (List.mem_range.mpr (getOp_lt hop))
  rwa [hop] at this

theorem firstDup_none_iff (xs : List Nat) : firstDup xs = none ↔ xs.Nodup := by
  induction xs with
  | nil => simp [firstDup]
  | cons x xs ih =>
    by_cases h : x ∈ xs
    · simp [firstDup, h]
    · simp [firstDup, h, ih]

theorem rContains_iff {g : Graph} {r : List Nat} {d : Nat} :
    rContains g r d = true ↔ d ∈ r ∨ isConstant g d = true := by
  rw [rContains, Bool.or_eq_true, List.contains_iff_mem]

theorem rContains_mono {g : Graph} {r r' : List Nat} {d : Nat}
    (hsub : ∀ v, v ∈ r → v ∈ r') (h : rContains g r d = true) : rContains g r' d = true :=
  rContains_iff.mpr ((rContains_iff.mp h).imp_left (hsub _))

theorem rContains_append_left {g : Graph} {r x : List Nat} {d : Nat}
    (h : rContains g r d = true) : rContains g (r ++ x) d = true :=
  rContains_mono (fun _ hv => List.mem_append_left _ hv) h

theorem rContains_of_mem {g : Graph} {r : List Nat} {d : Nat} (h : d ∈ r) :
    rContains g r d = true :=
  rContains_iff.mpr (Or.inl h)

theorem rContains_append_cases {g : Graph} {r x : List Nat} {d : Nat}
    (h : rContains g (r ++ x) d = true) : rContains g r d = true ∨ d ∈ x := by
  rw [rContains_iff, List.mem_append] at h
  rw [rContains_iff]
  rcases h with (h | h) | h
  · exact Or.inl (Or.inl h)
  · exact Or.inr h
  · exact Or.inl (Or.inr h)

theorem depsResolved_iff {g : Graph} {r : List Nat} {op : OpNode} :
    depsResolved g r op = true ↔ ∀ d ∈ opDeps g op, rContains g r d = true := by
  simp [depsResolved, List.all_eq_true]

theorem depsResolved_mono {g : Graph} {r r' : List Nat} {op : OpNode}
    (hsub : ∀ v, v ∈ r → v ∈ r') (h : depsResolved g r op = true) :
    depsResolved g r' op = true := by
  rw [depsResolved_iff] at h ⊢
  exact fun d hd => rContains_mono hsub (h d hd)

/-! ## The two traversal loops unfold into one step

`depsLoop` (the dependency loop of `visit`) and `planOutputs` (the output loop of `plan`) do
the same thing to each id: skip it if it is available, otherwise visit its source.  They differ
in the error reported for an id without source, and the output loop has no cycle test — its
active set is empty.  Every fact about the loops is proved once, about any loop that unfolds
into `resolveStep`. -/

/-- `eNone`: the error for an id that nobody produces. -/
def resolveStep (g : Graph) (opts : PlanOptions) (eNone : PlanError)
    (rec : Nat → OpNode → St → Except PlanError St) (st : St) (d : Nat) : Except PlanError St :=
  if rContains g st.resolved d then .ok st
  else
    match getSource g d with
    | some (p, pop) => if st.active.contains p then .error .cycle else rec p pop st
    | none => if opts.allowMissing then .ok st else .error eNone

theorem depsLoop_cons {g : Graph} {opts : PlanOptions}
    {rec : Nat → OpNode → St → Except PlanError St} (d : Nat) (ds : List Nat) (st : St) :
    depsLoop g opts rec (d :: ds) st =
      resolveStep g opts .missingInput rec st d >>= depsLoop g opts rec ds := by
  rw [depsLoop, resolveStep]
  split
  · rfl
  · cases getSource g d with
    | none => dsimp only; split <;> rfl
    | some pp =>
      obtain ⟨p, pop⟩ := pp
      dsimp only
      split
      · rfl
      · cases rec p pop st <;> rfl

theorem planOutputs_cons {g : Graph} {opts : PlanOptions} {fuel : Nat} (o : Nat) (os : List Nat)
    {st : St} (hact : st.active = []) :
    planOutputs g opts fuel (o :: os) st =
      resolveStep g opts .noSource (visit g opts fuel) st o >>= planOutputs g opts fuel os := by
  rw [planOutputs, resolveStep, hact]
  split
  · rfl
  · cases getSource g o with
    | none => dsimp only; split <;> rfl
    | some pp =>
      obtain ⟨p, pop⟩ := pp
      dsimp only
      cases visit g opts fuel p pop st <;> rfl

end RtenVerif.Planner
