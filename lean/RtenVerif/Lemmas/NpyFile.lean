import RtenVerif.Lemmas.Npy
import RtenVerif.Lemmas.LittleEndian

/-!
# Lemmas for the npy model: whole files

UTF-8 validity of the generated header, `read_header ∘ build_header`, chunking and the size guard.
-/
namespace RtenVerif.Npy

theorem validUtf8_ascii (l : List Nat) (h : ∀ b ∈ l, b < 128) : validUtf8 l = true := by
  induction l with
  | nil => rfl
  | cons b l ih =>
    have hb : b < 128 := h b (by simp)
    unfold validUtf8
    simp [hb, ih (fun x hx => h x (by simp [hx]))]

theorem natDigits_ascii (n : Nat) : ∀ b ∈ natDigits n, b < 128 := by
  intro b hb
  have := natDigits_digits n b hb
  simp [isDigit] at this; omega

theorem joinDims_ascii (ds : List Nat) : ∀ b ∈ joinDims ds, b < 128 := by
  induction ds with
  | nil => simp [joinDims]
  | cons d ds ih =>
    cases ds with
    | nil => simpa [joinDims] using natDigits_ascii d
    | cons d2 ds' =>
      simp only [joinDims, List.forall_mem_append, List.forall_mem_cons]
      exact ⟨natDigits_ascii d, by decide, by decide, ih⟩

theorem dimsText_ascii (shape : List Nat) : ∀ b ∈ dimsText shape, b < 128 := by
  simp only [dimsText, List.forall_mem_append]
  refine ⟨joinDims_ascii shape, ?_⟩
  split <;> decide

theorem dictTextF_ascii (dt : DataType) (fo : Bool) (shape : List Nat) :
    ∀ b ∈ dictTextF dt fo shape, b < 128 := by
  simp only [dictTextF, List.forall_mem_append]
  exact ⟨⟨⟨⟨⟨⟨by decide, by cases dt <;> decide⟩, by decide⟩, by cases fo <;> decide⟩, by decide⟩,
    dimsText_ascii shape⟩, by decide⟩

theorem paddedDict_ascii (dt : DataType) (shape : List Nat) : ∀ b ∈ paddedDict dt shape, b < 128 := by
  simp only [paddedDict, ← dictTextF_false, List.forall_mem_append]
  refine ⟨⟨dictTextF_ascii dt false shape, ?_⟩, by decide⟩
  intro b hb
  rw [List.eq_of_mem_replicate hb]
  decide

/-- A format-1.0 file: magic, version, `u16` length, dictionary text, data. -/
def npyFileV1 (dict data : List Nat) : List Nat :=
  magicBytes ++ [1, 0] ++ toLE 2 dict.length ++ dict ++ data

theorem readHeader_npyFileV1 (dict data : List Nat) (hlen : dict.length ≤ 65535)
    (hascii : ∀ b ∈ dict, b < 128) :
    readHeader (npyFileV1 dict data) =
      match parseHeader dict with
      | .error e => .error e
      | .ok h => .ok (h, data) := by
  have hle : fromLE (toLE 2 dict.length) = dict.length := fromLE_toLE 2 _ (by omega)
  obtain ⟨l0, l1, hl⟩ : ∃ a b, toLE 2 dict.length = [a, b] := by simp [toLE]
  rw [hl] at hle
  unfold npyFileV1 readHeader readExact magicBytes
  simp only [hl, List.cons_append, List.nil_append, List.length_cons, List.length_append]
  simp [hle, validUtf8_ascii _ hascii]
  cases parseHeader dict <;> rfl

theorem parseHeader_paddedDict (dt : DataType) (shape : List Nat)
    (hall : ∀ d ∈ shape, d < usizeLimit) :
    parseHeader (paddedDict dt shape) = .ok ⟨⟨false, dt.kind, dt.itemSize⟩, false, shape⟩ := by
  unfold parseHeader paddedDict
  simp only [List.append_assoc]
  rw [parseHeaderRest_dictText dt shape hall]

/-- **T1 (file level)**: reading the header of `build_header`'s output followed by any data
returns exactly the written element type, C order, the written shape, and leaves the data. -/
theorem readHeader_buildHeader (dt : DataType) (shape : List Nat) (data h : List Nat)
    (hall : ∀ d ∈ shape, d < usizeLimit) (hb : buildHeader dt shape = .ok h) :
    readHeader (h ++ data) = .ok (⟨⟨false, dt.kind, dt.itemSize⟩, false, shape⟩, data) := by
  unfold buildHeader at hb
  simp only at hb
  split at hb
  · rename_i hlen
    cases hb
    rw [← npyFileV1, readHeader_npyFileV1 _ _ hlen (paddedDict_ascii dt shape),
      parseHeader_paddedDict dt shape hall]
  · cases hb

theorem chunks_flatten (w : Nat) (xs : List (List Nat)) (hx : ∀ x ∈ xs, x.length = w)
    (rest : List Nat) : chunks w xs.length (xs.flatten ++ rest) = xs := by
  induction xs with
  | nil => rfl
  | cons x xs ih =>
    have hxl : x.length = w := hx x (by simp)
    simp only [List.length_cons, chunks, List.flatten_cons, List.append_assoc]
    rw [List.take_left' hxl, List.drop_left' hxl, ih (fun y hy => hx y (by simp [hy]))]

theorem chunks_length (w n : Nat) (l : List Nat) : (chunks w n l).length = n := by
  induction n generalizing l with
  | zero => rfl
  | succ n ih => simp [chunks, ih]

theorem prod_pos (l : List Nat) (h : ∀ d ∈ l, 1 ≤ d) : 1 ≤ prod l := by
  rw [prod_eq_numel]; exact (Arr.numel_pos_iff l).mpr h

theorem checkedProd_of_lt (l : List Nat) (acc : Nat) (h : ∀ d ∈ l, 1 ≤ d) (hacc : 1 ≤ acc)
    (hlt : acc * prod l < isizeLimit) : checkedProd l acc = some (acc * prod l) := by
  induction l generalizing acc with
  | nil => simp [checkedProd, prod]
  | cons d ds ih =>
    have h1 := h d (by simp)
    have h2 := prod_pos ds (fun x hx => h x (by simp [hx]))
    have hle : acc * d ≤ acc * d * prod ds := Nat.le_mul_of_pos_right _ h2
    have hassoc : acc * (d * prod ds) = acc * d * prod ds := (Nat.mul_assoc _ _ _).symm
    simp only [prod] at hlt ⊢
    have hlt' : acc * d < isizeLimit := by omega
    simp only [checkedProd, hlt', if_true]
    rw [ih (acc * d) (fun x hx => h x (by simp [hx])) (Nat.mul_le_mul hacc h1) (by omega), hassoc]

theorem checkedProd_some (l : List Nat) (acc p : Nat) (hacc : acc < isizeLimit)
    (h : checkedProd l acc = some p) : p = acc * prod l ∧ p < isizeLimit := by
  induction l generalizing acc with
  | nil => simp [checkedProd, prod] at h ⊢; omega
  | cons d ds ih =>
    simp only [checkedProd] at h
    split at h
    · rename_i hlt
      have := ih (acc * d) hlt h
      simp only [prod]
      rw [← Nat.mul_assoc]; exact this
    · cases h

theorem prod_le_prod_max (l : List Nat) : prod l ≤ prod (l.map (fun d => max d 1)) := by
  induction l with
  | nil => simp [prod]
  | cons d ds ih =>
    simp only [List.map_cons, prod]
    exact Nat.mul_le_mul (Nat.le_max_left d 1) ih

end RtenVerif.Npy
