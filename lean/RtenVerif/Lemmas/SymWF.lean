import RtenVerif.Lemmas.SymCanon
import RtenVerif.Lemmas.SymRcf

/-!
Side conditions of `simplify` stated on the **original** expression (C11):
`posDivisors` (every `DivCeil` divisor evaluates to a positive number) and `bcastDom` (every
`Broadcast` node has operands that are equal or one of them `1`), together `WF`.  `Ev σ H t v` couples the
value of a term with `WF` under a hypothesis `H`; `remove_common_factors` (`rcf_full`) and `canonicalize`
(`canonF_full`, one induction on the fuel) keep it, and so do the arms of `simplify_canonical` (SymStep.lean).
-/
namespace RtenVerif.Sym

def posDivisors (σ : Env) : SymExpr → Prop
  | .bin o a b =>
    posDivisors σ a ∧ posDivisors σ b ∧ (o = .divCeil → ∀ y, ev σ b = .ok y → 0 < y)
  | .neg a => posDivisors σ a
  | _ => True

/-- The documented domain of the `Broadcast` constructor, at every such node of `e`; no sign
condition is needed. -/
def bcastDom (σ : Env) : SymExpr → Prop
  | .bin o a b =>
    bcastDom σ a ∧ bcastDom σ b ∧
      (o = .broadcast → ∀ x y, ev σ a = .ok x → ev σ b = .ok y → (x = y ∨ x = 1 ∨ y = 1))
  | .neg a => bcastDom σ a
  | _ => True

/-- `posDivisors ∧ bcastDom` as one recursive predicate. -/
def WF (σ : Env) : SymExpr → Prop
  | .bin o a b =>
    WF σ a ∧ WF σ b ∧ (o = .divCeil → ∀ y, ev σ b = .ok y → 0 < y) ∧
      (o = .broadcast → ∀ x y, ev σ a = .ok x → ev σ b = .ok y → (x = y ∨ x = 1 ∨ y = 1))
  | .neg a => WF σ a
  | _ => True

theorem wf_iff (σ : Env) : ∀ e : SymExpr, WF σ e ↔ posDivisors σ e ∧ bcastDom σ e
  | .value _ | .var _ _ => ⟨fun _ => ⟨trivial, trivial⟩, fun _ => trivial⟩
  | .neg a => wf_iff σ a
  | .bin _ a b =>
    ⟨fun ⟨ha, hb, hC, hB⟩ =>
      have ⟨pa, ba⟩ := (wf_iff σ a).mp ha
      have ⟨pb, bb⟩ := (wf_iff σ b).mp hb
      ⟨⟨pa, pb, hC⟩, ba, bb, hB⟩,
    fun ⟨⟨pa, pb, hC⟩, ba, bb, hB⟩ =>
      ⟨(wf_iff σ a).mpr ⟨pa, ba⟩, (wf_iff σ b).mpr ⟨pb, bb⟩, hC, hB⟩⟩

theorem wf_value (σ : Env) (x : Int) : WF σ (.value x) := trivial

theorem wf_bin {σ : Env} {o : Op} {a b : SymExpr} (h1 : o ≠ .divCeil) (h2 : o ≠ .broadcast)
    (ha : WF σ a) (hb : WF σ b) : WF σ (.bin o a b) :=
  ⟨ha, hb, fun h => absurd h h1, fun h => absurd h h2⟩

/-- `t` has the value `v` and, if `H` holds, the side conditions `WF`: what `canonicalize`,
`remove_common_factors` and the arms of `simplify_canonical` keep.  `H` is "the expression they were given
is well-formed": `False` leaves the statement about the value alone, `True` adds `WF` outright. -/
def Ev (σ : Env) (H : Prop) (t : SymExpr) (v : Int) : Prop := ev σ t = .ok v ∧ (H → WF σ t)

theorem Ev.value (σ : Env) (H : Prop) (k : Int) : Ev σ H (.value k) k := ⟨rfl, fun _ => wf_value σ k⟩

theorem Ev.bin_inv {σ : Env} {H : Prop} {o : Op} {a b : SymExpr} {v : Int} (h : Ev σ H (.bin o a b) v) :
    ∃ x y, Ev σ H a x ∧ Ev σ H b y ∧ ((o = .div ∨ o = .divCeil) → y ≠ 0) ∧ v = opF o x y :=
  have ⟨x, y, hx, hy, h0, e⟩ := ev_bin_ok.mp h.1
  ⟨x, y, ⟨hx, fun hH => (h.2 hH).1⟩, ⟨hy, fun hH => (h.2 hH).2.1⟩, h0, e⟩

/-- `Ev.bin_inv` in the form `flatten_vals` and `ac_arm` take for going down a nest of one operator. -/
theorem Ev.down {σ : Env} {H : Prop} {o : Op} (a b : SymExpr) (v : Int)
    (h : Ev σ H (.bin o a b) v) : ∃ x y, Ev σ H a x ∧ Ev σ H b y ∧ v = opF o x y :=
  have ⟨x, y, hx, hy, _, e⟩ := h.bin_inv
  ⟨x, y, hx, hy, e⟩

theorem Ev.up {σ : Env} {H : Prop} {o : Op} (ho : o.comm = true) (h2 : o ≠ .broadcast)
    (a b : SymExpr) (x y : Int) (ha : Ev σ H a x) (hb : Ev σ H b y) :
    Ev σ H (.bin o a b) (opF o x y) :=
  ⟨ev_bin_of ha.1 hb.1 (by rintro (rfl | rfl) <;> cases ho),
    fun hH => wf_bin (by rintro rfl; cases ho) h2 (ha.2 hH) (hb.2 hH)⟩

/-- Operands may be replaced by terms with the same values that keep `WF`: the side conditions of the
node itself speak of the operands' values only. -/
theorem Ev.bin_congr {σ : Env} {H : Prop} {o : Op} {a b a' b' : SymExpr} {v : Int}
    (ha : ∀ x, Ev σ H a x → Ev σ H a' x) (hb : ∀ y, Ev σ H b y → Ev σ H b' y)
    (he : Ev σ H (.bin o a b) v) : Ev σ H (.bin o a' b') v := by
  obtain ⟨x, y, hx, hy, h0, rfl⟩ := he.bin_inv
  have ha := ha x hx
  have hb := hb y hy
  refine ⟨ev_bin_of ha.1 hb.1 h0,
    fun hH => ⟨ha.2 hH, hb.2 hH, fun ho y' hy' => ?_, fun ho x' y' hx' hy' => ?_⟩⟩
  · cases ev_inj hb.1 hy'; exact (he.2 hH).2.2.1 ho y hy.1
  · cases ev_inj ha.1 hx'; cases ev_inj hb.1 hy'; exact (he.2 hH).2.2.2 ho x y hx.1 hy.1

/-- `remove_common_factors`: the operands' values are divided by one common non-zero
factor, so the truncated quotient is unchanged; every factor that is left was there before (or is
a constant), so the side conditions are kept. -/
theorem rcf_full {σ : Env} {H : Prop} {l r : SymExpr} {v : Int} (he : Ev σ H (.bin .div l r) v) :
    Ev σ H (.bin .div (rcf l r).1 (rcf l r).2) v := by
  obtain ⟨x, y, hx, hy, hy0, rfl⟩ := he.bin_inv
  have hy0 : y ≠ 0 := hy0 (.inl rfl)
  have hR : ∀ t v, Ev σ H t v → ev σ t = .ok v := fun _ _ h => h.1
  have up := Ev.up (σ := σ) (H := H) (o := .mul) rfl (by decide)
  obtain ⟨lvs, hlvs, hpl⟩ := flatten_vals (o := .mul) rfl Ev.down hx
  obtain ⟨rvs, hrvs, hpr⟩ := flatten_vals (o := .mul) rfl Ev.down hy
  have hpl : prodL lvs = x := aggD_of_some hpl
  have hpr : prodL rvs = y := aggD_of_some hpr
  obtain ⟨lvs', rvs', k, h1, h2, h3, h4⟩ := cancel_spec hR hlvs hrvs
  -- the lists that are finally multiplied out have a common factor `k'`
  obtain ⟨q, hq, as, bs, k', ha, hb, rfl, rfl⟩ := rcf_ind (l := l) (r := r)
    (P := fun q => ∃ as bs k', Vals (Ev σ H) q.1 as ∧
      Vals (Ev σ H) q.2 bs ∧ x = k' * prodL as ∧ y = k' * prodL bs)
    ⟨lvs', rvs', k, h1, h2, by rw [← hpl, h3], by rw [← hpr, h4]⟩
    (by
      intro lc rc g hlc hrc hg hg1
      obtain ⟨as, m1, ha, hpa, hpa'⟩ := setFirstVal_spec hR (Ev.value σ _) (c' := lc.tdiv g) hlc h1
      obtain ⟨bs, m2, hb, hpb, hpb'⟩ := setFirstVal_spec hR (Ev.value σ _) (c' := rc.tdiv g) hrc h2
      obtain ⟨hgl, hgr⟩ := gcdI_spec hg hg1
      refine ⟨as, bs, k * g, ha, hb, ?_, ?_⟩
      · rw [← hpl, h3, hpa, hpa']
        conv => lhs; rw [← hgl]
        ac_rfl
      · rw [← hpr, h4, hpb, hpb']
        conv => lhs; rw [← hgr]
        ac_rfl)
  have hk : k' ≠ 0 := fun h0 => hy0 (by rw [h0, Int.zero_mul])
  have hb0 : prodL bs ≠ 0 := fun h0 => hy0 (by rw [h0, Int.mul_zero])
  have ha' := reduce_vals (o := .mul) rfl up (Ev.value σ _ 1) ha
  have hb' := reduce_vals (o := .mul) rfl up (Ev.value σ _ 1) hb
  rw [hq, show opF .div (k' * prodL as) (k' * prodL bs) = opF .div (prodL as) (prodL bs) from
    mul_tdiv_mul_cancel k' _ _ hk]
  exact ⟨ev_bin_of ha'.1 hb'.1 fun _ => hb0, fun hH => wf_bin (by decide) (by decide) (ha'.2 hH) (hb'.2 hH)⟩

/-- An operand of a `Broadcast` chain of value `v`: under `H` its value is `1` or `v`. -/
def BQ (σ : Env) (H : Prop) (v : Int) (t : SymExpr) (w : Int) : Prop :=
  Ev σ H t w ∧ (H → w = 1 ∨ w = v)

theorem bq_down {σ : Env} {H : Prop} {v : Int} (a b : SymExpr) (w : Int)
    (h : BQ σ H v (.bin .broadcast a b) w) :
    ∃ x y, BQ σ H v a x ∧ BQ σ H v b y ∧ w = opF .broadcast x y := by
  obtain ⟨hw, hwv⟩ := h
  obtain ⟨x, y, hx, hy, -, rfl⟩ := hw.bin_inv
  refine ⟨x, y, ⟨hx, fun hH => ?_⟩, ⟨hy, fun hH => ?_⟩, rfl⟩
  · have hc := (hw.2 hH).2.2.2 rfl x y hx.1 hy.1
    by_cases h1 : x = 1
    · exact .inl h1
    · exact (show opF .broadcast x y = x from bcastI_dom_left hc h1) ▸ hwv hH
  · have hc := (hw.2 hH).2.2.2 rfl x y hx.1 hy.1
    by_cases h1 : y = 1
    · exact .inl h1
    · exact (show opF .broadcast x y = y from bcastI_dom_right hc h1) ▸ hwv hH

theorem bq_up {σ : Env} {H : Prop} {v : Int} (a b : SymExpr) (x y : Int) (ha : BQ σ H v a x)
    (hb : BQ σ H v b y) : BQ σ H v (.bin .broadcast a b) (opF .broadcast x y) := by
  obtain ⟨⟨hx, hwa⟩, hxv⟩ := ha
  obtain ⟨⟨hy, hwb⟩, hyv⟩ := hb
  refine ⟨⟨ev_bin_of hx hy nofun, fun hH => ⟨hwa hH, hwb hH, nofun, fun _ x' y' hx' hy' => ?_⟩⟩,
    fun hH => ?_⟩
  · cases ev_inj hx hx'; cases ev_inj hy hy'
    have := hxv hH; have := hyv hH; omega
  · change bcastI x y = 1 ∨ bcastI x y = v
    rcases hxv hH with rfl | rfl
    · rw [bcastI_one_left]; exact hyv hH
    · rcases hyv hH with rfl | rfl
      · rw [bcastI_one_right]; exact .inr rfl
      · rw [bcastI_self]; exact .inr rfl

/-- What the fuel induction carries: the value is kept, and `WF` with it. -/
def Keeps (σ : Env) (f : SymExpr → SymExpr) : Prop := ∀ H e v, Ev σ H e v → Ev σ H (f e) v

/-- The five AC arms: flatten, canonicalise the leaves, sort, drop some operands (`post` keeps the
aggregate), fold back.  `R` is what is known of a term and its value: it goes down to the operands of
an `o`-node, through `f`, and up again. -/
theorem ac_arm {R : SymExpr → Int → Prop} {f : SymExpr → SymExpr} (hf : ∀ t v, R t v → R (f t) v)
    {o : Op} (ho : o.comm = true)
    (down : ∀ a b v, R (.bin o a b) v → ∃ x y, R a x ∧ R b y ∧ v = opF o x y)
    (up : ∀ a b x y, R a x → R b y → R (.bin o a b) (opF o x y)) {k : Int} (hk : R (.value k) k)
    (post : List SymExpr → List SymExpr)
    (hpost : ∀ ts vs, Vals R ts vs → ∃ vs', Vals R (post ts) vs' ∧ aggD o k vs' = aggD o k vs)
    {e : SymExpr} {v : Int} (he : R e v) :
    R (reduceOp o (.value k) (post (isort ((flatten o e).map f)))) v := by
  obtain ⟨vs, hvs, hagg⟩ := flatten_vals ho down he
  obtain ⟨ys, hys, hp⟩ := (hvs.map hf).perm (isort_perm _).symm
  obtain ⟨vs', hvs', hk'⟩ := hpost _ ys hys
  have hv : aggD o k vs' = v := hk'.trans (aggD_of_some (aggO_perm ho hp ▸ hagg))
  exact hv ▸ reduce_vals ho up hk hvs'

theorem idem_agg {σ : Env} {R : SymExpr → Int → Prop} (hR : ∀ t v, R t v → ev σ t = .ok v) {o : Op}
    (ho : o.idem = true) {k : Int} (ts : List SymExpr) (vs : List Int) (hvs : Vals R ts vs) :
    ∃ vs', Vals R (removeAdjEq ts) vs' ∧ aggD o k vs' = aggD o k vs :=
  have ⟨vs', h1, h2⟩ := removeAdjEq_agg hR ho hvs
  ⟨vs', h1, congrArg (·.getD k) h2⟩

/-- **C11.T4 (fuel form)**, together with the side conditions: for every fuel. -/
theorem canonF_full (σ : Env) : ∀ n, Keeps σ (canonF n) := by
  intro n
  induction n with
  | zero => exact fun _ _ _ h => h
  | succ n ih =>
    intro H e v he
    have hR : ∀ t v, Ev σ H t v → ev σ t = .ok v := fun _ _ h => h.1
    match e, he with
    | .value x, he => exact he
    | .var m p, he => exact he
    | .neg a, ⟨hv, hw⟩ =>
      obtain ⟨x, hx, rfl⟩ := ev_neg_ok.mp hv
      obtain ⟨h, hw⟩ := ih H a x ⟨hx, hw⟩
      simp only [canonF]
      split
      · rename_i y hy
        rw [hy] at h; cases ev_value.mp h
        split
        · exact Ev.value σ H _
        · exact ⟨ev_neg_of rfl, fun _ => trivial⟩
      · exact ⟨ev_neg_of h, hw⟩
    | .bin .mul a b, he =>
      exact ac_arm (ih H) (o := .mul) rfl Ev.down (Ev.up rfl (by decide)) (Ev.value σ H 1) id
        (fun _ vs h => ⟨vs, h, rfl⟩) he
    | .bin .add a b, he =>
      -- adjacent opposite terms keep the sum; an empty remainder stands for the sum `0`
      exact ac_arm (ih H) (o := .add) rfl Ev.down (Ev.up rfl (by decide)) (Ev.value σ H 0)
        removeAdjOpp (fun _ _ => removeAdjOppF_sum hR _) he
    | .bin .max a b, he =>
      exact ac_arm (ih H) (o := .max) rfl Ev.down (Ev.up rfl (by decide)) (Ev.value σ H _)
        removeAdjEq (idem_agg hR rfl) he
    | .bin .min a b, he =>
      exact ac_arm (ih H) (o := .min) rfl Ev.down (Ev.up rfl (by decide)) (Ev.value σ H _)
        removeAdjEq (idem_agg hR rfl) he
    | .bin .broadcast a b, he =>
      exact (ac_arm (R := BQ σ H v) (fun t w ht => ⟨ih H t w ht.1, ht.2⟩) (o := .broadcast) rfl bq_down
        bq_up ⟨Ev.value σ H 1, fun _ => .inl rfl⟩ removeAdjEq (idem_agg (fun _ _ h => h.1.1) rfl)
        ⟨he, fun _ => .inr rfl⟩).1
    | .bin .sub a b, he =>
      obtain ⟨x, y, hx, hy, -, rfl⟩ := he.bin_inv
      have ha := ih H a x hx
      have hb := ih H b y hy
      exact ih H _ _ ⟨ev_bin_of (o := .add) ha.1 (ev_neg_of hb.1) nofun,
        fun hH => wf_bin (by decide) (by decide) (ha.2 hH) (hb.2 hH)⟩
    | .bin .div a b, he => exact Ev.bin_congr (ih H a) (ih H b) he
    | .bin .divCeil a b, he => exact Ev.bin_congr (ih H a) (ih H b) he

theorem canonicalize_full (σ : Env) (e : SymExpr) (v : Int) (h : ev σ e = .ok v) :
    ev σ (canonicalize e) = .ok v ∧ (WF σ e → WF σ (canonicalize e)) :=
  canonF_full σ _ (WF σ e) e v ⟨h, id⟩

end RtenVerif.Sym
