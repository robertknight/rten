import RtenVerif.Lemmas.OnnxRefIndex
/-! Multidirectional broadcasting (ONNX `Broadcasting in ONNX`): the dimension rule `bdim`, the shape rule
`bshapeRev` on reversed shapes, and the operand index `bidx`. -/
namespace RtenVerif.OnnxRef

theorem bdim_self (d : Nat) : bdim d d = some d := if_pos rfl

theorem bdim_one_left (y : Nat) : bdim 1 y = some y := by
  unfold bdim
  by_cases h : 1 = y
  · rw [if_pos h, h]
  · rw [if_neg h, if_pos rfl]

theorem bdim_one_right (x : Nat) : bdim x 1 = some x := by
  unfold bdim
  by_cases h : x = 1
  · rw [if_pos h]
  · rw [if_neg h, if_neg h, if_pos rfl]

theorem bdim_of_ne_one (x y : Nat) (hx : x ≠ 1) (hy : y ≠ 1) : bdim x y = if x = y then some x else none := by
  unfold bdim
  rw [if_neg hx, if_neg hy]

theorem bdim_comm (x y : Nat) : bdim x y = bdim y x := by
  by_cases hx : x = 1
  · rw [hx, bdim_one_left, bdim_one_right]
  · by_cases hy : y = 1
    · rw [hy, bdim_one_left, bdim_one_right]
    · rw [bdim_of_ne_one x y hx hy, bdim_of_ne_one y x hy hx]
      by_cases h : x = y
      · rw [if_pos h, if_pos h.symm, h]
      · rw [if_neg h, if_neg (fun c => h c.symm)]

/-- An extent 1 is neutral on either side; among extents other than 1 both sides succeed exactly when all
three are equal. -/
theorem bdim_assoc (x y z : Nat) :
    (bdim x y).bind (fun d => bdim d z) = (bdim y z).bind (fun d => bdim x d) := by
  by_cases hx : x = 1
  · subst hx
    rw [bdim_one_left, Option.bind_some]
    cases bdim y z with
    | none => rfl
    | some d => exact (bdim_one_left d).symm
  by_cases hy : y = 1
  · subst hy
    rw [bdim_one_right, bdim_one_left, Option.bind_some, Option.bind_some]
  by_cases hz : z = 1
  · subst hz
    rw [bdim_one_right, Option.bind_some]
    cases bdim x y with
    | none => rfl
    | some d => exact bdim_one_right d
  rw [bdim_of_ne_one x y hx hy, bdim_of_ne_one y z hy hz]
  by_cases hxy : x = y
  · subst hxy
    rw [if_pos rfl, Option.bind_some, bdim_of_ne_one x z hx hz]
    by_cases hxz : x = z
    · rw [if_pos hxz, Option.bind_some, bdim_self]
    · rw [if_neg hxz]; rfl
  · rw [if_neg hxy]
    by_cases hyz : y = z
    · rw [if_pos hyz, Option.bind_some, bdim_of_ne_one x y hx hy, if_neg hxy]; rfl
    · rw [if_neg hyz]; rfl

theorem bshapeRev_nil_right (a : List Nat) : bshapeRev a [] = some a := by
  cases a <;> rfl

theorem bshapeRev_cons_cons (x y : Nat) (xs ys : List Nat) :
    bshapeRev (x :: xs) (y :: ys) =
      (bdim x y).bind (fun d => (bshapeRev xs ys).bind (fun r => some (d :: r))) := by
  simp only [bshapeRev]
  cases bdim x y <;> cases bshapeRev xs ys <;> rfl

theorem bshapeRev_self : ∀ l : List Nat, bshapeRev l l = some l
  | [] => rfl
  | d :: ds => by rw [bshapeRev_cons_cons, bdim_self, bshapeRev_self ds]; rfl

theorem bshapeRev_comm : ∀ (a b : List Nat), bshapeRev a b = bshapeRev b a
  | [], b => (bshapeRev_nil_right b).symm
  | _ :: _, [] => rfl
  | x :: xs, y :: ys => by
    rw [bshapeRev_cons_cons, bshapeRev_cons_cons, bdim_comm x y, bshapeRev_comm xs ys]

/-- Broadcasting a head-and-tail result against `z :: zs` works on heads and tails separately (the two
partial results may be computed in either order because `Option` is commutative). -/
theorem bind_cons_bshapeRev_right (od : Option Nat) (or : Option (List Nat)) (z : Nat) (zs : List Nat) :
    (od.bind fun d => or.bind fun r => some (d :: r)).bind (fun s => bshapeRev s (z :: zs)) =
      (od.bind (bdim · z)).bind fun d => (or.bind (bshapeRev · zs)).bind fun r => some (d :: r) := by
  cases od with
  | none => rfl
  | some d =>
    cases or with
    | none => simp only [Option.bind_some, Option.bind_none]; cases bdim d z <;> rfl
    | some r => simp only [Option.bind_some, bshapeRev_cons_cons]

theorem bind_cons_bshapeRev_left (od : Option Nat) (or : Option (List Nat)) (x : Nat) (xs : List Nat) :
    (od.bind fun d => or.bind fun r => some (d :: r)).bind (fun s => bshapeRev (x :: xs) s) =
      (od.bind (bdim x ·)).bind fun d => (or.bind (bshapeRev xs ·)).bind fun r => some (d :: r) := by
  cases od with
  | none => rfl
  | some d =>
    cases or with
    | none => simp only [Option.bind_some, Option.bind_none]; cases bdim x d <;> rfl
    | some r => simp only [Option.bind_some, bshapeRev_cons_cons]

theorem bshapeRev_assoc : ∀ (a b c : List Nat),
    (bshapeRev a b).bind (fun s => bshapeRev s c) = (bshapeRev b c).bind (fun s => bshapeRev a s)
  | [], b, c => by
    show bshapeRev b c = _
    cases bshapeRev b c <;> rfl
  | x :: xs, [], c => rfl
  | x :: xs, y :: ys, [] => by
    simp only [bshapeRev_nil_right, Option.bind_some]
    cases bshapeRev (x :: xs) (y :: ys) <;> rfl
  | x :: xs, y :: ys, z :: zs => by
    rw [bshapeRev_cons_cons x y, bshapeRev_cons_cons y z, bind_cons_bshapeRev_right, bind_cons_bshapeRev_left,
      bdim_assoc x y z, bshapeRev_assoc xs ys zs]

theorem bshape_self (s : List Nat) : bshape s s = some s := by
  simp [bshape, bshapeRev_self]

theorem bshape_nil_left (s : List Nat) : bshape [] s = some s := by
  simp [bshape, bshapeRev]

theorem bidx_self (s idx : List Nat) (hv : validIdx s idx = true) : bidx s idx = idx := by
  obtain ⟨hl, hb⟩ := (validIdx_iff _ _).mp hv
  have hlen : (List.zipWith (fun d i => if d = 1 then 0 else i) s idx).length = idx.length := by
    rw [List.length_zipWith, hl, Nat.min_self]
  rw [bidx, hl, Nat.sub_self, List.drop_zero]
  apply list_ext_getN _ _ hlen
  intro k hk
  have hk' : k < s.length := by rw [hlen, hl] at hk; exact hk
  rw [getN_zipWith _ _ _ _ hk' (hl ▸ hk')]
  -- an extent 1 pins the coordinate to 0, which a valid index has there anyway
  by_cases h1 : getN s k = 1
  · have := hb k hk'
    rw [h1] at this
    rw [if_pos h1, Nat.lt_one_iff.mp this]
  · rw [if_neg h1]

end RtenVerif.OnnxRef
