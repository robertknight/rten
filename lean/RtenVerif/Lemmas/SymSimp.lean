import RtenVerif.Lemmas.SymStep

/-! `simplify_canonical` preserves evaluation under the side conditions `Guards` (`simpC_spec`, C11).
`simplify` itself is in `Lemmas/SymWFSimp.lean`. -/
namespace RtenVerif.Sym

/-- Side conditions of the two rewrite arms that are not valid for all integers, stated at
the node where `simplify_canonical` applies them (`e` is the canonicalised expression):

* `Broadcast(a, b)`: the operands' values are inside the constructor's domain — equal, or
  one of them `1`;
* `DivCeil(a, b)` whose simplified dividend is again a `DivCeil(_, c1)`: both divisors are
  positive — the condition in the code comment ("if b > 0 and c > 0"), which the code only
  tests when both divisors are constants. -/
def Guards (A : Arith) (σ : Env) : SymExpr → Prop
  | .bin o a b =>
    Guards A σ a ∧ Guards A σ b ∧
    (o = .broadcast → ∀ x y, ev σ a = .ok x → ev σ b = .ok y → (x = y ∨ x = 1 ∨ y = 1)) ∧
    (o = .divCeil → ∀ l' c1 r, simpC A a = some (.bin .divCeil l' c1) → simpC A b = some r →
      ∀ v1 v2, ev σ c1 = .ok v1 → ev σ r = .ok v2 → 0 < v1 ∧ 0 < v2)
  | .neg a => Guards A σ a
  | _ => True

theorem simpC_neg_some {A : Arith} {a e' : SymExpr} :
    simpC A (.neg a) = some e' ↔ ∃ l, simpC A a = some l ∧ stepNeg A l = some e' := by
  simp only [simpC]; cases simpC A a <;> simp

theorem simpC_bin_some {A : Arith} {o : Op} {a b e' : SymExpr} :
    simpC A (.bin o a b) = some e' ↔
      ∃ l r, simpC A a = some l ∧ simpC A b = some r ∧ stepBin A o l r = some e' := by
  simp only [simpC]; cases simpC A a <;> cases simpC A b <;> simp

theorem simpC_spec {A : Arith} (hA : Exact A) (σ : Env) (H : Prop) :
    ∀ (e e' : SymExpr) (v : Int), Guards A σ e → simpC A e = some e' → Ev σ H e v → Ev σ H e' v := by
  intro e
  induction e with
  | value x => intro e' v _ h hv; cases h; exact hv
  | var n p => intro e' v _ h hv; cases h; exact hv
  | neg a ih =>
    intro e' v hg h hv
    obtain ⟨l, hl, h⟩ := simpC_neg_some.mp h
    obtain ⟨x, hx, rfl⟩ := ev_neg_ok.mp hv.1
    have hl' := ih l x hg hl ⟨hx, hv.2⟩
    exact stepNeg_spec hA h ⟨ev_neg_of hl'.1, hl'.2⟩
  | bin o a b iha ihb =>
    intro e' v ⟨hga, hgb, hgB, hgC⟩ h hv
    obtain ⟨l, r, hl, hr, h⟩ := simpC_bin_some.mp h
    obtain ⟨x, y, hx, hy, -, -⟩ := hv.bin_inv
    have hl' := iha l x hga hl hx
    have hr' := ihb r y hgb hr hy
    refine stepBin_spec hA h (fun ho x' y' hx' hy' => ?_) (fun ho l' c1 hleq => ?_)
      (Ev.bin_congr (fun x => iha l x hga hl) (fun y => ihb r y hgb hr) hv)
    · cases ev_inj hl'.1 hx'; cases ev_inj hr'.1 hy'; exact hgB ho x y hx.1 hy.1
    · subst hleq; exact hgC ho l' c1 r hl hr

theorem simpC_sound {A : Arith} (hA : Exact A) (σ : Env) (e e' : SymExpr) (v : Int)
    (hg : Guards A σ e) (h : simpC A e = some e') (hv : ev σ e = .ok v) : ev σ e' = .ok v :=
  (simpC_spec hA σ False e e' v hg h ⟨hv, nofun⟩).1

def guardsB (A : Arith) (σ : Env) : SymExpr → Bool
  | .bin o a b =>
    guardsB A σ a && guardsB A σ b &&
      (o != .broadcast ||
        match ev σ a, ev σ b with
        | .ok x, .ok y => (x == y || x == 1 || y == 1)
        | _, _ => true) &&
      (o != .divCeil ||
        match simpC A a, simpC A b with
        | some (.bin .divCeil _ c1), some r =>
          (match ev σ c1, ev σ r with
           | .ok v1, .ok v2 => decide (0 < v1) && decide (0 < v2)
           | _, _ => true)
        | _, _ => true)
  | .neg a => guardsB A σ a
  | _ => true

theorem guardsB_sound (A : Arith) (σ : Env) :
    ∀ e : SymExpr, guardsB A σ e = true → Guards A σ e := by
  intro e
  induction e with
  | value x => exact fun _ => trivial
  | var n p => exact fun _ => trivial
  | neg a ih => exact ih
  | bin o a b iha ihb =>
    intro h
    simp only [guardsB, Bool.and_eq_true, Bool.or_eq_true, bne_iff_ne, ne_eq] at h
    obtain ⟨⟨⟨ha, hb⟩, hB⟩, hC⟩ := h
    refine ⟨iha ha, ihb hb, fun ho x y hx hy => ?_, fun ho l' c1 r hl hr v1 v2 hv1 hv2 => ?_⟩
    · simpa [ho, hx, hy, or_assoc] using hB
    · simpa [ho, hl, hr, hv1, hv2] using hC

end RtenVerif.Sym
