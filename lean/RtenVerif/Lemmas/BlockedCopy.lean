/-
Lemmas for the blocked copy model (C14 D6): `range_chunks` / `range_chunks_exact` partition their
range; the loop nest of `copy_blocked` visits every index pair of the matrix and only those, so its
sequential writes, each carrying the element of its own slot, fill the destination in row-major order
(`foldSet_written` of `Lemmas/ListBasics.lean`).
-/
import RtenVerif.Lemmas.ListBasics
import RtenVerif.Model.BlockedCopy
namespace RtenVerif.BlockedCopy

theorem mem_rangeList (p : Nat × Nat) (i : Nat) : i ∈ rangeList p ↔ p.1 ≤ i ∧ i < p.2 := by
  unfold rangeList
  simp only [List.mem_map, List.mem_range]
  constructor
  · rintro ⟨k, hk, rfl⟩; exact ⟨Nat.le_add_right _ _, Nat.add_lt_of_lt_sub' hk⟩
  · intro h; exact ⟨i - p.1, Nat.sub_lt_sub_right h.1 h.2, Nat.add_sub_cancel' h.1⟩

theorem rangeChunks_partition (c : Nat) (hc : 0 < c) (i : Nat) : ∀ (fuel s e : Nat), e - s ≤ fuel →
    ((∃ ch ∈ rangeChunks c fuel s e, ch.1 ≤ i ∧ i < ch.2) ↔ s ≤ i ∧ i < e)
  | 0, s, e, hf => iff_of_false (by simp [rangeChunks]) (by omega)
  | fuel + 1, s, e, hf => by
    unfold rangeChunks
    split
    · simp only [List.mem_cons, exists_eq_or_imp]
      rw [rangeChunks_partition c hc i fuel (min (s + c) e) e (by omega)]
      omega
    · exact iff_of_false (by simp) (by omega)

theorem rangeChunksExact_partition (c i : Nat) : ∀ (fuel s e : Nat),
    ((∃ t ∈ (rangeChunksExact c fuel s e).1, t.1 ≤ i ∧ i < t.1 + c) ∨
      ((rangeChunksExact c fuel s e).2.1 ≤ i ∧ i < (rangeChunksExact c fuel s e).2.2)) ↔ s ≤ i ∧ i < e
  | 0, s, e => by simp [rangeChunksExact]
  | fuel + 1, s, e => by
    unfold rangeChunksExact
    split
    · simp only [List.mem_cons, exists_eq_or_imp]
      rw [or_assoc, rangeChunksExact_partition c i fuel (s + c) e]
      omega
    · simp

/-- Full tiles, the narrow edge to their right and the short rows below cover the block, by the two
partitions. -/
theorem mem_blockVisits (T : Nat) (rb cb : Nat × Nat) (y x : Nat) :
    (y, x) ∈ blockVisits T rb cb ↔ (rb.1 ≤ y ∧ y < rb.2) ∧ (cb.1 ≤ x ∧ x < cb.2) := by
  have hR := rangeChunksExact_partition T y (rb.2 - rb.1) rb.1 rb.2
  have hC := rangeChunksExact_partition T x (cb.2 - cb.1) cb.1 cb.2
  simp only [blockVisits, List.mem_append, List.mem_flatMap, List.mem_map, List.mem_range,
    mem_rangeList, Prod.mk.injEq]
  constructor
  · rintro (⟨rt, hrt, ⟨ct, hct, y', hy', x', hx', rfl, rfl⟩ | ⟨y', hy', x', hx', rfl, rfl⟩⟩ |
      ⟨y', hy', x', hx', rfl, rfl⟩)
    · exact ⟨hR.mp (.inl ⟨rt, hrt, Nat.le_add_right _ _, Nat.add_lt_add_left hy' _⟩),
        hC.mp (.inl ⟨ct, hct, Nat.le_add_right _ _, Nat.add_lt_add_left hx' _⟩)⟩
    · exact ⟨hR.mp (.inl ⟨rt, hrt, Nat.le_add_right _ _, Nat.add_lt_add_left hy' _⟩), hC.mp (.inr hx')⟩
    · exact ⟨hR.mp (.inr hy'), hx'⟩
  · rintro ⟨hy, hx⟩
    rcases hR.mpr hy with ⟨rt, hrt, h1, h2⟩ | h
    · refine .inl ⟨rt, hrt, ?_⟩
      rcases hC.mpr hx with ⟨ct, hct, h3, h4⟩ | h'
      · exact .inl ⟨ct, hct, y - rt.1, Nat.sub_lt_left_of_lt_add h1 h2, x - ct.1,
          Nat.sub_lt_left_of_lt_add h3 h4, Nat.add_sub_cancel' h1, Nat.add_sub_cancel' h3⟩
      · exact .inr ⟨y - rt.1, Nat.sub_lt_left_of_lt_add h1 h2, x, h', Nat.add_sub_cancel' h1, rfl⟩
    · exact .inr ⟨y, h, x, hx, rfl, rfl⟩

theorem mem_blockedVisits (rows cols B T : Nat) (hB : 0 < B) (y x : Nat) :
    (y, x) ∈ blockedVisits rows cols B T ↔ y < rows ∧ x < cols := by
  have hr := rangeChunks_partition B hB y rows 0 rows (Nat.le_refl _)
  have hc := rangeChunks_partition B hB x cols 0 cols (Nat.le_refl _)
  simp only [Nat.zero_le, true_and] at hr hc
  rw [← hr, ← hc]
  simp only [blockedVisits, List.mem_flatMap, mem_blockVisits]
  constructor
  · rintro ⟨rb, hrb, cb, hcb, hy, hx⟩; exact ⟨⟨rb, hrb, hy⟩, ⟨cb, hcb, hx⟩⟩
  · rintro ⟨⟨rb, hrb, hy⟩, ⟨cb, hcb, hx⟩⟩; exact ⟨rb, hrb, cb, hcb, hy, hx⟩

/-- `T = 0` is covered: a tile size of 0 leaves everything to the short-rows loop. -/
theorem blockedCopy_row_major {α : Type} (rows cols B T : Nat) (hB : 0 < B)
    (src : Nat → Nat → α) (dest0 : List α) (hlen : dest0.length = rows * cols) :
    blockedCopy rows cols B T src dest0 =
      (List.range (rows * cols)).map (fun p => src (p / cols) (p % cols)) := by
  unfold blockedCopy
  apply List.ext_getElem?
  intro i
  by_cases hi : i < rows * cols
  · have hc : 0 < cols := Nat.pos_of_ne_zero (fun h => by simp [h] at hi)
    rw [List.getElem?_map, List.getElem?_range hi, Option.map_some]
    refine foldSet_written _ (fun v : Nat × Nat => v.1 * cols + v.2) (fun v => src v.1 v.2) dest0 i _
      (hlen ▸ hi) ?_ (.inr ⟨(i / cols, i % cols), ?_, ?_⟩)
    · intro v hv hp
      have hb := ((mem_blockedVisits rows cols B T hB v.1 v.2).mp hv).2
      rw [← hp]
      show src v.1 v.2 = src ((v.1 * cols + v.2) / cols) ((v.1 * cols + v.2) % cols)
      rw [(mul_add_div_mod v.1 hb).1, (mul_add_div_mod v.1 hb).2]
    · exact (mem_blockedVisits rows cols B T hB _ _).mpr
        ⟨(Nat.div_lt_iff_lt_mul hc).mpr hi, Nat.mod_lt _ hc⟩
    · simp only; rw [Nat.mul_comm]; exact Nat.div_add_mod i cols
  · rw [List.getElem?_eq_none_iff.mpr (by rw [foldSet_length, hlen]; omega),
      List.getElem?_eq_none_iff.mpr (by rw [List.length_map, List.length_range]; omega)]

end RtenVerif.BlockedCopy
