import RtenVerif.Model.Ctc
import RtenVerif.Lemmas.InsertionSort

/-! The top-k selection of one beam step (C39), for every carrier: the selection loop keeps a
duplicate-free part of the candidates of non-zero probability, as many of them as fit, and all
of them when all fit. -/
namespace RtenVerif.Ctc

variable {α : Type} (ops : Ops α) (B L : Nat)

def Ext.key {α} (e : Ext α) : Nat × Nat := (e.index, e.label)

theorem mem_candidates (n : Nat) (t : Tabs α) (e : Ext α)
    (h : e ∈ candidates ops L n t) :
    e.index < n ∧ e.label < L ∧ e.prob = ops.add (t.nb e.index e.label) (t.nnb e.index e.label) := by
  simp only [candidates, List.mem_flatMap, List.mem_map, List.mem_range] at h
  obtain ⟨bi, hbi, l, hl, rfl⟩ := h
  exact ⟨hbi, hl, rfl⟩

theorem mem_candidates_of (n : Nat) (t : Tabs α) (i l : Nat) (hi : i < n)
    (hl : l < L) : (⟨i, l, ops.add (t.nb i l) (t.nnb i l)⟩ : Ext α) ∈ candidates ops L n t := by
  simp only [candidates, List.mem_flatMap, List.mem_map, List.mem_range]
  exact ⟨i, hi, l, hl, rfl⟩

theorem candidates_keys_nodup (n : Nat) (t : Tabs α) :
    ((candidates ops L n t).map Ext.key).Nodup := by
  unfold candidates List.Nodup
  rw [List.pairwise_map, List.pairwise_flatMap]
  constructor
  · intro bi _
    rw [List.pairwise_map]
    exact (List.nodup_range (n := L)).imp fun hab hk => hab (congrArg Prod.snd hk)
  · refine (List.nodup_range (n := n)).imp fun hab x hx y hy hk => ?_
    simp only [List.mem_map] at hx hy
    obtain ⟨_, _, rfl⟩ := hx
    obtain ⟨_, _, rfl⟩ := hy
    exact hab (congrArg Prod.fst hk)

theorem insertDesc_eq (x : Ext α) (l : List (Ext α)) :
    insertDesc ops x l = Overlap.insertBy (fun a b => !ops.sortGe b.prob a.prob) x l := by
  induction l with
  | nil => rfl
  | cons y ys ih =>
    rw [insertDesc, Overlap.insertBy, ih]
    cases ops.sortGe y.prob x.prob <;> rfl

theorem sortDesc_eq (l : List (Ext α)) :
    sortDesc ops l = Overlap.isort (fun a b => !ops.sortGe b.prob a.prob) l.reverse := by
  rw [sortDesc, ← List.foldr_reverse]
  induction l.reverse with
  | nil => rfl
  | cons x xs ih => rw [List.foldr_cons, ih, insertDesc_eq, Overlap.isort]

theorem sortDesc_perm (l : List (Ext α)) : (sortDesc ops l).Perm l :=
  sortDesc_eq ops l ▸ (Overlap.isort_perm _ _).trans (List.reverse_perm l)

theorem sortDesc_length (l : List (Ext α)) : (sortDesc ops l).length = l.length :=
  (sortDesc_perm ops l).length_eq

theorem pushExt_keeps (topk : List (Ext α)) (c : Ext α) (h : topk.length ≤ B) :
    ∃ ev, (pushExt ops B topk c ++ ev).Perm (topk ++ [c].filter fun e => !ops.isZero e.prob) ∧
      (pushExt ops B topk c).length =
        min B (topk.length + ([c].filter fun e => !ops.isZero e.prob).length) := by
  unfold pushExt
  cases hz : ops.isZero c.prob with
  | true => exact ⟨[], by simp [hz], by simpa [hz] using (Nat.min_eq_right h).symm⟩
  | false =>
    have hf : [c].filter (fun e => !ops.isZero e.prob) = [c] := by simp [hz]
    rw [hf, if_neg Bool.false_ne_true]
    split
    · refine ⟨(sortDesc ops (topk ++ [c])).drop B, ?_, ?_⟩
      · rw [List.take_append_drop]; exact sortDesc_perm ops _
      · rw [List.length_take, sortDesc_length, List.length_append]
    · next hc =>
      have hB : topk.length = B :=
        Nat.le_antisymm h (Nat.le_of_not_lt fun hlt => hc (by simp [hlt]))
      exact ⟨[c], List.Perm.refl _, by rw [hB, Nat.min_eq_left (Nat.le_add_right B _)]⟩

theorem min_min_add (B a n : Nat) : min B (min B a + n) = min B (a + n) := by
  by_cases h : a ≤ B
  · rw [Nat.min_eq_right h]
  · have hB : B ≤ a := Nat.le_of_not_le h
    rw [Nat.min_eq_left hB, Nat.min_eq_left (Nat.le_add_right B n),
      Nat.min_eq_left (Nat.le_trans hB (Nat.le_add_right a n))]

/-- `ev` is what the selection loop drops.  Duplicate-freeness, membership, the length and
completeness below are all read off this. -/
theorem foldl_pushExt_keeps (cands : List (Ext α)) : ∀ topk : List (Ext α), topk.length ≤ B →
    ∃ ev, (cands.foldl (pushExt ops B) topk ++ ev).Perm
        (topk ++ cands.filter fun e => !ops.isZero e.prob) ∧
      (cands.foldl (pushExt ops B) topk).length =
        min B (topk.length + (cands.filter fun e => !ops.isZero e.prob).length) := by
  induction cands with
  | nil => intro topk h; exact ⟨[], by simp, by simpa using (Nat.min_eq_right h).symm⟩
  | cons c cs ih =>
    intro topk h
    obtain ⟨ev1, p1, l1⟩ := pushExt_keeps ops B topk c h
    obtain ⟨ev2, p2, l2⟩ := ih _ (l1 ▸ Nat.min_le_left _ _)
    refine ⟨ev2 ++ ev1, ?_, ?_⟩
    · rw [List.foldl_cons, ← List.append_assoc, show c :: cs = [c] ++ cs from rfl,
        List.filter_append, ← List.append_assoc]
      refine (p2.append_right ev1).trans (List.Perm.trans ?_ (p1.append_right _))
      rw [List.append_assoc, List.append_assoc]
      exact List.Perm.append_left _ List.perm_append_comm
    · rw [List.foldl_cons, l2, l1, min_min_add, Nat.add_assoc, ← List.length_append,
        ← List.filter_append]
      rfl

theorem foldl_pushExt_length (cands : List (Ext α)) :
    (cands.foldl (pushExt ops B) []).length =
      min B (cands.filter (fun e => !ops.isZero e.prob)).length := by
  obtain ⟨_, _, hl⟩ := foldl_pushExt_keeps ops B cands [] (Nat.zero_le _)
  simpa using hl

theorem mem_foldl_pushExt (cands : List (Ext α)) (e : Ext α)
    (he : e ∈ cands.foldl (pushExt ops B) []) : e ∈ cands ∧ ops.isZero e.prob = false := by
  obtain ⟨ev, hp, _⟩ := foldl_pushExt_keeps ops B cands [] (Nat.zero_le _)
  simpa using hp.subset (List.mem_append_left ev he)

theorem foldl_pushExt_nodup (cands : List (Ext α)) (hnd : (cands.map Ext.key).Nodup) :
    ((cands.foldl (pushExt ops B) []).map Ext.key).Nodup := by
  obtain ⟨ev, hp, _⟩ := foldl_pushExt_keeps ops B cands [] (Nat.zero_le _)
  have := ((hp.map Ext.key).nodup_iff).mpr (((List.filter_sublist (l := cands)).map _).nodup hnd)
  rw [List.map_append] at this
  exact (List.nodup_append.mp this).1

theorem foldl_pushExt_complete (cands : List (Ext α))
    (hlen : (cands.filter (fun e => !ops.isZero e.prob)).length ≤ B) :
    ∀ e ∈ cands.filter (fun e => !ops.isZero e.prob), e ∈ cands.foldl (pushExt ops B) [] := by
  obtain ⟨ev, hp, hl⟩ := foldl_pushExt_keeps ops B cands [] (Nat.zero_le _)
  have hev : ev = [] := List.eq_nil_of_length_eq_zero (by
    have := hp.length_eq
    rw [List.length_append, hl] at this
    simp only [List.length_nil, Nat.zero_add, List.nil_append, Nat.min_eq_right hlen] at this
    omega)
  intro e he
  simpa [hev] using hp.symm.subset (by simpa using he)

theorem selectTopk_eq (cands : List (Ext α)) :
    selectTopk ops B cands = if (cands.foldl (pushExt ops B) []).isEmpty then [⟨0, 0, ops.zero⟩]
      else cands.foldl (pushExt ops B) [] := rfl

theorem selectTopk_ne_nil (cands : List (Ext α)) :
    selectTopk ops B cands ≠ [] := by
  rw [selectTopk_eq]
  split
  · simp
  · rename_i h
    intro hc; rw [hc] at h; simp at h

theorem selectTopk_length_le (cands : List (Ext α)) :
    (selectTopk ops B cands).length ≤ max B 1 := by
  rw [selectTopk_eq]
  split
  · exact Nat.le_max_right B 1
  · rw [foldl_pushExt_length ops B cands]
    exact Nat.le_trans (Nat.min_le_left _ _) (Nat.le_max_left _ _)

theorem selectTopk_mem (n : Nat) (t : Tabs α) (e : Ext α)
    (he : e ∈ selectTopk ops B (candidates ops L n t)) :
    (e.index = 0 ∧ e.label = 0) ∨ (e ∈ candidates ops L n t ∧ ops.isZero e.prob = false) := by
  rw [selectTopk_eq] at he
  split at he
  · rw [List.mem_singleton.mp he]; exact Or.inl ⟨rfl, rfl⟩
  · exact Or.inr (mem_foldl_pushExt ops B _ e he)

theorem mem_selectTopk_of_mem (cands : List (Ext α)) (e : Ext α)
    (he : e ∈ cands.foldl (pushExt ops B) []) : e ∈ selectTopk ops B cands := by
  rw [selectTopk_eq]
  split
  · rename_i h
    rw [List.isEmpty_iff.mp h] at he; cases he
  · exact he

end RtenVerif.Ctc
