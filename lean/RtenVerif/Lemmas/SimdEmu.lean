import RtenVerif.Model.SimdLoop

/-! `movemask8` and the emulated masked load/store loops: whatever the encoding of the mask,
the scalar loop tests lane `i`'s mask value (core Lean only). -/
namespace RtenVerif.SimdLoop

theorem movemask8_testBit (m : List Bool) (j : Nat) : (movemask8 m).testBit j = m.getD j false := by
  induction m generalizing j with
  | nil => simp [movemask8]
  | cons b bs ih =>
    cases j with
    | zero =>
      simp only [movemask8, Nat.testBit_zero, List.getD_cons_zero]
      cases b <;> simp <;> omega
    | succ j =>
      rw [Nat.testBit_succ, List.getD_cons_succ, ← ih j, movemask8]
      congr 1
      cases b <;> simp <;> omega

theorem bytesOf16_getD (m : List Bool) (i : Nat) :
    (bytesOf16 m).getD (i * 2 + 1) false = m.getD i false ∧
    (bytesOf16 m).getD (i * 2) false = m.getD i false := by
  induction m generalizing i with
  | nil => simp [bytesOf16]
  | cons b bs ih =>
    cases i with
    | zero => simp [bytesOf16]
    | succ i =>
      rw [Nat.succ_mul]
      exact ih i

theorem emuBit_eq (k : EmuKind) (m : List Bool) (i : Nat) : emuBit k m i = m.getD i false := by
  cases k with
  | direct => rfl
  | avx2x8 => exact movemask8_testBit m i
  | avx2x16 => exact (movemask8_testBit _ _).trans (bytesOf16_getD m i).1

theorem emuAccess_getD (m : List Bool) (off : Nat) :
    emuAccess m.length (fun i => m.getD i false) off = maskIdx off m := by
  induction m generalizing off with
  | nil => rfl
  | cons b bs ih =>
    have := ih (off + 1)
    unfold emuAccess at this ⊢
    rw [List.length_cons, List.range_succ_eq_map, List.filterMap_cons, List.filterMap_map, maskIdx,
      ← this]
    simp only [Function.comp_def, List.getD_cons_succ, List.getD_cons_zero, Nat.succ_eq_add_one,
      Nat.add_zero, Nat.add_assoc, Nat.add_comm 1]
    cases b <;> rfl

theorem emuStore_succ {α : Type} (zero : α) (bit : Nat → Bool) (off : Nat) (xs : List α)
    (n : Nat) (mem : Nat → α) :
    emuStore zero mem (n + 1) bit off xs =
      if bit n then (fun a => if a = off + n then xs.getD n zero else emuStore zero mem n bit off xs a)
      else emuStore zero mem n bit off xs := by
  simp only [emuStore, List.range_succ, List.foldl_append, List.foldl_cons, List.foldl_nil]

theorem emuStore_spec {α : Type} (zero : α) (bit : Nat → Bool) (off : Nat) (xs : List α)
    (lanes : Nat) (mem : Nat → α) (a : Nat) :
    emuStore zero mem lanes bit off xs a =
      if off ≤ a ∧ a < off + lanes ∧ bit (a - off) = true then xs.getD (a - off) zero else mem a := by
  induction lanes with
  | zero => rw [if_neg (by omega)]; rfl
  | succ n ih =>
    -- iteration `n` writes cell `off + n` iff `bit n`; every other cell is as after `n` iterations
    rw [emuStore_succ]
    by_cases ha : a = off + n
    · subst ha
      have hn : off + n - off = n := Nat.add_sub_cancel_left ..
      cases hb : bit n <;> simp [ih, hn, hb]
    · have hlt : a < off + (n + 1) ↔ a < off + n := by omega
      simp only [hlt, ← ih]
      cases bit n <;> simp [ha]

end RtenVerif.SimdLoop
