import RtenVerif.Model.Overlap

/-! Insertion sort by a Boolean comparator, on `Overlap.insertBy` / `Overlap.isort`.  The models that
sort with the same function (`Poly`, `FillIter`, `OnnxRef`, `Filter`, and `Ctc` on the reversed list) state
in their own lemma files which comparator theirs is (`isort_eq`, `isortE_eq`, `sortBy_eq`, `sortDesc_eq`)
and take their facts from here.

Sortedness is stated for any relation `R` that the comparator decides (`le a b = true → R a b`,
`le a b = false → R b a`): a total `le` with `R a b := le a b = true`, a strict `before` with
`R a b := before b a = false`, a key order; `R` need be transitive only on a set `S` holding the input. -/
namespace RtenVerif.Overlap

variable {α : Type}

theorem insertBy_perm (le : α → α → Bool) (x : α) (l : List α) :
    (insertBy le x l).Perm (x :: l) := by
  induction l with
  | nil => exact List.Perm.refl _
  | cons y ys ih =>
    simp only [insertBy]
    split
    · exact List.Perm.refl _
    · exact ((List.Perm.cons y ih).trans (List.Perm.swap x y ys))

theorem isort_perm (le : α → α → Bool) (l : List α) : (isort le l).Perm l := by
  induction l with
  | nil => exact List.Perm.refl _
  | cons x xs ih => exact (insertBy_perm le x _).trans (List.Perm.cons x ih)

theorem mem_isort (le : α → α → Bool) {y : α} {l : List α} : y ∈ isort le l ↔ y ∈ l :=
  (isort_perm le l).mem_iff

theorem length_isort (le : α → α → Bool) (l : List α) : (isort le l).length = l.length :=
  (isort_perm le l).length_eq

section sorted
variable (le : α → α → Bool) (R : α → α → Prop) (S : α → Prop)
  (hle : ∀ a b, le a b = true → R a b) (hnle : ∀ a b, le a b = false → R b a)
  (htrans : ∀ a b c, S a → S b → S c → R a b → R b c → R a c)
include hle hnle htrans

theorem insertBy_pairwise (x : α) (l : List α) (hx : S x) (hl : ∀ y ∈ l, S y) (hs : l.Pairwise R) :
    (insertBy le x l).Pairwise R := by
  induction l with
  | nil => simp [insertBy]
  | cons y ys ih =>
    obtain ⟨hy, hys⟩ := List.pairwise_cons.mp hs
    have hS := List.forall_mem_cons.mp hl
    simp only [insertBy]
    split
    · next h =>
      -- `x` goes in front: it stands before `y`, hence before everything `y` stands before
      refine List.pairwise_cons.mpr ⟨fun z hz => ?_, hs⟩
      rcases List.mem_cons.mp hz with rfl | hz
      · exact hle _ _ h
      · exact htrans x y z hx hS.1 (hS.2 z hz) (hle _ _ h) (hy z hz)
    · next h =>
      -- `y` stays in front: `x` does not go before it, and the rest is `x` inserted into `ys`
      refine List.pairwise_cons.mpr ⟨fun z hz => ?_, ih hS.2 hys⟩
      rcases List.mem_cons.mp ((insertBy_perm le x ys).mem_iff.mp hz) with rfl | hz
      · exact hnle _ _ (Bool.eq_false_iff.mpr h)
      · exact hy z hz

theorem isort_pairwise (l : List α) (hl : ∀ y ∈ l, S y) : (isort le l).Pairwise R := by
  induction l with
  | nil => exact List.Pairwise.nil
  | cons x xs ih =>
    have hS := List.forall_mem_cons.mp hl
    exact insertBy_pairwise le R S hle hnle htrans x _ hS.1
      (fun y hy => hS.2 y ((mem_isort le).mp hy)) (ih hS.2)

end sorted

theorem map_insertBy {β : Type} (f : α → β) (le : β → β → Bool) (x : α) (l : List α) :
    (insertBy (fun a b => le (f a) (f b)) x l).map f = insertBy le (f x) (l.map f) := by
  induction l with
  | nil => rfl
  | cons y ys ih =>
    simp only [insertBy, List.map_cons]
    split <;> simp [ih]

theorem map_isort {β : Type} (f : α → β) (le : β → β → Bool) (l : List α) :
    (isort (fun a b => le (f a) (f b)) l).map f = isort le (l.map f) := by
  induction l with
  | nil => rfl
  | cons x xs ih => simp only [isort, List.map_cons, map_insertBy, ih]

theorem insertBy_congr (le1 le2 : α → α → Bool) (x : α) (l : List α)
    (h : ∀ y ∈ l, le1 x y = le2 x y) : insertBy le1 x l = insertBy le2 x l := by
  induction l with
  | nil => rfl
  | cons y ys ih =>
    simp only [insertBy]
    rw [h y List.mem_cons_self, ih (fun z hz => h z (List.mem_cons_of_mem _ hz))]

theorem isort_congr (le1 le2 : α → α → Bool) (l : List α)
    (h : ∀ x ∈ l, ∀ y ∈ l, le1 x y = le2 x y) : isort le1 l = isort le2 l := by
  induction l with
  | nil => rfl
  | cons x xs ih =>
    simp only [isort]
    rw [ih (fun a ha b hb => h a (List.mem_cons_of_mem _ ha) b (List.mem_cons_of_mem _ hb))]
    exact insertBy_congr le1 le2 x _ fun y hy =>
      h x List.mem_cons_self y (List.mem_cons_of_mem _ ((mem_isort le2).mp hy))

end RtenVerif.Overlap
