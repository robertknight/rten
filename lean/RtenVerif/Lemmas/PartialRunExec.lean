import RtenVerif.Lemmas.PartialRunEval
import RtenVerif.Lemmas.PlannerSpec
/-!
# The executor model against the naive evaluation

* Soundness: whatever list of operators `run_plan` is given, if it finishes, every value it
  returns is the value the naive evaluation `Den` assigns to that id (no plan validity needed:
  an unavailable dependency is a panic, not a wrong value).
* Progress: on a valid plan whose operators the naive evaluation ran, the executor finds every
  dependency and every operator succeeds.
* Owned inputs are read back like borrowed ones.

All three follow what can be *read* (`lookupVal`) from `temp_values` as the loop puts new
entries in front of it; requested outputs are distinct, as `create_plan` checks, so that output
collection is a `gather` of reads.
-/
namespace RtenVerif.PartialRun
open RtenVerif.Graph RtenVerif.Planner

/-- Every id an operator lists as an output is a value node (true of graphs built from model
files; `Graph::add_op` itself checks nothing). -/
def OutputsAreValues (g : Graph) : Prop :=
  ∀ p op, getOp g p = some op → ∀ o ∈ opOutputs op, getNode g o = some .value

section
variable {V : Type} {g : Graph} {cv : Nat → V} {vs temps new : List (Nat × V)}

theorem lookup_stored {sup : List Nat} {os : List (Option Nat)} {ws : List V} {k : Nat} :
    ((zipOuts os ws).reverse.filter (fun p => !sup.contains p.1)).lookup k =
      if k ∈ sup then none else (zipOuts os ws).reverse.lookup k := by
  rw [lookup_filter_key (q := fun k => !sup.contains k)]
  by_cases hk : k ∈ sup
  · rw [if_pos hk, if_neg (by simp [hk])]
  · rw [if_neg hk, if_pos (by simp [hk])]

theorem mem_keys_zipOuts_reverse {os : List (Option Nat)} {ws : List V} {k : Nat}
    (h : ¬ ws.length < os.length) :
    k ∈ (zipOuts os ws).reverse.map (fun p => p.1) ↔ k ∈ os.filterMap id := by
  rw [List.map_reverse, List.mem_reverse, keys_zipOuts h]

theorem lookupVal_append {id : Nat} {v : V} (h : lookupVal g cv vs (new ++ temps) id = some v) :
    lookupVal g cv vs temps id = some v ∨
      (getNode g id = some .value ∧ vs.lookup id = none ∧ new.lookup id = some v) := by
  rcases lookupVal_some h with ⟨hn, rfl⟩ | ⟨hn, hl⟩
  · exact Or.inl (lookupVal_const hn)
  · rw [lookupVal_value hn, List.lookup_append]
    rw [List.lookup_append, List.lookup_append] at hl
    cases hv : vs.lookup id with
    | some w => rw [hv] at hl; exact Or.inl hl
    | none =>
      rw [hv] at hl
      cases hw : new.lookup id with
      | some w => rw [hw] at hl; exact Or.inr ⟨hn, rfl, hl⟩
      | none => rw [hw] at hl; exact Or.inl hl

def Readable (g : Graph) (cv : Nat → V) (vs temps : List (Nat × V)) (id : Nat) : Prop :=
  ∃ v, lookupVal g cv vs temps id = some v

theorem readable_append {id : Nat} (h : Readable g cv vs temps id) :
    Readable g cv vs (new ++ temps) id := by
  obtain ⟨v, hv⟩ := h
  rcases lookupVal_some hv with ⟨hn, -⟩ | ⟨hn, hl⟩
  · exact ⟨_, lookupVal_const hn⟩
  · have hk := mem_keys_iff_lookup.mpr ⟨v, hl⟩
    unfold Readable
    rw [lookupVal_value hn, ← mem_keys_iff_lookup]
    rw [List.map_append, List.mem_append] at hk ⊢
    exact hk.imp_right fun h => by rw [List.map_append]; exact List.mem_append_right _ h

theorem readable_new {id : Nat} {w : V} (hn : getNode g id = some .value)
    (h : new.lookup id = some w) : Readable g cv vs (new ++ temps) id := by
  unfold Readable
  rw [lookupVal_value hn, ← mem_keys_iff_lookup, List.map_append, List.map_append]
  exact List.mem_append_right _ (List.mem_append_left _ (mem_keys_iff_lookup.mpr ⟨w, h⟩))

theorem readable_supplied (hin : ∀ i ∈ vs.map (fun p => p.1), isValueOrConstant g i = true)
    {d : Nat} (h : rContains g (vs.map (fun p => p.1)) d = true) : Readable g cv vs temps d := by
  rcases Bool.or_eq_true_iff.mp h with hk | hc
  · have hk := List.contains_iff_mem.mp hk
    rcases isValueOrConstant_iff.mp (hin d hk) with hn | hn
    · unfold Readable
      rw [lookupVal_value hn, ← mem_keys_iff_lookup, List.map_append]
      exact List.mem_append_left _ hk
    · exact ⟨_, lookupVal_const hn⟩
  · exact ⟨_, lookupVal_const (isConstant_iff.mp hc)⟩

end

section
variable {Ω V : Type}
variable {g : Graph} {sem : Sem Ω V} {ω ω' : Ω} {cv : Nat → V} {vs vI : List (Nat × V)}

theorem stepOp_eq_ok {sup : List Nat} {temps temps' : List (Nat × V)} {p : Nat} :
    stepOp g sem ω cv sup vs temps p = .ok temps' ↔
      ∃ op args outs, getOp g p = some op ∧
        gather (lookupVal g cv vs temps) (opDeps g op) = some args ∧
        sem ω p args = some outs ∧ ¬ outs.length < op.outputs.length ∧
        temps' = (zipOuts op.outputs outs).reverse.filter (fun p => !sup.contains p.1) ++ temps := by
  constructor
  · fun_cases stepOp g sem ω cv sup vs temps p
    case case5 op hop args hg outs hs hlen =>
      exact fun h => ⟨op, args, outs, hop, hg, hs, hlen, (Except.ok.inj h).symm⟩
    all_goals exact fun h => nomatch h
  · rintro ⟨op, args, outs, hop, hg, hs, hlen, rfl⟩
    simp only [stepOp, hop, hg, hs, if_neg hlen]

/-- Hypotheses tying an execution (oracle `ω`, borrowed inputs `vs`, operator list `plan`) to
the naive evaluation with oracle `ω'` on the supplied values `vI`. -/
structure Tie (g : Graph) (sem : Sem Ω V) (ω ω' : Ω) (vs vI : List (Nat × V))
    (plan : List Nat) : Prop where
  up : UniqueProducer g
  views : ∀ id v, vs.lookup id = some v → vI.lookup id = some v
  /-- an id computed by the execution (and not shadowed by a borrowed input) is not supplied in `vI` -/
  fresh : ∀ p ∈ plan, ∀ o ∈ outsOf g p, vs.lookup o = none → vI.lookup o = none
  /-- the executed operators do not look at the oracle -/
  det : ∀ p ∈ plan, ∀ args, sem ω p args = sem ω' p args

theorem Tie.tail {p : Nat} {plan : List Nat} (h : Tie g sem ω ω' vs vI (p :: plan)) :
    Tie g sem ω ω' vs vI plan :=
  ⟨h.up, h.views, fun q hq => h.fresh q (List.mem_cons_of_mem _ hq),
    fun q hq => h.det q (List.mem_cons_of_mem _ hq)⟩

def ReadsOK (g : Graph) (sem : Sem Ω V) (ω' : Ω) (cv : Nat → V) (vs vI temps : List (Nat × V)) :
    Prop :=
  ∀ id v, lookupVal g cv vs temps id = some v → Den g sem ω' cv vI id v

theorem readsOK_nil (hv : ∀ id v, vs.lookup id = some v → vI.lookup id = some v) :
    ReadsOK g sem ω' cv vs vI [] := by
  intro id v h
  rcases lookupVal_some h with ⟨hn, rfl⟩ | ⟨hn, hl⟩
  · exact ⟨1, evalAt_const hn⟩
  · exact ⟨1, evalAt_view hn (hv id v (by rwa [List.append_nil] at hl))⟩

theorem stepOp_sound {plan sup : List Nat} {p : Nat} {temps temps' : List (Nat × V)}
    (tie : Tie g sem ω ω' vs vI plan) (hp : p ∈ plan) (ht : ReadsOK g sem ω' cv vs vI temps)
    (h : stepOp g sem ω cv sup vs temps p = .ok temps') : ReadsOK g sem ω' cv vs vI temps' := by
  obtain ⟨op, args, outs, hop, hg, hs, hlen, rfl⟩ := stepOp_eq_ok.mp h
  obtain ⟨F, hF⟩ := gather_den _ _ (fun d _ v => ht d v) hg
  intro id v hlk
  rcases lookupVal_append hlk with hold | ⟨hn, hl, hnew⟩
  · exact ht id v hold
  · -- a value stored by this step: the naive evaluation runs `p` on the same arguments
    rw [lookup_stored] at hnew
    split at hnew
    · cases hnew
    · have hmem : id ∈ opOutputs op :=
        (mem_keys_zipOuts_reverse hlen).mp (mem_keys_iff_lookup.mpr ⟨v, hnew⟩)
      have hout : id ∈ outsOf g p := by rw [outsOf_eq hop]; exact hmem
      exact ⟨F + 1, (evalAt_op hn (tie.fresh p hp id hout hl) (getSource_of_output tie.up hop hmem)
        hF ((tie.det p hp args).symm.trans hs) hlen).trans hnew⟩

theorem execPlan_sound {sup : List Nat} : ∀ (plan : List Nat) (temps temps' : List (Nat × V)),
    Tie g sem ω ω' vs vI plan → ReadsOK g sem ω' cv vs vI temps →
    execPlan g sem ω cv sup vs plan temps = .ok temps' → ReadsOK g sem ω' cv vs vI temps' := by
  intro plan
  induction plan with
  | nil =>
    intro temps temps' _ ht h
    cases Except.ok.inj h
    exact ht
  | cons p rest ih =>
    intro temps temps' tie ht h
    rw [execPlan] at h
    split at h
    · next t1 hs => exact ih t1 temps' tie.tail (stepOp_sound tie List.mem_cons_self ht hs) h
    · cases h

/-- Removing a collected value from `temp_values` does not affect the later ids, which are
different. -/
theorem collect_eq_gather {views : List (Nat × V)} :
    ∀ (outs : List Nat) (temps : List (Nat × V)), outs.Nodup →
      collect g cv views outs temps =
        match gather (lookupVal g cv views temps) outs with
        | some vs => .ok vs
        | none => .error .panic := by
  intro outs
  induction outs with
  | nil => exact fun _ _ => rfl
  | cons o os ih =>
    intro temps hnd
    obtain ⟨hno, hnd'⟩ := List.nodup_cons.mp hnd
    have hcongr : gather (lookupVal g cv views (temps.filter (fun p => p.1 != o))) os =
        gather (lookupVal g cv views temps) os := by
      refine gather_congr fun d hd => ?_
      have hne : (d != o) = true := bne_iff_ne.mpr fun h => hno (h ▸ hd)
      unfold lookupVal
      rw [lookup_filter_key (q := fun k => k != o), if_pos hne]
    rw [collect, gather]
    split
    · next hn =>
      rw [lookupVal_const hn, ih temps hnd']
      cases gather (lookupVal g cv views temps) os <;> rfl
    · next hn =>
      rw [lookupVal_value hn, List.lookup_append]
      split
      · next hl =>
        rw [hl, ih temps hnd']
        cases gather (lookupVal g cv views temps) os <;> rfl
      · next hl =>
        rw [hl]
        split
        · next ht =>
          rw [ht, ih _ hnd', hcongr]
          cases gather (lookupVal g cv views temps) os <;> rfl
        · next ht => rw [ht]; rfl
    · next h1 h2 => rw [lookupVal_none h1 h2]

theorem runPlan_sound {plan outs : List Nat} {vals : List V} (hnd : outs.Nodup)
    (tie : Tie g sem ω ω' vs vI plan)
    (h : runPlan g sem ω cv vs [] plan outs = .ok vals) :
    ∃ lk, gather lk outs = some vals ∧ ∀ o v, lk o = some v → Den g sem ω' cv vI o v := by
  rw [runPlan] at h
  split at h
  · next temps he =>
    rw [collect_eq_gather outs temps hnd] at h
    split at h
    · next hg =>
      cases Except.ok.inj h
      exact ⟨_, hg, execPlan_sound plan _ temps tie (readsOK_nil tie.views) he⟩
    · cases h
  · cases h

theorem stepOp_progress (hov : OutputsAreValues g)
    (hin : ∀ i ∈ vs.map (fun p => p.1), isValueOrConstant g i = true)
    {temps : List (Nat × V)} {i f : Nat} {op : OpNode} (hop : getOp g i = some op)
    (hread : ∀ d ∈ opDeps g op, Readable g cv vs temps d)
    (hev : OpEval g sem ω cv vI f i) (ht : ReadsOK g sem ω cv vs vI temps) :
    ∃ temps', stepOp g sem ω cv (vs.map (fun p => p.1)) vs temps i = .ok temps' ∧
      (∀ d, Readable g cv vs temps d → Readable g cv vs temps' d) ∧
      ∀ d ∈ opOutputs op, Readable g cv vs temps' d := by
  obtain ⟨args, hargs⟩ := gather_total hread
  obtain ⟨op', args', outs, hop', hg', hsem, hlen⟩ := hev
  cases hop.symm.trans hop'
  -- the naive evaluation ran the operator on the same arguments
  cases gather_eq hargs hg' fun d _ v v' h1 h2 => (ht d v h1).unique g sem ω cv vI ⟨f, h2⟩
  refine ⟨_, stepOp_eq_ok.mpr ⟨op, args, outs, hop, hargs, hsem, hlen, rfl⟩,
    fun d => readable_append, fun d hd => ?_⟩
  by_cases hs : rContains g (vs.map (fun p => p.1)) d = true
  · exact readable_supplied hin hs
  · have hk : d ∉ vs.map (fun p => p.1) := fun hk => hs (rContains_of_mem hk)
    obtain ⟨w, hw⟩ := mem_keys_iff_lookup.mp ((mem_keys_zipOuts_reverse hlen).mpr hd)
    exact readable_new (hov i op hop d hd) (by rw [lookup_stored, if_neg hk]; exact hw)

theorem execPlan_progress (hov : OutputsAreValues g)
    (hin : ∀ i ∈ vs.map (fun p => p.1), isValueOrConstant g i = true) :
    ∀ (plan r : List Nat) (temps : List (Nat × V)),
      Tie g sem ω ω vs vI plan → ValidIds g false r plan →
      (∀ p ∈ plan, ∃ f, OpEval g sem ω cv vI f p) →
      ReadsOK g sem ω cv vs vI temps → (∀ d, rContains g r d = true → Readable g cv vs temps d) →
      ∃ temps', execPlan g sem ω cv (vs.map (fun p => p.1)) vs plan temps = .ok temps' ∧
        ∀ d, rContains g (availAfter g r plan) d = true → Readable g cv vs temps' d := by
  intro plan
  induction plan with
  | nil => exact fun r temps _ _ _ _ ha => ⟨temps, rfl, (availAfter_nil g r).symm ▸ ha⟩
  | cons i plan ih =>
    intro r temps tie hvalid hevs ht ha
    obtain ⟨⟨op, hop, hdeps⟩, hvalid'⟩ := hvalid
    obtain ⟨f, hev⟩ := hevs i List.mem_cons_self
    obtain ⟨t1, hstep, hold, hnew⟩ := stepOp_progress hov hin hop
      (fun d hd => ha d ((hdeps d hd).resolve_right fun h => nomatch h.1)) hev ht
    obtain ⟨temps', he, ha'⟩ := ih (r ++ outsOf g i) t1 tie.tail hvalid'
      (fun p hp => hevs p (List.mem_cons_of_mem _ hp)) (stepOp_sound tie List.mem_cons_self ht hstep)
      (fun d hd => (rContains_append_cases hd).elim (fun h => hold d (ha d h))
        (fun h => hnew d (by rwa [outsOf_eq hop] at h)))
    refine ⟨temps', by rw [execPlan, hstep]; exact he, ?_⟩
    rwa [availAfter_cons]

theorem runPlan_progress (hov : OutputsAreValues g)
    (hin : ∀ i ∈ vs.map (fun p => p.1), isValueOrConstant g i = true) {plan outs : List Nat}
    (tie : Tie g sem ω ω vs vI plan) (hvalid : ValidIds g false (vs.map (fun p => p.1)) plan)
    (hevs : ∀ p ∈ plan, ∃ f, OpEval g sem ω cv vI f p) (hnd : outs.Nodup)
    (houts : ∀ o ∈ outs, rContains g (availAfter g (vs.map (fun p => p.1)) plan) o = true) :
    ∃ vals, runPlan g sem ω cv vs [] plan outs = .ok vals := by
  obtain ⟨temps, he, ha⟩ := execPlan_progress hov hin plan _ [] tie hvalid hevs
    (readsOK_nil tie.views) (fun d => readable_supplied hin)
  obtain ⟨vals, hv⟩ := gather_total fun o ho => ha o (houts o ho)
  exact ⟨vals, by
    rw [runPlan, List.append_nil, List.filter_nil, he]
    exact (collect_eq_gather _ _ hnd).trans (by rw [hv])⟩

variable {views owned : List (Nat × V)}

theorem lookupVal_congr {views' temps temps' : List (Nat × V)} {id : Nat}
    (h : getNode g id = some .value → (views ++ temps).lookup id = (views' ++ temps').lookup id) :
    lookupVal g cv views temps id = lookupVal g cv views' temps' id := by
  by_cases hn : getNode g id = some .value
  · rw [lookupVal_value hn, lookupVal_value hn, h hn]
  · unfold lookupVal
    split
    · rfl
    · next hn' => exact absurd hn' hn
    · rfl

def SameReads (g : Graph) (cv : Nat → V) (views owned T₁ T₂ : List (Nat × V)) : Prop :=
  ∀ id, lookupVal g cv views T₁ id = lookupVal g cv (views ++ owned) T₂ id

theorem sameReads_init :
    SameReads g cv views owned (owned.filter (fun p => !isConstant g p.1)) [] := by
  intro id
  refine lookupVal_congr fun hn => ?_
  have hq : (!isConstant g id) = true := by rw [isConstant_of_value hn]; rfl
  rw [List.append_nil, List.lookup_append, List.lookup_append,
    lookup_filter_key (q := fun k => !isConstant g k), if_pos hq]

theorem sameReads_step {T₁ T₂ new : List (Nat × V)}
    (h : SameReads g cv views owned T₁ T₂)
    (hnew : ∀ k v, new.lookup k = some v → k ∉ (views ++ owned).map (fun p => p.1)) :
    SameReads g cv views owned (new ++ T₁) (new ++ T₂) := by
  intro id
  refine lookupVal_congr fun hn => ?_
  have := h id
  rw [lookupVal_value hn, lookupVal_value hn, List.lookup_append,
    List.lookup_append (l₁ := views ++ owned)] at this
  rw [List.lookup_append, List.lookup_append (l₁ := views ++ owned), List.lookup_append (l₁ := new),
    List.lookup_append (l₁ := new)]
  cases hw : new.lookup id with
  | none => exact this
  | some w =>
    have hk := hnew id w hw
    rw [lookup_eq_none_iff_keys.mpr hk, lookup_eq_none_iff_keys.mpr fun hv =>
      hk (by rw [List.map_append]; exact List.mem_append_left _ hv)]
    rfl

def SimReads (g : Graph) (cv : Nat → V) (views owned : List (Nat × V)) :
    Except RunErr (List (Nat × V)) → Except RunErr (List (Nat × V)) → Prop
  | .ok T₁, .ok T₂ => SameReads g cv views owned T₁ T₂
  | .error e₁, .error e₂ => e₁ = e₂
  | _, _ => False

theorem stepOp_sim {T₁ T₂ : List (Nat × V)} (h : SameReads g cv views owned T₁ T₂) (p : Nat) :
    SimReads g cv views owned
      (stepOp g sem ω cv ((views ++ owned).map (fun p => p.1)) views T₁ p)
      (stepOp g sem ω cv ((views ++ owned).map (fun p => p.1)) (views ++ owned) T₂ p) := by
  unfold stepOp
  rw [funext h]
  split
  · exact rfl
  · split
    · exact rfl
    · split
      · exact rfl
      · split
        · exact rfl
        · refine sameReads_step h fun k v hl hk => ?_
          rw [lookup_stored, if_pos hk] at hl
          cases hl

theorem execPlan_sim : ∀ (plan : List Nat) (T₁ T₂ : List (Nat × V)),
    SameReads g cv views owned T₁ T₂ →
    SimReads g cv views owned
      (execPlan g sem ω cv ((views ++ owned).map (fun p => p.1)) views plan T₁)
      (execPlan g sem ω cv ((views ++ owned).map (fun p => p.1)) (views ++ owned) plan T₂) := by
  intro plan
  induction plan with
  | nil => exact fun _ _ h => h
  | cons p rest ih =>
    intro T₁ T₂ h
    have hs := stepOp_sim (sem := sem) (ω := ω) h p
    rw [execPlan, execPlan]
    revert hs
    cases stepOp g sem ω cv _ views T₁ p <;> cases stepOp g sem ω cv _ (views ++ owned) T₂ p <;>
      intro hs
    · exact hs
    · exact hs.elim
    · exact hs.elim
    · exact ih _ _ hs

/-- Operator outputs are never stored under a supplied id, so owned and borrowed inputs are both
read back unchanged. -/
theorem runPlan_owned_eq {plan outs : List Nat} (houts : outs.Nodup) :
    runPlan g sem ω cv views owned plan outs = runPlan g sem ω cv (views ++ owned) [] plan outs := by
  have hs := execPlan_sim (sem := sem) (ω := ω) plan _ _
    (sameReads_init (g := g) (cv := cv) (views := views) (owned := owned))
  rw [runPlan, runPlan, List.append_nil, List.filter_nil]
  revert hs
  cases execPlan g sem ω cv _ views plan _ <;> cases execPlan g sem ω cv _ (views ++ owned) plan _ <;>
    intro hs
  · exact congrArg _ hs
  · exact hs.elim
  · exact hs.elim
  · show collect _ _ _ _ _ = collect _ _ _ _ _
    rw [collect_eq_gather outs _ houts, collect_eq_gather outs _ houts, funext hs]

end

end RtenVerif.PartialRun
