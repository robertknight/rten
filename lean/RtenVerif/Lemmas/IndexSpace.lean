import RtenVerif.Model.Layout
import RtenVerif.Lemmas.Overlap

/-! The index space of a shape: element count `numel`, row-major enumeration `idxs`, validity `validIdx` (all of the
reference array model `Arr`) and the row-major position `offset (contigDims s)`.  The other models' own copies
(`OnnxRef.prod/allIdx/validIdx/ravel`, `FastBroadcast.numel/idxs`, `Npy.prod`, `TensorBounds.prod/validIdx`)
are tied to these by one equation each, at the head of their lemma files. -/
namespace RtenVerif.Arr
open RtenVerif.Overlap (offset ValidIdx)
open RtenVerif.Layout (contigDims sizes)

theorem numel_cons (n : Nat) (s : List Nat) : numel (n :: s) = n * numel s := rfl

theorem numel_append (a b : List Nat) : numel (a ++ b) = numel a * numel b := by
  induction a with
  | nil => simp [numel]
  | cons x xs ih => simp only [List.cons_append, numel_cons, ih, Nat.mul_assoc]

theorem numel_eq_zero_iff (s : List Nat) : numel s = 0 ↔ s.any (· == 0) = true := by
  induction s with
  | nil => simp [numel]
  | cons x xs ih => rw [numel_cons, Nat.mul_eq_zero, ih, List.any_cons, Bool.or_eq_true, beq_iff_eq]

theorem numel_pos_iff (s : List Nat) : 0 < numel s ↔ ∀ d ∈ s, 1 ≤ d := by
  rw [Nat.pos_iff_ne_zero, ne_eq, numel_eq_zero_iff, List.any_eq_true]
  exact ⟨fun h d hd => Nat.pos_of_ne_zero fun h0 => h ⟨d, hd, by simp [h0]⟩,
    fun h ⟨d, hd, h0⟩ => absurd (h d hd) (by simp [beq_iff_eq.mp h0])⟩

theorem mem_idxs {shape idx : List Nat} : idx ∈ idxs shape ↔ validIdx shape idx = true := by
  induction shape generalizing idx with
  | nil => cases idx <;> simp [idxs, validIdx]
  | cons n ns ih =>
    cases idx with
    | nil => simp [idxs, validIdx]
    | cons i is =>
      simp only [idxs, validIdx, List.mem_flatMap, List.mem_range, List.mem_map,
        Bool.and_eq_true, decide_eq_true_eq, ← ih, List.cons.injEq]
      exact ⟨fun ⟨_, ha, _, hb, h1, h2⟩ => h1 ▸ h2 ▸ ⟨ha, hb⟩, fun ⟨h1, h2⟩ => ⟨i, h1, is, h2, rfl, rfl⟩⟩

theorem validIdx_iff (shape idx : List Nat) :
    validIdx shape idx = true ↔
      idx.length = shape.length ∧ ∀ k, k < shape.length → idx.getD k 0 < shape.getD k 0 := by
  induction shape generalizing idx with
  | nil => cases idx <;> simp [validIdx]
  | cons n ns ih =>
    cases idx with
    | nil => simp [validIdx]
    | cons i is =>
      simp only [validIdx, Bool.and_eq_true, decide_eq_true_eq, ih, List.length_cons,
        Nat.add_right_cancel_iff]
      constructor
      · rintro ⟨h0, hl, hk⟩
        refine ⟨hl, ?_⟩
        intro k hk'
        cases k with
        | zero => simpa using h0
        | succ k => simpa using hk k (by omega)
      · rintro ⟨hl, hk⟩
        refine ⟨by simpa using hk 0 (by omega), hl, ?_⟩
        intro k hk'
        simpa using hk (k + 1) (by omega)

theorem validIdx_length {shape idx : List Nat} (h : validIdx shape idx = true) :
    idx.length = shape.length :=
  ((validIdx_iff shape idx).mp h).1

theorem validIdx_iff_ValidIdx (d : List (Nat × Nat)) (idx : List Nat) :
    validIdx (sizes d) idx = true ↔ ValidIdx d idx := by
  induction d generalizing idx with
  | nil => cases idx with
    | nil => exact ⟨fun _ => .nil, fun _ => rfl⟩
    | cons i is => exact ⟨fun h => by simp [sizes, validIdx] at h, fun h => by cases h⟩
  | cons p ds ih =>
    obtain ⟨n, st⟩ := p
    cases idx with
    | nil => exact ⟨fun h => by simp [sizes, validIdx] at h, fun h => by cases h⟩
    | cons i is =>
      simp only [sizes, List.map_cons, validIdx, Bool.and_eq_true, decide_eq_true_eq]
      exact ⟨fun h => .cons h.1 ((ih is).mp h.2), fun h => by cases h with | cons h1 h2 => exact ⟨h1, (ih is).mpr h2⟩⟩

theorem range_blocks (d m : Nat) :
    (List.range d).flatMap (fun i => (List.range m).map (fun j => i * m + j)) = List.range (d * m) := by
  induction d with
  | zero => simp
  | succ d ih =>
    rw [List.range_succ, List.flatMap_append, ih, Nat.succ_mul, List.range_add]
    simp

theorem map_offset_idxs : ∀ s : List Nat, (idxs s).map (offset (contigDims s)) = List.range (numel s)
  | [] => rfl
  | d :: ds => by
    have h : ∀ i : Nat, ((idxs ds).map (fun r => i :: r)).map (offset (contigDims (d :: ds)))
        = (List.range (numel ds)).map (fun j => i * numel ds + j) := by
      intro i
      rw [← map_offset_idxs ds, List.map_map, List.map_map]
      rfl
    simp only [idxs, List.map_flatMap, h, numel_cons]
    exact range_blocks d (numel ds)

theorem length_idxs (s : List Nat) : (idxs s).length = numel s := by
  simpa using congrArg List.length (map_offset_idxs s)

theorem idxs_getElem?_offset {s idx : List Nat} (h : validIdx s idx = true) :
    (idxs s)[offset (contigDims s) idx]? = some idx := by
  obtain ⟨k, hk⟩ := List.mem_iff_getElem?.mp (mem_idxs.mpr h)
  have h2 : ((idxs s).map (offset (contigDims s)))[k]? = some (offset (contigDims s) idx) := by
    rw [List.getElem?_map, hk]; rfl
  rw [map_offset_idxs] at h2
  rcases List.getElem?_eq_some_iff.mp h2 with ⟨_, he⟩
  rw [List.getElem_range] at he
  rw [← he]; exact hk

end RtenVerif.Arr

theorem RtenVerif.Layout.sizes_contigDims (shape : List Nat) : sizes (contigDims shape) = shape := by
  induction shape with
  | nil => rfl
  | cons n ns ih =>
    simp only [sizes] at ih
    simp [contigDims, sizes, ih]
