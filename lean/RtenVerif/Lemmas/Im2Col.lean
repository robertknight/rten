/-
Lemmas for the im2col offset-table model (C14 D7).  Every table is a loop nest
`for a in 0..A { for b in 0..B { push (f a b) } }` (two or three levels deep), and entry
`a·B + b` of such a list is `f a b`.
-/
import RtenVerif.Model.Im2Col
import RtenVerif.Lemmas.Blocks
import RtenVerif.Lemmas.ListBasics
namespace RtenVerif.Im2Col
open RtenVerif.Blocks

theorem row_add_col (st k d a : Int) : st * k * d + a * st = (a + k * d) * st := by
  rw [Int.add_mul, Int.mul_assoc, Int.mul_comm st, Int.add_comm]

theorem rowChan_get (p : Params) (c ky kx : Nat) (hc : c < p.chans) (hky : ky < p.kh) (hkx : kx < p.kw) :
    (rowChanMain p)[(c * p.kh + ky) * p.kw + kx]? = some ((c : Int) * p.sc) := by
  rw [Nat.add_mul, Nat.mul_assoc, Nat.add_assoc]
  exact getElem?_nest₂ (fun c _ => (c : Int) * p.sc) hc (mul_add_lt hky hkx)

theorem rowY_get (p : Params) (c ky kx : Nat) (hc : c < p.chans) (hky : ky < p.kh) (hkx : kx < p.kw) :
    (rowYMain p)[(c * p.kh + ky) * p.kw + kx]? = some ((p.sth : Int) * ky * p.dilY) := by
  rw [Nat.add_mul, Nat.mul_assoc, Nat.add_assoc]
  exact getElem?_nest₃ (fun _ ky _ => (p.sth : Int) * (ky : Int) * p.dilY) hc hky hkx

theorem rowX_get (p : Params) (c ky kx : Nat) (hc : c < p.chans) (hky : ky < p.kh) (hkx : kx < p.kw) :
    (rowXMain p)[(c * p.kh + ky) * p.kw + kx]? = some ((p.stw : Int) * kx * p.dilX) := by
  rw [Nat.add_mul, Nat.mul_assoc, Nat.add_assoc]
  exact getElem?_nest₃ (fun _ _ kx => (p.stw : Int) * (kx : Int) * p.dilX) hc hky hkx

theorem colY_get (p : Params) (yP xP py px : Nat) (hy : py < yP) (hx : px < xP) :
    (colYMain p yP xP)[py * xP + px]? = some (((py : Int) * p.strideH - p.padTop) * p.sth) :=
  getElem?_nest₂ (fun py _ => ((py : Int) * p.strideH - p.padTop) * p.sth) hy hx

theorem colX_get (p : Params) (yP xP py px : Nat) (hy : py < yP) (hx : px < xP) :
    (colXMain p yP xP)[py * xP + px]? = some (((px : Int) * p.strideW - p.padLeft) * p.stw) :=
  getElem?_nest₂ (fun _ px => ((px : Int) * p.strideW - p.padLeft) * p.stw) hy hx

end RtenVerif.Im2Col
