import RtenVerif.Model.ExtData
import RtenVerif.Lemmas.ListBasics

/-! Lemmas for the external-data model: path components under concatenation and `push`, the
saturating range checks, the chunked read loop of `FileLoader::read`. -/
namespace RtenVerif.ExtData

instance instDecEqExcept {ε α : Type} [DecidableEq ε] [DecidableEq α] : DecidableEq (Except ε α)
  | .ok a, .ok b =>
    if h : a = b then isTrue (by rw [h]) else isFalse (by intro h'; injection h' with h'; exact h h')
  | .error a, .error b =>
    if h : a = b then isTrue (by rw [h]) else isFalse (by intro h'; injection h' with h'; exact h h')
  | .ok _, .error _ => isFalse (by intro h; cases h)
  | .error _, .ok _ => isFalse (by intro h; cases h)

theorem splitSlash_ne_nil (s : List Nat) : splitSlash s ≠ [] := by
  cases s with
  | nil => simp [splitSlash]
  | cons c cs =>
    unfold splitSlash
    split
    · simp
    · split <;> simp

theorem splitSlash_slash (cs : List Nat) : splitSlash (47 :: cs) = [] :: splitSlash cs := by
  simp [splitSlash]

theorem splitSlash_cons {c : Nat} (hc : c ≠ 47) (cs : List Nat) :
    ∃ h t, splitSlash cs = h :: t ∧ splitSlash (c :: cs) = (c :: h) :: t := by
  cases h : splitSlash cs with
  | nil => exact absurd h (splitSlash_ne_nil cs)
  | cons a t => exact ⟨a, t, rfl, by simp [splitSlash, hc, h]⟩

theorem splitSlash_no_slash (s : List Nat) : ∀ seg ∈ splitSlash s, 47 ∉ seg := by
  induction s with
  | nil => simp [splitSlash]
  | cons c cs ih =>
    by_cases hc : c = 47
    · subst hc
      rw [splitSlash_slash, List.forall_mem_cons]
      exact ⟨by simp, ih⟩
    · obtain ⟨a, t, e1, e2⟩ := splitSlash_cons hc cs
      rw [e1, List.forall_mem_cons] at ih
      rw [e2, List.forall_mem_cons]
      exact ⟨by simp [ih.1, Ne.symm hc], ih.2⟩

theorem splitSlash_append_slash (a b : List Nat) :
    splitSlash (a ++ 47 :: b) = splitSlash a ++ splitSlash b := by
  induction a with
  | nil => simp [splitSlash]
  | cons c cs ih =>
    simp only [List.cons_append, splitSlash, ih]
    by_cases hc : c = 47
    · simp [hc]
    · simp only [hc, if_false]
      cases h : splitSlash cs with
      | nil => exact absurd h (splitSlash_ne_nil cs)
      | cons hd tl => simp

theorem splitSlash_head (p : List Nat) :
    ∃ seg, 47 ∉ seg ∧ ((p = seg ∧ splitSlash p = [seg]) ∨
      ∃ p', p = seg ++ 47 :: p' ∧ splitSlash p = seg :: splitSlash p') := by
  induction p with
  | nil => exact ⟨[], by simp, Or.inl ⟨rfl, by simp [splitSlash]⟩⟩
  | cons c cs ih =>
    by_cases hc : c = 47
    · subst hc
      exact ⟨[], by simp, Or.inr ⟨cs, by simp, splitSlash_slash cs⟩⟩
    · obtain ⟨seg, hs, h⟩ := ih
      obtain ⟨a, t, e1, e2⟩ := splitSlash_cons hc cs
      refine ⟨c :: seg, by simp [hs, Ne.symm hc], ?_⟩
      rcases h with ⟨rfl, h2⟩ | ⟨p', rfl, h2⟩ <;> rw [e1] at h2 <;> cases h2
      · exact .inl ⟨rfl, e2⟩
      · exact .inr ⟨p', rfl, e2⟩

theorem splitSlash_no47 (s : List Nat) (h : 47 ∉ s) : splitSlash s = [s] := by
  induction s with
  | nil => simp [splitSlash]
  | cons c cs ih =>
    have hc : c ≠ 47 := by intro e; apply h; simp [e]
    have hcs : 47 ∉ cs := by intro e; apply h; simp [e]
    simp [splitSlash, hc, ih hcs]

theorem body_nil : body [] = [] := by
  simp [body, splitSlash, classify]

theorem body_append_slash (a b : List Nat) : body (a ++ 47 :: b) = body a ++ body b := by
  simp [body, splitSlash_append_slash, List.filterMap_append]

theorem body_slash_cons (b : List Nat) : body (47 :: b) = body b := by
  have := body_append_slash [] b
  simpa [body_nil] using this

theorem body_append_single_slash (a : List Nat) : body (a ++ [47]) = body a := by
  have := body_append_slash a []
  simpa [body_nil] using this

theorem classify_cases (seg : List Nat) :
    (classify seg = none ∧ (seg = [] ∨ seg = [46])) ∨ (classify seg = some .parent ∧ seg = [46, 46]) ∨
      (classify seg = some (.normal seg) ∧ seg ≠ [] ∧ seg ≠ [46] ∧ seg ≠ [46, 46]) := by
  unfold classify
  split
  · exact .inl ⟨rfl, .inl ‹_›⟩
  · split
    · exact .inl ⟨rfl, .inr ‹_›⟩
    · split
      · exact .inr (.inl ⟨rfl, ‹_›⟩)
      · exact .inr (.inr ⟨rfl, ‹_›, ‹_›, ‹_›⟩)

theorem body_normal_props {s n : List Nat} (h : Comp.normal n ∈ body s) :
    n ≠ [] ∧ n ≠ [46] ∧ n ≠ [46, 46] ∧ 47 ∉ n := by
  obtain ⟨seg, hseg, hc⟩ := List.mem_filterMap.mp h
  rcases classify_cases seg with ⟨h0, _⟩ | ⟨h0, _⟩ | ⟨h0, h1, h2, h3⟩ <;> rw [h0] at hc <;> cases hc
  exact ⟨h1, h2, h3, splitSlash_no_slash s n hseg⟩

/-- `body` never yields `RootDir` or `CurDir`. -/
theorem body_no_root_cur (s : List Nat) : Comp.root ∉ body s ∧ Comp.cur ∉ body s := by
  constructor <;>
  · intro h
    obtain ⟨seg, _, hc⟩ := List.mem_filterMap.mp h
    rcases classify_cases seg with ⟨h0, _⟩ | ⟨h0, _⟩ | ⟨h0, _⟩ <;> rw [h0] at hc <;> cases hc

/-- What `components` puts in front of the body: `RootDir` for a leading `/`, `CurDir` for a path
that is `.` or starts with `./`. -/
def leadComp : List Nat → List Comp
  | [] => []
  | c :: rest =>
    if c = 47 then [.root]
    else if c = 46 then
      match rest with
      | [] => [.cur]
      | d :: _ => if d = 47 then [.cur] else []
    else []

theorem components_eq (p : List Nat) : components p = leadComp p ++ body p := by
  fun_cases leadComp p
  -- leaves: empty, `/…`, `.` alone, `./…`, `.` then another byte, any other first byte
  case case2 t => exact congrArg _ (body_slash_cons t).symm
  case case4 t _ => exact congrArg _ (body_append_slash [46] t).symm
  case case5 d t hd _ => simp only [components, hd]; rfl
  case case6 d t h47 h46 => simp only [components, h47, h46]; rfl
  all_goals rfl

theorem leadComp_cases (p : List Nat) :
    (leadComp p = [] ∧ p.head? ≠ some 47) ∨ (leadComp p = [.root] ∧ p.head? = some 47) ∨
      (leadComp p = [.cur] ∧ (p = [46] ∨ ∃ r, p = 46 :: 47 :: r)) := by
  fun_cases leadComp p
  case case1 => exact .inl ⟨rfl, nofun⟩
  case case2 => exact .inr (.inl ⟨rfl, rfl⟩)
  case case3 => exact .inr (.inr ⟨rfl, .inl rfl⟩)
  case case4 => exact .inr (.inr ⟨rfl, .inr ⟨_, rfl⟩⟩)
  case case5 => exact .inl ⟨rfl, nofun⟩
  case case6 d _ hd _ => exact .inl ⟨rfl, fun h => hd (Option.some.inj h)⟩

theorem leadComp_append_slash (a b : List Nat) : leadComp (a ++ 47 :: b) = leadComp (a ++ [47]) := by
  match a with
  | [] => rfl
  | [_] => rfl
  | _ :: _ :: _ => rfl

theorem leadComp_append_single_slash (a : List Nat) (ha : a ≠ []) :
    leadComp (a ++ [47]) = leadComp a := by
  match a, ha with
  | [c], _ =>
    simp only [List.cons_append, List.nil_append, leadComp]
    split
    · rfl
    · split <;> rfl
  | _ :: _ :: _, _ => rfl

theorem components_append_slash (a b : List Nat) :
    components (a ++ 47 :: b) = components (a ++ [47]) ++ body b := by
  rw [components_eq, components_eq (a ++ [47]), leadComp_append_slash, body_append_slash,
    body_append_single_slash, List.append_assoc]

theorem components_append_single_slash (a : List Nat) (ha : a ≠ []) :
    components (a ++ [47]) = components a := by
  rw [components_eq, components_eq a, leadComp_append_single_slash a ha, body_append_single_slash]

theorem components_eq_body_of_head_normal {p : List Nat} {n : List Nat} {rest : List Comp}
    (h : components p = Comp.normal n :: rest) : components p = body p ∧ p.head? ≠ some 47 := by
  rw [components_eq] at h ⊢
  rcases leadComp_cases p with ⟨h0, hh⟩ | ⟨h0, _⟩ | ⟨h0, _⟩ <;> rw [h0] at h ⊢
  · exact ⟨rfl, hh⟩
  · cases h
  · cases h

theorem components_push_rel (d p : List Nat) (hd : d ≠ []) (hp : p.head? ≠ some 47) :
    components (push d p) = components d ++ body p := by
  unfold push
  simp only [hp, if_false]
  by_cases hl : d.getLast? = some 47
  · simp only [hl, ne_eq, not_true_eq_false, and_false, if_false]
    obtain ⟨d', rfl⟩ : ∃ d', d = d' ++ [47] := by
      rcases List.getLast?_eq_some_iff.mp hl with ⟨ys, h⟩
      exact ⟨ys, h⟩
    rw [List.append_assoc]
    simp only [List.singleton_append]
    exact components_append_slash d' p
  · have : d ≠ [] ∧ d.getLast? ≠ some 47 := ⟨hd, hl⟩
    simp only [this, ne_eq, not_false_eq_true, and_self, if_true]
    rw [components_append_slash, components_append_single_slash d hd]

theorem push_abs (d p : List Nat) (hp : p.head? = some 47) : push d p = p := by
  simp [push, hp]

theorem push_nil (p : List Nat) : push [] p = p := by
  unfold push
  split <;> simp

theorem extension_of_single {p n : List Nat} (hc : components p = [Comp.normal n]) :
    extension p = extOfName n := by
  simp [extension, fileName, hc]

theorem lexResolve_append_normal (cs : List Comp) (n : List Nat) :
    lexResolve (cs ++ [Comp.normal n]) = lexResolve cs ++ [Comp.normal n] := by
  simp [lexResolve, List.foldl_append, resStep]

theorem startsWith_iff (e pre : List Nat) : startsWith e pre = true ↔ ∃ s, e = pre ++ s := by
  induction pre generalizing e with
  | nil => simp [startsWith]
  | cons p ps ih =>
    cases e with
    | nil => simp [startsWith]
    | cons x xs =>
      simp only [startsWith, Bool.and_eq_true, beq_iff_eq, ih, List.cons_append, List.cons.injEq]
      constructor
      · rintro ⟨rfl, s, rfl⟩; exact ⟨s, rfl, rfl⟩
      · rintro ⟨s, rfl, rfl⟩; exact ⟨rfl, s, rfl⟩

theorem satAdd_le (a b : Nat) : satAdd a b ≤ U64_MAX := by
  unfold satAdd; split <;> omega

theorem satAdd_eq {a b : Nat} (h : a + b ≤ U64_MAX) : satAdd a b = a + b :=
  if_neg (Nat.not_lt.mpr h)

theorem satAdd_le_iff {a b f : Nat} (hf : f < U64_MAX) : satAdd a b ≤ f ↔ a + b ≤ f := by
  unfold satAdd; split <;> omega

theorem readFill_length (file : List Nat) (pos k : Nat) :
    (readFill file pos k).length = min k (file.length - pos) := by
  simp [readFill]

theorem readLoop_spec (C : Nat) (hC : 0 < C) (file : List Nat) :
    ∀ (fuel pos remaining : Nat) (buf : List Nat), remaining / C < fuel →
      readLoop C file fuel pos remaining buf = buf ++ (file.drop pos).take remaining := by
  intro fuel
  induction fuel with
  | zero => intro _ _ _ h; exact absurd h (Nat.not_lt_zero _)
  | succ fuel ih =>
    intro pos remaining buf hf
    rw [readLoop]
    simp only [readFill, List.length_take, List.length_drop]
    by_cases hr : remaining ≤ C
    · -- everything still wanted fits one chunk, after which the loop stops
      rw [Nat.min_eq_left hr, if_pos (by omega)]
    · rw [Nat.min_eq_right (Nat.le_of_not_le hr)]
      by_cases hl : file.length - pos < C
      · -- the file ends inside this chunk
        have hd : (file.drop pos).length ≤ C := by simp; omega
        rw [if_pos (by omega), List.take_of_length_le hd, List.take_of_length_le (by omega)]
      · have hgo : ¬ (min C (file.length - pos) < C ∨ remaining - min C (file.length - pos) = 0) := by
          omega
        rw [Nat.div_lt_iff_lt_mul hC, Nat.succ_mul] at hf
        rw [if_neg hgo, Nat.min_eq_left (Nat.le_of_not_lt hl),
          ih _ _ _ ((Nat.div_lt_iff_lt_mul hC).mpr (by omega)), List.append_assoc, ← List.drop_drop,
          ← List.take_add, Nat.add_sub_cancel' (Nat.le_of_not_le hr)]

theorem fileReadWith_ok_iff {C : Nat} (hC : 0 < C) (pre : Bool) (file : List Nat) (off len : Nat)
    (bytes : List Nat) :
    fileReadWith pre C file off len = .ok bytes ↔
      len ≤ ISIZE_MAX ∧ (pre = true → satAdd off len ≤ file.length) ∧ off ≤ I64_MAX ∧
        len ≤ file.length - off ∧ bytes = (file.drop off).take len := by
  unfold fileReadWith
  rw [readLoop_spec C hC file _ off len [] (Nat.lt_succ_self _), List.nil_append]
  have hmin : min len (file.length - off) = len ↔ len ≤ file.length - off :=
    ⟨fun h => h ▸ Nat.min_le_right .., Nat.min_eq_left⟩
  simp only [ite_error_eq_ok, Except.ok.injEq, List.length_take, List.length_drop,
    Bool.and_eq_true, decide_eq_true_eq, not_and, Nat.not_lt, gt_iff_lt, ne_eq, Decidable.not_not,
    hmin, eq_comm (a := bytes)]

theorem osRead_bounds (avail want hint : Nat) :
    osRead avail want hint ≤ want ∧ osRead avail want hint ≤ avail ∧
      (0 < want → 0 < avail → 0 < osRead avail want hint) := by
  unfold osRead
  have h1 := Nat.min_le_left want avail
  have h2 := Nat.min_le_right want avail
  have h3 : 0 < want → 0 < avail → 0 < min want avail := fun a b => Nat.lt_min.mpr ⟨a, b⟩
  generalize min want avail = m at *
  split <;> omega

end RtenVerif.ExtData
