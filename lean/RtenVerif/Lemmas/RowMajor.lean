import RtenVerif.Lemmas.IterLayout
import RtenVerif.Lemmas.Layout

/-! C09 on top of C07's `rowMajor` lemmas (`IterLayout`), for the operations that keep the row-major
element sequence (`merge_axes`, contiguous `reshape`, `to_contiguous`, copies): the data of `denote` is
the storage read along `Iter.rowMajor`, `merge_axes` is C07's `Iter.mergeAxes`, and a `from_shape`
layout reads offsets `0, 1, …`. -/
namespace RtenVerif.Layout
open RtenVerif.Arr RtenVerif.Overlap

theorem indices_eq_idxs (d : Dims) : indices d = idxs (sizes d) := by
  induction d with
  | nil => rfl
  | cons p ds ih =>
    obtain ⟨n, st⟩ := p
    simp only [indices, idxs, sizes, List.map_cons]
    simp only [sizes] at ih
    rw [ih]

theorem denote_data {α : Type} (v : View) (s : Nat → α) :
    (denote v s).data = (Iter.rowMajor v.dims).map (fun o => s (v.base + o)) := by
  simp only [denote, NArr.ofFn, Iter.rowMajor, indices_eq_idxs, List.map_map]
  rfl

theorem denote_eq_mk {α : Type} (v : View) (s : Nat → α) :
    denote v s = ⟨sizes v.dims, (Iter.rowMajor v.dims).map (fun o => s (v.base + o))⟩ :=
  congrArg (NArr.mk (sizes v.dims)) (denote_data v s)

theorem mergeStep_eq : mergeStep = Iter.mergeStep := by
  funext acc outer
  cases acc with
  | nil => rfl
  | cons p rest => obtain ⟨a, b⟩ := p; rfl

theorem mergeAxes_eq (d : Dims) : mergeAxes d = Iter.mergeAxes d := by
  unfold mergeAxes Iter.mergeAxes
  rw [mergeStep_eq]
  cases d.reverse with
  | nil => rfl
  | cons x xs => rfl

theorem rowMajor_mergeAxes (d : Dims) : Iter.rowMajor (mergeAxes d) = Iter.rowMajor d := by
  rw [mergeAxes_eq]; exact Iter.mergeAxes_rowMajor d

theorem total_eq_numel (d : Dims) : Iter.total d = numel (sizes d) := by
  induction d with
  | nil => rfl
  | cons p ds ih =>
    simp only [Iter.total, sizes, numel, List.map_cons, List.foldr_cons] at ih ⊢
    rw [ih]

theorem rowMajor_length' (d : Dims) : (Iter.rowMajor d).length = numel (sizes d) := by
  rw [Iter.rowMajor_length, total_eq_numel]

theorem rowMajor_contigDims (shape : List Nat) :
    Iter.rowMajor (contigDims shape) = List.range (numel shape) := by
  obtain ⟨h1, _⟩ := Iter.contig_rowMajor _ _ (contigR_contigDims shape)
  exact h1

end RtenVerif.Layout
