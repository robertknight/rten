import RtenVerif.Model.TensorBounds
import RtenVerif.Lemmas.Layout
import RtenVerif.Lemmas.Contig

/-! C06, ideal model: valid indices and their offsets, what the `checked_*` guards decide,
contiguous layouts. -/
namespace RtenVerif.TensorBounds
open RtenVerif.Overlap

/-! The ideal model's `prod`, `validIdx` (`Model/NArr.lean`) and `contigDims`, `minDataLen` (`Model/Layout.lean`) are
copies of the layout model's; these equations bring in its lemmas (`Lemmas/IndexSpace.lean`, `Lemmas/Layout.lean`,
`Lemmas/Contig.lean`). -/

theorem prod_eq_numel : prod = Arr.numel := by
  funext s; induction s with
  | nil => rfl
  | cons d ds ih => rw [prod, ih]; rfl

theorem contigDims_eq : contigDims = Layout.contigDims := by
  funext s; induction s with
  | nil => rfl
  | cons d ds ih =>
    rw [Layout.contigDims, ← ih, contigDims, contigStrides, List.zip_cons_cons, prod_eq_numel]; rfl

theorem validIdx_eq (dims : List (Nat × Nat)) : validIdx dims = Arr.validIdx (Layout.sizes dims) := by
  induction dims with
  | nil => funext idx; cases idx <;> rfl
  | cons d ds ih => funext idx; obtain ⟨n, st⟩ := d; cases idx with
    | nil => rfl
    | cons i is => rw [validIdx, ih]; rfl

theorem maxOffset_eq_sum (dims : List (Nat × Nat)) :
    maxOffset dims = (dims.map (fun p => (p.1 - 1) * p.2)).sum := by
  induction dims with
  | nil => rfl
  | cons d ds ih => obtain ⟨n, st⟩ := d; rw [maxOffset, ih, List.map_cons, List.sum_cons]

theorem minDataLen_eq : minDataLen = Layout.minDataLen := by
  funext d
  simp only [minDataLen, Layout.minDataLen, hasZero, Layout.sizes, List.any_map, maxOffset_eq_sum]; rfl

theorem validIdx_iff (dims : List (Nat × Nat)) (idx : List Nat) :
    validIdx dims idx = true ↔ ValidIdx dims idx := by
  rw [validIdx_eq]; exact Arr.validIdx_iff_ValidIdx dims idx

theorem hasZero_cons_false {s t : Nat} {ds : List (Nat × Nat)} :
    hasZero ((s, t) :: ds) = false ↔ s ≠ 0 ∧ hasZero ds = false := by
  simp [hasZero]

theorem valid_hasZero {dims : List (Nat × Nat)} {idx : List Nat} (h : ValidIdx dims idx) :
    hasZero dims = false := by
  induction h with
  | nil => rfl
  | @cons size stride i ds is hlt _ ih =>
    exact hasZero_cons_false.mpr ⟨by omega, ih⟩

theorem valid_offset_le {dims : List (Nat × Nat)} {idx : List Nat} (h : ValidIdx dims idx) :
    offset dims idx ≤ maxOffset dims :=
  maxOffset_eq_sum dims ▸ Layout.offset_le_sum dims idx ((Arr.validIdx_iff_ValidIdx dims idx).mpr h)

theorem minDataLen_of_noZero {dims : List (Nat × Nat)} (h : hasZero dims = false) :
    minDataLen dims = maxOffset dims + 1 := by
  simp [minDataLen, h]

theorem minDataLen_of_hasZero {dims : List (Nat × Nat)} (h : hasZero dims = true) :
    minDataLen dims = 0 := by
  simp [minDataLen, h]

theorem offset_lt_minDataLen {dims : List (Nat × Nat)} {idx : List Nat} (h : ValidIdx dims idx) :
    offset dims idx < minDataLen dims :=
  minDataLen_eq ▸ Layout.offset_lt_minDataLen dims idx ((Arr.validIdx_iff_ValidIdx dims idx).mpr h)

theorem valid_length {dims : List (Nat × Nat)} {idx : List Nat} (h : ValidIdx dims idx) :
    idx.length = dims.length := by
  induction h with
  | nil => rfl
  | cons _ _ ih => simp [ih]

/-- Product of the non-zero sizes (the quantity `checked_shape_len` bounds). -/
def prodNZ : List Nat → Nat
  | [] => 1
  | s :: ss => if s = 0 then prodNZ ss else s * prodNZ ss

theorem prodNZ_pos (l : List Nat) : 0 < prodNZ l := by
  induction l with
  | nil => simp [prodNZ]
  | cons s ss ih =>
    simp only [prodNZ]
    split
    · exact ih
    · exact Nat.mul_pos (by omega) ih

theorem prod_le_prodNZ (l : List Nat) : prod l ≤ prodNZ l := by
  induction l with
  | nil => simp [prod, prodNZ]
  | cons s ss ih =>
    simp only [prod, prodNZ]
    split
    · next h => simp [h]
    · exact Nat.mul_le_mul_left _ ih

theorem prodNZ_tail_le (s : Nat) (ss : List Nat) : prodNZ ss ≤ prodNZ (s :: ss) := by
  simp only [prodNZ]
  split
  · exact Nat.le_refl _
  · exact Nat.le_mul_of_pos_left _ (by omega)

def anyZero (l : List Nat) : Bool := l.any (fun s => s == 0)

theorem prod_eq_zero_iff (l : List Nat) : prod l = 0 ↔ anyZero l = true := by
  rw [prod_eq_numel]; exact Arr.numel_eq_zero_iff l

theorem prod_of_anyZero {l : List Nat} (h : anyZero l = true) : prod l = 0 :=
  (prod_eq_zero_iff l).mpr h

theorem prod_of_noZero {l : List Nat} (h : anyZero l = false) : prod l = prodNZ l := by
  induction l with
  | nil => rfl
  | cons s ss ih =>
    simp only [anyZero, List.any_cons, Bool.or_eq_false_iff, beq_eq_false_iff_ne] at h
    simp only [prod, prodNZ, if_neg h.1]
    rw [ih (by simpa [anyZero] using h.2)]

theorem checkedShapeLenGo_eq (ss : List Nat) (len : Nat) (e : Bool) (hlen : len ≤ isizeMax) :
    checkedShapeLenGo ss len e =
      if len * prodNZ ss ≤ isizeMax then
        some (if e || anyZero ss then 0 else len * prodNZ ss)
      else none := by
  fun_induction checkedShapeLenGo ss len e
  case case1 len e => simp [prodNZ, anyZero, hlen]
  case case2 ss len e ih => simp [ih hlen, prodNZ, anyZero]
  case case3 s ss len e hs hle ih =>
    have : anyZero (s :: ss) = anyZero ss := by simp [anyZero, hs]
    rw [ih hle, prodNZ, if_neg hs, Nat.mul_assoc, this]
  case case4 s ss len e hs hle =>
    -- the prefix product is already too large
    have hp := prodNZ_pos ss
    rw [prodNZ, if_neg hs, ← Nat.mul_assoc, if_neg]
    exact fun h => hle (Nat.le_trans (Nat.le_mul_of_pos_right _ hp) h)

theorem checkedShapeLen_eq (shape : List Nat) :
    checkedShapeLen shape =
      if prodNZ shape ≤ isizeMax then some (prod shape) else none := by
  unfold checkedShapeLen
  rw [checkedShapeLenGo_eq _ _ _ (by decide)]
  simp only [Nat.one_mul, Bool.false_or]
  split
  · congr 1
    cases h : anyZero shape
    · simp [prod_of_noZero h]
    · simp [prod_of_anyZero h]
  · rfl

theorem prodNZ_le_of_isSome {shape : List Nat} (h : (checkedShapeLen shape).isSome = true) :
    prodNZ shape ≤ isizeMax := by
  rw [checkedShapeLen_eq] at h
  split at h
  · assumption
  · cases h

theorem prodNZ_le_of_not_isNone {shape : List Nat} (h : ¬ (checkedShapeLen shape).isNone = true) :
    prodNZ shape ≤ isizeMax :=
  prodNZ_le_of_isSome (by cases hc : checkedShapeLen shape <;> simp_all)

theorem contigStrides_length (shape : List Nat) : (contigStrides shape).length = shape.length := by
  induction shape with
  | nil => rfl
  | cons s ss ih => simp [contigStrides, ih]

theorem shapeOf_contigDims (shape : List Nat) : shapeOf (contigDims shape) = shape := by
  rw [contigDims_eq]; exact Layout.sizes_contigDims shape

theorem hasZero_eq_anyZero (dims : List (Nat × Nat)) : hasZero dims = anyZero (shapeOf dims) := by
  simp [hasZero, anyZero, shapeOf, List.any_map, Function.comp_def]

theorem maxOffset_contig_lt (shape : List Nat) :
    maxOffset (contigDims shape) + 1 ≤ prodNZ shape := by
  induction shape with
  | nil => simp [contigDims, contigStrides, maxOffset, prodNZ]
  | cons s ss ih =>
    simp only [contigDims, contigStrides, List.zip_cons_cons, maxOffset, prodNZ] at *
    by_cases hs : s = 0
    · simp [hs]; exact ih
    · simp only [hs, if_false]
      obtain ⟨k, rfl⟩ : ∃ k, s = k + 1 := ⟨s - 1, by omega⟩
      have h1 : (k + 1 - 1) * prod ss ≤ k * prodNZ ss := by
        simp only [Nat.add_sub_cancel]
        exact Nat.mul_le_mul_left _ (prod_le_prodNZ ss)
      rw [Nat.succ_mul]
      omega

theorem contigR_contigDims (shape : List Nat) :
    contigR (contigDims shape) = some (prod shape) := by
  rw [contigDims_eq, prod_eq_numel]; exact Layout.contigR_contigDims shape

theorem contigR_maxOffset (dims : List (Nat × Nat)) (p : Nat) (h : contigR dims = some p)
    (hz : hasZero dims = false) : maxOffset dims + 1 = p := by
  rw [maxOffset_eq_sum]; exact ((contigR_spec dims p h).2 hz).symm

theorem contigR_some_eq {dims : List (Nat × Nat)} {p : Nat} (h : contigR dims = some p) :
    p = prod (shapeOf dims) := by
  rw [prod_eq_numel]; exact (contigR_spec dims p h).1

theorem minDataLen_contig (shape : List Nat) : minDataLen (contigDims shape) = prod shape := by
  unfold minDataLen
  rw [hasZero_eq_anyZero, shapeOf_contigDims]
  cases h : anyZero shape
  · simp [contigR_maxOffset _ _ (contigR_contigDims shape)
      (by rw [hasZero_eq_anyZero, shapeOf_contigDims]; exact h)]
  · simp [prod_of_anyZero h]

theorem len_contig (shape : List Nat) : len (contigDims shape) = prod shape := by
  simp [len, shapeOf_contigDims]

theorem mayOverlap_contig (shape : List Nat) : mayOverlap (contigDims shape) = false := by
  unfold mayOverlap
  split
  · rfl
  · have : isContiguous (contigDims shape) = true := by
      rw [isContiguous_eq, contigR_contigDims]; rfl
    simp [this]

theorem len_eq_zero_iff (dims : List (Nat × Nat)) : len dims = 0 ↔ hasZero dims = true := by
  rw [hasZero_eq_anyZero]; exact prod_eq_zero_iff _

theorem valid_len_pos {dims : List (Nat × Nat)} {idx : List Nat} (h : ValidIdx dims idx) :
    len dims ≠ 0 := by
  rw [Ne, len_eq_zero_iff, valid_hasZero h]; exact Bool.false_ne_true

theorem checkedMinDataLen_eq (dims : List (Nat × Nat)) :
    checkedMinDataLen dims =
      if prodNZ (shapeOf dims) ≤ isizeMax ∧ maxOffset dims < isizeMax then some (minDataLen dims)
      else none := by
  unfold checkedMinDataLen
  rw [checkedShapeLen_eq]
  by_cases h1 : prodNZ (shapeOf dims) ≤ isizeMax
  · simp only [h1, if_true, true_and]
    by_cases h2 : maxOffset dims < isizeMax
    · have : ¬ maxOffset dims ≥ isizeMax := by omega
      simp only [this, h2, if_false, if_true]
      congr 1
      unfold minDataLen
      rw [hasZero_eq_anyZero]
      cases hz : anyZero (shapeOf dims)
      · have : prod (shapeOf dims) ≠ 0 := fun h => by
          have := (prod_eq_zero_iff _).mp h
          simp [hz] at this
        simp [this]
      · simp [prod_of_anyZero hz]
    · have : maxOffset dims ≥ isizeMax := by omega
      simp [this, h2]
  · simp [h1]

theorem checkedMinDataLen_some {dims : List (Nat × Nat)} {k : Nat}
    (h : checkedMinDataLen dims = some k) :
    k = minDataLen dims ∧ prodNZ (shapeOf dims) ≤ isizeMax ∧ maxOffset dims < isizeMax := by
  rw [checkedMinDataLen_eq] at h
  split at h
  · next hc => exact ⟨(Option.some.inj h).symm, hc⟩
  · cases h

end RtenVerif.TensorBounds
