import RtenVerif.Lemmas.GemmGemv
import RtenVerif.Lemmas.ListBasics

/-! C16: branch selection of `gemm_impl` (`gemmPath`). -/
namespace RtenVerif.Gemm

/-- What `gemmPath` can answer with `ok`: the three branches with the guards that led there. -/
theorem gemmPath_ok {k : BlockConsts} {kern : KernelCfg} {p : Problem} {path : Path}
    (h : gemmPath k kern p = .ok path) :
    (p.Ka = p.Kb ∧ biasLenBad p.rowBiasLen p.N = false ∧ biasLenBad p.colBiasLen p.M = false ∧
      biasLenBad p.aQuantLen p.M = false ∧ biasLenBad p.bQuantLen p.N = false ∧
      p.outLen = p.M * p.N) ∧
    ((path = .none ∧ (p.M = 0 ∨ p.N = 0 ∨ p.Ka = 0)) ∨
     (path = .gemv (gemvSchedule k p.N p.Ka p.threads p.bRowStride1) ∧
        p.M = 1 ∧ p.N ≠ 0 ∧ p.Ka ≠ 0) ∨
     (path = .gemm (rowBlockSize k p.M kern.mr) (colBlockSize k p.N kern.nr p.threads)
          (depthBlockSize k kern.elemSize p.Ka none)
          (schedule p.M p.N p.Ka kern.mr kern.nr (rowBlockSize k p.M kern.mr)
            (colBlockSize k p.N kern.nr p.threads) (depthBlockSize k kern.elemSize p.Ka none)) ∧
        p.M ≠ 0 ∧ p.N ≠ 0 ∧ p.Ka ≠ 0)) := by
  revert h
  -- the eight `error` leaves cannot answer `ok`; the other four have passed the six argument checks
  fun_cases gemmPath k kern p <;> intro h <;> cases h <;>
    refine ⟨by simp only [Decidable.not_not, Bool.not_eq_true] at *; exact ⟨‹_›, ‹_›, ‹_›, ‹_›, ‹_›, ‹_›⟩,
      ?_⟩
  next hmn => exact .inl ⟨rfl, by omega⟩
  next hka => exact .inl ⟨rfl, .inr (.inr hka)⟩
  next hka hv => exact .inr (.inl ⟨rfl, hv.1, by omega, hka⟩)
  next => exact .inr (.inr ⟨rfl, by omega, by omega, ‹_›⟩)

/-- `validate` accepts what `prepack_a` / `prepack_b` of the same kernel stored. -/
theorem validatePacked_prepackMeta (k : BlockConsts) (kern : KernelCfg) (isMr : Bool) (depth : Nat) :
    validatePacked kern (if isMr then kern.mr else kern.nr)
      (depthBlockSize k kern.elemSize depth none) (prepackMeta k kern isMr depth) = .ok () := by
  simp [validatePacked, prepackMeta]

end RtenVerif.Gemm
