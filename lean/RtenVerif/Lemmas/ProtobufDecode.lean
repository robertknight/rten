import RtenVerif.Lemmas.Protobuf

/-! C38 lemmas, part 2: what every operation on a field's sub-reader delivers — where the cursor ends
and how much counted work it did, in one statement (`Reads`) — and the fuel induction over the
instrumented field loop (`Run`, `decodeFieldsS_run`), from which termination, the absence of wrapping
additions and the linear work bound are read off. -/
namespace RtenVerif.Protobuf

/-- `r` is the outcome and `n` the counted work of an operation on the sub-reader `(p, e)`: on success
the cursor stays inside `[p, e]` and the work is at most the bytes consumed plus one (the failing
read that ends a run); a failure is a real error and the work is at most the region plus one. -/
structure Reads {α : Type} (r : Except Err (α × UInt64)) (n : Nat) (p e : UInt64) : Prop where
  ok : ∀ v q, r = .ok (v, q) → p.toNat ≤ q.toNat ∧ q.toNat ≤ e.toNat ∧ n ≤ q.toNat - p.toNat + 1
  err : ∀ x, r = .error x → x.real ∧ n ≤ e.toNat - p.toNat + 1

theorem Reads.of_ok {α : Type} {v : α} {n : Nat} {p q e : UInt64} (h1 : p.toNat ≤ q.toNat)
    (h2 : q.toNat ≤ e.toNat) (h3 : n ≤ q.toNat - p.toNat + 1) : Reads (.ok (v, q)) n p e :=
  ⟨fun _ _ h => by cases h; exact ⟨h1, h2, h3⟩, nofun⟩

theorem Reads.of_err {α : Type} {x : Err} {n : Nat} {p e : UInt64} (hx : x.real)
    (hn : n ≤ e.toNat - p.toNat + 1) : Reads (α := α) (.error x) n p e :=
  ⟨nofun, fun _ h => by cases h; exact ⟨hx, hn⟩⟩

/-- The same operation seen from an enclosing reader, after `k` more units of work on the bytes
`[p', p)` before it. -/
theorem Reads.widen {α : Type} {r : Except Err (α × UInt64)} {n k : Nat} {p p' e e' : UInt64}
    (h : Reads r n p e) (hp : p'.toNat ≤ p.toNat) (hpe : p.toNat ≤ e.toNat) (he : e.toNat ≤ e'.toNat)
    (hk : k ≤ p.toNat - p'.toNat) : Reads r (k + n) p' e' :=
  ⟨fun v q hr => by have := h.ok v q hr; omega,
    fun x hr => by have := h.err x hr; exact ⟨this.1, by omega⟩⟩

section
variable {d : Bytes} (hsz : d.size < UInt64.size)
include hsz

theorem packedVarints_reads (conv : UInt64 → UInt64) {end_ : UInt64} (hes : end_.toNat ≤ d.size) :
    ∀ (k : Nat) (pos : UInt64) (acc : List UInt64), pos.toNat ≤ end_.toNat →
      end_.toNat - pos.toNat < k →
      Reads (packedVarints d conv k pos end_ acc) (packedVarintsN d k pos end_) pos end_ := by
  intro k
  induction k with
  | zero => intro pos acc _ h; omega
  | succ k ih =>
    intro pos acc hpe hk
    unfold packedVarints packedVarintsN
    cases hv : lrReadVarint d pos end_ with
    | ok v p =>
      have := lrReadVarint_ok hsz hv
      exact (ih p (conv v :: acc) (by omega) (by omega)).widen (by omega) (by omega)
        (Nat.le_refl _) (by omega)
    | eof p =>
      have := lrReadVarint_eof hsz hpe hes hv
      exact .of_ok (by omega) (by omega) (Nat.le_add_left 1 _)
    | invalid => exact .of_err real_invalidVarint (Nat.le_add_left 1 _)

theorem packedFixed_reads {n : UInt64} (hn : 0 < n.toNat) {end_ : UInt64} (hes : end_.toNat ≤ d.size) :
    ∀ (k : Nat) (pos : UInt64) (acc : List UInt64), pos.toNat ≤ end_.toNat →
      end_.toNat - pos.toNat < k →
      Reads (packedFixed d n k pos end_ acc) (packedFixedN d n k pos end_) pos end_ := by
  intro k
  induction k with
  | zero => intro pos acc _ h; omega
  | succ k ih =>
    intro pos acc hpe hk
    unfold packedFixed packedFixedN
    cases hv : lrReadFixed d pos end_ n with
    | ok p =>
      have := (lrReadFixed_spec hsz hpe hes n).ok _ hv
      exact (ih p (leBytes d pos.toNat n.toNat :: acc) (by omega) (by omega)).widen (by omega)
        (by omega) (Nat.le_refl _) (by omega)
    | error e =>
      have he := (lrReadFixed_spec hsz hpe hes n).err _ hv
      -- `Eof` from the sub-reader is how a packed run ends
      cases e with
      | eof => exact .of_ok (Nat.le_refl _) hpe (Nat.le_add_left 1 _)
      | _ => exact .of_err he (Nat.le_add_left 1 _)

variable {p fend : UInt64} (hpf : p.toNat ≤ fend.toNat) (hfs : fend.toNat ≤ d.size)
include hpf hfs

theorem consumeBlob_reads (utf8 : Bool) (l : UInt64) :
    Reads (consumeBlob d utf8 p fend l)
      (match lrReadBytes d p fend l with | .ok _ => l.toNat | .error _ => 0) p fend := by
  unfold consumeBlob
  cases hv : lrReadBytes d p fend l with
  | ok q =>
    have := (lrReadBytes_spec hsz hpf hfs l).ok _ hv
    simp only []
    split
    · exact .of_ok (by omega) (by omega) (by omega)
    · exact .of_err real_invalidUtf8 (by omega)
  | error e => exact .of_err ((lrReadBytes_spec hsz hpf hfs l).err _ hv) (Nat.zero_le _)

/-- Allocation bound (T3): a blob of declared length `l` is only produced (and its buffer only
allocated) when `l` bytes are available inside the field, hence in the input. -/
theorem consumeBlob_alloc {utf8 : Bool} {l : UInt64} {v : Option Val} {p2 : UInt64}
    (h : consumeBlob d utf8 p fend l = .ok (v, p2)) :
    p2.toNat = p.toNat + l.toNat ∧ p.toNat + l.toNat ≤ fend.toNat := by
  unfold consumeBlob at h
  split at h
  · rename_i q hv
    have := (lrReadBytes_spec hsz hpf hfs l).ok _ hv
    split at h
    · cases h; omega
    · cases h
  · cases h

theorem consumePacked_reads {loop : UInt64 → UInt64 → Except Err (List UInt64 × UInt64)}
    {loopN : UInt64 → UInt64 → Nat} (l : UInt64)
    (hloop : ∀ e2 : UInt64, p.toNat ≤ e2.toNat → e2.toNat ≤ fend.toNat →
      Reads (loop p e2) (loopN p e2) p e2) :
    Reads (consumePacked loop p fend l)
      (match lrSub p fend l with | .ok e2 => loopN p e2 | .error _ => 0) p fend := by
  unfold consumePacked
  cases hs : lrSub p fend l with
  | ok e2 =>
    have := (lrSub_spec hsz hpf hfs l).ok _ hs
    have hl := hloop e2 (by omega) (by omega)
    simp only []
    cases hr : loop p e2 with
    | ok r =>
      have := hl.ok r.1 r.2 hr
      exact .of_ok (by omega) (by omega) (by omega)
    | error x =>
      have := hl.err x hr
      exact .of_err this.1 (by omega)
  | error e => exact .of_err ((lrSub_spec hsz hpf hfs l).err _ hs) (Nat.zero_le _)

theorem consumeSkip_reads (v : Option Val) (fv : FieldValue) :
    Reads (consumeSkip d v fv p fend) 0 p fend := by
  unfold consumeSkip skipField
  cases fv with
  | len l =>
    simp only []
    cases hv : lrSkip d p fend l with
    | ok q =>
      have := (lrSkip_spec hsz hpf hfs l).ok _ hv
      exact .of_ok (by omega) (by omega) (Nat.zero_le _)
    | error e => exact .of_err ((lrSkip_spec hsz hpf hfs l).err _ hv) (Nat.zero_le _)
  | _ => exact .of_ok (Nat.le_refl _) hpf (Nat.zero_le _)

/-- Position (T1) and work (linear clause) of every non-message arm, in one statement. -/
theorem consumeField_reads (fuel : Nat) (hfuel : fend.toNat - p.toNat < fuel) (k : Kind)
    (fv : FieldValue) :
    Reads (consumeField d fuel k fv p fend) (consumeSteps d fuel k fv p fend) p fend := by
  have hself : ∀ v : Option Val, Reads (.ok (v, p)) 0 p fend :=
    fun v => .of_ok (Nat.le_refl _) hpf (Nat.zero_le _)
  have htm : Reads (α := Option Val) (.error .typeMismatch) 0 p fend :=
    .of_err real_typeMismatch (Nat.zero_le _)
  have hpv (conv : UInt64 → UInt64) (l : UInt64) :=
    consumePacked_reads hsz hpf hfs (loop := fun a b => packedVarints d conv fuel a b [])
      (loopN := fun a b => packedVarintsN d fuel a b) l
      (fun e2 h1 h2 => packedVarints_reads hsz conv (by omega) fuel p [] h1 (by omega))
  have hpx (n : UInt64) (hn : 0 < n.toNat) (l : UInt64) :=
    consumePacked_reads hsz hpf hfs (loop := fun a b => packedFixed d n fuel a b [])
      (loopN := fun a b => packedFixedN d n fuel a b) l
      (fun e2 h1 h2 => packedFixed_reads hsz hn (by omega) fuel p [] h1 (by omega))
  -- only a length-delimited value costs anything beyond its header
  cases fv with
  | len l =>
    cases k with
    | str | bytes => exact consumeBlob_reads hsz hpf hfs _ l
    | packedI32 => exact hpv signExt32 l
    | packedI64 | packedU64 => exact hpv id l
    | packedF32 => exact hpx 4 (by decide) l
    | packedF64 => exact hpx 8 (by decide) l
    | flag | skip => exact consumeSkip_reads hsz hpf hfs _ _
    | _ => exact htm
  | _ =>
    simp only [consumeSteps]
    cases k with
    | flag | skip => simp only [consumeField]; exact consumeSkip_reads hsz hpf hfs _ _
    | str | bytes | msg _ => exact htm
    -- a scalar arm hands back its value without moving, or rejects the wire type
    | _ => first | exact hself _ | exact htm

end

/-- What a counted run of the field loop over `[pos, end_)` delivers: a message that ends exactly at
`end_` or a real error, for at most two units of work per byte plus one. -/
structure Run (c : Counted) (pos end_ : UInt64) : Prop where
  ok : ∀ r p, c.res = .ok (r, p) → p.toNat = end_.toNat
  err : ∀ e, c.res = .error e → e.real
  steps : c.steps ≤ 2 * (end_.toNat - pos.toNat) + 1

theorem Run.of_err {e : Err} {n dp : Nat} {pos end_ : UInt64} (he : e.real)
    (hs : n ≤ 2 * (end_.toNat - pos.toNat) + 1) : Run ⟨.error e, n, dp⟩ pos end_ :=
  ⟨nofun, fun _ h => by cases h; exact he, hs⟩

/-- The rest of the loop, after `n - c.steps` units of work on `[pos, p2)`. -/
theorem Run.of_rest {c : Counted} {n dp : Nat} {pos p2 end_ : UInt64} (h : Run c p2 end_)
    (hs : n ≤ 2 * (end_.toNat - pos.toNat) + 1) : Run ⟨c.res, n, dp⟩ pos end_ :=
  ⟨h.ok, h.err, hs⟩

theorem steps_le_of_field {N b r pos p p2 e : Nat} (hN : N ≤ p - pos) (hb : b ≤ 2 * (p2 - p) + 1)
    (hr : r ≤ 2 * (e - p2) + 1) (hpp : pos < p) (hp2 : p ≤ p2) (hpe : p2 ≤ e) :
    N + b + r ≤ 2 * (e - pos) + 1 := by
  omega

/-- Termination, no wrap, exact end (T1 + T3) and the linear work bound, by one induction over the
fuel: header `[pos, p)` costs at most its length, the body `[p, p2)` at most `2·len + 1`, the rest of
the loop `[p2, end_)` likewise, and the header is at least one byte. -/
theorem decodeFieldsS_run (S : Schema) {d : Bytes} (hsz : d.size < UInt64.size) :
    ∀ (fuel depth m : Nat) (pos end_ : UInt64) (acc : List (UInt64 × Val)),
      pos.toNat ≤ end_.toNat → end_.toNat ≤ d.size → end_.toNat - pos.toNat < fuel →
      Run (decodeFieldsS S d fuel depth m pos end_ acc) pos end_ := by
  have hbase {pos end_ : UInt64} (hpe : pos.toNat ≤ end_.toNat) (hes : end_.toNat ≤ d.size) :
      nextFieldN d pos end_ ≤ 2 * (end_.toNat - pos.toNat) + 1 := by
    have := nextFieldN_le_two d pos end_
    have := nextFieldN_le_len hsz hpe
    omega
  intro fuel depth m pos end_ acc hpe hes hfuel
  fun_induction decodeFieldsS S d fuel depth m pos end_ acc
  case case1 => omega
  case case2 hn =>
    exact ⟨fun _ _ h => by cases h; exact (nextField_done hsz hpe hes hn).1, nofun, hbase hpe hes⟩
  case case3 hn => exact .of_err (nextField_err hsz hes hn) (hbase hpe hes)
  case case4 => exact .of_err real_tooDeep (hbase hpe hes)
  case case5 p fend _ _ l _ e hs hn =>
    have hf := nextField_field hsz hes hn
    exact .of_err ((lrSub_spec hsz hf.2.1 (Nat.le_trans hf.2.2.1 hes) l).err _ hs) (hbase hpe hes)
  case case6 p fend _ _ l _ cend hs _ e hd hn ih =>
    have hf := nextField_field hsz hes hn
    have hc := (lrSub_spec hsz hf.2.1 (Nat.le_trans hf.2.2.1 hes) l).ok _ hs
    have ih1 := ih (by omega) (by omega) (by omega)
    exact .of_err (ih1.err _ hd) (steps_le_of_field (nextFieldN_field hsz hes hn) ih1.steps
      (Nat.zero_le _) hf.1 (by omega) (by omega))
  case case7 p fend _ _ l _ cend hs _ sub p2 hd _ hn ih1 ih2 =>
    have hf := nextField_field hsz hes hn
    have hc := (lrSub_spec hsz hf.2.1 (Nat.le_trans hf.2.2.1 hes) l).ok _ hs
    have ih1 := ih1 (by omega) (by omega) (by omega)
    have hp2 := ih1.ok _ _ hd
    have ih2 := ih2 (by omega) hes (by omega)
    exact .of_rest ih2 (steps_le_of_field (nextFieldN_field hsz hes hn) (hp2 ▸ ih1.steps)
      ih2.steps hf.1 (by omega) (by omega))
  case case8 => exact .of_err real_typeMismatch (hbase hpe hes)
  case case9 num fv p fend hn e _ _ hd =>
    have hf := nextField_field hsz hes hn
    have hc := (consumeField_reads hsz hf.2.1 (Nat.le_trans hf.2.2.1 hes) _ (by omega)
      (S.lookup _ num).kind fv).err _ hd
    exact .of_err hc.1 (steps_le_of_field (nextFieldN_field hsz hes hn)
      (Nat.le_trans hc.2 (by omega)) (Nat.zero_le _) hf.1 hf.2.1 hf.2.2.1)
  case case10 num fv p fend hn v p2 _ _ _ hd ih =>
    have hf := nextField_field hsz hes hn
    have hp2 := (consumeField_reads hsz hf.2.1 (Nat.le_trans hf.2.2.1 hes) _ (by omega)
      (S.lookup _ num).kind fv).ok _ _ hd
    have ih2 := ih (by omega) hes (by omega)
    exact .of_rest ih2 (steps_le_of_field (nextFieldN_field hsz hes hn)
      (Nat.le_trans hp2.2.2 (by omega)) ih2.steps hf.1 hp2.1 (by omega))

end RtenVerif.Protobuf
