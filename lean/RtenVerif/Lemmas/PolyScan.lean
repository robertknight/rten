import RtenVerif.Lemmas.PolyOrder

/-!
The invariant of the Graham scan of `convex_hull` (C35.S3), for a point list sorted by `exactLe`
around the pivot `m` in which `m` comes first and only once: every scanned point, kept or popped,
lies on or left of every edge of the stack (`ScanInv`, kept by `ScanInv.push`, hence by `scan`:
`scan_inv`).  The stack is top first, the pivot at the bottom.
-/
namespace RtenVerif.Poly

/-- `q` is on or left of every edge of the stack (`c` directly above `b` is the edge `b → c`). -/
def LeftOf (q : Pt) : List Pt → Prop
  | c :: b :: rest => 0 ≤ cross b c q ∧ LeftOf q (b :: rest)
  | _ => True

/-- Shape of the stack: the pivot `m` at the bottom and only there; above it the angle around
`m` increases strictly.  This is said of all pairs, `c` anywhere above `b`; the relation is
transitive on the half-plane (`cross_pos_trans`), so that is no more than saying it of neighbours. -/
structure Fan (m : Pt) (st : List Pt) : Prop where
  bottom : st.getLast? = some m
  ang : st.Pairwise fun c b => c ≠ m ∧ (b ≠ m → 0 < cross m b c)

/-- The scan invariant: `done` are the points scanned so far (all of them, kept or popped).
`left` speaks of the edges between stack entries.  The closing edge, from the top back to `m`, is
`top`, in the form the sort order gives it: no scanned point comes after the top (`exactLe m q t`
puts `q` on or left of `t → m`). -/
structure ScanInv (m : Pt) (done st : List Pt) : Prop where
  turns : TurnsR st
  fan : Fan m st
  left : ∀ q ∈ done, LeftOf q st
  top : ∀ q ∈ done, ∀ t ∈ st.head?, exactLe m q t = true
  sub : ∀ x ∈ st, x ∈ done

variable {m : Pt}

theorem LeftOf.tail {q c : Pt} {st : List Pt} (h : LeftOf q (c :: st)) : LeftOf q st := by
  cases st with
  | nil => trivial
  | cons b rest => exact h.2

theorem Fan.tail {c b : Pt} {st : List Pt} (h : Fan m (c :: b :: st)) : Fan m (b :: st) :=
  ⟨(List.getLast?_cons_cons.symm.trans h.bottom), (List.pairwise_cons.mp h.ang).2⟩

theorem Fan.sorted {c b : Pt} {st : List Pt} (h : Fan m (c :: b :: st)) : 0 ≤ cross m b c := by
  by_cases hb : b = m
  · rw [hb, cross_self_left]
  · exact Int.le_of_lt (((List.pairwise_cons.mp h.ang).1 b (.head _)).2 hb)

theorem Fan.adj {c b a : Pt} {st : List Pt} (h : Fan m (c :: b :: a :: st)) : 0 < cross m b c :=
  ((List.pairwise_cons.mp h.ang).1 b (.head _)).2 ((List.pairwise_cons.mp h.tail.ang).1 a (.head _)).1

theorem LeftOf.edge {q : Pt} : ∀ {pre st : List Pt} {c b : Pt} {post : List Pt}, LeftOf q st →
    st = pre ++ c :: b :: post → 0 ≤ cross b c q
  | [], _, _, _, _, h, e => by subst e; exact h.1
  | _ :: pre, _, _, _, _, h, e => by subst e; exact LeftOf.edge (pre := pre) h.tail rfl

theorem Fan.base {pre : List Pt} {c b : Pt} (h : Fan m (pre ++ [c, b])) : b = m ∧ c ≠ m :=
  ⟨by simpa using h.bottom, ((List.pairwise_cons.mp (List.pairwise_append.mp h.ang).2.1).1 b (.head _)).1⟩

/-- The new point is left of every edge that stays: down the stack by `left_below`. -/
theorem leftOf_new {p : Pt} : ∀ {st : List Pt}, TurnsR st → Fan m st → (∀ x ∈ st, 0 ≤ cross m x p) →
    (∀ a b rest, st = a :: b :: rest → 0 ≤ cross b a p) → LeftOf p st
  | [], _, _, _, _ => trivial
  | [_], _, _, _, _ => trivial
  | a :: b :: rest, ht, hf, hmp, htop => by
    refine ⟨htop a b rest rfl,
      leftOf_new (ht.suffix (pre := [a])) hf.tail (fun x hx => hmp x (.tail _ hx)) ?_⟩
    rintro _ b' rest' ⟨rfl, rfl⟩
    exact left_below (ht [] a _ b' rest' rfl) hf.adj hf.tail.sorted (hmp _ (.tail _ (.head _)))
      (htop a _ _ rfl)

/-- On one ray from the pivot the nearer point is popped: a point that stays below `p` has a
strictly smaller angle. -/
theorem fan_of_stop {a b p : Pt} (ha : HPv (a.1 - m.1) (a.2 - m.2)) (hp : HPv (p.1 - m.1) (p.2 - m.2))
    (hb : 0 ≤ cross m b p) (hap : exactLe m a p = true) (stop : 0 < cross b a p) :
    0 < cross m a p := by
  rw [exactLe_iff (ne_of_hp ha) (ne_of_hp hp)] at hap
  rcases hap with h | ⟨h0, hd⟩
  · exact h
  · have := seg_left ha hp h0 hd (x := b) (y := p) (by rwa [cross_rot])
      (by rw [cross_self_right])
    rw [cross_neg] at this; omega

/-- All scanned points are left of the edge from the new top `a` of the stack to `p`: `cone_left`
at `a`, whose upper neighbour is the entry popped last, or the pivot (which closes the polygon) if
nothing was popped. -/
theorem ScanInv.new_edge {p : Pt} {done st : List Pt} (inv : ScanInv m done st)
    (hS : ∀ q ∈ done, InS m q) (hp : HPv (p.1 - m.1) (p.2 - m.2))
    (hle : ∀ q ∈ done, exactLe m q p = true) :
    ∀ q ∈ done, ∀ a ∈ (popWhile p st).head?, 0 ≤ cross a p q := by
  intro q hq a' ha'
  have hfan := inv.fan
  have hl := inv.left q hq
  rcases popWhile_inv p st with e | ⟨pre, c, a, rest, est, e, hpop⟩
  · rw [e] at ha'
    match st, inv, hfan, hl, e with
    | [a], inv, hfan, _, _ =>
      obtain rfl : a = m := Option.some.inj hfan.bottom
      cases ha'
      rw [eq_of_exactLe_pivot (inv.top q hq _ rfl), cross_self_mid]
    | c :: a :: rest, inv, hfan, hl, e =>
      have stop := popWhile_top p _ c a rest e
      have hc := hS c (inv.sub c (.head _))
      obtain rfl : c = a' := Option.some.inj ha'
      cases rest with
      | nil =>
        -- the stack is the segment `m → c` and every scanned point lies on it
        obtain ⟨rfl, hcm⟩ := hfan.base (pre := [])
        have hcq := hl.1
        rcases hS q hq with rfl | hq'
        · rw [cross_rot]; exact Int.le_of_lt stop
        · have h := inv.top q hq _ rfl
          rw [exactLe_iff (ne_of_hp hq') hcm, cross_neg] at h
          exact seg_left hq' (hc.resolve_left hcm) (by rw [cross_neg]; omega) (by omega)
            (by rw [cross_rot]; exact Int.le_of_lt stop) (by rw [cross_self_mid])
      | cons a2 rest' =>
        refine cone_left (c := m) (by rw [cross_rot]; exact hfan.adj) hl.1 ?_ stop
          (by rw [cross_swap]; have := cross_nonneg_of_exactLe (hle c (inv.sub c (.head _))); omega)
        rw [← cross_rot]; exact cross_nonneg_of_exactLe (inv.top q hq _ rfl)
  · rw [e] at ha'
    obtain rfl : a = a' := Option.some.inj ha'
    cases rest with
    | nil =>
      -- popped down to the pivot: `c`, `q`, `p` in angular order with `c` not before `p`
      obtain ⟨rfl, hcm⟩ := Fan.base (est ▸ hfan)
      have hcq := hl.edge (post := []) est
      rcases hS q hq with rfl | hq'
      · rw [cross_self_mid]
      · refine Int.le_of_not_gt fun h => ?_
        have := cross_pos_trans ((hS c (inv.sub c (by rw [est]; simp))).resolve_left hcm) hq' hp hcq
          (by rw [cross_neg]; omega)
        omega
    | cons b rest =>
      exact cone_left (inv.turns pre c a b rest est)
        (hl.edge (pre := pre ++ [c]) (post := rest) (by rw [est]; simp)) (hl.edge est)
        (popWhile_top p st a b rest e) hpop

theorem ScanInv.push {p : Pt} {done st : List Pt} (inv : ScanInv m done st)
    (hS : ∀ q ∈ done ++ [p], InS m q) (hpm : p ≠ m)
    (hle : ∀ q ∈ done, exactLe m q p = true) : ScanInv m (done ++ [p]) (p :: popWhile p st) := by
  have hp := (hS p (by simp)).resolve_left hpm
  have hS' : ∀ q ∈ done, InS m q := fun q hq => hS q (List.mem_append_left _ hq)
  have hmp : ∀ x ∈ popWhile p st, 0 ≤ cross m x p := fun x hx =>
    cross_nonneg_of_exactLe (hle x (inv.sub x (mem_popWhile hx)))
  have hfan := popWhile_keeps p (fun _ _ _ => Fan.tail) inv.fan
  have key := inv.new_edge hS' hp hle
  refine ⟨inv.turns.push, ?_, ?_, ?_, ?_⟩
  · match hrem : popWhile p st, hfan with
    | a :: t, hf =>
      have hH : ∀ x ∈ a :: t, x ≠ m → HPv (x.1 - m.1) (x.2 - m.2) := fun x hx hxm =>
        (hS' x (inv.sub x (mem_popWhile (hrem ▸ hx)))).resolve_left hxm
      -- the new top `a` by `fan_of_stop`, the entries below it by transitivity through `a`
      have hap : a ≠ m → 0 < cross m a p := fun ham => by
        match t, hf, hrem with
        | [], hf, _ => exact absurd (Option.some.inj hf.bottom) ham
        | b :: t', _, hrem =>
          exact fan_of_stop (hH a (.head _) ham) hp (hmp b (by rw [hrem]; exact .tail _ (.head _)))
            (hle a (inv.sub a (mem_popWhile (by rw [hrem]; exact .head _)))) (popWhile_top p st a b t' hrem)
      refine ⟨List.getLast?_cons_cons.trans hf.bottom,
        List.pairwise_cons.mpr ⟨fun x hx => ⟨hpm, fun hxm => ?_⟩, hf.ang⟩⟩
      rcases List.mem_cons.mp hx with rfl | hx'
      · exact hap hxm
      · obtain ⟨ham, hxa⟩ := (List.pairwise_cons.mp hf.ang).1 x hx'
        exact cross_pos_trans (hH x hx hxm) (hH a (.head _) ham) hp (Int.le_of_lt (hxa hxm)) (hap ham)
  · intro q hq
    match hrem : popWhile p st, hfan with
    | a :: t, _ =>
      rcases List.mem_append.mp hq with hq | hq
      · exact ⟨key q hq a (by rw [hrem]; rfl),
          hrem ▸ popWhile_keeps p (fun _ _ _ => LeftOf.tail) (inv.left q hq)⟩
      · cases List.mem_singleton.mp hq
        refine ⟨by rw [cross_self_right], ?_⟩
        rw [← hrem]
        exact leftOf_new (TurnsR.suffix (pre := [p]) inv.turns.push) hfan hmp fun a b rest h =>
          Int.le_of_lt (popWhile_top _ st a b rest h)
  · rintro q hq _ ⟨⟩
    rcases List.mem_append.mp hq with hq | hq
    · exact hle q hq
    · cases List.mem_singleton.mp hq; exact exactLe_refl m p
  · intro x hx
    rcases List.mem_cons.mp hx with rfl | hx
    · simp
    · exact List.mem_append_left _ (inv.sub x (mem_popWhile hx))

theorem scan_inv {L : List Pt} (hS : ∀ q ∈ L, InS m q)
    (hs : L.Pairwise (fun a b => exactLe m a b = true)) :
    ∀ (ps done st : List Pt), L = done ++ ps → (∀ p ∈ ps, p ≠ m) → ScanInv m done st →
      ScanInv m L (scan ps st)
  | [], _, _, e, _, inv => by rwa [e, List.append_nil]
  | p :: ps, done, st, e, hne, inv => by
    have e' : L = (done ++ [p]) ++ ps := by rw [e, List.append_assoc]; rfl
    exact scan_inv hS hs ps _ _ e' (fun x hx => hne x (.tail _ hx))
      (inv.push (fun q hq => hS q (e' ▸ List.mem_append_left _ hq)) (hne p (.head _))
        fun q hq => (List.pairwise_append.mp (e ▸ hs)).2.2 q hq p (.head _))

end RtenVerif.Poly
