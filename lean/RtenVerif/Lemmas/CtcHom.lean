import RtenVerif.Model.CtcShadow
import RtenVerif.Lemmas.Ctc
import RtenVerif.Lemmas.ListBasics

/-! C39: homomorphisms between carriers commute with the whole decoder; `V.val : vOps → natOps`
is one. Hence what the driver runs (`vOps`) projects exactly onto the `natOps` model that
T3 / F / S4 talk about. -/
namespace RtenVerif.Ctc

structure OpsHom {α β : Type} (o1 : Ops α) (o2 : Ops β) (φ : α → β) : Prop where
  zero : φ o1.zero = o2.zero
  one : φ o1.one = o2.one
  add : ∀ a b, φ (o1.add a b) = o2.add (φ a) (φ b)
  mul : ∀ a b, φ (o1.mul a b) = o2.mul (φ a) (φ b)
  gt : ∀ a b, o1.gt a b = o2.gt (φ a) (φ b)
  argGt : ∀ a b, o1.argGt a b = o2.argGt (φ a) (φ b)
  sortGe : ∀ a b, o1.sortGe a b = o2.sortGe (φ a) (φ b)
  isZero : ∀ a, o1.isZero a = o2.isZero (φ a)

section
variable {α β : Type} {o1 : Ops α} {o2 : Ops β} {φ : α → β}

def mapState (φ : α → β) (s : BState α) : BState β := ⟨s.pre, φ s.pb, φ s.pnb⟩
def mapExt (φ : α → β) (e : Ext α) : Ext β := ⟨e.index, e.label, φ e.prob⟩
def mapHyp (φ : α → β) (h : Hyp α) : Hyp β := ⟨h.steps, φ h.score⟩

def TR (φ : α → β) (t : Table α) (t' : Table β) : Prop := ∀ i j, φ (t i j) = t' i j

theorem TR.upd {t : Table α} {t' : Table β} (h : TR φ t t') (a b : Nat) (v : α) (v' : β)
    (hv : φ v = v') : TR φ (Table.upd t a b v) (Table.upd t' a b v') := by
  intro i j
  unfold Table.upd
  split
  · exact hv
  · exact h i j

theorem getD_map_hom (hz : φ o1.zero = o2.zero) (row : List α) (l : Nat) :
    φ (row.getD l o1.zero) = (row.map φ).getD l o2.zero := by
  rw [List.getD_eq_getElem?_getD, List.getD_eq_getElem?_getD, List.getElem?_map]
  cases row[l]? with
  | none => simpa using hz
  | some x => rfl

theorem lastIdxGo_map {γ δ : Type} (f : γ → δ) (p : δ → Bool) (l : List γ) :
    ∀ i acc, lastIdxGo p (l.map f) i acc = lastIdxGo (fun x => p (f x)) l i acc := by
  induction l with
  | nil => intro i acc; rfl
  | cons a l ih => intro i acc; simp only [List.map_cons, lastIdxGo]; exact ih _ _

theorem mergeTarget_map (beam : List (BState α)) (p1 : List Step) (l : Nat) :
    mergeTarget (beam.map (mapState φ)) p1 l = mergeTarget beam p1 l := by
  unfold mergeTarget
  rw [lastIdxGo_map]
  rfl

theorem extCell_map (beam : List (BState α)) (pre : List Step) (bi l : Nat) :
    extCell (beam.map (mapState φ)) pre bi l = extCell beam pre bi l := by
  unfold extCell
  rw [mergeTarget_map]

def TabsR (φ : α → β) (t : Tabs α) (t' : Tabs β) : Prop := TR φ t.nb t'.nb ∧ TR φ t.nnb t'.nnb

theorem extCore_hom (hh : OpsHom o1 o2 φ) (tgt : Nat × Nat) (prob : α) (ne : Bool) (bi : Nat)
    (s : BState α) (t : Tabs α) (t' : Tabs β) (h : TabsR φ t t') :
    TabsR φ (extCore o1 tgt prob ne bi s t) (extCore o2 tgt (φ prob) ne bi (mapState φ s) t') := by
  unfold extCore
  cases ne with
  | true =>
    refine ⟨h.1, TR.upd h.2 _ _ _ _ ?_⟩
    rw [hh.add, hh.add, hh.mul, hh.mul, h.2]
    rfl
  | false =>
    have h3 := TR.upd h.2 tgt.1 tgt.2 (o1.add (t.nnb tgt.1 tgt.2) (o1.mul s.pb prob)) _
      (by rw [hh.add, hh.mul, h.2])
    refine ⟨h.1, TR.upd h3 _ _ _ _ ?_⟩
    rw [hh.add, hh.mul, h3]
    rfl

theorem extLabel_hom (hh : OpsHom o1 o2 φ) (beam : List (BState α)) (row : List α) (bi : Nat)
    (s : BState α) (t : Tabs α) (t' : Tabs β) (label : Nat) (h : TabsR φ t t') :
    TabsR φ (extLabel o1 beam row bi s t label)
      (extLabel o2 (beam.map (mapState φ)) (row.map φ) bi (mapState φ s) t' label) := by
  rw [extLabel_eq_core, extLabel_eq_core, extCell_map, ← getD_map_hom hh.zero row label]
  exact extCore_hom hh _ _ _ bi s t t' h

theorem extState_hom (hh : OpsHom o1 o2 φ) (L : Nat) (beam : List (BState α)) (row : List α)
    (t : Tabs α) (t' : Tabs β) (h : TabsR φ t t') (sb : BState α × Nat) :
    TabsR φ (extState o1 L beam row t sb)
      (extState o2 L (beam.map (mapState φ)) (row.map φ) t' (mapState φ sb.1, sb.2)) := by
  unfold extState
  have := foldl_rel (TabsR φ) (extLabel o1 beam row sb.2 sb.1)
    (extLabel o2 (beam.map (mapState φ)) (row.map φ) sb.2 (mapState φ sb.1)) id
    (List.range' 1 (L - 1))
    (fun t t' x => extLabel_hom hh beam row sb.2 sb.1 t t' x)
  rw [List.map_id] at this
  refine this _ _ ⟨TR.upd h.1 _ _ _ _ ?_, h.2⟩
  rw [hh.add, hh.add, hh.mul, hh.mul, h.1, getD_map_hom hh.zero]
  rfl

theorem extendAll_hom (hh : OpsHom o1 o2 φ) (L : Nat) (beam : List (BState α)) (row : List α) :
    TabsR φ (extendAll o1 L beam row) (extendAll o2 L (beam.map (mapState φ)) (row.map φ)) := by
  unfold extendAll
  rw [List.zipIdx_map]
  exact foldl_rel (TabsR φ) (extState o1 L beam row)
    (extState o2 L (beam.map (mapState φ)) (row.map φ))
    (Prod.map (mapState φ) id) beam.zipIdx
    (fun t t' x hr => extState_hom hh L beam row t t' hr x) _ _
    ⟨fun _ _ => hh.zero, fun _ _ => hh.zero⟩

theorem candidates_hom (hh : OpsHom o1 o2 φ) (L n : Nat) (t : Tabs α) (t' : Tabs β)
    (h : TabsR φ t t') :
    (candidates o1 L n t).map (mapExt φ) = candidates o2 L n t' := by
  unfold candidates
  rw [List.map_flatMap]
  congr 1
  funext bi
  rw [List.map_map]
  congr 1
  funext label
  simp only [Function.comp, mapExt, hh.add, h.1 bi label, h.2 bi label]

theorem sortDesc_hom (hh : OpsHom o1 o2 φ) (l : List (Ext α)) :
    (sortDesc o1 l).map (mapExt φ) = sortDesc o2 (l.map (mapExt φ)) := by
  rw [sortDesc_eq, sortDesc_eq, ← List.map_reverse, ← Overlap.map_isort]
  congr 2
  funext a b
  exact congrArg (!·) (hh.sortGe b.prob a.prob)

theorem pushExt_hom (hh : OpsHom o1 o2 φ) (B : Nat) (topk : List (Ext α)) (c : Ext α) :
    (pushExt o1 B topk c).map (mapExt φ) = pushExt o2 B (topk.map (mapExt φ)) (mapExt φ c) := by
  unfold pushExt
  have hz : o1.isZero c.prob = o2.isZero (mapExt φ c).prob := hh.isZero _
  have hlast : o1.gt c.prob ((topk.getLast?.map (·.prob)).getD o1.zero) =
      o2.gt (mapExt φ c).prob ((((topk.map (mapExt φ)).getLast?).map (·.prob)).getD o2.zero) := by
    rw [hh.gt, List.getLast?_map]
    congr 1
    cases topk.getLast? with
    | none => simpa using hh.zero
    | some e => rfl
  rw [← hz, ← hlast, List.length_map]
  split
  · rfl
  · split
    · rw [List.map_take, sortDesc_hom hh, List.map_append]; rfl
    · rfl

theorem foldl_pushExt_hom (hh : OpsHom o1 o2 φ) (B : Nat) (cands : List (Ext α))
    (topk : List (Ext α)) : (cands.foldl (pushExt o1 B) topk).map (mapExt φ) =
      (cands.map (mapExt φ)).foldl (pushExt o2 B) (topk.map (mapExt φ)) :=
  foldl_rel (fun acc acc' => acc.map (mapExt φ) = acc') _ _ (mapExt φ) cands
    (fun acc _ c h => h ▸ pushExt_hom hh B acc c) topk _ rfl

theorem selectTopk_hom (hh : OpsHom o1 o2 φ) (B : Nat) (cands : List (Ext α)) :
    (selectTopk o1 B cands).map (mapExt φ) = selectTopk o2 B (cands.map (mapExt φ)) := by
  have := foldl_pushExt_hom hh B cands []
  rw [List.map_nil] at this
  rw [selectTopk_eq, selectTopk_eq, ← this, List.isEmpty_map]
  split
  · simp [mapExt, hh.zero]
  · rfl

theorem mkState_hom (beam : List (BState α)) (pos : Nat) (t : Tabs α) (t' : Tabs β)
    (h : TabsR φ t t') (e : Ext α) :
    mapState φ (mkState o1 beam pos t e) =
      mkState o2 (beam.map (mapState φ)) pos t' (mapExt φ e) := by
  have hpre : ((beam.map (mapState φ)).getD e.index (emptyState o2)).pre =
      (beam.getD e.index (emptyState o1)).pre := by
    rw [List.getD_eq_getElem?_getD, List.getD_eq_getElem?_getD, List.getElem?_map]
    cases beam[e.index]? with
    | none => rfl
    | some s => rfl
  unfold mkState
  simp only [mapExt, hpre, ← h.1 e.index e.label, ← h.2 e.index e.label]
  rfl

theorem beamStep_hom (hh : OpsHom o1 o2 φ) (B L : Nat) (beam : List (BState α)) (pos : Nat)
    (row : List α) :
    (beamStep o1 B L beam pos row).map (mapState φ) =
      beamStep o2 B L (beam.map (mapState φ)) pos (row.map φ) := by
  have ht := extendAll_hom hh L beam row
  rw [beamStep_eq, beamStep_eq, List.length_map, ← candidates_hom hh L beam.length _ _ ht,
    ← selectTopk_hom hh, List.map_map, List.map_map]
  apply List.map_congr_left
  intro e _
  exact mkState_hom beam pos _ _ ht e

theorem beamLoop_hom (hh : OpsHom o1 o2 φ) (B L : Nat) (rows : List (List α)) :
    ∀ (beam : List (BState α)) (pos : Nat),
      (beamLoop o1 B L beam pos rows).map (mapState φ) =
        beamLoop o2 B L (beam.map (mapState φ)) pos (rows.map (·.map φ)) := by
  induction rows with
  | nil => intro beam pos; rfl
  | cons row rows ih =>
    intro beam pos
    simp only [beamLoop, List.map_cons]
    rw [ih, beamStep_hom hh]

theorem decodeBeamImpl_hom (hh : OpsHom o1 o2 φ) (B L : Nat) (rows : List (List α)) :
    (decodeBeamImpl o1 B L rows).map (·.map (mapState φ)) =
      decodeBeamImpl o2 B L (rows.map (·.map φ)) := by
  unfold decodeBeamImpl
  have he : (rows.map (·.map φ)).isEmpty = rows.isEmpty := by cases rows <;> rfl
  rw [he]
  split
  · simp [initBeam, mapState, hh.one, hh.zero]
  · split
    · rfl
    · simp only [Option.map_some]
      rw [beamLoop_hom hh]
      simp [initBeam, mapState, hh.one, hh.zero]

theorem hypOf_hom (hh : OpsHom o1 o2 φ) (s : BState α) :
    mapHyp φ (hypOf o1 s) = hypOf o2 (mapState φ s) := by
  simp [mapHyp, hypOf, mapState, hh.add]

theorem decodeBeamNbest_hom (hh : OpsHom o1 o2 φ) (B N L : Nat) (rows : List (List α)) :
    (decodeBeamNbest o1 B N L rows).map (·.map (mapHyp φ)) =
      decodeBeamNbest o2 B N L (rows.map (·.map φ)) := by
  unfold decodeBeamNbest
  rw [← decodeBeamImpl_hom hh]
  cases decodeBeamImpl o1 B L rows with
  | none => rfl
  | some beam =>
    simp only [Option.map_some, List.map_map, List.map_take]
    congr 2
    apply List.map_congr_left
    intro s _
    exact hypOf_hom hh s

theorem decodeBeam_hom (hh : OpsHom o1 o2 φ) (B L : Nat) (rows : List (List α)) :
    (decodeBeam o1 B L rows).map (mapHyp φ) = decodeBeam o2 B L (rows.map (·.map φ)) := by
  unfold decodeBeam
  rw [← decodeBeamImpl_hom hh]
  cases decodeBeamImpl o1 B L rows with
  | none => rfl
  | some beam =>
    cases beam with
    | nil => rfl
    | cons s rest => simp [hypOf_hom hh]

end

theorem vOps_hom : OpsHom vOps natOps V.val where
  zero := rfl
  one := rfl
  add a b := by
    simp only [vOps, natOps]
    split
    · rename_i h; rw [h]; simp
    · split
      · rename_i h; rw [h]; simp
      · rfl
  mul a b := by
    simp only [vOps, natOps]
    split
    · rename_i h
      rcases h with h | h <;> simp [vZero, h]
    · split
      · rename_i h; rw [h.1]; simp
      · split
        · rename_i h; rw [h.1]; simp
        · rfl
  gt _ _ := rfl
  argGt _ _ := rfl
  sortGe _ _ := rfl
  isZero _ := rfl

theorem leaf_val (w : Nat) : (leaf w).val = w := by
  unfold leaf
  split
  · rename_i h; rw [h]; rfl
  · rfl

theorem rows_leaf_val (rows : List (List Nat)) :
    (rows.map (·.map leaf)).map (·.map V.val) = rows := by
  rw [List.map_map]
  have : ((fun r : List V => r.map V.val) ∘ fun r : List Nat => r.map leaf) = id := by
    funext r
    simp only [Function.comp, List.map_map, id]
    have : (V.val ∘ leaf) = id := by funext w; exact leaf_val w
    rw [this, List.map_id]
  rw [this, List.map_id]

end RtenVerif.Ctc
