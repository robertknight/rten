import RtenVerif.Lemmas.IterOffsets

/-!
C07 lemmas: iterators that map offsets to sub-view items (`Lanes`, `InnerIter`)
refine the deque over the mapped abstraction.
-/
namespace RtenVerif.Iter

theorem mapOps_nextOk {κ : Type} (f : Nat → κ) :
    NextOk (fun s => ((Offsets.next s).1.map f, (Offsets.next s).2)) OffInv
      (fun s => (absO s).map f) := by
  intro s hs
  obtain ⟨h1, h2, h3⟩ := offsets_next s hs
  refine ⟨?_, ?_, h3⟩
  · simp only [h1, List.head?_map]
  · simp only [h2, List.map_tail]

theorem mapOps_backOk {κ : Type} (f : Nat → κ) :
    BackOk (fun s => ((Offsets.nextBack s).1.map f, (Offsets.nextBack s).2)) OffInv
      (fun s => (absO s).map f) := by
  intro s hs
  obtain ⟨h1, h2, h3⟩ := offsets_nextBack s hs
  refine ⟨?_, ?_, h3⟩
  · simp only [h1, List.getLast?_map]
  · simp only [h2, List.map_dropLast]

theorem mapOps_refines {κ : Type} (f : Nat → κ) :
    Refines (mapOps f) OffInv (fun s => (absO s).map f) where
  next := mapOps_nextOk f
  nextBack := mapOps_backOk f
  nth := fun s n hs => by
    have := defaultNth_spec (mapOps_nextOk f) n s hs
    simpa [mapOps, List.map_drop] using this
  len := fun s _ => by simp [mapOps, offsets_len]
  fold := fun s hs => by
    show (Offsets.fold s).map f = _
    have := offsets_refines.fold s hs
    simp only [Offsets.ops] at this
    rw [this]
  rev := fun s hs => by
    show drainBack _ (Offsets.len s) s = _
    rw [← List.map_reverse]
    have := drainBack_spec (mapOps_backOk f) (Offsets.len s) s hs (by simp [offsets_len])
    simpa using this
  splitOk := fun s k hs hk => by
    obtain ⟨a, b, h1, h2, h3, h4, h5⟩ := offsets_split s k hs (by simpa using hk)
    exact ⟨a, b, h1, by simp [h2, List.map_take], by simp [h3, List.map_drop], h4, h5⟩
  splitPanic := fun s k _ hk => offsets_splitPanic s k (by simpa using hk)

theorem mapOps_history {κ : Type} (f : Nat → κ) (h : Hist) (s : Offsets) (hs : OffInv s) :
    run (mapOps f) h s = run (listOps κ) h ((absO s).map f) :=
  run_refines (mapOps_refines f) h s hs

end RtenVerif.Iter
