import RtenVerif.Lemmas.CtcBound

/-! C39 (S4): over `natOps`, as long as no extension with non-zero probability is ever
dropped (`noPrune`), every beam state carries the *exact* prefix-recursion values and the
beam contains every label sequence of positive probability: the beam read as a table agrees
with `dpRev` on all sequences over the labels `1 .. L-1`, and a beam step is a `dpStep`. -/
namespace RtenVerif.Ctc

def tot (d : List (List Nat)) (s : List Nat) : Nat := (dpRev d s).1 + (dpRev d s).2

structure Exact (L : Nat) (d : List (List Nat)) (beam : List (BState Nat)) : Prop where
  ne : beam ≠ []
  dist : Distinct beam
  lr : ∀ st ∈ beam, okSeq L (labels st.pre)
  eq : ∀ st ∈ beam, st.pb = (dpRev d (labels st.pre)).1 ∧ st.pnb = (dpRev d (labels st.pre)).2
  complete : ∀ s, okSeq L s → 0 < tot d s → ∃ st ∈ beam, labels st.pre = s

theorem Exact.absent {L d beam} (h : Exact L d beam) (s : List Nat) (hs : okSeq L s)
    (hno : ¬ ∃ st ∈ beam, labels st.pre = s) : (dpRev d s).1 = 0 ∧ (dpRev d s).2 = 0 := by
  have : ¬ 0 < tot d s := fun hp => hno (h.complete s hs hp)
  unfold tot at this
  omega

theorem Exact.look_eq {L d beam} (h : Exact L d beam) (s : List Nat) (hs : okSeq L s) :
    look beam s = dpRev d s := by
  rcases look_cases beam s with ⟨hno, h0⟩ | ⟨j, st, hj, hl, hlook⟩
  · obtain ⟨z1, z2⟩ := h.absent s hs fun ⟨st, hst, he⟩ => hno st hst he
    rw [h0]
    exact Prod.ext z1.symm z2.symm
  · have he := h.eq st (List.mem_of_getElem? hj)
    rw [hlook, ← hl]
    exact Prod.ext he.1 he.2

theorem Exact.dpRev_cons {L d beam} (h : Exact L d beam) (row : List Nat) (s : List Nat)
    (hs : okSeq L s) : dpRev (row :: d) s = dpStep row (look beam) s :=
  (dpStep_congr (h.look_eq s hs)
    (h.look_eq _ fun m hm => hs m (List.dropLast_subset _ hm))).symm

theorem beamStep_complete (B L : Nat) (hL : 0 < L) (beam : List (BState Nat)) (pos : Nat)
    (row : List Nat) (hd : Distinct beam) (hlr : ∀ st ∈ beam, okSeq L (labels st.pre))
    (hnp : noPruneStep natOps B L beam row = true) (s' : List Nat) (hok : okSeq L s')
    (hpos : 0 < (dpStep row (look beam) s').1 + (dpStep row (look beam) s').2) :
    ∃ st ∈ beamStep natOps B L beam pos row, labels st.pre = s' := by
  have hsel : ∀ i l s, beam[i]? = some s → l < L →
      0 < (extendAll natOps L beam row).nb i l + (extendAll natOps L beam row).nnb i l →
      ∃ st ∈ beamStep natOps B L beam pos row,
        labels st.pre = if l = 0 then labels s.pre else labels s.pre ++ [l] := by
    intro i l s hs hl hp
    refine ⟨_, List.mem_map_of_mem (mem_selectTopk_of_mem natOps B _ _
      (foldl_pushExt_complete natOps B _ (by simpa [noPruneStep] using hnp) _
        (List.mem_filter.mpr
          ⟨mem_candidates_of natOps L beam.length _ i l (List.getElem?_eq_some_iff.mp hs).1 hl,
            by simpa [natOps] using Nat.ne_of_gt hp⟩))), ?_⟩
    rw [mkState_eq natOps beam pos _ _ s hs, labels_ext]
  by_cases hin : ∃ st ∈ beam, labels st.pre = s'
  · obtain ⟨st, hst, rfl⟩ := hin
    obtain ⟨i, hi⟩ := List.getElem?_of_mem hst
    obtain ⟨st', hst', hlab⟩ := hsel i 0 st hi hL (by
      rw [nb_cell L beam row i st hi, nnb_stay_cell L beam row hd i st hi (hlr st hst)]
      simpa only [dpStep, look_of_mem hd hi] using hpos)
    exact ⟨st', hst', hlab⟩
  · have hnew := look_of_not_mem fun st hst he => hin ⟨st, hst, he⟩
    rcases List.eq_nil_or_concat s' with rfl | ⟨S', m, rfl⟩
    · simp [dpStep, hnew] at hpos
    · rw [List.concat_eq_append] at hin hnew hok hpos ⊢
      have hm := hok m (by simp)
      have hfst : (dpStep row (look beam) (S' ++ [m])).1 = 0 := by simp [dpStep, hnew]
      rw [hfst, Nat.zero_add] at hpos
      rcases look_cases beam S' with ⟨_, h0⟩ | ⟨j, sj, hj, hlj, _⟩
      · simp [dpStep_snd_snoc, hnew, h0] at hpos
      · have hmt : mergeTarget beam sj.pre m = none := by
          cases hmm : mergeTarget beam sj.pre m with
          | none => rfl
          | some ti =>
            obtain ⟨s2, hs2, hl2⟩ := mergeTarget_sound beam sj.pre m ti hmm
            exact absurd ⟨s2, List.mem_of_getElem? hs2, by rw [hl2, hlj]⟩ hin
        obtain ⟨st', hst', hlab⟩ := hsel j m sj hj hm.2 (by
          rw [(nnb_ext_dp L beam row hd j m hm.1 hm.2 sj hj hmt).1, hlj]
          exact Nat.lt_of_lt_of_le hpos (Nat.le_add_left _ _))
        exact ⟨st', hst', by rw [hlab, if_neg hm.1, hlj]⟩

theorem beamStep_exact (B L : Nat) (hL : 0 < L) (d : List (List Nat)) (beam : List (BState Nat))
    (pos : Nat) (row : List Nat) (hE : Exact L d beam)
    (hnp : noPruneStep natOps B L beam row = true) :
    Exact L (row :: d) (beamStep natOps B L beam pos row) := by
  have hstep := beamStep_reach natOps B L beam pos row ⟨hE.ne, hE.lr⟩
  refine ⟨hstep.1, beamStep_distinct natOps rfl B L beam pos row hE.dist, hstep.2, ?_, ?_⟩
  · intro st hst
    rw [hE.dpRev_cons row _ (hstep.2 st hst)]
    exact beamStep_dp B L beam pos row ⟨hE.ne, hE.lr⟩ hE.dist st hst
  · intro s' hok hpos
    rw [tot, hE.dpRev_cons row s' hok] at hpos
    exact beamStep_complete B L hL beam pos row hE.dist hE.lr hnp s' hok hpos

theorem initBeam_exact (L : Nat) : Exact L [] (initBeam natOps) := by
  refine ⟨List.cons_ne_nil _ _, initBeam_distinct natOps, (initBeam_reach natOps L).2, ?_, ?_⟩
  · intro st hst
    rw [List.mem_singleton.mp hst]
    exact ⟨rfl, rfl⟩
  · intro s _ hp
    refine ⟨_, List.mem_singleton_self _, ?_⟩
    unfold tot dpRev at hp
    by_cases hs : s = []
    · exact hs.symm
    · simp [hs] at hp

theorem beamLoop_exact (B L : Nat) (hL : 0 < L) (rows : List (List Nat)) :
    ∀ (beam : List (BState Nat)) (pos : Nat) (d : List (List Nat)),
      Exact L d beam → noPrune natOps B L beam pos rows = true →
      Exact L (rows.reverse ++ d) (beamLoop natOps B L beam pos rows) := by
  induction rows with
  | nil => intro beam pos d h _; exact h
  | cons row rows ih =>
    intro beam pos d h hnp
    simp only [noPrune, Bool.and_eq_true] at hnp
    rw [List.reverse_cons, List.append_assoc]
    exact ih _ _ _ (beamStep_exact B L hL d beam pos row h hnp.1) hnp.2

end RtenVerif.Ctc
