import RtenVerif.Lemmas.Sym

/-! Relations between the ideal, overflow-checked and wrapping evaluators (C11). -/
namespace RtenVerif.Sym

abbrev evc (σ : Env) (e : SymExpr) : Except EvalErr Int := eval Arith.checked σ e

theorem evc_ev (σ : Env) (e : SymExpr) (v : Int) (h : evc σ e = .ok v) : ev σ e = .ok v :=
  eval_mono (B := .ideal) (fun _ _ h => congrArg some (chk_some h).1.symm)
    (fun _ _ h => congrArg some (chk_some h).1.symm) σ e v h

/-- When no intermediate result leaves `i32`, the wrapping (release) evaluator returns the
same value as the overflow-checked (debug) one. -/
theorem evw_of_evc (σ : Env) (e : SymExpr) (v : Int) (h : evc σ e = .ok v) :
    eval Arith.wrap σ e = .ok v := by
  refine eval_mono (A := .checked) (B := .wrap) (fun x y h => ?_) (fun _ _ h => h) σ e v h
  obtain ⟨rfl, h1, h2⟩ := chk_some h
  exact congrArg some (wrap32_id h1 h2)

theorem lift_deliver_checked (o : Op) (z : Int) :
    lift (Arith.checked.deliver o z) = .ok z ∨ lift (Arith.checked.deliver o z) = .error .panic := by
  have : Arith.checked.deliver o z = some z ∨ Arith.checked.deliver o z = none := by
    cases o
    case max | min | broadcast => exact .inl rfl
    all_goals exact chk_cases z
  rcases this with e | e <;> rw [e]
  · exact .inl rfl
  · exact .inr rfl

/-- If the ideal value is `v`, the overflow-checked evaluator returns `v` or panics on an
overflow — it never returns another value, `DivisionByZero` or `MissingSymbol`. -/
theorem evc_of_ev (σ : Env) :
    ∀ (e : SymExpr) (v : Int), ev σ e = .ok v → evc σ e = .ok v ∨ evc σ e = .error .panic := by
  intro e
  induction e with
  | value x => exact fun v h => .inl h
  | var n p => exact fun v h => .inl h
  | neg a ih =>
    intro v h
    obtain ⟨x, hx, rfl⟩ := ev_neg_ok.mp h
    rw [evc, eval]
    rcases ih x hx with h1 | h1 <;> rw [evc] at h1 <;> simp only [h1]
    · exact lift_deliver_checked .add (-x)
    · exact .inr trivial
  | bin o a b iha ihb =>
    intro v h
    obtain ⟨x, y, hx, hy, h0, rfl⟩ := ev_bin_ok.mp h
    rw [evc, eval]
    rcases iha x hx with h1 | h1 <;> rw [evc] at h1 <;> simp only [h1]
    · rcases ihb y hy with h2 | h2 <;> rw [evc] at h2 <;> simp only [h2]
      · rw [evalOp_eq, if_neg fun h => h0 h.1 h.2]
        exact lift_deliver_checked o _
      · exact .inr trivial
    · exact .inr trivial

end RtenVerif.Sym
