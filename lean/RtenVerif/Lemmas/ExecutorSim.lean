import RtenVerif.Lemmas.ExecutorInv
/-!
# C02 — one completed step preserves the simulation invariant

If the executor completes a step storing the operator outputs `P.outs`, and the naive
evaluation stores the same outputs, `Sim` carries over to the remaining plan.  `post_step` says what
output storage and release do to each entry of `temp_values`, and to the naive value of its id.
-/
namespace RtenVerif.Executor
open RtenVerif.Graph

theorem isInput_false {V : Type} {r : Run V} {x : Nat} (h : r.isInput x = false) :
    r.borrowed x = none ∧ r.owned x = none := by
  unfold Run.isInput at h
  simp only [Bool.or_eq_false_iff, Option.isSome_eq_false_iff, Option.isNone_iff_eq_none] at h
  exact h

theorem isInput_true_owned {V : Type} {r : Run V} {x : Nat} (h : r.isInput x = true)
    (hb : r.borrowed x = none) : ∃ o, r.owned x = some o := by
  unfold Run.isInput at h
  simp only [hb, Option.isSome_none, Bool.false_or, Option.isSome_iff_exists] at h
  exact h

theorem val_indep_input {V : Type} (r : Run V) (E E' : Nat → Option V) {d : Nat}
    (h : r.isInput d = true) : val r E d = val r E' d := by
  rw [val, val, naiveLook_eq, naiveLook_eq]
  cases hb : r.borrowed d with
  | some b => rfl
  | none =>
    obtain ⟨o, ho⟩ := isInput_true_owned h hb
    simp only [ho]

theorem val_indep_const {V : Type} (r : Run V) (E E' : Nat → Option V) {d : Nat}
    (h : isConstant r.g d = true) : val r E d = val r E' d := by
  rw [val, val, naiveLook_eq, naiveLook_eq, if_pos h, if_pos h]

theorem val_not_input {V : Type} {r : Run V} {E : Nat → Option V} {x : Nat}
    (hv : isValue r.g x = true) (hin : r.isInput x = false) : val r E x = E x := by
  obtain ⟨hb, ho⟩ := isInput_false hin
  rw [val_value hv hb, ho]

theorem val_congr {V : Type} (r : Run V) {E E' : Nat → Option V} {d : Nat} (h : E d = E' d) :
    val r E d = val r E' d := by
  unfold val naiveLook
  rw [h]

/-- Output storage and release, entry by entry: kept (and the naive value of the id is not
affected by the store), a fresh output, or released with count 0. -/
theorem post_step {V : Type} {r : Run V} (hf : r.fixed = true) {st2 st' : St V}
    {ids : List (Option Nat)} {vs : List V} {temps3 : Nat → Option V} {stored released ds : List Nat}
    (hb : RcBounded st2.rc) (hout : ∀ o ∈ ids.filterMap id, isValue r.g o = true)
    (hstore : storeOutputs r st2.temps ids vs = (temps3, stored))
    (hrel : releaseLoop r { st2 with temps := temps3 } ds = (st', released)) :
    st'.caps = st2.caps ∧ ∀ x,
      (st'.temps x = st2.temps x ∧ ∀ E, val r (naiveStore E ids vs) x = val r E x) ∨
      (∃ w, st'.temps x = some w ∧ isValue r.g x = true ∧ r.borrowed x = none ∧
        ∀ E, val r (naiveStore E ids vs) x = some w) ∨
      (st'.temps x = none ∧ st'.rc x = 0) := by
  have hc := releaseLoop_caps r { st2 with temps := temps3 } ds
  rw [hrel] at hc
  refine ⟨hc, fun x => ?_⟩
  have ht := releaseLoop_temps r { st2 with temps := temps3 } ds x hb
  have hs := storeOutputs_apply r hf st2.temps ids vs x
  rw [hrel] at ht
  rw [hstore] at hs
  refine ht.elim (fun h => ?_) (fun h => Or.inr (Or.inr h))
  replace h := h.trans hs
  by_cases hin : r.isInput x = true
  · rw [if_pos hin] at h
    exact Or.inl ⟨h, fun E => val_indep_input r _ E hin⟩
  · rw [if_neg hin] at h
    have hin' : r.isInput x = false := by simpa using hin
    rcases naiveStore_cases ids vs x with ⟨w, hw, hB⟩ | ⟨_, hB⟩
    · have hv := hout x (naiveStore_none_mem _ _ _ _ hw)
      exact Or.inr (Or.inl ⟨w, h.trans (hB _), hv, (isInput_false hin').1,
        fun E => by rw [val_not_input hv hin', hB]⟩)
    · exact Or.inl ⟨h.trans (hB _), fun E => val_congr r (hB E)⟩

theorem Sim.step' {V : Type} {ops : Ops V} {r : Run V} {st st' : St V} {i : Nat}
    {caps0 : Nat → Option (V × Bool)}
    {total : Nat → Nat} {rest outs : List Nat} {E : Nat → Option V} (hwf : WF r)
    (hcw : CapsWF r caps0) (hs : Sim r caps0 total (i :: rest) outs st E)
    {op : OpNode} {taken : List (Nat × V)} {st2 : St V} {byVal : List (Nat × V)} {vs : List V}
    {temps3 : Nat → Option V} {stored released : List Nat}
    (hop : getOp r.g i = some op) (T : TakeFacts ops r st i op taken st2 byVal)
    (hstore : storeOutputs r st2.temps op.outputs vs = (temps3, stored))
    (hrel : releaseLoop r { st2 with temps := temps3 } (opDeps r.g op) = (st', released)) :
    Sim r caps0 total rest outs st' (naiveStore E op.outputs vs) := by
  have hrcv := release_rc T.rc hs.rcb hrel
  have hrc' : RcInv r.g total rest outs st'.rc := hs.rc.dec hop hrcv
  obtain ⟨hcaps', F⟩ := post_step hwf.fixed (T.rc ▸ hs.rcb) (hwf.outsValue i op hop) hstore hrel
  refine ⟨fun v => hrcv v ▸ decN_le (hs.rcb v), hrc', ?_, ?_, ?_, ?_⟩
  · rw [hcaps', T.caps]; exact hs.caps
  · intro v hv
    rcases naiveStore_cases op.outputs vs v with ⟨w, hw, _⟩ | ⟨_, hB⟩
    · exact absurd (naiveStore_none_mem _ _ _ _ hw) ((hcw.kind v hv).2.2 i op hop)
    · rw [hB]; exact hs.capE v hv
  · -- agree: what the take phase left was there before
    intro x y hx
    rcases F x with ⟨e, hval⟩ | ⟨w, e, hv, hb, hval⟩ | ⟨e, _⟩
    · rw [e] at hx
      have h0 : st.temps x = some y := (T.htemps x).elim (fun h => h ▸ hx) (fun h => by rw [h.1] at hx; cases hx)
      obtain ⟨hv, hb, h⟩ := hs.agree x y h0
      exact ⟨hv, hb, (hval E).trans h⟩
    · rw [e] at hx; cases hx; exact ⟨hv, hb, hval E⟩
    · rw [e] at hx; cases hx
  · -- live: the take phase removes only last uses, the release loop only count 0
    intro x hv hb hu hval
    rcases F x with ⟨e, hval'⟩ | ⟨w, e, _⟩ | ⟨_, h0⟩
    · rw [e]
      rcases T.htemps x with h | ⟨_, hr1, hmem, _⟩
      · rw [h]
        exact hs.live x hv hb (by rw [uses_cons hop rest outs x hv]; omega) (hval' E ▸ hval)
      · have := (hs.rc.last_use hop hv hr1 hmem).2
        omega
    · rw [e]; exact Option.some_ne_none w
    · have := hrc'.zero hv h0
      omega

theorem Sim.step {V : Type} {ops : Ops V} {r : Run V} {st st' : St V} {i : Nat} {tr : StepTrace}
    {caps0 : Nat → Option (V × Bool)}
    {total : Nat → Nat} {rest outs : List Nat} {E : Nat → Option V} (hwf : WF r)
    (hcw : CapsWF r caps0)
    (h : step ops r st i = .ok (st', tr)) (P : StepParts ops r st st' i tr)
    (hs : Sim r caps0 total (i :: rest) outs st E) :
    Sim r caps0 total rest outs st' (naiveStore E P.op.outputs P.outs) :=
  Sim.step' hwf hcw hs P.hop (takeFacts P (hs.noTake hcw)) P.hstore P.hrel

end RtenVerif.Executor
