import RtenVerif.Lemmas.ControlFlowInv

/-!
# `runPlan = evalG` (C24.T1): one step of `run_plan` refines one step of the naive semantics, hence
all steps, hence whole nested runs

The invariant `Inv` relates the operational state to the naive environment `b ++ σp` (`b`: what the
graph has bound so far, `σp`: the enclosing environment).  A step first moves some values whose
count is 1 out of the state, each by `take_value` (`Moved`, `Moved.step`: in-place operand,
by-value captures), reads its inputs — the same values the naive step reads —, and ends with
`inv_finish`.  A subgraph operator hands its child an environment that satisfies the hypotheses of
the refinement one nesting level down (`child_run_eq`).
-/
namespace RtenVerif.ControlFlow

variable {P V : Type}

def Rel {α β : Type} (Q : α → β → Prop) : Except Err α → Except Err β → Prop
  | .ok s, .ok σ => Q s σ
  | .error e, .error e' => e = e'
  | _, _ => False

theorem Rel.cases {α β : Type} {Q : α → β → Prop} : ∀ {x : Except Err α} {y : Except Err β},
    Rel Q x y → (∃ e, x = .error e ∧ y = .error e) ∨ ∃ s σ, x = .ok s ∧ y = .ok σ ∧ Q s σ
  | .error e, .error _, h => Or.inl ⟨e, rfl, congrArg _ (Eq.symm h)⟩
  | .ok s, .ok σ, h => Or.inr ⟨s, σ, rfl, rfl, h⟩
  | .ok _, .error _, h => h.elim
  | .error _, .ok _, h => h.elim

/-- Refinement hypothesis for subgraphs of nesting depth `< f`. -/
def RefHyp (f : Nat) (rec : Runner P V) (ev : Env V → Graph P V → List V → Except Err (List V)) :
    Prop :=
  ∀ (g' : Graph P V) (args : List (Bool × V)) (E' : List (Frame V)) (σ' : Env V),
    wfG f g' = true →
    (∀ n, n ∈ g'.allDefs → getInput E' n = none ∧ look σ' n = none) →
    headOK E' →
    (∀ n, look (headByVal E') n ≠ none → g'.capNames.count n ≤ 1) →
    (∀ n, n ∉ g'.defs → Needed g' g'.ops n → getInput E' n = look σ' n) →
    rec g' args E' = ev σ' g' (args.map (·.2))

inductive SubOf : Op P V → Graph P V → Prop
  | thenG {c t e outs} : SubOf (.ifOp c t e outs) t
  | elseG {c t e outs} : SubOf (.ifOp c t e outs) e
  | body {trip cond car b outs} : SubOf (.loop trip cond car b outs) b

theorem SubOf.count_capNames {op : Op P V} {sub : Graph P V} (h : SubOf op sub) (n : Nat) :
    sub.capNames.count n ≤ op.capNames.count n := by
  cases h <;> simp only [Op.capNames, List.count_append] <;> omega

theorem SubOf.allDefs {op : Op P V} {sub : Graph P V} (h : SubOf op sub) (n : Nat)
    (hn : n ∈ sub.allDefs) : n ∈ op.allDefs := by
  cases h
  · exact List.mem_append_left _ hn
  · exact List.mem_append_right _ hn
  · exact hn

theorem disjointB_spec (a b : List Nat) (h : disjointB a b = true) (n : Nat) (hn : n ∈ a) : n ∉ b := by
  simp only [disjointB, List.all_eq_true] at h
  simpa using h n hn

theorem wfG_succ (f : Nat) (g : Graph P V) (h : wfG (f + 1) g = true) :
    g.defs.Nodup ∧ g.outputs.Nodup ∧ (∀ n, n ∈ g.outputs → n ∈ g.defs) ∧
      ∀ op sub, op ∈ g.ops → SubOf op sub → wfG f sub = true ∧ ∀ n, n ∈ sub.allDefs → n ∉ g.defs := by
  simp only [wfG, Bool.and_eq_true, decide_eq_true_eq, List.all_eq_true] at h
  obtain ⟨⟨⟨h1, h2⟩, h3⟩, h4⟩ := h
  refine ⟨h1, h2, fun n hn => by simpa using h3 n hn, ?_⟩
  intro op sub hop hs
  have := h4 op hop
  cases hs <;> simp only [Bool.and_eq_true] at this
  · exact ⟨this.1.1.1, disjointB_spec _ _ this.1.2⟩
  · exact ⟨this.1.1.2, disjointB_spec _ _ this.2⟩
  · exact ⟨this.1, disjointB_spec _ _ this.2⟩

theorem wfG_outputs {f : Nat} {g : Graph P V} (h : wfG f g = true) (n : Nat) (hn : n ∈ g.outputs) :
    n ∈ g.defs := by
  cases f with
  | zero => cases h
  | succ f => exact (wfG_succ f g h).2.2.1 n hn

theorem capNamesOps_eq : ∀ ops : List (Op P V), capNamesOps ops = ops.flatMap Op.capNames
  | [] => rfl
  | op :: rest => by rw [capNamesOps, List.flatMap_cons, capNamesOps_eq rest]

theorem allDefsOps_eq : ∀ ops : List (Op P V), allDefsOps ops = ops.flatMap Op.allDefs
  | [] => rfl
  | op :: rest => by rw [allDefsOps, List.flatMap_cons, allDefsOps_eq rest]

theorem allDefs_of_op {g : Graph P V} {op : Op P V} {n : Nat} (hop : op ∈ g.ops)
    (hn : n ∈ op.allDefs) : n ∈ g.allDefs := by
  cases g with
  | mk i c ops o =>
    rw [Graph.allDefs, allDefsOps_eq]
    exact List.mem_append_right _ (List.mem_flatMap.mpr ⟨op, hop, hn⟩)

theorem needed_free_in_capNames {g : Graph P V} {n : Nat} (hout : ∀ n, n ∈ g.outputs → n ∈ g.defs)
    (hnd : n ∉ g.defs) (h : Needed g g.ops n) : n ∈ g.capNames := by
  rcases h with h | h
  · obtain ⟨op, hop, hmem⟩ := List.mem_flatMap.mp h
    cases g with
    | mk i c ops o =>
      rw [Graph.capNames, capNamesOps_eq]
      rcases List.mem_append.mp hmem with hm | hm
      · apply List.mem_append_left
        rw [Graph.caps, List.mem_eraseDups, List.mem_filter]
        exact ⟨List.mem_flatMap.mpr ⟨op, hop, hm⟩, by simpa using hnd⟩
      · exact List.mem_append_right _ (List.mem_flatMap.mpr ⟨op, hop, hm⟩)
  · exact absurd (hout n h) hnd

/-- A capture of `g` that one of `g`'s operators captures again is named at least twice in
`g.capture_names()`. -/
theorem recapture_count (g : Graph P V) (op : Op P V) (hop : op ∈ g.ops) (n : Nat)
    (hc : n ∈ g.caps) (hn : n ∈ op.capNames) : 2 ≤ g.capNames.count n := by
  cases g with
  | mk i c ops o =>
    rw [Graph.capNames, capNamesOps_eq, List.count_append]
    have h1 : 0 < (Graph.caps (.mk i c ops o : Graph P V)).count n := List.count_pos_iff.mpr hc
    have h2 : 0 < (ops.flatMap Op.capNames).count n :=
      List.count_pos_iff.mpr (List.mem_flatMap.mpr ⟨op, hop, hn⟩)
    omega

/-- Under the by-value-once invariant, extraction for an operator of `g` never takes a value out of
the enclosing environment. -/
theorem noEnvTake_of_once {g : Graph P V} {op : Op P V} {env : List (Frame V)} (hop : op ∈ g.ops)
    (hbo : ∀ n, look (headByVal env) n ≠ none → g.capNames.count n ≤ 1) :
    NoEnvTake g.caps op.directInputs env (deps g op) := by
  intro n hn hni
  by_cases hc : g.caps.contains n = true
  · right
    have hcap : n ∈ op.capNames :=
      (List.mem_append.mp hn).elim (fun h => absurd h (by simpa using hni))
        fun h => (List.mem_filter.mp h).1
    have h2 := recapture_count g op hop n (by simpa using hc) hcap
    exact Decidable.by_contra fun hl => absurd (hbo n hl) (by omega)
  · left; simpa using hc

section
variable {g : Graph P V} {views σp b : Env V} {op : Op P V} {rest : List (Op P V)} {st : St V}

theorem Moved.extract (inv : Inv g views σp (op :: rest) st b) :
    Moved g op st (extractByVal g.caps op.directInputs st (deps g op)).1 ∧
    ∀ n, n ∈ op.directInputs →
      opLookup views (extractByVal g.caps op.directInputs st (deps g op)).1 n = opLookup views st n :=
  ⟨extractByVal_induct _ _ (Moved g op st) _ st (Moved.refl inv) fun _ _ hs hn _ => hs.step hn,
    extractByVal_induct _ _ (fun s => ∀ n, n ∈ op.directInputs → opLookup views s n = opLookup views st n)
      _ st (fun _ _ => rfl) fun s m hs _ hin n hn =>
        (opLookup_takeValue_ne views g.caps s fun e => by
          rw [← e, List.contains_iff_mem.mpr hn] at hin; cases hin).trans (hs n hn)⟩

/-- The in-place operand: `take_value` yields the value the operator would have read. -/
theorem takeValue_reads (ctx : Ctx g views σp) (inv : Inv g views σp rest st b) {n : Nat}
    (hrc : st.rc n = 1)
    (hav : (look st.temp n).isSome = true ∨ (g.caps.contains n = true ∧ canTake st.env n = true)) :
    ∃ v, (takeValue g.caps st n).1 = some v ∧ opLookup views st n = some v ∧
      isValueNode g n = true := by
  cases ht : look st.temp n with
  | some v =>
    have hvn : look views n = none := Decidable.by_contra fun hv => by
      have := inv.disj n hv
      rw [ht] at this; cases this
    exact ⟨v, by rw [takeValue_from_temp g.caps st n v hrc ht], by simp only [opLookup, hvn, ht],
      isValueNode_of_valueDefs (inv.keys n (ht ▸ Option.some_ne_none v))⟩
  | none =>
    obtain ⟨hg, hct⟩ := hav.resolve_left (by rw [ht]; exact Bool.false_ne_true)
    obtain ⟨v, htk, hgi⟩ := takeInput_value st.env n inv.headok hct
    have hnd : n ∉ g.defs := fun hd => by
      have := caps_not_def hd
      rw [hg] at this; cases this
    exact ⟨v, by rw [takeValue_from_env g.caps st n hrc ht hg, htk],
      by simp only [opLookup, ctx.views_none n hnd, ht, hgi],
      by simp [isValueNode, List.contains_iff_mem.mp hg]⟩

theorem child_run_eq {f : Nat} {rec : Runner P V}
    {ev : Env V → Graph P V → List V → Except Err (List V)} (href : RefHyp f rec ev)
    (ctx : Ctx g views σp) (inv : Inv g views σp (op :: rest) st b) (hop : op ∈ g.ops)
    {sub : Graph P V} (hs : SubOf op sub) (hwf : wfG f sub = true)
    (hdisj : ∀ n, n ∈ sub.allDefs → n ∉ g.defs) (args : List (Bool × V)) :
    rec sub args
      ({ locals := g.defs, caps := g.caps, views := views,
         tempRef := (extractByVal g.caps op.directInputs st (deps g op)).1.temp,
         byVal := (extractByVal g.caps op.directInputs st (deps g op)).2 } ::
        (extractByVal g.caps op.directInputs st (deps g op)).1.env) =
      ev (b ++ σp) sub (args.map (·.2)) := by
  have hnr := noEnvTake_of_once hop inv.byvalonce
  have henv := extractByVal_env_of_noEnvTake _ _ _ st hnr
  -- a by-value capture came out of `temp_values`: a value node of `g` with count 1 that `op`
  -- depends on and does not take as an input
  have hbyval : ∀ n, look (extractByVal g.caps op.directInputs st (deps g op)).2 n ≠ none →
      look (extractByVal g.caps op.directInputs st (deps g op)).1.temp n = none ∧ n ∈ g.valueDefs ∧
        st.rc n = 1 ∧ n ∈ deps g op ∧ n ∉ op.directInputs := by
    intro n hn
    obtain ⟨v, hv⟩ := Option.ne_none_iff_exists'.mp hn
    obtain ⟨h5, h6, h4⟩ := extractByVal_keys _ _ _ st _ (mem_of_look _ n v hv)
    rcases extractByVal_split g.caps op.directInputs (deps g op) st n (hnr n) with
      ⟨_, h2⟩ | ⟨h1, _, h3⟩
    · exact absurd h2 hn
    · exact ⟨h1, inv.keys n h3, h4, h5, by simpa using h6⟩
  have houter : ∀ (tr bv : Env V) n, n ∉ g.defs →
      getInput ({ locals := g.defs, caps := g.caps, views := views, tempRef := tr, byVal := bv } ::
        (extractByVal g.caps op.directInputs st (deps g op)).1.env) n = getInput st.env n :=
    fun tr bv n hn => by rw [getInput_frame_outer g views tr bv _ n hn, henv]
  refine href sub args _ (b ++ σp) hwf ?_ ?_ ?_ ?_
  · intro n hn
    have hng := hdisj n hn
    have hga : n ∈ g.allDefs := allDefs_of_op hop (hs.allDefs n hn)
    refine ⟨by rw [houter _ _ n hng]; exact inv.shadowE n hga, ?_⟩
    rw [look_append_right σp (Decidable.by_contra fun hb => hng (inv.bkeys n hb))]
    exact ctx.shadowσ n hga
  · intro n hn
    obtain ⟨h1, hvd, _⟩ := hbyval n hn
    exact ⟨List.contains_iff_mem.mpr (valueDefs_sub_defs hvd), h1⟩
  · -- the extracted value had count 1, so `op` names it once among its captures
    intro n hn
    obtain ⟨_, hvd, hrc1, hds, hni⟩ := hbyval n hn
    have h1 := (rc_one_no_remaining_use inv.rc (isValueNode_of_valueDefs hvd)
      hds hrc1).1
    rw [deps, List.count_append, List.count_eq_zero.mpr hni, List.count_filter
      (by simp [hni, valueDefs_sub_defs hvd])] at h1
    exact Nat.le_trans (hs.count_capNames n) (by omega)
  · intro n hnd hneed
    have hcn : n ∈ op.capNames := List.count_pos_iff.mp (Nat.lt_of_lt_of_le
      (List.count_pos_iff.mpr (needed_free_in_capNames (wfG_outputs hwf) hnd hneed))
      (hs.count_capNames n))
    rw [← inv.agree n (needed_head (Or.inr hcn))]
    unfold opLookup
    by_cases hg : n ∈ g.defs
    · rw [child_sees_parent_locals g views st op.directInputs (deps g op) n hg,
        inv.shadowE n (defs_sub_allDefs hg)]
      cases hv : look views n with
      | some v => rw [inv.disj n (hv ▸ Option.some_ne_none v)]
      | none => cases look st.temp n <;> rfl
    · rw [houter _ _ n hg, ctx.views_none n hg, inv.temp_none n hg]

end

theorem lastMax_mem (key : Nat → Nat) : ∀ (l : List (Nat × Nat)) (best : Option (Nat × Nat))
    (x : Nat × Nat), lastMax key l best = some x → x ∈ l ∨ best = some x
  | [], best, x, h => by simp [lastMax] at h; exact Or.inr h
  | y :: ys, none, x, h => by
    simp only [lastMax] at h
    rcases lastMax_mem key ys (some y) x h with h' | h'
    · exact Or.inl (List.mem_cons_of_mem _ h')
    · left; simp at h'; simp [h']
  | y :: ys, some b, x, h => by
    simp only [lastMax] at h
    split at h
    · rcases lastMax_mem key ys (some y) x h with h' | h'
      · exact Or.inl (List.mem_cons_of_mem _ h')
      · left; simp at h'; simp [h']
    · rcases lastMax_mem key ys (some b) x h with h' | h'
      · exact Or.inl (List.mem_cons_of_mem _ h')
      · exact Or.inr h'

theorem candidates_spec (S : Sem P V) (k : P) (ins : List Nat) (temp : Env V)
    (h1 : (S.inPlaceIdx k).length ≤ 1) :
    candidates S k ins temp = [] ∨
      ∃ pos n, candidates S k ins temp = [(pos, n)] ∧ ins[pos]? = some n := by
  unfold candidates
  split
  · exact Or.inl rfl
  · split
    · cases hlm : lastMax (fun n => match look temp n with | some v => S.size v | none => 0)
          ((List.range ins.length).zip ins) none with
      | none => left; rfl
      | some x =>
        right
        refine ⟨x.1, x.2, rfl, ?_⟩
        rcases lastMax_mem _ _ _ _ hlm with hm | hm
        · obtain ⟨i, hi⟩ := List.mem_iff_getElem?.mp hm
          obtain ⟨hr, hins⟩ := List.getElem?_zip_eq_some.mp hi
          obtain ⟨hlt, heq⟩ := List.getElem?_eq_some_iff.mp hr
          simp at heq
          rw [← heq]; exact hins
        · simp at hm
    · cases hidx : S.inPlaceIdx k with
      | nil => left; rfl
      | cons p tl =>
        have htl : tl = [] := by
          rw [hidx] at h1
          cases tl with
          | nil => rfl
          | cons _ _ => simp at h1
        subst htl
        cases hp : ins[p]? with
        | none => left; simp [hp]
        | some n => right; exact ⟨p, n, by simp [hp], hp⟩

theorem collect_eq_lookups (views : Env V) (st1 : St V) (taken : List (Nat × V))
    (f : Nat → Option V) : ∀ (ins : List Nat) (p0 : Nat),
      (∀ i m, ins[i]? = some m →
        (match look taken (p0 + i) with | some v => some v | none => opLookup views st1 m) = f m) →
      collect views st1 taken p0 ins = lookups f ins
  | [], _, _ => rfl
  | m :: ms, p0, H => by
    have h0 := H 0 m rfl
    rw [Nat.add_zero] at h0
    simp only [collect, lookups]
    rw [collect_eq_lookups views st1 taken f ms (p0 + 1) fun i m' hm' => by
      rw [Nat.add_assoc, Nat.add_comm 1 i]; exact H (i + 1) m' hm']
    cases hl : look taken p0 <;> rw [hl] at h0 <;> dsimp only at h0 ⊢ <;> rw [← h0]

theorem collect_nil_eq_lookups (views : Env V) (st : St V) (ins : List Nat) (pos : Nat) :
    collect views st [] pos ins = lookups (opLookup views st) ins :=
  collect_eq_lookups views st [] _ ins pos fun _ _ _ => rfl

theorem count_one_unique : ∀ (l : List Nat) (n i j : Nat), l.count n = 1 → l[i]? = some n →
    l[j]? = some n → i = j
  | a :: l, n, i, j, hc, hi, hj => by
    have hmem : ∀ k, l[k]? = some n → 0 < l.count n :=
      fun k hk => List.count_pos_iff.mpr (List.mem_of_getElem? hk)
    by_cases ha : a = n
    · -- the head is the one occurrence: no index into the tail finds `n`
      subst ha
      rw [List.count_cons_self] at hc
      cases i with
      | zero =>
        cases j with
        | zero => rfl
        | succ j => exact absurd (hmem j hj) (by omega)
      | succ i => exact absurd (hmem i hi) (by omega)
    · rw [List.count_cons_of_ne ha] at hc
      cases i with
      | zero => exact absurd (Option.some.inj hi) ha
      | succ i =>
        cases j with
        | zero => exact absurd (Option.some.inj hj) ha
        | succ j => exact congrArg Nat.succ (count_one_unique l n i j hc hi hj)

theorem flags_map_snd (F : V × Nat → Bool × V) (hF : ∀ p, (F p).2 = p.1) :
    ∀ (l : List V) (k : Nat), ((l.zipIdx k).map F).map (·.2) = l
  | [], _ => rfl
  | a :: l, k => by
    simp only [List.zipIdx_cons, List.map_cons, hF]
    rw [flags_map_snd F hF l (k + 1)]

/-- `run_in_place` condition of `run_plan` for a primitive step. -/
def inPlaceCond (S : Sem P V) (g : Graph P V) (st : St V) (k : P) (ins : List Nat) : Bool :=
  !(candidates S k ins st.temp).isEmpty && (candidates S k ins st.temp).all (fun c =>
    st.rc c.2 == 1 && ((look st.temp c.2).isSome || (g.caps.contains c.2 && canTake st.env c.2)))

/-- The rest of a primitive step once the in-place inputs have been taken. -/
def primFinish (S : Sem P V) (views : Env V) (k : P) (ins : List Nat) (out : Nat) (st1 : St V)
    (taken : List (Nat × V)) : Except Err (St V) :=
  match collect views st1 taken 0 ins with
  | .error e => .error e
  | .ok vs =>
    match S.run k vs with
    | none => .error .opError
    | some v => .ok (decDeps { st1 with temp := (out, v) :: st1.temp } ins)

theorem stepOp_prim_eq (S : Sem P V) (rec : Runner P V) (g : Graph P V) (views : Env V) (st : St V)
    (k : P) (ins : List Nat) (out : Nat) :
    stepOp S rec g views st (.prim k ins out) =
      match (if inPlaceCond S g st k ins then takeAll g.caps st (candidates S k ins st.temp)
             else .ok (st, [])) with
      | .error e => .error e
      | .ok (st1, taken) => primFinish S views k ins out st1 taken := rfl

abbrev StepPost (g : Graph P V) (views σp : Env V) (rest : List (Op P V)) (st' : St V)
    (σ' : Env V) : Prop :=
  ∃ b', σ' = b' ++ σp ∧ Inv g views σp rest st' b'

theorem outputs_sim {g : Graph P V} {views σp b : Env V} {op : Op P V} {rest : List (Op P V)}
    {st st1 : St V} (ctx : Ctx g views σp) (hop : op ∈ g.ops)
    (inv : Inv g views σp (op :: rest) st b) (mv : Moved g op st st1) (r : List V) :
    Rel (StepPost g views σp rest)
      (if op.outs.length > r.length then .error .outputMismatch
       else .ok (decDeps { st1 with temp := op.outs.zip r ++ st1.temp } (deps g op)))
      (bindOuts op.outs r (b ++ σp)) := by
  unfold bindOuts
  split
  · exact rfl
  · exact ⟨op.outs.zip r ++ b, (List.append_assoc _ _ _).symm, inv_finish ctx hop inv mv r⟩

/-- One step. `hS`: every operator declares at most one in-place input (single-output operators
of rten all do). -/
theorem step_sim {S : Sem P V} (hS : ∀ k, (S.inPlaceIdx k).length ≤ 1) {f : Nat} {rec : Runner P V}
    {ev : Env V → Graph P V → List V → Except Err (List V)} (href : RefHyp f rec ev)
    {g : Graph P V} {views σp b : Env V} (ctx : Ctx g views σp) {op : Op P V} (hop : op ∈ g.ops)
    (hwf : ∀ sub, SubOf op sub → wfG f sub = true ∧ ∀ n, n ∈ sub.allDefs → n ∉ g.defs)
    {rest : List (Op P V)} {st : St V} (inv : Inv g views σp (op :: rest) st b) :
    Rel (StepPost g views σp rest) (stepOp S rec g views st op) (evalOp S false ev (b ++ σp) op) := by
  have hag : ∀ n, n ∈ op.directInputs → opLookup views st n = look (b ++ σp) n :=
    fun n hn => inv.agree n (needed_head (Or.inl hn))
  cases op with
  | prim k ins out =>
    have hl := lookups_congr _ _ ins hag
    -- whatever was taken in place, the step ends like the naive one
    have hfin : ∀ (st1 : St V) (taken : List (Nat × V)),
        collect views st1 taken 0 ins = lookups (opLookup views st) ins →
        Moved g (.prim k ins out) st st1 →
        Rel (StepPost g views σp rest) (primFinish S views k ins out st1 taken)
          (evalOp S false ev (b ++ σp) (.prim k ins out)) := by
      intro st1 taken hcol mv
      simp only [primFinish, evalOp, hcol, hl]
      cases lookups (look (b ++ σp)) ins with
      | error e => exact rfl
      | ok vs =>
        dsimp only
        cases S.run k vs with
        | none => exact rfl
        | some v =>
          have := inv_finish ctx hop inv mv [v]
          rw [deps_prim] at this
          exact ⟨(out, v) :: b, rfl, this⟩
    rw [stepOp_prim_eq]
    by_cases hip : inPlaceCond S g st k ins = true
    · rw [if_pos hip]
      rcases candidates_spec S k ins st.temp (hS k) with hc | ⟨pos, n, hc, hpos⟩
      · rw [inPlaceCond, hc] at hip; cases hip
      rw [hc]
      obtain ⟨hrc1, hav⟩ : st.rc n = 1 ∧ ((look st.temp n).isSome = true ∨
          (g.caps.contains n = true ∧ canTake st.env n = true)) := by
        simpa [inPlaceCond, hc] using hip
      have hnin : n ∈ ins := List.mem_of_getElem? hpos
      have hdep : n ∈ deps g (.prim k ins out) := by rw [deps_prim]; exact hnin
      -- the one candidate `n` has count 1: it is the input at `pos` and at no other position, so
      -- the inputs collected around the taken value `v` are those of a plain lookup
      obtain ⟨v, htv, hval, hisv⟩ := takeValue_reads ctx inv hrc1 hav
      have hcount : ins.count n = 1 := by
        have := (rc_one_no_remaining_use inv.rc hisv hdep hrc1).1
        rwa [deps_prim] at this
      simp only [takeAll]
      rw [show takeValue g.caps st n = (some v, (takeValue g.caps st n).2) from Prod.ext htv rfl]
      refine hfin _ _ (collect_eq_lookups views _ _ _ ins 0 fun i m hm => ?_)
        ((Moved.refl inv).step hdep)
      rw [Nat.zero_add, look_cons]
      by_cases hi : pos = i
      · subst hi
        rw [if_pos rfl, Option.some.inj (hm.symm.trans hpos), hval]
      · rw [if_neg hi]
        exact opLookup_takeValue_ne views g.caps st fun hmn =>
          hi (count_one_unique ins n pos i hcount hpos (hmn ▸ hm))
    · rw [if_neg hip]
      exact hfin st [] (collect_nil_eq_lookups views st ins 0) (Moved.refl inv)
  | ifOp c t e outs =>
    obtain ⟨mv, hins⟩ := Moved.extract inv
    have hrun : ∀ sub, SubOf (.ifOp c t e outs) sub → _ = ev (b ++ σp) sub [] := fun sub hs =>
      child_run_eq href ctx inv hop hs (hwf sub hs).1 (hwf sub hs).2 []
    simp only [stepOp, evalOp]
    rw [(hins c List.mem_cons_self).trans (hag c List.mem_cons_self)]
    cases look (b ++ σp) c with
    | none => exact rfl
    | some cv =>
      dsimp only
      cases S.item cv with
      | none => exact rfl
      | some x =>
        dsimp only
        rw [show rec (if x ≠ 0 then t else e) [] _ = ev (b ++ σp) (if x ≠ 0 then t else e) [] by
          split
          · exact hrun t .thenG
          · exact hrun e .elseG]
        cases ev (b ++ σp) (if x ≠ 0 then t else e) [] with
        | error er => exact rfl
        | ok r => exact outputs_sim ctx hop inv mv r
  | loop trip cond car body outs =>
    obtain ⟨mv, hins⟩ := Moved.extract inv
    have hlook : ∀ n, n ∈ (Op.loop trip cond car body outs : Op P V).directInputs →
        opLookup views _ n = look (b ++ σp) n := fun n hn => (hins n hn).trans (hag n hn)
    have hrun := fun (i : Nat) (args : List V) =>
      (child_run_eq href ctx inv hop .body (hwf body .body).1 (hwf body .body).2
        ((args.zipIdx).map (fun (v, j) => (decide (j < 2) || decide (i ≠ 0), v)))).trans
        (congrArg _ (flags_map_snd _ (fun _ => rfl) args 0))
    simp only [stepOp, evalOp]
    rw [optLookup_congr _ _ trip fun n hn => hlook n (by simp [Op.directInputs, hn]),
      optLookup_congr _ _ cond fun n hn => hlook n (by simp [Op.directInputs, hn]),
      lookups_congr _ _ car fun n hn => hlook n (by simp [Op.directInputs, hn]),
      funext fun i => funext fun args => hrun i args]
    cases optLookup (look (b ++ σp)) trip with
    | error er => exact rfl
    | ok tv =>
      dsimp only
      cases optLookup (look (b ++ σp)) cond with
      | error er => exact rfl
      | ok cv =>
        dsimp only
        cases lookups (look (b ++ σp)) car with
        | error er => exact rfl
        | ok cs =>
          dsimp only
          cases loopCore S false (fun _ args => ev (b ++ σp) body args) body.inputs.length
              body.outputs.length tv cv cs with
          | error er => exact rfl
          | ok r => exact outputs_sim ctx hop inv mv r

theorem steps_sim {S : Sem P V} (hS : ∀ k, (S.inPlaceIdx k).length ≤ 1) {f : Nat} {rec : Runner P V}
    {ev : Env V → Graph P V → List V → Except Err (List V)} (href : RefHyp f rec ev)
    {g : Graph P V} {views σp : Env V} (ctx : Ctx g views σp)
    (hwf : ∀ op sub, op ∈ g.ops → SubOf op sub →
      wfG f sub = true ∧ ∀ n, n ∈ sub.allDefs → n ∉ g.defs) :
    ∀ (rest : List (Op P V)) (st : St V) (b : Env V),
      (∀ op, op ∈ rest → op ∈ g.ops) → Inv g views σp rest st b →
      Rel (StepPost g views σp []) (stepOps S rec g views st rest) (evalOps S false ev (b ++ σp) rest)
  | [], st, b, _, inv => ⟨b, rfl, inv⟩
  | op :: rest, st, b, hops, inv => by
    have hop := hops op List.mem_cons_self
    simp only [stepOps, evalOps]
    rcases (step_sim hS href ctx hop (hwf op · hop) inv).cases with
      ⟨e, h1, h2⟩ | ⟨st', _, h1, h2, b', rfl, inv'⟩ <;> rw [h1, h2]
    · exact rfl
    · exact steps_sim hS href ctx hwf rest st' b'
        (fun o ho => hops o (List.mem_cons_of_mem _ ho)) inv'

/-- T1 for operators with at most one in-place input (`hS`): for every fuel, graph, argument list
(any owned/borrowed split), capture environment and enclosing naive environment that agree on the
graph's free names. -/
theorem runPlan_refines (S : Sem P V) (hS : ∀ k, (S.inPlaceIdx k).length ≤ 1) :
    ∀ f, RefHyp f (runPlan S f) (evalG S false f)
  | 0 => fun g args E σ hwf => by cases hwf
  | f + 1 => by
    intro g args E σ hwf hshadow hhead honce hfree
    obtain ⟨hnd, hond, hout, hops⟩ := wfG_succ f g hwf
    have hnd' := List.nodup_append.mp (List.nodup_append.mp hnd).1
    have hinc : ∀ n, n ∈ g.inputs → n ∉ g.consts.map (·.1) := fun n h1 h2 => hnd'.2.2 n h1 n h2 rfl
    have hargs := fun n => look_args g.inputs args n hnd'.1
    have hzip : ∀ n, look (g.inputs.zip (args.map (·.2))) n ≠ none → n ∈ g.inputs :=
      fun _ => look_zip_key
    have howned : ∀ n, look (ownedArgs g.inputs args) n ≠ none → n ∈ g.inputs := fun n hn => by
      rcases hargs n with ⟨_, h⟩ | ⟨_, h⟩
      · exact absurd h hn
      · exact hzip n (h ▸ hn)
    have hborrowed : ∀ n, look (borrowedArgs g.inputs args) n ≠ none → n ∈ g.inputs := fun n hn => by
      rcases hargs n with ⟨h, _⟩ | ⟨h, _⟩
      · exact hzip n (h ▸ hn)
      · exact absurd h hn
    have ctx : Ctx g (borrowedArgs g.inputs args ++ g.consts) σ := by
      refine ⟨hnd, fun n hn => ?_, fun n hn => (hshadow n hn).2⟩
      exact (look_append_ne_none hn).elim (fun h => List.mem_append_left _ (hborrowed n h))
        fun h => List.mem_append_right _ (key_of_look h)
    have inv0 : Inv g (borrowedArgs g.inputs args ++ g.consts) σ g.ops
        { temp := ownedArgs g.inputs args, rc := rcInit g, env := E }
        (g.inputs.zip (args.map (·.2)) ++ g.consts) := by
      refine ⟨fun n hn => (hshadow n hn).1, hhead, honce, rcInv_init g _ _,
        fun n hn => List.mem_append_left _ (howned n hn), fun n hn => ?_, fun n hn => ?_,
        fun n hneed => ?_⟩
      · exact List.mem_append_left _ ((look_append_ne_none hn).elim
          (fun h => List.mem_append_left _ (hzip n h))
          fun h => List.mem_append_right _ (key_of_look h))
      · -- a borrowed input is not owned; a constant is not an input
        show look (ownedArgs g.inputs args) n = none
        rcases hargs n with ⟨_, h⟩ | ⟨hb, _⟩
        · exact h
        · rw [look_append_right _ hb] at hn
          exact Decidable.by_contra fun ho => hinc n (howned n ho) (key_of_look hn)
      · -- outside the graph's own names the two environments agree; inside, both are silent
        have hEσ : getInput E n = look σ n := by
          by_cases hd : n ∈ g.defs
          · have := hshadow n (defs_sub_allDefs hd)
            exact this.1.trans this.2.symm
          · exact hfree n hd hneed
        simp only [opLookup]
        rw [look_append (borrowedArgs g.inputs args) g.consts,
          look_append (g.inputs.zip (args.map (·.2)) ++ g.consts) σ,
          look_append (g.inputs.zip (args.map (·.2))) g.consts, hEσ]
        rcases hargs n with ⟨hb, ho⟩ | ⟨hb, ho⟩ <;> rw [hb, ho]
        · cases look (g.inputs.zip (args.map (·.2))) n <;> cases look g.consts n <;> rfl
        · -- an owned input is not a constant
          cases hz : look (g.inputs.zip (args.map (·.2))) n with
          | some v =>
            rw [look_none_of_not_key _ _ (hinc n (hzip n (hz ▸ Option.some_ne_none v)))]
          | none => cases look g.consts n <;> rfl
    have hsim := steps_sim hS (runPlan_refines S hS f) ctx hops g.ops _ _ (fun _ h => h) inv0
    simp only [runPlan, evalG, List.length_map]
    split
    · rfl
    rcases hsim.cases with ⟨e, h1, h2⟩ | ⟨st', _, h1, h2, b', rfl, inv'⟩ <;> rw [h1, h2]
    -- the outputs are local names: found in the views or in `temp_values`, never in the environment
    refine collectOutputs_eq _ _ _ g.outputs st'.temp hond fun n hn => ?_
    have hag := inv'.agree n (Or.inr hn)
    unfold opLookup at hag
    rw [inv'.shadowE n (defs_sub_allDefs (hout n hn))] at hag ⊢
    rw [← hag]
    cases look (borrowedArgs g.inputs args ++ g.consts) n <;> cases look st'.temp n <;> rfl

end RtenVerif.ControlFlow
