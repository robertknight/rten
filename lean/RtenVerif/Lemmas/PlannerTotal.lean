import RtenVerif.Lemmas.PlannerDfs
import RtenVerif.Lemmas.ListBasics
/-!
# Total correctness of the depth-first phase (C03.T1, T2b, T3), by one induction

One specification of a `visit` call — under the traversal invariant it either extends the plan
or fails with a genuine cause, and in particular never runs out of budget — carried through one
dependency (`resolveStep`), the loop and the recursion on the budget.  What `dfsPlan` returns
(`dfsPlan_total`) is read off it.

Termination: `visit` recurses only into operators that are not in the active set, and pushes
itself onto the active set first.  The active set is therefore a duplicate-free list of operator
ids `< g.nodes.length` that grows by one per recursion level, so the recursion depth never
exceeds the number of nodes: a budget of `g.nodes.length` is never exhausted, for any graph
(cyclic or not), any options and any request.
-/
namespace RtenVerif.Planner
open RtenVerif.Graph

def Meets (P : St → Prop) (Q : PlanError → Prop) : Except PlanError St → Prop
  | .ok st => P st
  | .error e => Q e

theorem Meets.bind {P P' : St → Prop} {Q : PlanError → Prop} {x : Except PlanError St}
    {f : St → Except PlanError St} (hx : Meets P Q x) (hf : ∀ s, P s → Meets P' Q (f s)) :
    Meets P' Q (x >>= f) := by
  cases x with
  | ok s => exact hf s hx
  | error e => exact hx

theorem Meets.imp {P P' : St → Prop} {Q : PlanError → Prop} {x : Except PlanError St}
    (hx : Meets P Q x) (h : ∀ s, P s → P' s) : Meets P' Q x := by
  cases x with
  | ok s => exact h s hx
  | error e => exact hx

/-- The active set `A` (most recent first) on entry to a call that has budget `K`: a path of
`Edge`s through distinct node ids, so long already that `K` more levels exhaust the graph. -/
structure Active (g : Graph) (r0 : List Nat) (K : Nat) (A : List Nat) : Prop where
  chain : Chain g r0 A
  nodup : A.Nodup
  lt : ∀ a ∈ A, a < g.nodes.length
  budget : g.nodes.length < K + A.length

/-- What a recursive call with budget `K` must guarantee: under the traversal invariant it either
extends the plan (`Post`) or fails with a genuine cause — never with `outOfFuel`, for which
`ErrCause` has no constructor. -/
def Total (g : Graph) (opts : PlanOptions) (r0 outs : List Nat) (K : Nat)
    (rec : Nat → OpNode → St → Except PlanError St) : Prop :=
  ∀ p pop st, Inv g opts.allowMissing r0 outs st → getOp g p = some pop → Needed g r0 outs p →
    (∃ v ∈ opOutputs pop, rContains g st.resolved v = false) → Active g r0 K (p :: st.active) →
    Meets (fun st' => Post g opts.allowMissing r0 outs st st' ∧ ∀ v ∈ opOutputs pop, v ∈ st'.resolved)
      (ErrCause g opts r0 outs) (rec p pop st)

/-- `hsrc` holds by `Needed.step` and the edge from the operator being visited in the dependency
loop, by `Needed.root` in the output loop (whose active set is empty). -/
theorem resolveStep_total {g : Graph} {opts : PlanOptions} {eNone : PlanError} {r0 outs : List Nat}
    {K : Nat} {rec : Nat → OpNode → St → Except PlanError St} (hrec : Total g opts r0 outs K rec)
    {st : St} {d : Nat}
    (hsrc : ∀ p pop, rContains g r0 d = false → getSource g d = some (p, pop) →
      Needed g r0 outs p ∧ Chain g r0 (p :: st.active) ∧
        (p ∈ st.active → ErrCause g opts r0 outs .cycle))
    (hnone : opts.allowMissing = false → rContains g r0 d = false → getSource g d = none →
      ErrCause g opts r0 outs eNone)
    (hinv : Inv g opts.allowMissing r0 outs st) (hact : Active g r0 (K + 1) st.active) :
    Meets (fun st' => Post g opts.allowMissing r0 outs st st' ∧
        Avail g opts.allowMissing st'.resolved d)
      (ErrCause g opts r0 outs) (resolveStep g opts eNone rec st d) := by
  unfold resolveStep
  split
  · rename_i hc
    exact ⟨Post.refl hinv, Or.inl hc⟩
  · rename_i hc
    have hc' : rContains g st.resolved d = false := Bool.eq_false_iff.mpr hc
    have hr0 := rContains_false_r0 hinv hc'
    split
    · rename_i p pop hs
      obtain ⟨hnp, hchain, hcyc⟩ := hsrc p pop hr0 hs
      obtain ⟨_, hgp, hdo⟩ := getSource_spec hs
      split
      · rename_i hin
        exact hcyc (List.contains_iff_mem.mp hin)
      · rename_i hin
        -- one level deeper: `p` joins the path, one unit of budget is spent
        have hact' : Active g r0 K (p :: st.active) :=
          ⟨hchain, List.nodup_cons.mpr ⟨fun hm => hin (List.contains_iff_mem.mpr hm), hact.nodup⟩,
            List.forall_mem_cons.mpr ⟨getOp_lt hgp, hact.lt⟩, by
              rw [List.length_cons, Nat.add_comm _ 1, ← Nat.add_assoc]
              exact hact.budget⟩
        exact (hrec p pop st hinv hgp hnp ⟨d, hdo, hc'⟩ hact').imp
          fun st' ⟨hp, hout⟩ => ⟨hp, Or.inl (rContains_of_mem (hout d hdo))⟩
    · rename_i hs
      split
      · rename_i ham
        exact ⟨Post.refl hinv, Or.inr ⟨ham, hs⟩⟩
      · rename_i ham
        exact hnone (Bool.eq_false_iff.mpr ham) hr0 hs

/-- For any `loop` that unfolds into `resolveStep` while the active set is `A`: `depsLoop`
(`depsLoop_cons`) and, with `A = []`, `planOutputs` (`planOutputs_cons`; `Post.active` keeps the
active set empty from one output to the next). -/
theorem loop_total {g : Graph} {opts : PlanOptions} {eNone : PlanError} {r0 outs : List Nat}
    {K : Nat} {rec : Nat → OpNode → St → Except PlanError St} (hrec : Total g opts r0 outs K rec)
    {A : List Nat} (hact : Active g r0 (K + 1) A) {loop : List Nat → St → Except PlanError St}
    (hnil : ∀ st, loop [] st = .ok st)
    (hcons : ∀ d ds st, st.active = A →
      loop (d :: ds) st = resolveStep g opts eNone rec st d >>= loop ds) :
    ∀ (ds : List Nat) (st : St),
      (∀ d ∈ ds, ∀ p pop, rContains g r0 d = false → getSource g d = some (p, pop) →
        Needed g r0 outs p ∧ Chain g r0 (p :: A) ∧ (p ∈ A → ErrCause g opts r0 outs .cycle)) →
      (∀ d ∈ ds, opts.allowMissing = false → rContains g r0 d = false → getSource g d = none →
        ErrCause g opts r0 outs eNone) →
      Inv g opts.allowMissing r0 outs st → st.active = A →
      Meets (fun st' => Post g opts.allowMissing r0 outs st st' ∧
          ∀ d ∈ ds, Avail g opts.allowMissing st'.resolved d)
        (ErrCause g opts r0 outs) (loop ds st)
  | [], st, _, _, hinv, _ => by
    rw [hnil]
    exact ⟨Post.refl hinv, fun _ hd => absurd hd List.not_mem_nil⟩
  | d :: ds, st, hsrc, hnone, hinv, hA => by
    rw [hcons d ds st hA]
    subst hA
    refine (resolveStep_total hrec (hsrc d (List.mem_cons_self ..))
      (hnone d (List.mem_cons_self ..)) hinv hact).bind fun st1 ⟨hp1, ha1⟩ => ?_
    refine (loop_total hrec hact hnil hcons ds st1 (fun d' hd' => hsrc d' (List.mem_cons_of_mem _ hd'))
      (fun d' hd' => hnone d' (List.mem_cons_of_mem _ hd')) hp1.inv hp1.active).imp
      fun st' ⟨hp2, ha2⟩ => ⟨hp1.trans hp2, fun d' hd' => ?_⟩
    rcases List.mem_cons.mp hd' with rfl | hd'
    · exact ha1.mono (hp2.mono hp1.inv)
    · exact ha2 d' hd'

theorem visit_total (g : Graph) (opts : PlanOptions) (r0 outs : List Nat) :
    ∀ K, Total g opts r0 outs K (visit g opts K)
  | 0 => fun p pop st _ _ _ _ hact => by
    -- `p :: active` is duplicate-free and below `N`, so it is not longer than `N`
    have := nodup_lt_length_le hact.nodup hact.lt
    exact absurd (Nat.lt_of_lt_of_le hact.budget (Nat.zero_add _ ▸ this)) (Nat.lt_irrefl _)
  | K + 1 => by
    intro p pop st hinv hgp hnp hun hact
    have hna := (List.nodup_cons.mp hact.nodup).1
    -- a dependency `d` of `p` with source `p'` is an edge `p → p'`
    have hl := loop_total (eNone := .missingInput) (visit_total g opts r0 outs K) hact
      (loop := depsLoop g opts (visit g opts K)) (fun _ => rfl) (fun d ds st _ => depsLoop_cons d ds st)
      (opDeps g pop) { st with active := p :: st.active }
      (fun d hd p' pop' hr hs =>
        have hedge : Edge g r0 p p' := ⟨pop, d, pop', hgp, hd, hr, hs⟩
        ⟨Needed.step hnp hgp hd hr hs, ⟨hedge, hact.chain⟩,
          fun hm => ErrCause.cycle hnp hedge (Chain.star st.active p p' hact.chain hm)⟩)
      (fun d hd ham hr hs => ErrCause.missing ham hnp hgp hd hr hs)
      ⟨hinv.res, hinv.valid, hinv.nodup, hinv.ops, hinv.needed⟩ rfl
    rw [visit]
    split
    · rename_i st1 heq
      rw [heq] at hl
      obtain ⟨hp1, hav⟩ := hl
      obtain ⟨extra, hext, hnew⟩ := hp1.ext
      -- `p` is not planned yet: not before the call (one of its outputs is unresolved), and what
      -- the loop added avoids the active set, which contains `p`
      have hp_not : p ∉ st1.plan.map (fun e => e.1) := by
        rw [hext, List.map_append, List.mem_append]
        rintro (hm | hm) <;> obtain ⟨e, he, rfl⟩ := List.mem_map.mp hm
        · obtain ⟨v, hv, hvr⟩ := hun
          have hop := Option.some.inj ((hinv.ops e he).symm.trans hgp)
          rw [rContains_of_mem (hinv.res ▸ List.mem_append_right _
            (mem_pOuts.mpr ⟨e, he, hop ▸ hv⟩))] at hvr
          cases hvr
        · exact hnew e he (List.mem_cons_self ..)
      refine ⟨⟨⟨?_, validFrom_snoc.mpr ⟨hp1.inv.valid, hp1.inv.res ▸ hav⟩, ?_,
          List.forall_mem_append.mpr ⟨hp1.inv.ops, List.forall_mem_singleton.mpr hgp⟩,
          List.forall_mem_append.mpr ⟨hp1.inv.needed, List.forall_mem_singleton.mpr hnp⟩⟩,
        ?_, extra ++ [(p, pop)], ?_,
        List.forall_mem_append.mpr ⟨fun e he hm => hnew e he (List.mem_cons_of_mem _ hm),
          List.forall_mem_singleton.mpr hna⟩⟩, fun v hv => List.mem_append_right _ hv⟩
      · show st1.resolved ++ opOutputs pop = r0 ++ pOuts (st1.plan ++ [(p, pop)])
        rw [pOuts_append, hp1.inv.res, List.append_assoc]
        simp [pOuts]
      · show ((st1.plan ++ [(p, pop)]).map (fun e => e.1)).Nodup
        rw [List.map_append]
        exact nodup_snoc.mpr ⟨hp_not, hp1.inv.nodup⟩
      · show st1.active.filter (fun a => a != p) = st.active
        rw [hp1.active]
        exact filter_ne_cons_self hna
      · show st1.plan ++ [(p, pop)] = st.plan ++ (extra ++ [(p, pop)])
        rw [hext, List.append_assoc]
    · rename_i e heq
      rw [heq] at hl
      exact hl

theorem dfsPlan_total (g : Graph) (ins outs : List Nat) (opts : PlanOptions) :
    Meets (fun st => Inv g opts.allowMissing (resolvedNew g ins opts.capturesAvailable) outs st ∧
        ∀ o ∈ outs, Avail g opts.allowMissing st.resolved o)
      (ErrCause g opts (resolvedNew g ins opts.capturesAvailable) outs) (dfsPlan g ins outs opts) := by
  rw [dfsPlan]
  exact (loop_total (visit_total g opts _ outs _) (A := [])
    ⟨trivial, List.nodup_nil, fun _ h => absurd h List.not_mem_nil, Nat.lt_succ_self _⟩
    (loop := planOutputs g opts g.nodes.length) (fun _ => rfl) (fun o os _ h => planOutputs_cons o os h)
    outs _
    (fun o ho p pop hr hs => ⟨Needed.root ho hr hs, trivial, fun hm => absurd hm List.not_mem_nil⟩)
    (fun o ho ham hr hs => ErrCause.noSource ham ho hr hs) (Inv.init ..) rfl).imp
    fun st ⟨hp, hav⟩ => ⟨hp.inv, hav⟩

theorem dfsPlan_spec {g : Graph} {opts : PlanOptions} {ins outs : List Nat} {st : St}
    (h : dfsPlan g ins outs opts = .ok st) :
    Inv g opts.allowMissing (resolvedNew g ins opts.capturesAvailable) outs st ∧
      ∀ o ∈ outs, Avail g opts.allowMissing st.resolved o := by
  have := dfsPlan_total g ins outs opts
  rwa [h] at this

theorem dfsPlan_ne_outOfFuel (g : Graph) (ins outs : List Nat) (opts : PlanOptions) :
    dfsPlan g ins outs opts ≠ .error .outOfFuel := by
  intro h
  have := dfsPlan_total g ins outs opts
  rw [h] at this
  cases this

end RtenVerif.Planner
