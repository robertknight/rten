import RtenVerif.Model.FillIter
import RtenVerif.Lemmas.ListBasics
import RtenVerif.Lemmas.InsertionSort

/-!
Lemmas for the `FillIter` model (C36.T3): the edge sort, `takeStart`, the lifetime invariant of
`update_active_edges` (an active edge ends at or above the bottom of the bounding rect), the
bounding rect, and the invariant `FillInv` and measure `fillMeasure` of the iteration, from which
`fillIter_spec`: the pixels lie in the bounding rect and the fuel suffices (`runFill_length`: no
more pixels than fuel).
-/
namespace RtenVerif.Contours

theorem insertE_eq (le : Edge → Edge → Bool) (x : Edge) (l : List Edge) :
    insertE le x l = Overlap.insertBy le x l := by
  induction l with
  | nil => rfl
  | cons y ys ih => rw [insertE, Overlap.insertBy, ih]

theorem isortE_eq (le : Edge → Edge → Bool) (l : List Edge) : isortE le l = Overlap.isort le l := by
  induction l with
  | nil => rfl
  | cons x xs ih => rw [isortE, Overlap.isort, ih, insertE_eq]

theorem mem_isortE (le : Edge → Edge → Bool) (y : Edge) (l : List Edge) :
    y ∈ isortE le l ↔ y ∈ l :=
  isortE_eq le l ▸ Overlap.mem_isort le

def byStart (a c : Edge) : Bool := decide (a.startY ≤ c.startY)

theorem isortE_sorted (l : List Edge) :
    (isortE byStart l).Pairwise (fun a c => a.startY ≤ c.startY) :=
  isortE_eq byStart l ▸ Overlap.isort_pairwise byStart _ (fun _ => True)
    (fun _ _ => of_decide_eq_true) (fun _ _ h => Int.le_of_lt (Int.not_le.mp (of_decide_eq_false h)))
    (fun _ _ _ _ _ _ => Int.le_trans) l fun _ _ => trivial

theorem takeStart_spec (y : Int) (l : List Edge)
    (hs : l.Pairwise (fun a c => a.startY ≤ c.startY)) :
    (∀ e ∈ (takeStart y l).1, e ∈ l ∧ e.startY ≤ y) ∧
    (takeStart y l).2.Pairwise (fun a c => a.startY ≤ c.startY) ∧
    ∀ e ∈ (takeStart y l).2, e ∈ l ∧ y < e.startY := by
  induction l with
  | nil => exact ⟨fun _ he => (nomatch he), .nil, fun _ he => (nomatch he)⟩
  | cons x xs ih =>
    obtain ⟨hx, hxs⟩ := List.pairwise_cons.mp hs
    rw [takeStart]
    split
    · refine ⟨fun _ he => (nomatch he), hs, fun e he => ⟨he, ?_⟩⟩
      rcases List.mem_cons.mp he with rfl | he'
      · omega
      · have := hx e he'; omega
    · obtain ⟨h1, h2, h3⟩ := ih hxs
      refine ⟨fun e he => ?_, h2, fun e he => ⟨.tail _ (h3 e he).1, (h3 e he).2⟩⟩
      rcases List.mem_cons.mp he with rfl | he
      · exact ⟨List.mem_cons_self, by omega⟩
      · exact ⟨.tail _ (h1 e he).1, (h1 e he).2⟩

theorem advanceEdge_spec {e e' : Edge} (h : advanceEdge e = some e') :
    e'.ySteps = e.ySteps - 1 ∧ 1 ≤ e'.ySteps ∧ e'.startY = e.startY := by
  unfold advanceEdge at h
  simp only at h
  split at h
  · rename_i hpos
    split at h <;> (simp only [Option.some.injEq] at h; subst h; exact ⟨rfl, by show 1 ≤ e.ySteps - 1; omega, rfl⟩)
  · cases h

theorem update_inv (ynew bottom : Int) (active pending : List Edge)
    (ha : ∀ e ∈ active, 1 ≤ e.ySteps ∧ ynew - 1 + e.ySteps ≤ bottom)
    (hp : ∀ e ∈ pending, 1 ≤ e.ySteps ∧ e.startY + e.ySteps ≤ bottom ∧ ynew ≤ e.startY)
    (hs : pending.Pairwise (fun a c => a.startY ≤ c.startY)) :
    (∀ e ∈ (updateActive ynew active pending).1, 1 ≤ e.ySteps ∧ ynew + e.ySteps ≤ bottom) ∧
    (∀ e ∈ (updateActive ynew active pending).2,
      1 ≤ e.ySteps ∧ e.startY + e.ySteps ≤ bottom ∧ ynew + 1 ≤ e.startY) ∧
    (updateActive ynew active pending).2.Pairwise (fun a c => a.startY ≤ c.startY) := by
  simp only [updateActive]
  obtain ⟨t0, t1, t2⟩ := takeStart_spec ynew pending hs
  refine ⟨?_, ?_, t1⟩
  · intro e he
    rw [mem_isortE] at he
    rcases List.mem_append.mp he with he | he
    · obtain ⟨e0, he0, hadv⟩ := List.mem_filterMap.mp he
      obtain ⟨h1, h2, _⟩ := advanceEdge_spec hadv
      have := ha e0 he0
      omega
    · obtain ⟨hm, hle⟩ := t0 e he
      have := hp e hm
      omega
  · intro e he
    obtain ⟨hm, hlt⟩ := t2 e he
    have := hp e hm
    omega

def Bnd (b : Int × Int × Int × Int) (p : Pt) : Prop :=
  b.1 ≤ p.1 ∧ p.1 ≤ b.2.2.1 ∧ b.2.1 ≤ p.2 ∧ p.2 ≤ b.2.2.2

def bStep (b : Int × Int × Int × Int) (q : Pt) : Int × Int × Int × Int :=
  (if q.1 < b.1 then q.1 else b.1, if q.2 < b.2.1 then q.2 else b.2.1,
   if q.1 > b.2.2.1 then q.1 else b.2.2.1, if q.2 > b.2.2.2 then q.2 else b.2.2.2)

theorem bStep_bnd (b) (q p : Pt) (h : p = q ∨ Bnd b p) : Bnd (bStep b q) p := by
  rcases h with rfl | h <;> (simp only [Bnd, bStep] at *; omega)

theorem polyBounds_spec (pts : List Pt) (p : Pt) (hp : p ∈ pts) : Bnd (polyBounds pts) p := by
  cases pts with
  | nil => simp at hp
  | cons q qs =>
    refine foldl_covers bStep Bnd bStep_bnd qs (q.1, q.2, q.1, q.2) p ?_
    rcases List.mem_cons.mp hp with rfl | h
    · right; simp [Bnd]
    · exact Or.inl h

theorem polyEdges_mem {pts : List Pt} {e : Pt × Pt} (h : e ∈ polyEdges pts) :
    e.1 ∈ pts ∧ e.2 ∈ pts := by
  unfold polyEdges at h
  obtain ⟨h1, h2⟩ := List.of_mem_zip (a := e.1) (b := e.2) h
  refine ⟨h1, ?_⟩
  rcases List.mem_append.mp h2 with h | h
  · exact List.mem_of_mem_drop h
  · exact List.mem_of_mem_take h

theorem mkEdge_spec (b : Int × Int × Int × Int) (e : Pt × Pt) (h1 : Bnd b e.1) (h2 : Bnd b e.2)
    (hne : e.1.1 ≠ e.2.1) :
    1 ≤ (mkEdge e).ySteps ∧ (mkEdge e).startY + (mkEdge e).ySteps ≤ b.2.2.1 ∧
    b.1 ≤ (mkEdge e).startY := by
  obtain ⟨a1, a2, _, _⟩ := h1
  obtain ⟨c1, c2, _, _⟩ := h2
  simp only [mkEdge]
  split <;> omega

/-- `b = (top, left, bottom, right)` is the bounding rect. -/
structure FillInv (b : Int × Int × Int × Int) (st : FillSt) : Prop where
  cursor : b.2.1 ≤ st.cursor.2 ∧ st.cursor.2 < b.2.2.2 ∧ b.1 ≤ st.cursor.1
  active : ∀ e ∈ st.active, 1 ≤ e.ySteps ∧ st.cursor.1 + e.ySteps ≤ b.2.2.1
  pending : ∀ e ∈ st.pending,
    1 ≤ e.ySteps ∧ e.startY + e.ySteps ≤ b.2.2.1 ∧ st.cursor.1 + 1 ≤ e.startY
  sorted : st.pending.Pairwise (fun a c => a.startY ≤ c.startY)

/-- The cursor positions from the cursor to the end of the rect: the measure of the iteration. -/
def fillMeasure (b : Int × Int × Int × Int) (st : FillSt) : Int :=
  (b.2.2.1 - st.cursor.1) * (b.2.2.2 - b.2.1) - (st.cursor.2 - b.2.1)

theorem FillInv.measure_pos {b : Int × Int × Int × Int} {st : FillSt} (h : FillInv b st)
    (hy : st.cursor.1 < b.2.2.1) : 0 < fillMeasure b st := by
  have hc := h.cursor
  have := Int.mul_le_mul_of_nonneg_right (show 1 ≤ b.2.2.1 - st.cursor.1 by omega)
    (show 0 ≤ b.2.2.2 - b.2.1 by omega)
  rw [Int.one_mul] at this
  unfold fillMeasure
  omega

theorem FillInv.next {b : Int × Int × Int × Int} {st : FillSt} (h : FillInv b st) :
    FillInv b (fillNext b st) ∧ fillMeasure b (fillNext b st) = fillMeasure b st - 1 := by
  obtain ⟨hc, ha, hp, hs⟩ := h
  unfold fillNext fillMeasure
  by_cases hx : st.cursor.2 + 1 = b.2.2.2
  · rw [if_pos hx]
    obtain ⟨u1, u2, u3⟩ := update_inv (st.cursor.1 + 1) b.2.2.1 st.active st.pending
      (fun e he => by have := ha e he; omega) (fun e he => by have := hp e he; omega) hs
    refine ⟨⟨by simp only; omega, u1, u2, u3⟩, ?_⟩
    simp only
    rw [show b.2.2.1 - (st.cursor.1 + 1) = b.2.2.1 - st.cursor.1 - 1 by omega, Int.sub_mul _ 1,
      Int.one_mul]
    omega
  · rw [if_neg hx]
    exact ⟨⟨by simp only; omega, ha, hp, hs⟩, by simp only; omega⟩

theorem runFill_spec (b : Int × Int × Int × Int) (n : Nat) (st : FillSt) (h : FillInv b st) :
    (∀ p ∈ (runFill b n st).1, b.1 ≤ p.1 ∧ p.1 < b.2.2.1 ∧ b.2.1 ≤ p.2 ∧ p.2 < b.2.2.2) ∧
    (fillMeasure b st < n → (runFill b n st).2 = true) := by
  fun_induction runFill b n st with
  | case1 st =>
    refine ⟨fun p hp => (nomatch hp), fun hm => ?_⟩
    -- an active edge would leave a positive measure
    show st.active.isEmpty = true
    cases hact : st.active with
    | nil => rfl
    | cons e es =>
      have he := h.active e (hact ▸ List.mem_cons_self)
      have := h.measure_pos (by omega)
      rw [Int.natCast_zero] at hm
      omega
  | case2 n st hemp => exact ⟨fun p hp => (nomatch hp), fun _ => rfl⟩
  | case3 n st hne inter r ih =>
    obtain ⟨e0, he0⟩ := List.exists_mem_of_ne_nil _ fun e => hne (List.isEmpty_iff.2 e)
    have he := h.active e0 he0
    have hy : st.cursor.1 < b.2.2.1 := by omega
    obtain ⟨hn, hm⟩ := h.next
    obtain ⟨r1, r2⟩ := ih hn
    constructor
    · intro p hpm
      split at hpm
      · rcases List.mem_cons.mp hpm with rfl | hpm
        · exact ⟨h.cursor.2.2, hy, h.cursor.1, h.cursor.2.1⟩
        · exact r1 p hpm
      · exact r1 p hpm
    · intro hlt
      rw [Int.natCast_succ] at hlt
      exact r2 (by rw [hm]; omega)

theorem runFill_length (b : Int × Int × Int × Int) (n : Nat) (st : FillSt) :
    (runFill b n st).1.length ≤ n := by
  fun_induction runFill b n st with
  | case1 | case2 => exact Nat.zero_le _
  | case3 n st _ inter r ih =>
    have : r.1.length ≤ n := ih
    split <;> simp only [List.length_cons] <;> omega

theorem fillIter_spec (pts : List Pt) :
    (∀ p ∈ (fillIter pts).1, (polyBounds pts).1 ≤ p.1 ∧ p.1 < (polyBounds pts).2.2.1 ∧
      (polyBounds pts).2.1 ≤ p.2 ∧ p.2 < (polyBounds pts).2.2.2) ∧
    (fillIter pts).2 = true := by
  unfold fillIter fillInit
  simp only
  generalize hb : polyBounds pts = b
  obtain ⟨top, left, bottom, right⟩ := b
  by_cases hemp : boundsEmpty (top, left, bottom, right) = true
  · simp only [hemp, if_true]
    have hu : updateActive bottom [] [] = ([], []) := by
      simp [updateActive, takeStart, isortE]
    rw [hu]
    simp [runFill]
  · have hne : boundsEmpty (top, left, bottom, right) = false := by simpa using hemp
    simp only [hne, Bool.false_eq_true, if_false]
    have hlr : left < right ∧ top < bottom := by
      simp only [boundsEmpty, decide_eq_false_iff_not] at hne; omega
    let edges := isortE byStart (((polyEdges pts).filter fun e => e.1.1 != e.2.1).map mkEdge)
    have hedges : ∀ e ∈ edges, 1 ≤ e.ySteps ∧ e.startY + e.ySteps ≤ bottom ∧ top ≤ e.startY := by
      intro e he
      rw [mem_isortE] at he
      obtain ⟨pe, hpe, rfl⟩ := List.mem_map.mp he
      obtain ⟨hmem, hneq⟩ := List.mem_filter.mp hpe
      obtain ⟨m1, m2⟩ := polyEdges_mem hmem
      have b1 := polyBounds_spec pts pe.1 m1
      have b2 := polyBounds_spec pts pe.2 m2
      rw [hb] at b1 b2
      exact mkEdge_spec (top, left, bottom, right) pe b1 b2 (by simpa using hneq)
    obtain ⟨u1, u2, u3⟩ := update_inv top bottom [] edges (by intro e he; cases he) hedges
      (isortE_sorted _)
    obtain ⟨r1, r2⟩ := runFill_spec (top, left, bottom, right)
      (((bottom - top) * (right - left)).toNat + 1)
      { pending := (updateActive top [] edges).2, active := (updateActive top [] edges).1,
        cursor := (top, left) }
      ⟨⟨Int.le_refl left, hlr.1, Int.le_refl top⟩, u1, u2, u3⟩
    refine ⟨r1, r2 ?_⟩
    have : 0 ≤ (bottom - top) * (right - left) := Int.mul_nonneg (by omega) (by omega)
    show (bottom - top) * (right - left) - (left - left) < _
    rw [Int.natCast_succ, Int.toNat_of_nonneg this]
    omega

end RtenVerif.Contours
