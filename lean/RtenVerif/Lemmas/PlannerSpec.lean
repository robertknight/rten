import RtenVerif.Lemmas.PlannerBasic
/-!
# Specification vocabulary for C03

What it means for a list of operator ids to be a *valid, complete and minimal*
execution plan.  Everything here is stated on plain id lists and the graph IR,
independently of how the planner computes its result.
-/
namespace RtenVerif.Planner
open RtenVerif.Graph

/-- Value `d` is available given the resolved set `r`: it is in `r`, or a constant;
or (only when planning with `allow_missing_inputs`) nobody in the graph produces it,
i.e. it is expected to be supplied later. -/
def Avail (g : Graph) (am : Bool) (r : List Nat) (d : Nat) : Prop :=
  rContains g r d = true ∨ (am = true ∧ getSource g d = none)

def outsOf (g : Graph) (i : Nat) : List Nat :=
  match getOp g i with
  | some op => opOutputs op
  | none => []

theorem outsOf_eq {g : Graph} {i : Nat} {op : OpNode} (h : getOp g i = some op) :
    outsOf g i = opOutputs op := by
  rw [outsOf, h]

theorem mem_outsOf {g : Graph} {i v : Nat} :
    v ∈ outsOf g i ↔ ∃ op, getOp g i = some op ∧ v ∈ opOutputs op := by
  unfold outsOf
  cases getOp g i <;> simp

def availAfter (g : Graph) (r0 : List Nat) (ids : List Nat) : List Nat :=
  r0 ++ ids.flatMap (outsOf g)

theorem availAfter_nil (g : Graph) (r0 : List Nat) : availAfter g r0 [] = r0 :=
  List.append_nil r0

theorem availAfter_cons (g : Graph) (r0 : List Nat) (i : Nat) (is : List Nat) :
    availAfter g r0 (i :: is) = availAfter g (r0 ++ outsOf g i) is :=
  (List.append_assoc ..).symm

theorem availAfter_snoc (g : Graph) (r0 ids : List Nat) (i : Nat) :
    availAfter g r0 (ids ++ [i]) = availAfter g r0 ids ++ outsOf g i := by
  simp [availAfter, List.append_assoc]

theorem mem_availAfter {g : Graph} {r ids : List Nat} {v : Nat} :
    v ∈ availAfter g r ids ↔ v ∈ r ∨ ∃ k ∈ ids, v ∈ outsOf g k := by
  rw [availAfter, List.mem_append, List.mem_flatMap]

/-- Every entry is an operator node all of whose dependencies (inputs and captures)
are available from `r` plus the outputs of the entries before it. -/
def ValidIds (g : Graph) (am : Bool) : List Nat → List Nat → Prop
  | _, [] => True
  | r, i :: is =>
    (∃ op, getOp g i = some op ∧ ∀ d ∈ opDeps g op, Avail g am r d) ∧
      ValidIds g am (r ++ outsOf g i) is

/-- Operator `p` is needed for the requested outputs `outs` given the initially
available values `r0`: it is the source of a requested output that is not already
available, or the source of a not-initially-available dependency of a needed
operator. -/
inductive Needed (g : Graph) (r0 : List Nat) (outs : List Nat) : Nat → Prop
  | root {o p : Nat} {pop : OpNode} :
      o ∈ outs → rContains g r0 o = false → getSource g o = some (p, pop) → Needed g r0 outs p
  | step {x d p : Nat} {xop pop : OpNode} :
      Needed g r0 outs x → getOp g x = some xop → d ∈ opDeps g xop →
      rContains g r0 d = false → getSource g d = some (p, pop) → Needed g r0 outs p

/-- The property's success clause: `plan` is a valid, complete and minimal plan for
producing `outs` from the initially available values `r0`. -/
structure PlanOK (g : Graph) (am : Bool) (r0 outs plan : List Nat) : Prop where
  /-- every operator appears once -/
  nodup : plan.Nodup
  /-- each entry is an operator that runs only after all its dependencies are available -/
  valid : ValidIds g am r0 plan
  /-- every requested output is produced (or was available from the start) -/
  outputs : ∀ o ∈ outs, Avail g am (availAfter g r0 plan) o
  /-- every operator is needed by some requested output -/
  minimal : ∀ i ∈ plan, Needed g r0 outs i

theorem validIds_split {g : Graph} {am : Bool} {r0 : List Nat} {plan pre post : List Nat} {i : Nat}
    (h : ValidIds g am r0 plan) (hs : plan = pre ++ i :: post) :
    ∃ op, getOp g i = some op ∧ ∀ d ∈ opDeps g op, Avail g am (availAfter g r0 pre) d := by
  subst hs
  induction pre generalizing r0 with
  | nil => exact (availAfter_nil g r0).symm ▸ h.1
  | cons a pre ih => exact availAfter_cons .. ▸ ih h.2

theorem validIds_ops {g : Graph} {am : Bool} {r0 plan : List Nat} (h : ValidIds g am r0 plan) :
    ∀ i ∈ plan, (getOp g i).isSome = true := by
  intro i hi
  obtain ⟨pre, post, hsplit⟩ := List.append_of_mem hi
  obtain ⟨op, hop, _⟩ := validIds_split h hsplit
  rw [hop]; rfl

theorem validIds_append {g : Graph} {am : Bool} {r0 : List Nat} {p q : List Nat} :
    ValidIds g am r0 (p ++ q) ↔ ValidIds g am r0 p ∧ ValidIds g am (availAfter g r0 p) q := by
  induction p generalizing r0 with
  | nil => simp [ValidIds, availAfter]
  | cons a p ih =>
    simp only [List.cons_append, ValidIds, ih, availAfter, List.flatMap_cons, List.append_assoc]
    constructor
    · rintro ⟨h1, h2, h3⟩; exact ⟨⟨h1, h2⟩, h3⟩
    · rintro ⟨⟨h1, h2⟩, h3⟩; exact ⟨h1, h2, h3⟩

theorem validIds_snoc {g : Graph} {am : Bool} {r0 ids : List Nat} {i : Nat} {op : OpNode}
    (h : ValidIds g am r0 ids) (hop : getOp g i = some op)
    (hd : ∀ d ∈ opDeps g op, Avail g am (availAfter g r0 ids) d) : ValidIds g am r0 (ids ++ [i]) :=
  validIds_append.mpr ⟨h, ⟨op, hop, hd⟩, trivial⟩

theorem Avail.mono {g : Graph} {am : Bool} {r r' : List Nat} {d : Nat}
    (hsub : ∀ v, v ∈ r → v ∈ r') (h : Avail g am r d) : Avail g am r' d := by
  rcases h with h | h
  · exact Or.inl (rContains_mono hsub h)
  · exact Or.inr h

end RtenVerif.Planner
