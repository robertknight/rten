import RtenVerif.Lemmas.ListBasics
import RtenVerif.Lemmas.NpyRead

/-!
# Lemmas for the npy model: Fortran (column-major) order

`fortran_order_to_row_major` is the transpose permutation on the data: the element the reader
puts at row-major position of a multi-index is the file's element at the column-major position of
the same multi-index; the index map is a bijection of `[0, ∏ shape)` with an explicit inverse.
-/
namespace RtenVerif.Npy

def validIdx : List Nat → List Nat → Prop
  | [], [] => True
  | d :: ds, i :: is => i < d ∧ validIdx ds is
  | _, _ => False

def rowOffset : List Nat → List Nat → Nat
  | _ :: ds, i :: is => i * prod ds + rowOffset ds is
  | _, _ => 0

/-- Column-major mixed-radix digits of `k`: first dimension fastest (inverse of `fortranOffset`). -/
def fUnravel : List Nat → Nat → List Nat
  | [], _ => []
  | d :: ds, k => k % d :: fUnravel ds (k / d)

theorem prod_cons_pos {d : Nat} {ds : List Nat} {i : Nat} (h : i < prod (d :: ds)) :
    0 < d ∧ 0 < prod ds := by
  rw [prod] at h
  exact ⟨Nat.pos_of_mul_pos_right (Nat.zero_lt_of_lt h), Nat.pos_of_mul_pos_left (Nat.zero_lt_of_lt h)⟩

theorem unravel_spec (shape : List Nat) : ∀ i, i < prod shape →
    validIdx shape (unravel shape i) ∧ rowOffset shape (unravel shape i) = i := by
  induction shape with
  | nil => intro i hi; simp [prod] at hi; simp [unravel, validIdx, rowOffset, hi]
  | cons d ds ih =>
    intro i hi
    obtain ⟨hd, hp⟩ := prod_cons_pos hi
    rw [prod] at hi
    obtain ⟨hv, ho⟩ := ih _ (Nat.mod_lt i hp)
    have hdiv : i / prod ds < d := (Nat.div_lt_iff_lt_mul hp).mpr hi
    simp only [unravel, validIdx, rowOffset, Nat.mod_eq_of_lt hdiv, ho]
    exact ⟨⟨hdiv, hv⟩, by rw [Nat.mul_comm]; exact Nat.div_add_mod i (prod ds)⟩

theorem rowOffset_spec (shape : List Nat) : ∀ idx, validIdx shape idx →
    rowOffset shape idx < prod shape ∧ unravel shape (rowOffset shape idx) = idx := by
  induction shape with
  | nil => intro idx h; cases idx <;> simp [validIdx, rowOffset, unravel, prod] at *
  | cons d ds ih =>
    intro idx h
    match idx, h with
    | i :: is, h =>
      obtain ⟨hr, hu⟩ := ih is h.2
      have hp : 0 < prod ds := Nat.zero_lt_of_lt hr
      obtain ⟨h1, h2⟩ := mul_add_div_mod i hr
      have h3 : (i + 1) * prod ds ≤ d * prod ds := Nat.mul_le_mul_right _ h.1
      rw [Nat.succ_mul] at h3
      simp only [rowOffset, unravel, prod, h1, h2, Nat.mod_eq_of_lt h.1, hu]
      exact ⟨by omega, trivial⟩

theorem fUnravel_spec (shape : List Nat) : ∀ k, k < prod shape →
    validIdx shape (fUnravel shape k) ∧ fortranOffset shape (fUnravel shape k) = k := by
  induction shape with
  | nil => intro k hk; simp [prod] at hk; simp [fUnravel, validIdx, fortranOffset, hk]
  | cons d ds ih =>
    intro k hk
    obtain ⟨hd, _⟩ := prod_cons_pos hk
    rw [prod] at hk
    obtain ⟨hv, ho⟩ := ih (k / d) ((Nat.div_lt_iff_lt_mul hd).mpr (by rw [Nat.mul_comm]; exact hk))
    simp only [fUnravel, validIdx, fortranOffset, ho]
    exact ⟨⟨Nat.mod_lt _ hd, hv⟩, Nat.mod_add_div k d⟩

theorem fortranOffset_spec (shape : List Nat) : ∀ idx, validIdx shape idx →
    fortranOffset shape idx < prod shape ∧ fUnravel shape (fortranOffset shape idx) = idx := by
  induction shape with
  | nil => intro idx h; cases idx <;> simp [validIdx, fortranOffset, fUnravel, prod] at *
  | cons d ds ih =>
    intro idx h
    match idx, h with
    | i :: is, h =>
      obtain ⟨hr, hu⟩ := ih is h.2
      have hi := h.1
      have hd : 0 < d := Nat.zero_lt_of_lt hi
      have h1 : (i + d * fortranOffset ds is) % d = i := by
        rw [Nat.add_mul_mod_self_left, Nat.mod_eq_of_lt h.1]
      have h2 : (i + d * fortranOffset ds is) / d = fortranOffset ds is := by
        rw [Nat.add_mul_div_left _ _ hd, Nat.div_eq_of_lt h.1, Nat.zero_add]
      have h3 : d * (fortranOffset ds is + 1) ≤ d * prod ds := Nat.mul_le_mul_left _ hr
      rw [Nat.mul_succ] at h3
      simp only [fortranOffset, fUnravel, prod, h1, h2, hu]
      exact ⟨by omega, trivial⟩

/-- Row-major position → column-major position of the same multi-index. -/
def fSigma (shape : List Nat) (i : Nat) : Nat := fortranOffset shape (unravel shape i)
/-- Column-major position → row-major position of the same multi-index. -/
def fTau (shape : List Nat) (k : Nat) : Nat := rowOffset shape (fUnravel shape k)

theorem fSigma_lt (shape : List Nat) (i : Nat) (h : i < prod shape) : fSigma shape i < prod shape :=
  (fortranOffset_spec shape _ (unravel_spec shape i h).1).1
theorem fTau_lt (shape : List Nat) (k : Nat) (h : k < prod shape) : fTau shape k < prod shape :=
  (rowOffset_spec shape _ (fUnravel_spec shape k h).1).1
theorem fTau_fSigma (shape : List Nat) (i : Nat) (h : i < prod shape) : fTau shape (fSigma shape i) = i := by
  unfold fTau fSigma
  rw [(fortranOffset_spec shape _ (unravel_spec shape i h).1).2, (unravel_spec shape i h).2]
theorem fSigma_fTau (shape : List Nat) (k : Nat) (h : k < prod shape) : fSigma shape (fTau shape k) = k := by
  unfold fTau fSigma
  rw [(rowOffset_spec shape _ (fUnravel_spec shape k h).1).2, (fUnravel_spec shape k h).2]

theorem fSigma_low_rank (shape : List Nat) (hr : shape.length < 2) (i : Nat) (h : i < prod shape) :
    fSigma shape i = i := by
  unfold fSigma
  match shape, hr, h with
  | [], _, h => simp [prod] at h; simp [fortranOffset, h]
  | [d], _, h =>
    simp [prod] at h
    simp [unravel, fortranOffset, prod, Nat.mod_eq_of_lt h]

theorem fortranToRowMajor_getD (shape vals : List Nat) (hlen : vals.length = prod shape)
    (i : Nat) (hi : i < prod shape) :
    (fortranToRowMajor shape vals).getD i 0 = vals.getD (fSigma shape i) 0 := by
  unfold fortranToRowMajor
  split
  · rename_i hr
    rw [fSigma_low_rank shape hr i hi]
  · have : i < vals.length := by omega
    simp [List.getD_eq_getElem?_getD, this, fSigma]

/-- Serialising row-major data in column-major order (what a Fortran-order writer stores). -/
def toFortranOrder (shape vals : List Nat) : List Nat :=
  (List.range vals.length).map (fun k => vals.getD (fTau shape k) 0)

theorem toFortranOrder_length (shape vals : List Nat) : (toFortranOrder shape vals).length = vals.length := by
  simp [toFortranOrder]

theorem fortranToRowMajor_toFortranOrder (shape vals : List Nat) (hlen : vals.length = prod shape) :
    fortranToRowMajor shape (toFortranOrder shape vals) = vals := by
  apply List.ext_getElem
  · rw [fortranToRowMajor_length, toFortranOrder_length]
  · intro i h1 h2
    have hi : i < prod shape := by omega
    have hs := fSigma_lt shape i hi
    have h := fortranToRowMajor_getD shape (toFortranOrder shape vals)
      (by rw [toFortranOrder_length, hlen]) i hi
    rw [List.getD_eq_getElem?_getD, List.getElem?_eq_getElem h1] at h
    simp only [Option.getD_some] at h
    rw [h]
    have hs' : fSigma shape i < vals.length := by omega
    simp [toFortranOrder, List.getD_eq_getElem?_getD, hs', fTau_fSigma shape i hi, h2]

/-- **Fortran-order round trip**: a format-1.0 file whose header says `fortran_order: True` and
whose data are the elements of `a` in column-major order reads back as `a`. -/
theorem read_fortran_file (a : Array)
    (hshape : prod (a.shape.map (fun d => max d 1)) < isizeLimit)
    (hbytes : prod a.shape * a.dtype.itemSize < usizeLimit)
    (hlen : a.vals.length = prod a.shape)
    (hvals : ∀ x ∈ a.vals, ValidElem a.dtype x)
    (hdict : (dictTextF a.dtype true a.shape ++ [10]).length ≤ 65535) :
    read (npyFileV1 (dictTextF a.dtype true a.shape ++ [10])
      (((toFortranOrder a.shape a.vals).map (encodeElem a.dtype)).flatten)) = .ok a := by
  obtain ⟨dt, shape, vals⟩ := a
  have hvalsF : ∀ x ∈ toFortranOrder shape vals, ValidElem dt x := by
    intro x hx
    simp only [toFortranOrder, List.mem_map, List.mem_range] at hx
    obtain ⟨k, hk, rfl⟩ := hx
    have ht : fTau shape k < vals.length := hlen ▸ fTau_lt shape k (hlen ▸ hk)
    rw [List.getD_eq_getElem?_getD, List.getElem?_eq_getElem ht]
    exact hvals _ (List.getElem_mem ht)
  have hascii : ∀ b ∈ dictTextF dt true shape ++ [10], b < 128 :=
    List.forall_mem_append.mpr ⟨dictTextF_ascii dt true shape, by decide⟩
  unfold read
  rw [readHeader_npyFileV1 _ _ hdict hascii, parseHeader,
    parseHeaderRest_dictTextF dt true shape (dims_lt_of_prod shape hshape)]
  simp only [dataTypeOf_descr]
  rw [readTyped_encode dt true shape _ hshape hbytes ((toFortranOrder_length shape vals).trans hlen)
    hvalsF, if_pos rfl, fortranToRowMajor_toFortranOrder shape vals hlen]

end RtenVerif.Npy
