import RtenVerif.Lemmas.Layout

/-! C09: the notion behind every T1 theorem.  A view operation is an index map that keeps validity and
storage offset (`Reindex`); what the result denotes, that it fits the storage of its source, and the
storage-window invariant `WF` all follow from that alone.  `cons`, `cons_pick`, `cons_free` build such a
map axis by axis. -/
namespace RtenVerif.Layout
open RtenVerif.Arr RtenVerif.Overlap

/-- The storage window of a view is long enough for its layout (`from_storage_and_layout`'s
invariant). -/
def WF (v : View) : Prop := minDataLen v.dims ≤ v.len

theorem window_ok (v : View) (a b : Nat) (d : Dims) (hab : a ≤ b) (hb : b ≤ v.len) :
    v.window a b d = .ok ⟨v.base + a, b - a, d⟩ := if_pos ⟨Nat.le_trans hab hb, hb⟩

/-- `out`, laid over the storage of `d` from element `off` on, reads at `idx` what `d` reads at
`f idx`. -/
def Reindex (d : Dims) (off : Nat) (out : Dims) (f : List Nat → List Nat) : Prop :=
  ∀ idx, validIdx (sizes out) idx = true →
    validIdx (sizes d) (f idx) = true ∧ off + offset out idx = offset d (f idx)

namespace Reindex
variable {d out : Dims} {off : Nat} {f g : List Nat → List Nat}

protected theorem refl (d : Dims) : Reindex d 0 d id := fun _ h => ⟨h, Nat.zero_add _⟩

theorem of_eq (h : ∀ idx, validIdx (sizes out) idx = true →
    validIdx (sizes d) (f idx) = true ∧ offset out idx = offset d (f idx)) : Reindex d 0 out f :=
  fun idx hv => ⟨(h idx hv).1, (Nat.zero_add _).trans (h idx hv).2⟩

/-- The last element of `out` is an element of `d`: `out` needs no storage beyond `d`'s. -/
theorem fits (h : Reindex d off out f) (hne : numelD out ≠ 0) :
    off + minDataLen out ≤ minDataLen d := by
  obtain ⟨hv, ho⟩ := h _ (validIdx_last _ hne)
  have := offset_lt_minDataLen d _ hv
  rw [minDataLen_nonempty _ hne, ← offset_last]
  omega

theorem minDataLen_le (h : Reindex d off out f) : minDataLen out ≤ minDataLen d := by
  by_cases he : numelD out = 0
  · rw [minDataLen_empty _ he]; exact Nat.zero_le _
  · have := h.fits he; omega

/-- Axis `(n, st)` of the source seen as axis `(c, st')` of the result through `φ`
(kept: `φ = id`; stepped range: `φ j = a + j * t`; stretched: `φ j = 0`). -/
theorem cons {n st c st' a : Nat} {φ : Nat → Nat} (h : Reindex d off out f)
    (hφ : ∀ j, j < c → φ j < n ∧ a + j * st' = φ j * st)
    (hg : ∀ j js, j < c → g (j :: js) = φ j :: f js) :
    Reindex ((n, st) :: d) (a + off) ((c, st') :: out) g := by
  intro idx hv
  match idx, hv with
  | j :: js, hv =>
    simp only [sizes_cons, validIdx, Bool.and_eq_true, decide_eq_true_eq] at hv
    obtain ⟨h1, h2⟩ := h js hv.2
    obtain ⟨p1, p2⟩ := hφ j hv.1
    rw [hg j js hv.1]
    simp only [sizes_cons, validIdx, offset, h1, Bool.and_true, decide_eq_true_eq]
    exact ⟨p1, by omega⟩

/-- Axis `(n, st)` of the source fixed at position `i` (dropped from the result). -/
theorem cons_pick {n st i : Nat} (h : Reindex d off out f) (hi : i < n)
    (hg : ∀ js, g js = i :: f js) : Reindex ((n, st) :: d) (i * st + off) out g := by
  intro idx hv
  obtain ⟨h1, h2⟩ := h idx hv
  rw [hg]
  simp only [sizes_cons, validIdx, offset, h1, Bool.and_true, decide_eq_true_eq]
  exact ⟨hi, by omega⟩

/-- A new axis in the result that does not move the offset (size 1, or stride 0). -/
theorem cons_free {c st : Nat} (h : Reindex d off out f) (h0 : ∀ j, j < c → j * st = 0)
    (hg : ∀ j js, g (j :: js) = f js) : Reindex d off ((c, st) :: out) g := by
  intro idx hv
  match idx, hv with
  | j :: js, hv =>
    simp only [sizes_cons, validIdx, Bool.and_eq_true, decide_eq_true_eq] at hv
    rw [hg, offset, h0 j hv.1, Nat.zero_add]
    exact h js hv.2

theorem keep (p : Nat × Nat) (h : Reindex d off out f) (hg : ∀ j js, g (j :: js) = j :: f js) :
    Reindex (p :: d) off (p :: out) g := by
  have := h.cons (n := p.1) (st := p.2) (c := p.1) (st' := p.2) (a := 0) (φ := id)
    (fun j hj => ⟨hj, Nat.zero_add _⟩) fun j js _ => hg j js
  rwa [Nat.zero_add] at this

protected theorem reverse (d : Dims) : Reindex d 0 d.reverse List.reverse := .of_eq fun idx h => by
  have hl : d.length = idx.reverse.length := by simpa [sizes] using (validIdx_length h).symm
  rw [← offset_reverse d idx.reverse hl, List.reverse_reverse]
  rw [sizes, List.map_reverse, ← validIdx_reverse _ _ (by simpa using hl), List.reverse_reverse] at h
  exact ⟨h, rfl⟩

protected theorem eraseIdx {d : Dims} {k x : Nat} (hk : k < d.length) (hx : x < (d.getD k (0, 0)).1) :
    Reindex d ((d.getD k (0, 0)).2 * x) (d.eraseIdx k) (fun idx => idx.insertIdx k x) :=
  fun idx h =>
    let ⟨hv, ho⟩ := eraseIdx_valid x hk h
    ⟨hv.trans (decide_eq_true hx), by rw [ho, Nat.mul_comm]⟩

protected theorem insertIdx {d : Dims} {k : Nat} (st : Nat) (hk : k ≤ d.length) :
    Reindex d 0 (d.insertIdx k (1, st)) (fun idx => idx.eraseIdx k) := .of_eq fun idx h => by
  obtain ⟨hx, hr, ho⟩ := valid_insertIdx k _ hk h
  rw [show idx.getD k 0 = 0 from Nat.lt_one_iff.mp hx, Nat.zero_mul, Nat.zero_add] at ho
  exact ⟨hr, ho⟩

variable {α : Type} [Inhabited α]

/-- What the re-indexed view denotes (its base is irrelevant when it is empty). -/
theorem denote {v v' : View} (h : Reindex v.dims off v'.dims f) (s : Nat → α)
    (hbase : numelD v'.dims ≠ 0 → v'.base = v.base + off) :
    denote v' s = NArr.ofFn (sizes v'.dims) (fun idx => (Layout.denote v s).get (f idx)) := by
  unfold Layout.denote
  refine NArr.ofFn_congr _ _ _ fun idx hv => ?_
  obtain ⟨hv', ho⟩ := h idx hv
  -- a valid index exists, so the result is not empty and its base is known
  rw [NArr.get_ofFn _ _ _ hv', hbase (Nat.ne_of_gt (numel_pos_of_valid hv)), Nat.add_assoc, ho]

/-- **T1 for a guarded operation that keeps the storage window** (`permute`, `move_axis`,
`insert_axis`, `remove_axis`, `broadcast`): the guard `c` is the same on both sides. -/
theorem step_same {c : Prop} [Decidable c] {e : Err} (v : View) (s : Nat → α) {shape' : List Nat}
    (hshape : c → sizes out = shape') (h : c → Reindex v.dims 0 out f) :
    ((if c then .ok { v with dims := out } else .error e : Except Err View).map
        (fun v' => Layout.denote v' s) =
      if c then .ok (NArr.ofFn shape' fun idx => (Layout.denote v s).get (f idx)) else .error e) ∧
    (WF v → ∀ v', (if c then .ok { v with dims := out } else .error e : Except Err View) = .ok v' →
      WF v') := by
  by_cases hc : c
  · rw [if_pos hc, if_pos hc, ← hshape hc]
    refine ⟨congrArg Except.ok ((h hc).denote (v' := { v with dims := out }) s fun _ => rfl),
      fun hwf v' hv' => ?_⟩
    injection hv' with hv'
    subst hv'
    exact Nat.le_trans (h hc).minDataLen_le hwf
  · rw [if_neg hc, if_neg hc]
    exact ⟨rfl, fun _ v' hv' => by cases hv'⟩

/-- **T1 for an operation that cuts a sub-window** (`index_axis`, `slice_axis`, `try_slice`): the
storage-range assertion of `View.window` cannot fire. -/
theorem step_sub (v : View) (s : Nat → α) (h : Reindex v.dims off out f) (hwf : WF v) :
    ∃ v', (if numelD out = 0 then v.window 0 0 out
        else v.window off (off + minDataLen out) out) = .ok v' ∧
      Layout.denote v' s = NArr.ofFn (sizes out) (fun idx => (Layout.denote v s).get (f idx)) ∧
      WF v' := by
  unfold WF at hwf
  by_cases he : numelD out = 0
  · rw [if_pos he]
    exact ⟨_, window_ok v 0 0 out (Nat.le_refl _) (Nat.zero_le _),
      h.denote (v' := ⟨v.base + 0, 0 - 0, out⟩) s fun hne => absurd he hne,
      Nat.le_of_eq (minDataLen_empty _ he)⟩
  · rw [if_neg he]
    have := h.fits he
    exact ⟨_, window_ok v _ _ out (Nat.le_add_right _ _) (by omega),
      h.denote (v' := ⟨v.base + off, off + minDataLen out - off, out⟩) s fun _ => rfl,
      Nat.le_of_eq (Nat.add_sub_cancel_left ..).symm⟩

end Reindex

end RtenVerif.Layout
