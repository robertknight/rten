import RtenVerif.Lemmas.Pool

/-!
# The ownership-ledger invariant of the pool model and its preservation (C23)
-/
namespace RtenVerif.Pool

/-- The buffer a thread carries between `Buffer::from_vec` and the push under the mutex. -/
def transitOf : Nat × Pending → Option Buf
  | (_, .wantPush b) => some b
  | (_, .wantLock _ _ _) => none
  | (_, .fallback _ _ _) => none

def transitBufs (p : List (Nat × Pending)) : List Buf := p.filterMap transitOf

/-- In how many places allocation `i` currently is: pool + holders + in transit + freed. -/
def placesF (pool : List Buf) (held : List Held) (pend : List (Nat × Pending))
    (freed : List (Nat × (Nat × Nat))) (i : Nat) : Nat :=
  (pool.map (·.id)).count i + (held.map (·.v.id)).count i +
    ((transitBufs pend).map (·.id)).count i + (freed.map (·.1)).count i

/-- A pooled / in-transit `Buffer` is consistent: its stored layout is `Layout::array::<dty>(cap)`
(so `release::<dty>` frees with that layout) and it is the layout the block was allocated with. -/
def BufOk (allocs : List (Nat × Nat)) (b : Buf) : Prop :=
  layoutArray b.dty b.cap = some (b.lsize, b.lalign) ∧ allocs[b.id]? = some (b.lsize, b.lalign)

/-- A held `Vec<ty>` of capacity `cap` is valid for the block it points to: `Layout::array::<ty>(cap)`
exists and equals the layout the block was allocated with (the allocator contract for a later
`dealloc`/`realloc` by `Vec`). -/
def VecOk (allocs : List (Nat × Nat)) (v : VecH) : Prop :=
  ∃ l, layoutArray v.ty v.cap = some l ∧ allocs[v.id]? = some l

def HeldOk (allocs : List (Nat × Nat)) (h : Held) : Prop :=
  VecOk allocs h.v ∧ h.reqCap ≤ h.v.cap ∧ h.v.ty = h.reqTy

def PendOk : Nat × Pending → Prop
  | (_, .wantLock _ _ cap) => cap ≤ usizeMax
  | (_, .fallback _ _ cap) => cap ≤ usizeMax
  | (_, .wantPush _) => True

structure InvF (pool : List Buf) (held : List Held) (pend : List (Nat × Pending))
    (allocs : List (Nat × Nat)) (freed : List (Nat × (Nat × Nat))) : Prop where
  once : ∀ i, placesF pool held pend freed i = if i < allocs.length then 1 else 0
  poolOk : ∀ b ∈ pool, BufOk allocs b
  transitOk : ∀ b ∈ transitBufs pend, BufOk allocs b
  heldOk : ∀ h ∈ held, HeldOk allocs h
  freedOk : ∀ e ∈ freed, allocs[e.1]? = some e.2
  pendOk : ∀ e ∈ pend, PendOk e

/-- The ledger invariant: every allocation made so far is in exactly one place (`InvF.once`: the pool, a holder,
in transit or freed), and there under the layout it was allocated with. -/
def Inv (s : State) : Prop := InvF s.pool s.held s.pend s.allocs s.freed

theorem BufOk.mono {a : List (Nat × Nat)} {b : Buf} (m : List (Nat × Nat)) (h : BufOk a b) :
    BufOk (a ++ m) b := ⟨h.1, getElem?_append_some h.2⟩

theorem VecOk.mono {a : List (Nat × Nat)} {v : VecH} (m : List (Nat × Nat)) (h : VecOk a v) :
    VecOk (a ++ m) v := by
  obtain ⟨l, h1, h2⟩ := h
  exact ⟨l, h1, getElem?_append_some h2⟩

theorem HeldOk.mono {a : List (Nat × Nat)} {h : Held} (m : List (Nat × Nat)) (hh : HeldOk a h) :
    HeldOk (a ++ m) h := ⟨hh.1.mono m, hh.2⟩

theorem VecOk.freeLayout {a : List (Nat × Nat)} {v : VecH} (h : VecOk a v) :
    a[v.id]? = some v.freeLayout := by
  obtain ⟨l, h1, h2⟩ := h
  rw [h2, layoutArray_some h1]; rfl

theorem BufOk.freeLayout {a : List (Nat × Nat)} {b : Buf} (h : BufOk a b) :
    a[b.id]? = some b.freeLayout := by
  rw [h.2, layoutArray_some h.1]; rfl

theorem fromVec_ok {a : List (Nat × Nat)} {v : VecH} (h : VecOk a v) :
    ∃ b, fromVec v = some b ∧ BufOk a b ∧ b.id = v.id ∧ b.freeLayout = v.freeLayout := by
  obtain ⟨l, h1, h2⟩ := h
  refine ⟨{ id := v.id, cap := v.cap, lsize := l.1, lalign := l.2, dty := v.ty }, ?_, ⟨?_, ?_⟩, rfl, rfl⟩
  · simp [fromVec, h1]
  · simpa using h1
  · simpa using h2

theorem intoVec_ok {a : List (Nat × Nat)} {b : Buf} {t : Ty} {v : VecH} (hb : BufOk a b)
    (h : intoVec b t = some v) : VecOk a v ∧ v.id = b.id ∧ v.ty = t ∧ v.cap = vecCap t b.cap := by
  unfold intoVec at h
  split at h
  · next hm =>
    cases h
    refine ⟨⟨(b.lsize, b.lalign), ?_, hb.2⟩, rfl, rfl, rfl⟩
    exact layoutArray_vecCap (layoutMatch_iff.mp hm)
  · cases h

theorem count_if (x i : Nat) : (if x = i then 1 else 0) = if i = x then 1 else 0 := by
  split <;> split <;> omega

section steps
variable {pool : List Buf} {held : List Held} {pend : List (Nat × Pending)}
  {allocs : List (Nat × Nat)} {freed : List (Nat × (Nat × Nat))}

theorem mem_of_perm_cons {l r : List α} {a x : α} (hp : l.Perm (a :: r)) (hx : x ∈ r) : x ∈ l :=
  hp.mem_iff.mpr (List.mem_cons_of_mem _ hx)

theorem InvF.fresh (inv : InvF pool held pend allocs freed) (t slot : Nat) (ty : Ty) (cap c : Nat)
    (l : Nat × Nat) (hl : layoutArray ty c = some l) (hc : cap ≤ c) :
    InvF pool (held ++ [⟨t, slot, ty, cap, ⟨allocs.length, c, ty⟩⟩]) pend (allocs ++ [l]) freed where
  once i := by
    have := inv.once i
    simp only [placesF, List.map_append, List.map_cons, List.map_nil, List.count_append,
      List.count_cons, List.count_nil, List.length_append, List.length_cons, List.length_nil,
      beq_iff_eq] at this ⊢
    split at this <;> split <;> split <;> omega
  poolOk b hb := (inv.poolOk b hb).mono _
  transitOk b hb := (inv.transitOk b hb).mono _
  heldOk := List.forall_mem_append.mpr ⟨fun h hh => (inv.heldOk h hh).mono _,
    List.forall_mem_singleton.mpr ⟨⟨l, hl, by simp⟩, hc, rfl⟩⟩
  freedOk e he := getElem?_append_some (inv.freedOk e he)
  pendOk := inv.pendOk

theorem InvF.dropHeld (inv : InvF pool held pend allocs freed) {h : Held} {rest : List Held}
    (hp : held.Perm (h :: rest)) :
    InvF pool rest pend allocs (freed ++ [(h.v.id, h.v.freeLayout)]) where
  once i := by
    have := inv.once i
    have hc := (hp.map (·.v.id)).count_eq i
    simp only [placesF, List.map_append, List.map_cons, List.map_nil, List.count_append,
      List.count_cons, List.count_nil, beq_iff_eq] at this hc ⊢
    omega
  poolOk := inv.poolOk
  transitOk := inv.transitOk
  heldOk x hx := inv.heldOk x (mem_of_perm_cons hp hx)
  freedOk := List.forall_mem_append.mpr ⟨inv.freedOk, List.forall_mem_singleton.mpr
    (inv.heldOk h (hp.mem_iff.mpr List.mem_cons_self)).1.freeLayout⟩
  pendOk := inv.pendOk

theorem transitBufs_append_push (p : List (Nat × Pending)) (t : Nat) (b : Buf) :
    transitBufs (p ++ [(t, .wantPush b)]) = transitBufs p ++ [b] := by
  simp [transitBufs, transitOf]

/-- `add`: the vec became a `Buffer` that waits for the mutex. -/
theorem InvF.toTransit (inv : InvF pool held pend allocs freed) {h : Held} {rest : List Held}
    (hp : held.Perm (h :: rest)) (t : Nat) {b : Buf} (hb : BufOk allocs b) (hid : b.id = h.v.id) :
    InvF pool rest (pend ++ [(t, .wantPush b)]) allocs freed where
  once i := by
    have := inv.once i
    have hc := (hp.map (·.v.id)).count_eq i
    simp only [placesF, transitBufs_append_push, List.map_append, List.map_cons, List.map_nil,
      List.count_append, List.count_cons, List.count_nil, beq_iff_eq, hid] at this hc ⊢
    omega
  poolOk := inv.poolOk
  transitOk := by
    rw [transitBufs_append_push]
    exact List.forall_mem_append.mpr ⟨inv.transitOk, List.forall_mem_singleton.mpr hb⟩
  heldOk x hx := inv.heldOk x (mem_of_perm_cons hp hx)
  freedOk := inv.freedOk
  pendOk := List.forall_mem_append.mpr ⟨inv.pendOk, List.forall_mem_singleton.mpr trivial⟩

/-- Only the control part of `pend` changed (no buffer in transit appeared or disappeared). -/
theorem InvF.rependPerm (inv : InvF pool held pend allocs freed) {pend' : List (Nat × Pending)}
    (hp : (transitBufs pend').Perm (transitBufs pend)) (hok : ∀ e ∈ pend', PendOk e) :
    InvF pool held pend' allocs freed where
  once i := by
    have := inv.once i
    have hc := (hp.map (·.id)).count_eq i
    simp only [placesF] at this ⊢
    omega
  poolOk := inv.poolOk
  transitOk x hx := inv.transitOk x (hp.mem_iff.mp hx)
  heldOk := inv.heldOk
  freedOk := inv.freedOk
  pendOk := hok

theorem InvF.popCtl (inv : InvF pool held pend allocs freed) {e : Nat × Pending}
    {rest : List (Nat × Pending)} (hp : pend.Perm (e :: rest)) (he : transitOf e = none) :
    InvF pool held rest allocs freed := by
  refine inv.rependPerm ?_ fun x hx => inv.pendOk x (mem_of_perm_cons hp hx)
  have := hp.filterMap transitOf
  rw [List.filterMap_cons, he] at this
  exact this.symm

theorem InvF.pushCtl (inv : InvF pool held pend allocs freed) (e : Nat × Pending)
    (he : transitOf e = none) (hok : PendOk e) : InvF pool held (pend ++ [e]) allocs freed :=
  inv.rependPerm (by simp [transitBufs, List.filterMap_append, he])
    (List.forall_mem_append.mpr ⟨inv.pendOk, List.forall_mem_singleton.mpr hok⟩)

/-- `add`: the critical section pushes the buffer. -/
theorem InvF.push (inv : InvF pool held pend allocs freed) {t : Nat} {b : Buf}
    {rest : List (Nat × Pending)} (hp : pend.Perm ((t, .wantPush b) :: rest)) :
    InvF (pool ++ [b]) held rest allocs freed := by
  have hpt : (transitBufs pend).Perm (b :: transitBufs rest) := hp.filterMap transitOf
  exact {
    once := fun i => by
      have := inv.once i
      have hc := (hpt.map (·.id)).count_eq i
      simp only [placesF, List.map_append, List.map_cons, List.map_nil, List.count_append,
        List.count_cons, List.count_nil, beq_iff_eq] at this hc ⊢
      omega
    poolOk := List.forall_mem_append.mpr ⟨inv.poolOk, List.forall_mem_singleton.mpr
      (inv.transitOk b (hpt.mem_iff.mpr List.mem_cons_self))⟩
    transitOk := fun x hx => inv.transitOk x (mem_of_perm_cons hpt hx)
    heldOk := inv.heldOk
    freedOk := inv.freedOk
    pendOk := fun e he => inv.pendOk e (mem_of_perm_cons hp he) }

/-- `alloc`: the critical section removes a buffer and hands it out as `Vec<ty>`. -/
theorem InvF.hit (inv : InvF pool held pend allocs freed) {b : Buf} {pool' : List Buf}
    (hp : pool.Perm (b :: pool')) (t slot : Nat) {ty : Ty} {cap : Nat} {v : VecH}
    (hv : intoVec b ty = some v) (hc : cap ≤ v.cap) :
    InvF pool' (held ++ [⟨t, slot, ty, cap, v⟩]) pend allocs freed := by
  obtain ⟨hvok, hid, hty, _⟩ := intoVec_ok (inv.poolOk b (hp.mem_iff.mpr List.mem_cons_self)) hv
  exact {
    once := fun i => by
      have := inv.once i
      have hcnt := (hp.map (·.id)).count_eq i
      simp only [placesF, List.map_append, List.map_cons, List.map_nil, List.count_append,
        List.count_cons, List.count_nil, beq_iff_eq, hid] at this hcnt ⊢
      omega
    poolOk := fun x hx => inv.poolOk x (mem_of_perm_cons hp hx)
    transitOk := inv.transitOk
    heldOk := List.forall_mem_append.mpr ⟨inv.heldOk, List.forall_mem_singleton.mpr ⟨hvok, hc, hty⟩⟩
    freedOk := inv.freedOk
    pendOk := inv.pendOk }

theorem InvF.dropAll (inv : InvF pool held pend allocs freed) :
    InvF [] held pend allocs (freed ++ pool.map (fun b => (b.id, b.freeLayout))) where
  once i := by
    have := inv.once i
    simp only [placesF, List.map_append, List.map_map, List.map_nil, List.count_append,
      List.count_nil] at this ⊢
    have : (fun x : Nat × (Nat × Nat) => x.1) ∘ (fun b : Buf => (b.id, b.freeLayout)) = fun b => b.id := rfl
    rw [this]
    omega
  poolOk x hx := by cases hx
  transitOk := inv.transitOk
  heldOk := inv.heldOk
  freedOk := List.forall_mem_append.mpr ⟨inv.freedOk, List.forall_mem_map.mpr
    fun b hb => (inv.poolOk b hb).freeLayout⟩
  pendOk := inv.pendOk

end steps

theorem withCapacity_ok {ty : Ty} {cap c : Nat} {l : Nat × Nat} (h : withCapacity ty cap = some (c, l))
    (hcap : cap ≤ usizeMax) : layoutArray ty c = some l ∧ cap ≤ c := by
  unfold withCapacity at h
  cases h1 : layoutArray ty cap with
  | none => simp [h1] at h
  | some l' =>
    simp only [h1, Option.some.injEq, Prod.mk.injEq] at h
    obtain ⟨rfl, rfl⟩ := h
    exact ⟨layoutArray_vecCap h1, le_vecCap hcap (Nat.le_refl _)⟩

theorem startAdd_inv {s s' : State} {t : Nat} {h : Held} {rest : List Held} {ev : Ev} (inv : Inv s)
    (hp : s.held.Perm (h :: rest)) (hs : startAdd s t h.v rest = (s', ev)) : Inv s' := by
  have hh := inv.heldOk h (hp.mem_iff.mpr List.mem_cons_self)
  obtain ⟨b, hfv, hbok, hid, hfl⟩ := fromVec_ok hh.1
  unfold startAdd at hs
  simp only [hfv] at hs
  split at hs <;> cases hs
  · exact InvF.toTransit inv hp t hbok hid
  · have := InvF.dropHeld inv hp
    rw [← hid, ← hfl] at this
    exact this

/-- The `remove` index is in range and a buffer that fits passes `into_vec`, so neither panic in
the critical section of `alloc` can happen. -/
theorem step_allocLock {s s' : State} {t : Nat} {ev : Ev}
    (h : step s (.allocLock t) = some (s', ev)) :
    ∃ slot ty cap rest,
      extractFirst (fun e => e.1 == t) s.pend = some ((t, .wantLock slot ty cap), rest) ∧
      ((bestFit s.pool ty cap = none ∧
          ({ s with pend := rest ++ [(t, .fallback slot ty cap)] }, Ev.miss) = (s', ev)) ∨
       ∃ i b pool' v, bestFit s.pool ty cap = some (i, b.cap) ∧
          removeAt i s.pool = some (b, pool') ∧ canFit b ty cap = true ∧ intoVec b ty = some v ∧
          ({ s with pool := pool', pend := rest, hitCount := s.hitCount + 1,
                    held := s.held ++ [⟨t, slot, ty, cap, v⟩] },
            Ev.hit v.id v.cap (v.cap * ty.size)) = (s', ev)) := by
  simp only [step] at h
  split at h
  · next t' slot ty cap rest hex =>
    have ht : t' = t := by simpa using (extractFirst_perm hex).2
    subst ht
    refine ⟨slot, ty, cap, rest, hex, ?_⟩
    split at h
    · next hbf => exact .inl ⟨hbf, Option.some.inj h⟩
    · next i c hbf =>
      obtain ⟨b0, hget0, hfit, hcap0⟩ := bestFit_fits hbf
      split at h
      · next hrm =>
        have := removeAt_isSome (List.getElem?_eq_some_iff.mp hget0).1
        rw [hrm] at this; cases this
      · next b pool' hrm =>
        have hget := (removeAt_perm hrm).2
        rw [hget0] at hget
        cases hget
        split at h
        · next hiv => simp [intoVec, (canFit_iff.mp hfit).1] at hiv
        · next v hiv =>
          exact .inr ⟨i, b0, pool', v, by rw [hbf, hcap0], hrm, hfit, hiv, Option.some.inj h⟩
  · cases h

theorem step_addStart {s s' : State} {t slot : Nat} {ev : Ev}
    (h : step s (.addStart t slot) = some (s', ev)) :
    ∃ hd rest, s.held.Perm (hd :: rest) ∧ startAdd s t hd.v rest = (s', ev) := by
  simp only [step] at h
  split at h
  · cases h
  · split at h
    · cases h
    · next hd rest hex => exact ⟨hd, rest, (extractFirst_perm hex).1, Option.some.inj h⟩

/-- `Drop for PoolRef`: as `add`, except that a vec without capacity is dropped on the spot. -/
theorem step_poolRefDrop {s s' : State} {t slot : Nat} {ev : Ev}
    (h : step s (.poolRefDrop t slot) = some (s', ev)) :
    ∃ hd rest, s.held.Perm (hd :: rest) ∧ (startAdd s t hd.v rest = (s', ev) ∨
      ({ s with held := rest, freed := s.freed ++ [(hd.v.id, hd.v.freeLayout)] },
        Ev.noBuffer hd.v.id (hd.v.cap * hd.v.ty.size)) = (s', ev)) := by
  simp only [step] at h
  split at h
  · cases h
  · split at h
    · cases h
    · next hd rest hex =>
      refine ⟨hd, rest, (extractFirst_perm hex).1, ?_⟩
      split at h
      · exact .inl (Option.some.inj h)
      · exact .inr (Option.some.inj h)

theorem step_inv {s s' : State} {op : Op} {ev : Ev} (inv : Inv s) (h : step s op = some (s', ev)) :
    Inv s' := by
  revert h
  -- a disabled leaf closes; elsewhere `s'`, `ev` become the leaf's values (not where that is `startAdd …`)
  fun_cases step s op <;> intro h <;> try cases h
  -- `allocStart`: `with_capacity` panics / the small-request bypass / counted, waits for the mutex
  · exact inv
  · next t slot ty cap hcap _ _ c l hw =>
    obtain ⟨h1, h2⟩ := withCapacity_ok hw (by omega)
    exact InvF.fresh inv t slot ty cap c l h1 h2
  · next t slot ty cap hcap _ _ => exact inv.pushCtl _ rfl (by omega : cap ≤ usizeMax)
  -- `allocLock`: miss / the two panics (`Inv` does not read the counters; a fitting buffer passes `into_vec`) / hit
  · next t _ slot ty cap rest hex _ =>
    obtain ⟨hperm, _⟩ := extractFirst_perm hex
    have hpok : cap ≤ usizeMax := inv.pendOk _ (hperm.mem_iff.mpr List.mem_cons_self)
    exact (inv.popCtl hperm rfl).pushCtl _ rfl hpok
  · next hex _ _ _ _ => exact inv.popCtl (extractFirst_perm hex).1 rfl
  · next t _ slot ty cap rest hex i c hbf b pool' hrm hiv =>
    obtain ⟨b0, hget0, hfit, _⟩ := bestFit_fits hbf
    obtain rfl : b0 = b := Option.some.inj (hget0.symm.trans (removeAt_perm hrm).2)
    simp [intoVec, (canFit_iff.mp hfit).1] at hiv
  · next t _ slot ty cap rest hex i c hbf b pool' hrm v hv =>
    obtain ⟨hperm, _⟩ := extractFirst_perm hex
    have hpok : cap ≤ usizeMax := inv.pendOk _ (hperm.mem_iff.mpr List.mem_cons_self)
    obtain ⟨b0, hget0, hfit, _⟩ := bestFit_fits hbf
    obtain ⟨hpp, hget⟩ := removeAt_perm hrm
    obtain rfl : b0 = b := Option.some.inj (hget0.symm.trans hget)
    -- the chosen buffer fits, hence its capacity is adequate
    obtain ⟨_, _, _, hvc⟩ := intoVec_ok (inv.poolOk b0 (hpp.mem_iff.mpr List.mem_cons_self)) hv
    exact InvF.hit (inv.popCtl hperm rfl) hpp t slot hv
      (by rw [hvc]; exact le_vecCap hpok (canFit_iff.mp hfit).2)
  -- `allocFallback`: `with_capacity` panics / fresh allocation
  · next hex _ => exact inv.popCtl (extractFirst_perm hex).1 rfl
  · next t _ slot ty cap rest hex c l hw =>
    obtain ⟨hperm, _⟩ := extractFirst_perm hex
    obtain ⟨h1, h2⟩ := withCapacity_ok hw (inv.pendOk _ (hperm.mem_iff.mpr List.mem_cons_self))
    exact InvF.fresh (inv.popCtl hperm rfl) t slot ty cap c l h1 h2
  -- `addStart`, `addPush`, `dropVec`
  · next hex => exact startAdd_inv inv (extractFirst_perm hex).1 (Option.some.inj h)
  · next hex => exact InvF.push inv (extractFirst_perm hex).1
  · next hex => exact InvF.dropHeld inv (extractFirst_perm hex).1
  -- `poolRefDrop`: as `add`, or a vec without capacity dropped on the spot; `dropPool`
  · next hex _ => exact startAdd_inv inv (extractFirst_perm hex).1 (Option.some.inj h)
  · next hex _ => exact InvF.dropHeld inv (extractFirst_perm hex).1
  · exact InvF.dropAll inv

theorem init_inv (m : Nat) : Inv (init m) where
  once i := by simp [init, placesF, transitBufs]
  poolOk b hb := by cases hb
  transitOk b hb := by simp [init, transitBufs] at hb
  heldOk h hh := by cases hh
  freedOk e he := by cases he
  pendOk e he := by cases he

theorem run_snoc (s0 : State) (l : List Op) (op : Op) :
    run s0 (l ++ [op]) = (run s0 l).bind (fun s => (step s op).map (·.1)) := by
  induction l generalizing s0 with
  | nil =>
    simp only [List.nil_append, run, Option.bind_some]
    cases step s0 op with
    | none => rfl
    | some p => rfl
  | cons o os ih =>
    simp only [List.cons_append, run]
    cases step s0 o with
    | none => rfl
    | some p => exact ih p.1

theorem run_inv {s s' : State} {ops : List Op} (inv : Inv s) (h : run s ops = some s') : Inv s' := by
  induction ops generalizing s with
  | nil => simp only [run, Option.some.injEq] at h; subst h; exact inv
  | cons op ops ih =>
    simp only [run] at h
    split at h
    · cases h
    · next s1 ev hs => exact ih (step_inv inv hs) h

end RtenVerif.Pool
