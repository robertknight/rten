import RtenVerif.Model.Sym
import RtenVerif.Lemmas.SymArith

/-! Evaluation of `SymExpr`: inversion lemmas for `eval` under any arithmetic, and soundness of
`PartialEq` (C11). -/
namespace RtenVerif.Sym

abbrev ev (σ : Env) (e : SymExpr) : Except EvalErr Int := eval Arith.ideal σ e

/-- Arithmetic in which a delivered result is the exact result. -/
def Exact (A : Arith) : Prop :=
  (∀ x y, A.norm x = some y → y = x) ∧ (∀ x y, A.normDiv x = some y → y = x)

theorem exact_ideal : Exact Arith.ideal :=
  ⟨fun _ _ h => (Option.some.inj h).symm, fun _ _ h => (Option.some.inj h).symm⟩

theorem exact_checked : Exact Arith.checked :=
  ⟨fun _ _ h => (chk_some h).1, fun _ _ h => (chk_some h).1⟩

def Arith.deliver (A : Arith) : Op → Int → Option Int
  | .add | .sub | .mul => A.norm
  | .div | .divCeil => A.normDiv
  | _ => some

theorem lift_ok {r : Option Int} {v : Int} : lift r = .ok v ↔ r = some v := by
  cases r <;> simp [lift]

theorem evalOp_eq (A : Arith) (o : Op) (x y : Int) :
    evalOp A o x y =
      if (o = .div ∨ o = .divCeil) ∧ y = 0 then .error .divisionByZero
      else lift (A.deliver o (opF o x y)) := by
  cases o <;> simp only [evalOp, opF, Arith.deliver, lift, reduceCtorEq, false_or, or_false,
    true_and, false_and, if_false]

theorem eval_neg_ok {A : Arith} {σ : Env} {a : SymExpr} {v : Int} :
    eval A σ (.neg a) = .ok v ↔ ∃ x, eval A σ a = .ok x ∧ A.norm (-x) = some v := by
  simp only [eval]
  cases eval A σ a <;> simp [lift_ok]

theorem eval_bin_ok {A : Arith} {σ : Env} {o : Op} {a b : SymExpr} {v : Int} :
    eval A σ (.bin o a b) = .ok v ↔
      ∃ x y, eval A σ a = .ok x ∧ eval A σ b = .ok y ∧
        ((o = .div ∨ o = .divCeil) → y ≠ 0) ∧ A.deliver o (opF o x y) = some v := by
  simp only [eval]
  cases eval A σ a with
  | error e => simp
  | ok x =>
    cases eval A σ b with
    | error e => simp
    | ok y =>
      simp only [evalOp_eq, Except.ok.injEq, exists_and_left, exists_eq_left']
      split <;> simp_all [lift_ok]

theorem deliver_ideal (o : Op) (z : Int) : Arith.ideal.deliver o z = some z := by
  cases o <;> rfl

theorem deliver_exact {A : Arith} (hA : Exact A) {o : Op} {z v : Int}
    (h : A.deliver o z = some v) : v = z := by
  cases o
  case add | sub | mul => exact hA.1 _ _ h
  case div | divCeil => exact hA.2 _ _ h
  all_goals exact (Option.some.inj h).symm

theorem eval_mono {A B : Arith} (hn : ∀ x y, A.norm x = some y → B.norm x = some y)
    (hd : ∀ x y, A.normDiv x = some y → B.normDiv x = some y) (σ : Env) :
    ∀ (e : SymExpr) (v : Int), eval A σ e = .ok v → eval B σ e = .ok v := by
  intro e
  induction e with
  | value x => exact fun _ h => h
  | var n p => exact fun _ h => h
  | neg a ih =>
    intro v h
    obtain ⟨x, hx, hv⟩ := eval_neg_ok.mp h
    exact eval_neg_ok.mpr ⟨x, ih x hx, hn _ _ hv⟩
  | bin o a b iha ihb =>
    intro v h
    obtain ⟨x, y, hx, hy, h0, hv⟩ := eval_bin_ok.mp h
    refine eval_bin_ok.mpr ⟨x, y, iha x hx, ihb y hy, h0, ?_⟩
    cases o
    case add | sub | mul => exact hn _ _ hv
    case div | divCeil => exact hd _ _ hv
    all_goals exact hv

theorem ev_value {σ : Env} {x v : Int} : ev σ (.value x) = .ok v ↔ x = v :=
  ⟨Except.ok.inj, congrArg _⟩

theorem ev_neg_ok {σ : Env} {a : SymExpr} {v : Int} :
    ev σ (.neg a) = .ok v ↔ ∃ x, ev σ a = .ok x ∧ v = -x := by
  simp only [ev, eval_neg_ok, Arith.ideal, Option.some.injEq, @eq_comm _ _ v]

theorem ev_bin_ok {σ : Env} {o : Op} {a b : SymExpr} {v : Int} :
    ev σ (.bin o a b) = .ok v ↔
      ∃ x y, ev σ a = .ok x ∧ ev σ b = .ok y ∧
        (((o = .div ∨ o = .divCeil) → y ≠ 0) ∧ v = opF o x y) := by
  simp only [ev, eval_bin_ok, deliver_ideal, Option.some.injEq, @eq_comm _ _ v]

theorem ev_bin_of {σ : Env} {o : Op} {a b : SymExpr} {x y : Int} (hx : ev σ a = .ok x)
    (hy : ev σ b = .ok y) (h0 : (o = .div ∨ o = .divCeil) → y ≠ 0) :
    ev σ (.bin o a b) = .ok (opF o x y) :=
  ev_bin_ok.mpr ⟨x, y, hx, hy, h0, rfl⟩

theorem ev_neg_of {σ : Env} {a : SymExpr} {x : Int} (hx : ev σ a = .ok x) :
    ev σ (.neg a) = .ok (-x) :=
  ev_neg_ok.mpr ⟨x, hx, rfl⟩

theorem ev_inj {σ : Env} {e : SymExpr} {x y : Int} (hx : ev σ e = .ok x) (hy : ev σ e = .ok y) :
    x = y :=
  Except.ok.inj (hx.symm.trans hy)

theorem opF_comm {o : Op} (h : o.comm = true) (x y : Int) : opF o x y = opF o y x := by
  cases o
  case add => exact Int.add_comm x y
  case mul => exact Int.mul_comm x y
  case max => exact Int.max_comm x y
  case min => exact Int.min_comm x y
  case broadcast => exact bcastI_comm x y
  all_goals cases h

theorem opF_assoc {o : Op} (h : o.comm = true) (x y z : Int) :
    opF o (opF o x y) z = opF o x (opF o y z) := by
  cases o
  case add => exact Int.add_assoc x y z
  case mul => exact Int.mul_assoc x y z
  case max => exact Int.max_assoc x y z
  case min => exact Int.min_assoc x y z
  case broadcast => exact bcastI_assoc x y z
  all_goals cases h

theorem beq_sound (σ : Env) :
    ∀ (a b : SymExpr) (v : Int), beq a b = true → ev σ a = .ok v → ev σ b = .ok v := by
  intro a b
  fun_induction beq a b with
  | case1 x y => intro v h he; cases beq_iff_eq.mp h; exact he
  | case2 n p m q => intro v h he; cases beq_iff_eq.mp h; exact he
  | case3 a b ih =>
    intro v h he
    obtain ⟨x, hx, rfl⟩ := ev_neg_ok.mp he
    exact ev_neg_of (ih x h hx)
  | case4 o a b o' c d iac ibd iad ibc =>
    intro v h he
    simp only [Bool.and_eq_true, beq_iff_eq] at h
    obtain ⟨rfl, h⟩ := h
    obtain ⟨x, y, hx, hy, h0, rfl⟩ := ev_bin_ok.mp he
    have straight : beq a c = true ∧ beq b d = true → ev σ (.bin o c d) = .ok (opF o x y) :=
      fun h => ev_bin_of (iac x h.1 hx) (ibd y h.2 hy) h0
    cases hc : o.comm <;>
      simp only [hc, if_true, if_false, Bool.false_eq_true, Bool.or_eq_true, Bool.and_eq_true] at h
    · exact straight h
    · rcases h with h | h
      · exact straight h
      · rw [opF_comm hc]
        refine ev_bin_of (ibc y h.2 hy) (iad x h.1 hx) fun ho => ?_
        rcases ho with rfl | rfl <;> cases hc
  | case5 => intro v h; cases h

theorem beq_ev_eq {σ : Env} {a b : SymExpr} {x y : Int} (h : beq a b = true)
    (hx : ev σ a = .ok x) (hy : ev σ b = .ok y) : x = y :=
  ev_inj (beq_sound σ a b x h hx) hy

end RtenVerif.Sym
