import RtenVerif.Lemmas.PartialRunPlan
import RtenVerif.Lemmas.PartialRunExec
/-!
# Composition: `run (partial_run S ++ rest) = run (S ++ rest)`

`run` is sound and complete for the naive evaluation `Den`; the kept operators of `partial_run`
are a valid deterministic plan from `S`, so its leaves carry their naive values (T1) and it
succeeds whenever the single run does; the naive evaluation on `leaves ++ rest` agrees with the
one on `S ++ rest` on every demanded id (`cut`), which gives T2.
-/
namespace RtenVerif.PartialRun
open RtenVerif.Graph RtenVerif.Planner

section
variable {Ω V : Type}

/-- Operators flagged deterministic do not look at the oracle. -/
def DetSem (g : Graph) (sem : Sem Ω V) : Prop :=
  ∀ p op, getOp g p = some op → op.deterministic = true →
    ∀ (ω ω' : Ω) (args : List V), sem ω p args = sem ω' p args

/-- The request: `S` is supplied to `partial_run`, `rest` are the remaining inputs, which are
true graph inputs (no operator produces them).  (`S ++ rest` gives priority to `S`.) -/
structure Setup (g : Graph) (S rest : List (Nat × V)) : Prop where
  up : UniqueProducer g
  restNoSource : ∀ id v, rest.lookup id = some v → getSource g id = none

def uniqueProducerB (g : Graph) : Bool :=
  (List.range g.nodes.length).all (fun p =>
    match getOp g p with
    | some op => (opOutputs op).all (fun v => sourceOf g v == some p)
    | none => true)

theorem uniqueProducer_of_check {g : Graph} (h : uniqueProducerB g = true) : UniqueProducer g :=
  uniqueProducer_of_upCheck h

theorem setup_of_check {g : Graph} {S rest : List (Nat × V)} (h1 : uniqueProducerB g = true)
    (h2 : rest.all (fun p => (getSource g p.1).isNone) = true) : Setup g S rest := by
  refine ⟨uniqueProducer_of_check h1, fun id v hl => ?_⟩
  exact Option.isNone_iff_eq_none.mp (List.all_eq_true.mp h2 (id, v) (lookup_mem hl))

def outputsAreValuesB (g : Graph) : Bool :=
  (List.range g.nodes.length).all (fun p =>
    match getOp g p with
    | some op => (opOutputs op).all (fun o => getNode g o == some .value)
    | none => true)

theorem outputsAreValues_of_check {g : Graph} (h : outputsAreValuesB g = true) :
    OutputsAreValues g :=
  fun _ _ hop o ho => beq_iff_eq.mp (List.all_eq_true.mp (forall_ops_of_check h hop) o ho)

variable {g : Graph} {sem : Sem Ω V} {cv : Nat → V} {S rest : List (Nat × V)}

theorem Setup.rest_fresh (hs : Setup g S rest) {q o : Nat} (ho : o ∈ outsOf g q) :
    rest.lookup o = none := by
  obtain ⟨qop, hq, ho⟩ := mem_outsOf.mp ho
  cases hl : rest.lookup o with
  | none => rfl
  | some v => cases (hs.restNoSource o v hl).symm.trans (getSource_of_output hs.up hq ho)

theorem Setup.leaf_not_rest (hs : Setup g S rest) {plan outs : List Nat} {a : Nat}
    (ha : a ∈ newOutputs (pruneFold g plan (S.map (fun p => p.1))) outs)
    (hb : a ∈ rest.map (fun p => p.1)) : a ∈ S.map (fun p => p.1) :=
  (newOutputs_spec g plan _ outs a ha).resolve_right fun ⟨_, hk⟩ =>
    lookup_eq_none_iff_keys.mp (hs.rest_fresh hk) hb

theorem Setup.tie (hs : Setup g S rest) {ω ω' : Ω} {plan : List Nat}
    (hdet : ∀ p ∈ plan, ∀ args, sem ω p args = sem ω' p args) :
    Tie g sem ω ω' S (S ++ rest) plan :=
  ⟨hs.up, fun id v h => by rw [List.lookup_append, h]; rfl,
    fun p _ o ho hl => by rw [List.lookup_append, hl]; exact hs.rest_fresh ho, hdet⟩

theorem argsOK_of_run_ok {ω : Ω} {W : List (Nat × V)} {outs : List Nat} {vals : List V}
    (h : run g sem ω cv W [] outs = .ok vals) : ArgsOK g (W.map (fun p => p.1)) outs := by
  rw [run, List.append_nil] at h
  split at h
  · cases h
  · next hc => exact PlanCache.argsOK_of_createPlan_ok hc

theorem tie_self (hu : UniqueProducer g) (ω : Ω) (W : List (Nat × V)) (plan : List Nat) :
    Tie g sem ω ω W W plan :=
  ⟨hu, fun _ _ h => h, fun _ _ _ _ h => h, fun _ _ _ => rfl⟩

theorem run_sound (hu : UniqueProducer g) {ω : Ω} {W : List (Nat × V)} {outs : List Nat}
    {vals : List V} (h : run g sem ω cv W [] outs = .ok vals) :
    ∃ lk, gather lk outs = some vals ∧ ∀ o v, lk o = some v → Den g sem ω cv W o v := by
  have hnd := (argsOK_of_run_ok h).1
  rw [run] at h
  split at h
  · cases h
  · next plan _ => exact runPlan_sound hnd (tie_self hu ω W plan) h

theorem run_den (hu : UniqueProducer g) {ω : Ω} {W : List (Nat × V)} {outs : List Nat}
    {vals : List V} (h : run g sem ω cv W [] outs = .ok vals) :
    ∀ o ∈ outs, ∃ v, Den g sem ω cv W o v := by
  obtain ⟨lk, hg, hd⟩ := run_sound hu h
  exact fun o ho => (gather_lookup_some hg o ho).imp (hd o)

theorem resolvedNew_of_not_captures {opts : PlanOptions} (h : opts.capturesAvailable = false)
    (ins : List Nat) : resolvedNew g ins opts.capturesAvailable = ins := by
  rw [h]; exact List.append_nil _

/-- A request that is ranked (`Ranked`) has no traversal-error cause, so on well-formed arguments
`create_plan` returns a plan (for a top-level graph: captures are not available). -/
theorem createPlan_ok_of_ranked {opts : PlanOptions} {ins outs : List Nat} {R : Nat → Nat → Prop}
    (hcap : opts.capturesAvailable = false) (hargs : ArgsOK g ins outs)
    (hR : Ranked g opts ins outs R) : ∃ plan, createPlan g ins outs opts = .ok plan := by
  cases hc : createPlan g ins outs opts with
  | ok plan => exact ⟨plan, rfl⟩
  | error e =>
    have hcause := c03_error_cause hargs hc
    rw [resolvedNew_of_not_captures hcap] at hcause
    exact (hR.no_errCause hcause).elim

/-- Planning cannot fail, the plan is valid (`c03_plan_ok`) and the naive evaluation ran each of
its operators. -/
theorem run_complete (hu : UniqueProducer g) (hov : OutputsAreValues g) {ω : Ω}
    {W : List (Nat × V)} {outs : List Nat} (hargs : ArgsOK g (W.map (fun p => p.1)) outs)
    (hden : ∀ o ∈ outs, ∃ v, Den g sem ω cv W o v) :
    ∃ vals, run g sem ω cv W [] outs = .ok vals := by
  obtain ⟨plan, hc⟩ := createPlan_ok_of_ranked (opts := runOpts) rfl hargs
    (ranked_of_den (fun _ _ h _ => h) (fun _ h _ => Or.inr h) hden)
  have hok := c03_plan_ok hargs hc
  rw [resolvedNew_of_not_captures rfl] at hok
  rw [run, List.append_nil, hc]
  exact runPlan_progress hov hargs.2.2.2 (tie_self hu ω W plan) hok.valid
    (fun p hp => needed_opEval (fun _ _ h _ => h) hden (hok.minimal p hp)) hargs.1
    fun o ho => (hok.outputs o ho).resolve_right fun h => nomatch h.1

theorem partialRun_ok {ω : Ω} {outs : List Nat} {leaves : List (Nat × V)}
    (h : partialRun g sem ω cv S [] outs = .ok leaves) :
    ∃ plan vals, createPlan g (S.map (fun p => p.1)) outs partialOpts = .ok plan ∧
      runPlan g sem ω cv S [] (pruneFold g plan (S.map (fun p => p.1))).kept
        (newOutputs (pruneFold g plan (S.map (fun p => p.1))) outs) = .ok vals ∧
      leaves = (newOutputs (pruneFold g plan (S.map (fun p => p.1))) outs).zip vals := by
  rw [partialRun, List.append_nil] at h
  split at h
  · cases h
  · next kept newOuts hpp =>
    obtain ⟨plan, hc, rfl, rfl⟩ := partialPlan_ok hpp
    split at h
    · next vals hr => exact ⟨plan, vals, hc, hr, (Except.ok.inj h).symm⟩
    · cases h

/-- **`Graph::partial_run`**: any owned/borrowed split of the inputs gives the result of the
all-borrowed call. -/
theorem partialRun_owned_eq {g : Graph} {sem : Sem Ω V} {ω : Ω} {cv : Nat → V}
    {views owned : List (Nat × V)} (outs : List Nat) :
    partialRun g sem ω cv views owned outs = partialRun g sem ω cv (views ++ owned) [] outs := by
  unfold partialRun
  rw [List.append_nil]
  split
  · rfl
  · next kept newOuts hp =>
    obtain ⟨plan, hc, -, rfl⟩ := partialPlan_ok hp
    rw [runPlan_owned_eq (newOutputs_nodup hc)]

/-- **T1** `partial_run S` returns the ids `prune_plan` lists, each with the naive evaluation's
value on any completion `S ++ rest` of the inputs, for any oracle: the kept operators do not
look at the oracle. -/
theorem partialRun_sound (hs : Setup g S rest) (hdet : DetSem g sem) {ω : Ω} {outs : List Nat}
    {leaves : List (Nat × V)} (h : partialRun g sem ω cv S [] outs = .ok leaves) :
    ∃ plan, createPlan g (S.map (fun p => p.1)) outs partialOpts = .ok plan ∧
      leaves.map (fun p => p.1) = newOutputs (pruneFold g plan (S.map (fun p => p.1))) outs ∧
      ∀ ω', ∀ pr ∈ leaves, Den g sem ω' cv (S ++ rest) pr.1 pr.2 := by
  obtain ⟨plan, vals, hc, hr, rfl⟩ := partialRun_ok h
  have sound := fun ω' => runPlan_sound (ω' := ω') (newOutputs_nodup hc)
    (hs.tie fun p hp args => by
      obtain ⟨op, hop, hd⟩ := (pruneFold_inv g plan _).det p hp
      exact hdet p op hop hd ω ω' args) hr
  obtain ⟨_, hg, _⟩ := sound ω
  refine ⟨plan, hc, List.map_fst_zip (Nat.le_of_eq (gather_zip hg).1.symm), fun ω' pr hpr => ?_⟩
  obtain ⟨_, hg, hd⟩ := sound ω'
  exact hd _ _ ((gather_zip hg).2 pr hpr)

/-- **Separation / cut**: on a demanded id, the naive evaluation with all inputs agrees with the
naive evaluation on the returned leaves plus the remaining inputs. -/
theorem cut (hs : Setup g S rest) (hdet : DetSem g sem) {ω : Ω} {outs : List Nat}
    {leaves : List (Nat × V)} (hp : partialRun g sem ω cv S [] outs = .ok leaves)
    {plan : List Nat} (hc : createPlan g (S.map (fun p => p.1)) outs partialOpts = .ok plan) :
    ∀ (f id : Nat) (v : V), evalAt g sem ω cv (S ++ rest) f id = some v →
      Demanded g plan (S.map (fun p => p.1)) outs id →
      Den g sem ω cv (leaves ++ rest) id v := by
  obtain ⟨plan', hc', hkeys, hT1⟩ := partialRun_sound (rest := rest) hs hdet hp
  cases Except.ok.inj (hc.symm.trans hc')
  -- a returned id: its leaf value is the naive value
  have leaf_case : ∀ id v, getNode g id = some .value → Den g sem ω cv (S ++ rest) id v →
      id ∈ leaves.map (fun p => p.1) → Den g sem ω cv (leaves ++ rest) id v := by
    intro id v hn hden hmem
    obtain ⟨w, hw⟩ := mem_keys_iff_lookup.mp hmem
    cases (hT1 ω (id, w) (lookup_mem hw)).unique g sem ω cv _ hden
    exact ⟨1, evalAt_view hn (by rw [List.lookup_append, hw]; rfl)⟩
  intro f
  induction f with
  | zero => intro id v h; cases h
  | succ f ih =>
    intro id v h hdem
    have hden : Den g sem ω cv (S ++ rest) id v := ⟨f + 1, h⟩
    obtain ⟨_, hf, h⟩ := evalAt_inv h
    cases hf
    rcases h with ⟨hn, rfl⟩ | ⟨hn, hl⟩ | ⟨hn, hl, p, op, args, outs', hsrc, hg, hsem, hlen', hv⟩
    · exact ⟨1, evalAt_const hn⟩
    · rw [List.lookup_append] at hl
      cases hS : S.lookup id with
      | some w' =>
        exact leaf_case id v hn hden (hkeys ▸ demanded_supplied_returned hdem
          (mem_keys_iff_lookup.mpr ⟨w', hS⟩) (isConstant_of_value hn))
      | none =>
        -- a remaining input: not among the leaves
        rw [hS] at hl
        refine ⟨1, evalAt_view hn ?_⟩
        rw [List.lookup_append, lookup_eq_none_iff_keys.mpr, Option.none_or]
        · exact hl
        · exact fun hmem => lookup_eq_none_iff_keys.mp hS
            (hs.leaf_not_rest (hkeys ▸ hmem) (mem_keys_iff_lookup.mpr ⟨v, hl⟩))
    · by_cases hmem : id ∈ leaves.map (fun p => p.1)
      · exact leaf_case id v hn hden hmem
      · -- neither supplied nor returned: its producer is pruned, so its dependencies are demanded
        obtain ⟨hS, hrest⟩ := Option.or_eq_none_iff.mp ((List.lookup_append).symm.trans hl)
        obtain ⟨pre, post, hsplit, hpop, hpr⟩ := demanded_source_pruned hs.up
          (planOK_of_partial hc) hdem (lookup_eq_none_iff_keys.mp hS) (isConstant_of_value hn) hsrc
          (hkeys ▸ hmem)
        obtain ⟨F, hF⟩ := gather_den (opDeps g op) args
          (fun d hd w hw => ih d w hw (Or.inr ⟨pre, p, post, op, hsplit, hpop, hpr, hd⟩)) hg
        refine ⟨F + 1, (evalAt_op hn ?_ hsrc hF hsem hlen').trans hv⟩
        rw [List.lookup_append, lookup_eq_none_iff_keys.mpr hmem]
        exact hrest

/-- **T2 (values)** if the single run with all inputs and the composed run both finish, they
return the same outputs. -/
theorem compose_values (hs : Setup g S rest) (hdet : DetSem g sem) {ω : Ω} {outs : List Nat}
    {leaves : List (Nat × V)} {valsF valsP : List V}
    (hp : partialRun g sem ω cv S [] outs = .ok leaves)
    (hfull : run g sem ω cv (S ++ rest) [] outs = .ok valsF)
    (hfin : run g sem ω cv (leaves ++ rest) [] outs = .ok valsP) : valsF = valsP := by
  obtain ⟨plan, _, hc, _, _⟩ := partialRun_ok hp
  obtain ⟨_, hF, dF⟩ := run_sound hs.up hfull
  obtain ⟨_, hP, dP⟩ := run_sound hs.up hfin
  refine gather_eq hF hP fun o ho v w hv hw => ?_
  obtain ⟨f, hf⟩ := dF o v hv
  exact (cut hs hdet hp hc f o v hf (Or.inl ho)).unique g sem ω cv _ (dP o w hw)

theorem final_argsOK (hs : Setup g S rest) (hov : OutputsAreValues g) {outs plan : List Nat}
    (hc : createPlan g (S.map (fun p => p.1)) outs partialOpts = .ok plan)
    (hargsF : ArgsOK g ((S ++ rest).map (fun p => p.1)) outs) :
    ArgsOK g (newOutputs (pruneFold g plan (S.map (fun p => p.1))) outs ++ rest.map (fun p => p.1))
      outs := by
  obtain ⟨h1, h2, h3, h4⟩ := hargsF
  rw [List.map_append] at h3 h4
  obtain ⟨_, hrn, hdis⟩ := List.nodup_append.mp h3
  refine ⟨h1, h2, List.nodup_append.mpr ⟨newOutputs_nodup hc, hrn, ?_⟩, ?_⟩
  · rintro a ha _ hb rfl
    exact hdis a (hs.leaf_not_rest ha hb) a hb rfl
  · intro a ha
    rcases List.mem_append.mp ha with ha | ha
    · rcases newOutputs_spec g plan _ outs a ha with h | ⟨k, hk⟩
      · exact h4 a (List.mem_append_left _ h)
      · obtain ⟨qop, hq, hk⟩ := mem_outsOf.mp hk
        exact isValueOrConstant_iff.mpr (Or.inl (hov k qop hq a hk))
    · exact h4 a (List.mem_append_right _ ha)

/-- **T2** `run (partial_run S outs ++ rest) outs = run (S ++ rest) outs` whenever the latter
succeeds (and `partial_run` returned). -/
theorem compose_full (hs : Setup g S rest) (hov : OutputsAreValues g) (hdet : DetSem g sem)
    {ω : Ω} {outs : List Nat} {leaves : List (Nat × V)} {valsF : List V}
    (hp : partialRun g sem ω cv S [] outs = .ok leaves)
    (hfull : run g sem ω cv (S ++ rest) [] outs = .ok valsF) :
    run g sem ω cv (leaves ++ rest) [] outs = .ok valsF := by
  obtain ⟨plan, hc, hkeys, -⟩ := partialRun_sound (rest := rest) hs hdet hp
  have hargs : ArgsOK g ((leaves ++ rest).map (fun p => p.1)) outs := by
    rw [List.map_append, hkeys]; exact final_argsOK hs hov hc (argsOK_of_run_ok hfull)
  obtain ⟨valsP, hfin⟩ := run_complete hs.up hov hargs fun o ho => by
    obtain ⟨v, f, hf⟩ := run_den hs.up hfull o ho
    exact ⟨v, cut hs hdet hp hc f o v hf (Or.inl ho)⟩
  rw [hfin, compose_values hs hdet hp hfull hfin]

variable {ω : Ω}

/-- `rest` supplies only ids nobody produces, so on ids with a source planning from `S` resolves
no more than the naive evaluation on `S ++ rest` is given (hypothesis `hsrc` of `ranked_of_den`). -/
theorem rc_transfer (hs : Setup g S rest) (d : Nat) (x : Nat × OpNode)
    (hr : rContains g (S.map (fun p => p.1)) d = false) (hsrc : getSource g d = some x) :
    rContains g ((S ++ rest).map (fun p => p.1)) d = false := by
  obtain ⟨hr1, hr2⟩ := Bool.or_eq_false_iff.mp hr
  refine Bool.or_eq_false_iff.mpr ⟨Bool.eq_false_iff.mpr fun hc => ?_, hr2⟩
  have hm := List.contains_iff_mem.mp hc
  rw [List.map_append, List.mem_append] at hm
  rcases hm with hm | hm
  · exact Bool.eq_false_iff.mp hr1 (List.contains_iff_mem.mpr hm)
  · obtain ⟨w, hw⟩ := mem_keys_iff_lookup.mp hm
    rw [hs.restNoSource d w hw] at hsrc; cases hsrc

theorem partial_createPlan_ok (hs : Setup g S rest) {outs : List Nat}
    (hargsF : ArgsOK g ((S ++ rest).map (fun p => p.1)) outs)
    (hden : ∀ o ∈ outs, ∃ v, Den g sem ω cv (S ++ rest) o v) :
    ∃ plan, createPlan g (S.map (fun p => p.1)) outs partialOpts = .ok plan := by
  obtain ⟨h1, h2, h3, h4⟩ := hargsF
  rw [List.map_append] at h3 h4
  have hargsP : ArgsOK g (S.map (fun p => p.1)) outs :=
    ⟨h1, h2, (List.nodup_append.mp h3).1, fun i hi => h4 i (List.mem_append_left _ hi)⟩
  exact createPlan_ok_of_ranked rfl hargsP
    (ranked_of_den (rc_transfer hs) (fun _ _ _ => Or.inl rfl) hden)

/-- **`partial_run` succeeds** whenever the single run with all inputs does: the kept operators
are a valid plan from `S`, each of them needed by the full run's request. -/
theorem partialRun_total (hs : Setup g S rest) (hov : OutputsAreValues g) {outs : List Nat}
    {valsF : List V} (hfull : run g sem ω cv (S ++ rest) [] outs = .ok valsF) :
    ∃ leaves, partialRun g sem ω cv S [] outs = .ok leaves := by
  have hden := run_den hs.up hfull
  obtain ⟨plan, hc⟩ := partial_createPlan_ok hs (argsOK_of_run_ok hfull) hden
  have hargsP := PlanCache.argsOK_of_createPlan_ok hc
  have inv := pruneFold_inv g plan (S.map (fun p => p.1))
  obtain ⟨vals, hv⟩ := runPlan_progress hov hargsP.2.2.2 (hs.tie fun _ _ _ => rfl) inv.valid
    (fun i hi => needed_opEval (rc_transfer hs) hden
      ((planOK_of_partial hc).minimal i (inv.sub i hi)))
    (newOutputs_nodup hc) fun o ho =>
      rContains_of_mem (inv.resolved ▸ (inv.cand o).mp (mem_newOutputs.mp ho).1)
  constructor
  rw [partialRun, List.append_nil, partialPlan, hc]
  simp only [prunePlan, hv]
  rfl

end

end RtenVerif.PartialRun
