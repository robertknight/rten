/-!
A nearest integer `z` to a ratio `x / den` (`|z·den − x| ≤ den/2`, stated without division) stays
inside any integer bounds of the ratio: rounding to nearest never needs a clamp.
-/
namespace RtenVerif

theorem mul_add_le_of_lt {z N den : Int} (hd : 0 < den) (h : z < N) : z * den + den ≤ N * den := by
  have := Int.mul_le_mul_of_nonneg_right (Int.add_one_le_of_lt h) (Int.le_of_lt hd)
  rwa [Int.add_mul, Int.one_mul] at this

theorem le_of_nearest {den x z N : Int} (hd : 0 < den) (hx : x ≤ N * den)
    (hz : 2 * (z * den - x) ≤ den) : z ≤ N := by
  apply Classical.byContradiction
  intro hc
  have := mul_add_le_of_lt hd (Int.not_le.mp hc)
  omega

theorem ge_of_nearest {den x z N : Int} (hd : 0 < den) (hx : N * den ≤ x)
    (hz : -den ≤ 2 * (z * den - x)) : N ≤ z := by
  apply Classical.byContradiction
  intro hc
  have := mul_add_le_of_lt hd (Int.not_le.mp hc)
  omega

end RtenVerif
