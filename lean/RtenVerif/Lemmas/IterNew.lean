import RtenVerif.Lemmas.IterLayout
import RtenVerif.Lemmas.IterOffsets

/-!
C07 lemmas: `Offsets::new(layout)` establishes the invariant and its abstraction is
exactly the row-major offset list of the layout (both the `Range` fast path and the
`Indexing` path, which goes through `merge_axes`).
-/
namespace RtenVerif.Iter
open OffsetsBase
open RtenVerif.Overlap (isContiguous isContiguous_eq)

def fss (d : Nat × Nat) : IterPos := IterPos.fromSizeStride d.1 d.2

/-- The innermost-first dims `OffsetsBase::new` iterates over: the reversed merged dims,
padded with `(1, 0)` up to `INNER_NDIM = 2` entries. -/
def pad (L : List (Nat × Nat)) : List (Nat × Nat) := L ++ List.replicate (2 - L.length) (1, 0)

theorem new_allPos (dims : List (Nat × Nat)) :
    (OffsetsBase.new dims).allPos = (pad (mergeAxes dims).reverse).map fss := by
  simp only [OffsetsBase.new, allPos]
  rcases (mergeAxes dims).reverse with _ | ⟨a, _ | ⟨b, r⟩⟩ <;> simp [pad, fss, List.replicate]

theorem rowMajor_pad (M : List (Nat × Nat)) : rowMajor (pad M.reverse).reverse = rowMajor M := by
  rw [pad, List.reverse_append, List.reverse_replicate, List.reverse_reverse]
  induction 2 - M.reverse.length with
  | zero => rfl
  | succ k ih => exact (rowMajor_one ..).trans ih

theorem total_ne_zero : ∀ L : List (Nat × Nat), total L ≠ 0 → ∀ d ∈ L, d.1 ≠ 0
  | x :: L, h, d, hd => by
    obtain ⟨hx, hL⟩ := Nat.mul_ne_zero_iff.mp h
    rcases List.mem_cons.mp hd with rfl | hd
    · exact hx
    · exact total_ne_zero L hL d hd

/-- The sizes come back only when none is 0: `from_size_stride` stores `size - 1`. -/
theorem map_fss : ∀ L : List (Nat × Nat), (∀ p ∈ L.map fss, WF p) ∧ enc (L.map fss) = 0 ∧
    sumOff (L.map fss) = 0 ∧ ((∀ d ∈ L, d.1 ≠ 0) → dimsR (L.map fss) = L)
  | [] => ⟨fun _ h => (List.not_mem_nil h).elim, rfl, rfl, fun _ => rfl⟩
  | d :: L => by
    obtain ⟨hw, he, hs, hd⟩ := map_fss L
    have hi : (fss d).index = 0 := Nat.sub_self _
    refine ⟨?_, ?_, ?_, fun h => ?_⟩
    · intro p hp
      rcases List.mem_cons.mp hp with rfl | hp
      · exact ⟨Nat.le_refl _, by rw [hi, Nat.zero_mul]; rfl⟩
      · exact hw p hp
    · show (fss d).index + _ * enc (L.map fss) = 0
      rw [hi, he]; rfl
    · show 0 + sumOff (L.map fss) = 0
      rw [hs]
    · have hsz : (fss d).size = d.1 := Nat.sub_add_cancel (Nat.pos_of_ne_zero (h d List.mem_cons_self))
      show ((fss d).size, d.2) :: dimsR (L.map fss) = d :: L
      rw [hsz, hd fun x hx => h x (List.mem_cons_of_mem _ hx)]

theorem base_new (dims : List (Nat × Nat)) :
    Inv (OffsetsBase.new dims) ∧ absB (OffsetsBase.new dims) = rowMajor dims := by
  have hall := new_allPos dims
  obtain ⟨hwf, henc, _, hdims⟩ := map_fss (pad (mergeAxes dims).reverse)
  rw [← hall] at hwf henc hdims
  have hlen : (OffsetsBase.new dims).len = total (mergeAxes dims) := rfl
  have hinner : (OffsetsBase.new dims).innerOffset =
      (OffsetsBase.new dims).inner0.offset + (OffsetsBase.new dims).inner1.offset := by
    unfold OffsetsBase.new
    simp only
    split <;> split <;> rfl
  have houter : (OffsetsBase.new dims).outerOffset = sumOff (OffsetsBase.new dims).outerRev :=
    (map_fss _).2.2.1.symm
  have hrm : (rowMajor dims).length = total (mergeAxes dims) := by
    rw [← mergeAxes_rowMajor, rowMajor_length]
  by_cases hz : total (mergeAxes dims) = 0
  · refine ⟨⟨hwf, hinner, houter, fun h => absurd (hlen.trans hz) h⟩, ?_⟩
    rw [absB, hlen, hz, List.length_eq_zero_iff.mp (hrm.trans hz)]
    rfl
  · -- no size is 0, so the positions carry the padded reversed merged dims, whose decoding
    -- enumerates `rowMajor`; comparing lengths gives the number of elements
    have hdims := hdims fun d hd => by
      rcases List.mem_append.mp hd with hd | hd
      · exact total_ne_zero _ hz d (List.mem_reverse.mp hd)
      · rw [(List.mem_replicate.mp hd).2]; exact Nat.one_ne_zero
    have hdec := map_offR_eq_rowMajor (pad (mergeAxes dims).reverse)
    rw [rowMajor_pad, mergeAxes_rowMajor, ← hdims] at hdec
    have htot : tot (OffsetsBase.new dims).allPos = total (mergeAxes dims) := by
      rw [tot_eq_total, ← hrm, ← hdec, List.length_map, List.length_range]
    refine ⟨⟨hwf, hinner, houter, fun _ => by rw [henc, htot, hlen]; omega⟩, ?_⟩
    rw [absB, henc, hlen, ← htot, tot_eq_total, ← List.range_eq_range', hdec]

theorem offsets_new (dims : List (Nat × Nat)) :
    OffInv (Offsets.new dims) ∧ absO (Offsets.new dims) = rowMajor dims := by
  unfold Offsets.new
  by_cases hc : isContiguous dims = true
  · rw [isContiguous_eq] at hc
    obtain ⟨p, hp⟩ := Option.isSome_iff_exists.mp hc
    obtain ⟨h1, h2⟩ := contig_rowMajor dims p hp
    have hc' : isContiguous dims = true := by rw [isContiguous_eq, hp]; rfl
    simp only [hc', if_true, OffInv, absO, true_and, h2]
    rw [h1, window_zero, List.map_id]
  · simp only [hc, Bool.false_eq_true, if_false, OffInv, absO]
    exact base_new dims

end RtenVerif.Iter
