import RtenVerif.Model.Gemm

/-! Arithmetic and list facts under C16: `div_ceil` as the adjoint of multiplication,
`range_chunks` in closed form (chunk `p` of `[s, e)` is `[s + p·c, min (s + p·c + c) e)`), which
block and which tile an index falls in, and the list lemmas that localise a fold over the schedule
to one output element.  Core Lean only. -/
namespace RtenVerif.Gemm

theorem divCeil_le_iff {e t d : Nat} (ht : 0 < t) : divCeil e t ≤ d ↔ e ≤ d * t := by
  have hdm := Nat.div_add_mod' e t
  unfold divCeil
  split
  · rename_i hm
    rw [Nat.succ_le_iff, Nat.div_lt_iff_lt_mul ht]
    refine ⟨Nat.le_of_lt, fun h => Nat.lt_of_le_of_ne h ?_⟩
    intro he
    rw [he, Nat.mul_mod_left] at hm
    exact Nat.lt_irrefl 0 hm
  · rw [← Nat.mul_le_mul_right_iff ht (n := e / t)]
    omega

theorem lt_divCeil_iff {e t d : Nat} (ht : 0 < t) : d < divCeil e t ↔ d * t < e := by
  rw [← Nat.not_le, divCeil_le_iff ht, Nat.not_le]

theorem divCeil_mul_ge {n t : Nat} (ht : 0 < t) : n ≤ divCeil n t * t :=
  (divCeil_le_iff ht).mp (Nat.le_refl _)

theorem divCeil_mono {e n t : Nat} (ht : 0 < t) (h : e ≤ n) : divCeil e t ≤ divCeil n t :=
  (divCeil_le_iff ht).mpr (Nat.le_trans h (divCeil_mul_ge ht))

theorem div_lt_divCeil {x n t : Nat} (ht : 0 < t) (h : x < n) : x / t < divCeil n t :=
  (lt_divCeil_iff ht).mpr (Nat.lt_of_le_of_lt (Nat.div_mul_le_self x t) h)

theorem divCeil_mul_add {a x t : Nat} (ht : 0 < t) : divCeil (a * t + x) t = a + divCeil x t := by
  unfold divCeil
  rw [Nat.add_comm (a * t) x, Nat.add_mul_mod_self_right, Nat.add_mul_div_right x a ht]
  split <;> omega

theorem divCeil_zero (t : Nat) : divCeil 0 t = 0 := by simp [divCeil]

theorem divCeil_mul_self {q t : Nat} (ht : 0 < t) : divCeil (q * t) t = q := by
  have := divCeil_mul_add (a := q) (x := 0) ht
  rwa [divCeil_zero] at this

theorem divCeil_pos {n t : Nat} (ht : 0 < t) (hn : 0 < n) : 0 < divCeil n t :=
  Nat.lt_of_le_of_lt (Nat.zero_le _) (div_lt_divCeil ht hn)

theorem nextMultipleOf_eq {x t : Nat} (ht : 0 < t) : nextMultipleOf x t = divCeil x t * t := by
  have h1 := Nat.div_add_mod' x t
  have h2 := Nat.mod_lt x ht
  unfold nextMultipleOf divCeil
  by_cases h : x % t = 0
  · rw [if_pos h, if_neg (by omega)]; omega
  · rw [if_neg h, if_pos (by omega), Nat.succ_mul]; omega

theorem nextMultipleOf_dvd {x n : Nat} (hn : 0 < n) : n ∣ nextMultipleOf x n :=
  nextMultipleOf_eq hn ▸ Nat.dvd_mul_left ..

theorem nextMultipleOf_ge (x n : Nat) : x ≤ nextMultipleOf x n := by
  unfold nextMultipleOf; split <;> omega

theorem rangeChunks_succ {f s e : Nat} (c : Nat) (h : s < e) :
    rangeChunks (f + 1) s e c = (s, min (s + c) e) :: rangeChunks f (min (s + c) e) e c := by
  have hs : s + (min (s + c) e - s) = min (s + c) e := by omega
  simp only [rangeChunks, if_pos h, hs]

/-- Induction over the chunks of `[s, e)`, with the fuel out of the way. -/
theorem rangeChunks_induction {c : Nat} (hc : 0 < c) (e : Nat) {P : Nat → List (Nat × Nat) → Prop}
    (nil : ∀ s, e ≤ s → P s [])
    (cons : ∀ s, s < e → ∀ l, P (min (s + c) e) l → P s ((s, min (s + c) e) :: l)) :
    ∀ fuel s, e - s ≤ fuel → P s (rangeChunks fuel s e c) := by
  intro fuel
  induction fuel with
  | zero => intro s h; exact nil s (by omega)
  | succ f ih =>
    intro s h
    by_cases hse : s < e
    · rw [rangeChunks_succ c hse]
      exact cons s hse _ (ih _ (by omega))
    · rw [rangeChunks, if_neg hse]
      exact nil s (by omega)

theorem rangeChunks_eq_map {c : Nat} (hc : 0 < c) (fuel s e : Nat) (h : e - s ≤ fuel) :
    rangeChunks fuel s e c =
      (List.range (divCeil (e - s) c)).map fun p => (s + p * c, min (s + p * c + c) e) := by
  refine rangeChunks_induction hc e (P := fun s l => l =
    (List.range (divCeil (e - s) c)).map fun p => (s + p * c, min (s + p * c + c) e)) ?_ ?_ fuel s h
  · intro s hs
    rw [show e - s = 0 by omega, divCeil_zero]
    rfl
  · intro s hse l ih
    rw [ih]
    by_cases hce : s + c ≤ e
    · -- a full chunk, and the rest is `[s + c, e)` with every index shifted by one
      have hd : divCeil (e - s) c = divCeil (e - (s + c)) c + 1 := by
        rw [show e - s = 1 * c + (e - (s + c)) by omega, divCeil_mul_add hc, Nat.add_comm]
      rw [Nat.min_eq_left hce, hd, List.range_succ_eq_map, List.map_cons, List.map_map,
        Nat.zero_mul, Nat.add_zero, Nat.min_eq_left hce]
      congr 2
      funext p
      simp only [Function.comp, Nat.succ_mul]
      rw [show s + (p * c + c) = s + c + p * c by omega]
    · have hd : divCeil (e - s) c = 1 :=
        Nat.le_antisymm ((divCeil_le_iff hc).mpr (by omega)) (divCeil_pos hc (by omega))
      rw [Nat.min_eq_right (by omega), Nat.sub_self, hd, divCeil_zero]
      simp only [List.range_zero, List.map_nil, List.range_one, List.map_cons, Nat.zero_mul,
        Nat.add_zero]
      rw [Nat.min_eq_right (by omega)]

theorem rangeChunks_length {c : Nat} (hc : 0 < c) (n : Nat) :
    (rangeChunks n 0 n c).length = divCeil n c := by
  rw [rangeChunks_eq_map hc n 0 n (Nat.le_refl _), List.length_map, List.length_range, Nat.sub_zero]

theorem rangeChunks_get {c : Nat} (hc : 0 < c) {fuel s e : Nat} (hf : e - s ≤ fuel) {p : Nat}
    (hp : s + p * c < e) :
    (rangeChunks fuel s e c)[p]? = some (s + p * c, min (s + p * c + c) e) := by
  rw [rangeChunks_eq_map hc fuel s e hf, List.getElem?_map,
    List.getElem?_range ((lt_divCeil_iff hc).mpr (by omega))]
  rfl

theorem rangeChunks_mem {c : Nat} (hc : 0 < c) {fuel s e : Nat} (hf : e - s ≤ fuel) {d : Nat × Nat}
    (h : d ∈ rangeChunks fuel s e c) : s ≤ d.1 ∧ d.1 < d.2 ∧ d.2 ≤ e ∧ d.2 ≤ d.1 + c := by
  rw [rangeChunks_eq_map hc _ _ _ hf, List.mem_map] at h
  obtain ⟨p, hp, rfl⟩ := h
  have := (lt_divCeil_iff hc).mp (List.mem_range.mp hp)
  simp only
  omega

theorem rangeChunks_countP {c : Nat} (hc : 0 < c) (k fuel s e : Nat) (h : e - s ≤ fuel) :
    (rangeChunks fuel s e c).countP (fun d => decide (d.1 ≤ k) && decide (k < d.2)) =
      if s ≤ k ∧ k < e then 1 else 0 := by
  refine rangeChunks_induction hc e (P := fun s l =>
    l.countP (fun d => decide (d.1 ≤ k) && decide (k < d.2)) = if s ≤ k ∧ k < e then 1 else 0)
    ?_ ?_ fuel s h
  · intro s hs
    rw [if_neg (by omega)]; rfl
  · intro s hse l ih
    rw [List.countP_cons, ih]
    simp only [Bool.and_eq_true, decide_eq_true_eq]
    by_cases h1 : s ≤ k ∧ k < min (s + c) e
    · rw [if_pos h1, if_neg (by omega), if_pos (by omega)]
    · rw [if_neg h1]
      by_cases h2 : min (s + c) e ≤ k ∧ k < e
      · rw [if_pos h2, if_pos (by omega)]
      · rw [if_neg h2, if_neg (by omega)]

theorem depthBlocks_pos {K : Nat} (c : Nat) (hK : 0 < K) :
    depthBlocks K c = (0, min c K) :: rangeChunks (K - 1) (min c K) K c := by
  obtain ⟨f, rfl⟩ : ∃ f, K = f + 1 := ⟨K - 1, by omega⟩
  rw [depthBlocks, rangeChunks_succ c hK, Nat.zero_add]
  rfl

theorem foldl_rangeChunks {β : Type} (g : β → Nat × Nat → β) (w : Nat → β) {c lo : Nat} (hc : 0 < c)
    (step : ∀ s e, lo ≤ s → s < e → g (w s) (s, e) = w e) (fuel s e : Nat) (hs : lo ≤ s)
    (hse : s ≤ e) (hf : e - s ≤ fuel) : (rangeChunks fuel s e c).foldl g (w s) = w e := by
  refine rangeChunks_induction hc e (P := fun s l => lo ≤ s → s ≤ e → l.foldl g (w s) = w e)
    ?_ ?_ fuel s hf hs hse
  · intro s hes _ hse
    rw [show s = e by omega]; rfl
  · intro s hlt l ih hs _
    rw [List.foldl_cons, step _ _ hs (by omega)]
    exact ih (by omega) (by omega)

theorem block_contains_iff {n bs x i : Nat} (hbs : 0 < bs) (hx : x < n) :
    ((blockRange n bs i).1 ≤ x ∧ x < (blockRange n bs i).2) ↔ x / bs = i := by
  rw [Nat.div_eq_iff hbs]
  simp only [blockRange]
  omega

theorem mem_tileRange {s e t j : Nat} : j ∈ tileRange s e t ↔ s / t ≤ j ∧ j < divCeil e t := by
  unfold tileRange
  rw [List.mem_range'_1]
  omega

theorem nodup_tileRange (s e t : Nat) : (tileRange s e t).Nodup :=
  List.nodup_range' (step := 1) (by omega)

theorem tile_mem_block_iff {t bs n x i : Nat} (ht : 0 < t) (hbs : 0 < bs) (hd : t ∣ bs)
    (hx : x < n) :
    x / t ∈ tileRange (blockRange n bs i).1 (blockRange n bs i).2 t ↔ x / bs = i := by
  obtain ⟨q, hq⟩ := hd
  rw [mem_tileRange, ← block_contains_iff hbs hx]
  simp only [blockRange]
  have hib : i * bs = i * q * t := by rw [hq, Nat.mul_comm t q, Nat.mul_assoc]
  -- the block starts on a tile boundary; it ends on one or at `n`
  have hlo : i * bs / t ≤ x / t ↔ i * bs ≤ x := by
    rw [hib, Nat.mul_div_cancel _ ht, Nat.le_div_iff_mul_le ht]
  have hhi : x / t < divCeil (min (i * bs + bs) n) t ↔ x < min (i * bs + bs) n := by
    rcases Nat.le_total (i * bs + bs) n with hle | hle
    · have he : i * bs + bs = (i * q + q) * t := by rw [Nat.add_mul, ← hib, hq, Nat.mul_comm t q]
      rw [Nat.min_eq_left hle, he, divCeil_mul_self ht, Nat.div_lt_iff_lt_mul ht]
    · rw [Nat.min_eq_right hle]
      exact ⟨fun _ => hx, div_lt_divCeil ht⟩
  rw [hlo, hhi]

theorem filter_flatMap_unique {ι β : Type} (l : List ι) (g : ι → List β) (p : β → Bool) (j : ι)
    (hnd : l.Nodup) (hj : j ∈ l) (hne : ∀ i ∈ l, i ≠ j → (g i).filter p = []) :
    (l.flatMap g).filter p = (g j).filter p := by
  induction l with
  | nil => cases hj
  | cons a t ih =>
    rw [List.flatMap_cons, List.filter_append]
    rw [List.nodup_cons] at hnd
    by_cases haj : a = j
    · subst haj
      have : (t.flatMap g).filter p = [] := by
        rw [List.filter_flatMap]
        apply List.flatMap_eq_nil_iff.mpr
        intro i hi
        apply hne i (List.mem_cons_of_mem _ hi)
        intro h; subst h; exact hnd.1 hi
      rw [this, List.append_nil]
    · have hjt : j ∈ t := by
        cases hj with
        | head => exact absurd rfl haj
        | tail _ h => exact h
      rw [hne a List.mem_cons_self haj, List.nil_append]
      exact ih hnd.2 hjt (fun i hi => hne i (List.mem_cons_of_mem _ hi))

/-- A fold of pointwise updates (`ap` rewrites the entries that `cov` selects, by `st`), observed
at one entry `(r, c)`, is the fold of `st` over the updates that select `(r, c)`. -/
theorem foldl_at {ι β : Type} (ap : (Nat → Nat → β) → ι → Nat → Nat → β) (r c : Nat)
    (cov : ι → Bool) (st : β → ι → β)
    (h : ∀ C i, ap C i r c = if cov i then st (C r c) i else C r c) (l : List ι)
    (C : Nat → Nat → β) : l.foldl ap C r c = (l.filter cov).foldl st (C r c) := by
  induction l generalizing C with
  | nil => rfl
  | cons i t ih =>
    rw [List.foldl_cons, ih, h, List.filter_cons]
    cases cov i <;> rfl

theorem covers_iff (mr nr : Nat) (cl : Call) (r c : Nat) :
    cl.covers mr nr r c = true ↔
      cl.rowTile * mr ≤ r ∧ r < cl.rowTile * mr + cl.usedRows ∧
      cl.colTile * nr ≤ c ∧ c < cl.colTile * nr + cl.usedCols := by
  simp only [Call.covers, Bool.and_eq_true, decide_eq_true_eq, and_assoc]

theorem tile_contains_iff {n t x j : Nat} (ht : 0 < t) (hx : x < n) :
    (j * t ≤ x ∧ x < j * t + min (n - j * t) t) ↔ j = x / t := by
  rw [eq_comm, Nat.div_eq_iff ht]
  omega

theorem covers_mkCall_iff {M N mr nr : Nat} (hmr : 0 < mr) (hnr : 0 < nr) {r c : Nat}
    (hr : r < M) (hc : c < N) (d : Nat × Nat) (rt ct : Nat) :
    (mkCall M N mr nr d rt ct).covers mr nr r c = true ↔ rt = r / mr ∧ ct = c / nr := by
  rw [covers_iff, ← tile_contains_iff hmr hr, ← tile_contains_iff hnr hc, and_assoc]
  rfl

theorem covers_mkCall_in_range {M N mr nr : Nat} {r c : Nat} (d : Nat × Nat) (rt ct : Nat)
    (h : (mkCall M N mr nr d rt ct).covers mr nr r c = true) : r < M ∧ c < N := by
  have edge : ∀ {a x n t : Nat}, a ≤ x → x < a + min (n - a) t → x < n := by omega
  obtain ⟨h1, h2, h3, h4⟩ := (covers_iff ..).mp h
  exact ⟨edge h1 h2, edge h3 h4⟩

end RtenVerif.Gemm
