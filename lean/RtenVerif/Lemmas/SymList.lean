import RtenVerif.Lemmas.Sym

/-! Evaluation of operand lists: flattening, permutation, re-association (C11), over `Vals R`. -/
namespace RtenVerif.Sym

/-- Terms and their values, one by one.  `R t v` is `ev σ t = .ok v` strengthened by whatever property
of `t` the list functions are to carry along (`Ev`, `BQ` in SymWF.lean), so that what a pass does to the
values and what it does to the property is one statement. -/
inductive Vals (R : SymExpr → Int → Prop) : List SymExpr → List Int → Prop
  | nil : Vals R [] []
  | cons {t : SymExpr} {v : Int} {ts : List SymExpr} {vs : List Int} :
    R t v → Vals R ts vs → Vals R (t :: ts) (v :: vs)

section vals
variable {R R' : SymExpr → Int → Prop}

theorem Vals.append : ∀ {as bs : List SymExpr} {xs ys : List Int}, Vals R as xs → Vals R bs ys →
    Vals R (as ++ bs) (xs ++ ys)
  | _, _, _, _, .nil, hb => hb
  | _, _, _, _, .cons h ha, hb => .cons h (ha.append hb)

theorem Vals.map {f : SymExpr → SymExpr} (hf : ∀ t v, R t v → R' (f t) v) :
    ∀ {ts : List SymExpr} {vs : List Int}, Vals R ts vs → Vals R' (ts.map f) vs
  | _, _, .nil => .nil
  | _, _, .cons h hs => .cons (hf _ _ h) (hs.map hf)

theorem Vals.perm {as bs : List SymExpr} (hp : as.Perm bs) :
    ∀ {xs : List Int}, Vals R as xs → ∃ ys, Vals R bs ys ∧ xs.Perm ys := by
  induction hp with
  | nil => exact fun h => ⟨_, h, .refl _⟩
  | cons t _ ih =>
    intro xs h
    cases h with | cons hv hvs =>
    obtain ⟨ys, hys, hp⟩ := ih hvs
    exact ⟨_ :: ys, .cons hv hys, hp.cons _⟩
  | swap a b l =>
    intro xs h
    cases h with | cons hv h =>
    cases h with | cons hw hws =>
    exact ⟨_, .cons hw (.cons hv hws), .swap _ _ _⟩
  | trans _ _ ih1 ih2 =>
    intro xs h
    obtain ⟨ys, hys, hp1⟩ := ih1 h
    obtain ⟨zs, hzs, hp2⟩ := ih2 hys
    exact ⟨zs, hzs, hp1.trans hp2⟩

end vals

def aggO (o : Op) : List Int → Option Int
  | [] => none
  | v :: vs =>
    match aggO o vs with
    | none => some v
    | some w => some (opF o v w)

def comb (o : Op) : Option Int → Option Int → Option Int
  | none, r => r
  | l, none => l
  | some x, some y => some (opF o x y)

theorem aggO_cons (o : Op) (v : Int) (vs : List Int) :
    aggO o (v :: vs) = comb o (some v) (aggO o vs) := by
  simp only [aggO]; cases aggO o vs <;> rfl

theorem comb_assoc {o : Op} (h : o.comm = true) (a b c : Option Int) :
    comb o (comb o a b) c = comb o a (comb o b c) := by
  cases a <;> cases b <;> cases c <;> simp [comb, opF_assoc h]

theorem comb_comm {o : Op} (h : o.comm = true) (a b : Option Int) : comb o a b = comb o b a := by
  cases a <;> cases b <;> simp [comb, opF_comm h]

theorem aggO_append {o : Op} (h : o.comm = true) (xs ys : List Int) :
    aggO o (xs ++ ys) = comb o (aggO o xs) (aggO o ys) := by
  induction xs with
  | nil => simp [aggO, comb]
  | cons v vs ih =>
    simp only [List.cons_append, aggO_cons, ih, comb_assoc h]

theorem aggO_perm {o : Op} (h : o.comm = true) {xs ys : List Int} (hp : xs.Perm ys) :
    aggO o xs = aggO o ys := by
  induction hp with
  | nil => rfl
  | cons v _ ih => simp only [aggO_cons, ih]
  | swap a b l =>
    simp only [aggO_cons, ← comb_assoc h, comb_comm h (some b) (some a)]
  | trans _ _ ih1 ih2 => exact ih1.trans ih2

theorem flatten_vals {R : SymExpr → Int → Prop} {o : Op} (h : o.comm = true)
    (down : ∀ a b v, R (.bin o a b) v → ∃ x y, R a x ∧ R b y ∧ v = opF o x y) :
    ∀ {e : SymExpr} {v : Int}, R e v → ∃ vs, Vals R (flatten o e) vs ∧ aggO o vs = some v := by
  intro e
  have leaf : ∀ {t : SymExpr} {v : Int}, R t v → ∃ vs, Vals R [t] vs ∧ aggO o vs = some v :=
    fun hv => ⟨[_], .cons hv .nil, rfl⟩
  induction e with
  | bin o' a b iha ihb =>
    intro v hv
    unfold flatten
    split
    · rename_i ho; subst ho
      obtain ⟨x, y, hx, hy, rfl⟩ := down a b v hv
      obtain ⟨xs, hxs, hax⟩ := iha hx
      obtain ⟨ys, hys, hay⟩ := ihb hy
      exact ⟨xs ++ ys, hxs.append hys, by rw [aggO_append h, hax, hay]; rfl⟩
    · exact leaf hv
  | _ => exact leaf

theorem foldl_vals {R : SymExpr → Int → Prop} {o : Op}
    (up : ∀ a b x y, R a x → R b y → R (.bin o a b) (opF o x y)) :
    ∀ {ts : List SymExpr} {t : SymExpr} {x : Int} {vs : List Int}, R t x → Vals R ts vs →
      R (ts.foldl (fun acc u => .bin o acc u) t) (vs.foldl (opF o) x)
  | _, _, _, _, hx, .nil => hx
  | _, _, _, _, hx, .cons hw hws => (foldl_vals up (up _ _ _ _ hx hw) hws :)

theorem foldl_aggO {o : Op} (h : o.comm = true) (x : Int) (vs : List Int) :
    some (vs.foldl (opF o) x) = comb o (some x) (aggO o vs) := by
  induction vs generalizing x with
  | nil => rfl
  | cons w ws ih =>
    rw [List.foldl_cons, aggO_cons, ih, ← comb_assoc h]; rfl

def aggD (o : Op) (d : Int) (vs : List Int) : Int := (aggO o vs).getD d

theorem aggD_of_some {o : Op} {d v : Int} {vs : List Int} (h : aggO o vs = some v) :
    aggD o d vs = v := by
  rw [aggD, h]; rfl

theorem aggD_cons {o : Op} {d : Int} (hd : ∀ v, opF o v d = v) (v : Int) (vs : List Int) :
    aggD o d (v :: vs) = opF o v (aggD o d vs) := by
  simp only [aggD, aggO]
  cases aggO o vs with
  | none => exact (hd v).symm
  | some w => rfl

abbrev sumL : List Int → Int := aggD .add 0
abbrev prodL : List Int → Int := aggD .mul 1

theorem sumL_cons (v : Int) (vs : List Int) : sumL (v :: vs) = v + sumL vs :=
  aggD_cons (o := .add) Int.add_zero v vs

theorem prodL_cons (v : Int) (vs : List Int) : prodL (v :: vs) = v * prodL vs :=
  aggD_cons (o := .mul) Int.mul_one v vs

theorem reduce_vals {R : SymExpr → Int → Prop} {o : Op} (h : o.comm = true)
    (up : ∀ a b x y, R a x → R b y → R (.bin o a b) (opF o x y)) {ts : List SymExpr}
    {vs : List Int} {d : SymExpr} {dv : Int} (hd : R d dv) (hvs : Vals R ts vs) :
    R (reduceOp o d ts) (aggD o dv vs) := by
  cases hvs with
  | nil => exact hd
  | @cons _ x _ xs hx hxs =>
    have e : aggD o dv (x :: xs) = xs.foldl (opF o) x := by
      rw [aggD, aggO_cons, ← foldl_aggO h]; rfl
    exact e ▸ foldl_vals up hx hxs

theorem insertS_perm (x : SymExpr) (ys : List SymExpr) : (insertS x ys).Perm (x :: ys) := by
  induction ys with
  | nil => exact .refl _
  | cons y ys ih =>
    simp only [insertS]
    split
    · exact (ih.cons y).trans (.swap _ _ _)
    · exact .refl _

theorem isort_perm (l : List SymExpr) : (isort l).Perm l := by
  induction l with
  | nil => exact .refl _
  | cons x xs ih => exact (insertS_perm x (isort xs)).trans (ih.cons x)

end RtenVerif.Sym
