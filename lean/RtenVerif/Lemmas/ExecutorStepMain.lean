import RtenVerif.Lemmas.ExecutorStepRefine
/-!
# C02 — one executor step refines one naive step: the same error, or the same outputs stored
-/
namespace RtenVerif.Executor
open RtenVerif.Graph

/-- **C02.T3, one step.**  From a `Sim` state, one iteration of `run_plan`'s plan loop and the naive
step end alike: the same error, or both complete and `Sim` holds for the rest of the plan, whatever
the iteration ran in place or extracted by value.  Needs the per-operator `Contract` and a capture
environment that can only be read by reference (`CapsWF.notake`). -/
theorem step_refines {V : Type} {ops : Ops V} {r : Run V} {caps0 : Nat → Option (V × Bool)}
    {total : Nat → Nat} {i : Nat}
    {rest outs : List Nat} {st : St V} {E : Nat → Option V} (hwf : WF r)
    (hcw : CapsWF r caps0) (hct : Contract ops r.g)
    (hs : Sim r caps0 total (i :: rest) outs st E) :
    match step ops r st i with
    | .ok (st', _) => ∃ E', naiveStep ops r caps0 E i = .ok E' ∧ Sim r caps0 total rest outs st' E'
    | .error e => naiveStep ops r caps0 E i = .error e := by
  cases hop : getOp r.g i with
  | none => simp [step, naiveStep, hop]
  | some op =>
    obtain ⟨st1, taken, htake⟩ := hs.take_succeeds hcw hct hop
    cases hbv : (if ops.isSubgraph i = true then takeByValue r st1 (capDeps r.g op) else (st1, [])) with
    | mk st2 byVal =>
    have T := takeFacts_of_phases htake hbv (hs.noTake hcw)
    rw [step_unfold hop htake hbv]
    have HT : ∀ p v, (p, v) ∈ taken → ∃ id, op.inputs[p]? = some (some id) ∧
        valC r caps0 E id = some v := by
      intro p v hpv
      obtain ⟨id, h1, _, _, h4⟩ := T.htaken p v hpv
      exact ⟨id, h1, valC_of_val (hs.agree id v h4).2.2⟩
    have HN : ∀ p id, p ∉ taken.map (fun t => t.1) → op.inputs[p]? = some (some id) →
        lookupInput r st2 id = valC r caps0 E id := by
      intro p d hp hd
      have h2 : st2.temps d = st.temps d :=
        T.untouched p d hp hd (fun hrc hne => hs.count_le_one hop hrc hne)
      have : lookupInput r st2 d = lookupInput r st d := by
        unfold lookupInput
        rw [h2, T.caps]
      rw [this]
      apply lookupInput_eq hs
      intro hv
      rw [uses_cons hop rest outs d hv]
      have := List.count_pos_iff.mpr (mem_opDeps_input r.g hd)
      omega
    have IS := inputs_sim r (valC r caps0 E) st2 taken op HT HN op.inputs 0 (by intro k; simp)
    simp only [naiveStep, hop]
    cases hci : collectInputs r st2 (taken.map (fun t => t.1)) op.inputs 0 with
    | none =>
      rw [hci] at IS
      have IS' : naiveInputs (naiveLook r caps0 E) op.inputs = none := IS
      simp only [IS']
    | some ins =>
      rw [hci] at IS
      obtain ⟨full, hf, hfill⟩ := IS
      have hf' : naiveInputs (naiveLook r caps0 E) op.inputs = some full := hf
      simp only [hf']
      rw [call_eq_run hcw hct hs hop T hci hfill]
      cases hrun : ops.run i full (if ops.isSubgraph i = true then
          (capDeps r.g op).map (naiveLook r caps0 E) else []) with
      | none => simp only
      | some vs =>
        simp only
        by_cases hlen : vs.length < op.outputs.length
        · simp only [hlen, if_true]
        · simp only [hlen, if_false]
          refine ⟨_, rfl, ?_⟩
          exact Sim.step' hwf hcw hs hop T (stored := (storeOutputs r st2.temps op.outputs vs).2)
            (released := (releaseLoop r
              { st2 with temps := (storeOutputs r st2.temps op.outputs vs).1 } (opDeps r.g op)).2)
            rfl rfl

end RtenVerif.Executor
