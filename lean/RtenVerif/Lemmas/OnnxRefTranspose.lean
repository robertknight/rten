import RtenVerif.Lemmas.OnnxRefArith
import RtenVerif.Lemmas.OnnxRefIndex
/-! Permutations as lists read through `getN` / `idxOf` (Transpose), and Gather along axis 0 in index form. -/
namespace RtenVerif.OnnxRef

theorem getN_idxOf (l : List Nat) (a : Nat) (h : a ∈ l) : getN l (l.idxOf a) = a := by
  rw [getN_eq_getElem l _ (List.idxOf_lt_length_of_mem h)]
  exact List.getElem_idxOf _

theorem idxOf_map_inj (f : Nat → Nat) (b : Nat) : ∀ l : List Nat, (∀ c ∈ l, f c = f b → c = b) →
    (l.map f).idxOf (f b) = l.idxOf b
  | [], _ => rfl
  | c :: t, h => by
    rw [List.map_cons, List.idxOf_cons, List.idxOf_cons,
      idxOf_map_inj f b t fun c' hc' => h c' (List.mem_cons_of_mem _ hc')]
    by_cases hcb : c = b
    · rw [hcb, beq_self_eq_true, beq_self_eq_true]
    · rw [beq_eq_false_iff_ne.mpr hcb, beq_eq_false_iff_ne.mpr fun e => hcb (h c List.mem_cons_self e)]

theorem getN_range (r a : Nat) (h : a < r) : getN (List.range r) a = a := by
  rw [getN_eq_getElem _ _ (by simpa using h), List.getElem_range]

theorem allIndicesOk_nat (d : Nat) (s : List Nat) (p : List Nat) (hp : ∀ a ∈ p, a < d) :
    allIndicesOk d ⟨s, p.map Int.ofNat⟩ = true := by
  unfold allIndicesOk
  simp only [List.all_map, List.all_eq_true, Function.comp]
  intro a ha
  rw [normIndex_ofNat d a (hp a ha)]; rfl

theorem gather_axis0 (x : Tensor) (d : Nat) (rest p : List Nat) (hs : x.shape = d :: rest)
    (hp : ∀ a ∈ p, a < d) :
    gather x ⟨[p.length], p.map Int.ofNat⟩ 0 =
      .ok (build (p.length :: rest) (fun idx => x.get (withAt idx 0 (getN p (getN idx 0))))) := by
  unfold gather
  have hna : normAxis x.rank 0 = .ok 0 :=
    (normAxis_eq_ok_iff _ _ _).mpr (normIndex_ofNat _ 0 (by simp [Tensor.rank, hs]))
  rw [hna]
  simp only [Except.bind, bind, getN_cons_zero, hs]
  have hok := allIndicesOk_nat d [p.length] p hp
  simp only [hok, Bool.not_true, Bool.false_eq_true, if_false, List.take_zero, List.nil_append,
    Nat.zero_add, List.drop_succ_cons, List.drop_zero, List.singleton_append, pure, Except.pure]
  congr 1
  apply build_congr
  intro idx hv
  cases idx with
  | nil => simp [validIdx] at hv
  | cons i is =>
    simp only [validIdx, Bool.and_eq_true, decide_eq_true_eq] at hv
    simp only [Tensor.rank, List.length_singleton, List.take_succ_cons, List.take_zero, List.drop_zero,
      List.drop_succ_cons, getN_cons_zero]
    have hget : (Tensor.get ⟨[p.length], p.map Int.ofNat⟩ [i]) = Int.ofNat (getN p i) := by
      simp [Tensor.get, ravel, prod, getN, List.getD_eq_getElem?_getD, hv.1]
    rw [hget, normIndex_ofNat d _ (hp _ (getN_mem p i hv.1))]
    rfl

end RtenVerif.OnnxRef
