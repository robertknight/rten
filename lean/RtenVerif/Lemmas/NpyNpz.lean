import RtenVerif.Lemmas.Npy

/-! # Lemmas: npz entry names, header length bound -/
namespace RtenVerif.Npy

theorem stripNpy_append (base : List Nat) : stripNpy (base ++ npySuffix) = some base := by
  unfold stripNpy
  have hl : (base ++ npySuffix).length - 4 = base.length := by simp [npySuffix]
  have h4 : 4 ≤ (base ++ npySuffix).length := by simp [npySuffix]
  rw [hl, List.drop_left' rfl, List.take_left' rfl]
  simp [npySuffix]

theorem stripNpy_some {name b : List Nat} (h : stripNpy name = some b) : name = b ++ npySuffix := by
  unfold stripNpy at h
  split at h
  · rename_i hc
    injection h with h
    rw [← h, ← hc.2, List.take_append_drop]
  · cases h

theorem npzFileName_some {name f : List Nat} (h : npzFileName name = some f) :
    ∃ base, base ≠ [] ∧ f = base ++ npySuffix ∧ (name = base ∨ name = base ++ npySuffix) := by
  unfold npzFileName at h
  simp only at h
  split at h
  · cases h
  · rename_i hne
    injection h with h
    cases hs : stripNpy name with
    | none =>
      simp only [hs, Option.getD_none] at h hne
      exact ⟨name, by intro e; simp [e] at hne, h.symm, Or.inl rfl⟩
    | some b =>
      simp only [hs, Option.getD_some] at h hne
      exact ⟨b, by intro e; simp [e] at hne, h.symm, Or.inr (stripNpy_some hs)⟩

theorem npzFileName_base (base : List Nat) (hne : base ≠ []) :
    npzFileName (base ++ npySuffix) = some (base ++ npySuffix) := by
  unfold npzFileName
  simp only [stripNpy_append, Option.getD_some]
  cases base with
  | nil => exact absurd rfl hne
  | cons a t => simp

theorem decRev_length (f n k : Nat) (h : n < 10 ^ (k + 1)) : (decRev f n).length ≤ k + 1 := by
  induction f generalizing n k with
  | zero => simp [decRev]
  | succ f ih =>
    unfold decRev
    by_cases h0 : n / 10 = 0
    · simp [h0]
    · simp only [h0, if_false, List.length_cons]
      cases k with
      | zero => simp at h; omega
      | succ k =>
        have : n / 10 < 10 ^ (k + 1) := by
          apply Nat.div_lt_of_lt_mul
          rw [Nat.pow_succ, Nat.mul_comm] at h; exact h
        have := ih (n / 10) k this
        omega

theorem natDigits_length_le (n : Nat) (h : n < usizeLimit) : (natDigits n).length ≤ 20 := by
  unfold natDigits
  rw [List.length_reverse]
  exact decRev_length _ n 19 (by simp [usizeLimit] at h; omega)

theorem joinDims_length_le (ds : List Nat) (h : ∀ d ∈ ds, d < usizeLimit) :
    (joinDims ds).length ≤ 22 * ds.length := by
  induction ds with
  | nil => simp [joinDims]
  | cons d ds ih =>
    have hd := natDigits_length_le d (h d (by simp))
    have := ih (fun x hx => h x (by simp [hx]))
    cases ds with
    | nil => simp [joinDims]; omega
    | cons d2 ds' => simp [joinDims] at this ⊢; omega

theorem nextMultipleOf_spec (n : Nat) {a : Nat} (ha : 0 < a) :
    n ≤ nextMultipleOf n a ∧ nextMultipleOf n a < n + a ∧ nextMultipleOf n a % a = 0 := by
  unfold nextMultipleOf
  have hlt := Nat.mod_lt n ha
  split
  · omega
  · refine ⟨by omega, by omega, ?_⟩
    have : n + (a - n % a) = a * (n / a + 1) := by
      have := Nat.div_add_mod n a
      rw [Nat.mul_succ]; omega
    rw [this, Nat.mul_mod_right]

theorem dictText_length (dt : DataType) (shape : List Nat) :
    (dictText dt shape).length = (dimsText shape).length + 55 := by
  have h1 : pre1.length + dt.descr.length + pre2.length = 51 := rfl
  have h2 : post.length = 4 := rfl
  simp only [dictText, List.length_append, h1, h2]
  omega

/-- Ten bytes (magic, version, `u16` length) precede the dictionary; padding aligns the whole. -/
theorem paddedDict_length (dt : DataType) (shape : List Nat) :
    10 + (paddedDict dt shape).length =
      nextMultipleOf (10 + (dictText dt shape).length + 1) headerAlign := by
  have := (nextMultipleOf_spec (10 + (dictText dt shape).length + 1) (a := headerAlign) (by decide)).1
  simp only [paddedDict, padLen, List.length_append, List.length_replicate, List.length_singleton]
  omega

theorem paddedDict_length_le (dt : DataType) (shape : List Nat) (h : ∀ d ∈ shape, d < usizeLimit) :
    (paddedDict dt shape).length ≤ 22 * shape.length + 121 := by
  have hj := joinDims_length_le shape h
  have hd : (dimsText shape).length ≤ (joinDims shape).length + 1 := by
    unfold dimsText; split <;> simp
  have := (nextMultipleOf_spec (10 + (dictText dt shape).length + 1) (a := headerAlign) (by decide)).2.1
  rw [← paddedDict_length, dictText_length, headerAlign] at this
  omega

theorem buildHeader_ok_of_rank (dt : DataType) (shape : List Nat) (h : ∀ d ∈ shape, d < usizeLimit)
    (hr : shape.length ≤ 2900) : ∃ hdr, buildHeader dt shape = .ok hdr := by
  have := paddedDict_length_le dt shape h
  unfold buildHeader
  simp only
  split
  · exact ⟨_, rfl⟩
  · omega

/-- The `u16` header length of format version 1.0: the dims text alone takes `3 * rank - 2` bytes
or more (`joinDims_length_ge`). -/
theorem buildHeader_too_large (dt : DataType) (shape : List Nat) (hr : 21846 ≤ shape.length) :
    buildHeader dt shape = .error .headerTooLarge := by
  have h1 := joinDims_length_ge shape
  have h2 : (joinDims shape).length ≤ (paddedDict dt shape).length := by
    simp only [paddedDict, dictText, dimsText, List.length_append]
    omega
  unfold buildHeader
  simp only
  split
  · omega
  · rfl

theorem write_ok_of_rank (a : Array) (h : ∀ d ∈ a.shape, d < usizeLimit) (hr : a.shape.length ≤ 2900) :
    ∃ f, write a = .ok f := by
  obtain ⟨hdr, hb⟩ := buildHeader_ok_of_rank a.dtype a.shape h hr
  exact ⟨hdr ++ (a.vals.map (encodeElem a.dtype)).flatten, by simp [write, hb]⟩

theorem buildHeader_aligned (dt : DataType) (shape hdr : List Nat) (h : buildHeader dt shape = .ok hdr) :
    hdr.length % 64 = 0 := by
  unfold buildHeader at h
  simp only at h
  split at h
  · injection h with h
    subst h
    have := (nextMultipleOf_spec (10 + (dictText dt shape).length + 1) (a := headerAlign) (by decide)).2.2
    rw [← paddedDict_length] at this
    rw [List.length_append]
    exact this
  · cases h

end RtenVerif.Npy
