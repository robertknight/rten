import RtenVerif.Lemmas.Contours

/-!
Border following (`follow`) for every mask, from one invariant of its state (`FState`): the
pixel it stands on and the pixel it came from are non-zero neighbours, and a 2×2 block at them
holds a zero (`Side`).  One iteration keeps it (`FState.step`): the search finds the pixel it
came from at the latest, so `next_point.unwrap()` never fails, and `Side` moves along.  Hence
every pixel pushed has a zero neighbour (`follow_result`).  On states the iteration is injective,
because the clockwise search undoes the counter-clockwise one, so no state recurs before the
start state does, and there are at most `8 · cells` states (`follow_ne_nofuel`).

The raster scan around it (`scanAll`) keeps the zero cells of the working mask and adds only
non-empty contours of such pixels (`ScanInv`), which gives `findContours_spec`.
-/
namespace RtenVerif.Contours

/-- The follower stands on `c` and will look for its next pixel counter-clockwise from direction
`s`, so it came from `s + 1`.  The 2×2 block that holds `c`, the pixel it came from and direction
`s` has a `Z` cell among its other two: direction `s`, or the fourth cell, which is `s + 2` for
even `s` (where `s + 1` is a diagonal) and `s − 1` for odd `s`. -/
def Side (Z : Pt → Prop) (c : Pt) (s : Nat) : Prop :=
  Z (nb c s) ∨ Z (nb c (if s % 2 = 0 then s + 2 else s + 7))

/-- After a step in direction `k` the search starts at `k + 3`, and `c` lies at `k + 4`. -/
theorem nb_back (c : Pt) {k : Nat} (hk : k < 8) : nb (nb c k) ((k + 3) % 8 + 1) = c := by
  have : (off k).1 + (off ((k + 3) % 8 + 1)).1 = 0 ∧ (off k).2 + (off ((k + 3) % 8 + 1)).2 = 0 := by
    revert k; decide
  simp only [nb, Int.add_assoc, this, Int.add_zero]

/-- The block of `Side` after a step in direction `k`, seen from where the step started. -/
theorem side_nb (Z : Pt → Prop) (c : Pt) {k : Nat} (hk : k < 8) :
    Side Z (nb c k) ((k + 3) % 8) ↔
      Z (nb c (k + 1)) ∨ Z (nb c (if k % 2 = 0 then k + 2 else k + 7)) := by
  rw [Side, nb_nb c (i := if k % 2 = 0 then k + 2 else k + 1) (by revert k; decide),
    nb_nb c (i := if k % 2 = 0 then k + 1 else k + 7) (by revert k; decide)]
  split
  · exact Or.comm
  · exact Iff.rfl

/-- One step of border following keeps `Side`: the pixel found in direction `k` is the first one
looked at, or the one looked at before it (`k + 1`) is a `Z` cell. -/
theorem side_step {Z : Pt → Prop} {c : Pt} {s k : Nat} (hk : k < 8) (hI : Side Z c s)
    (hnz : ¬ Z (nb c k)) (hb : k = s ∨ Z (nb c (k + 1))) : Side Z (nb c k) ((k + 3) % 8) :=
  (side_nb Z c hk).2 <| hb.elim (fun e => Or.inr ((e ▸ hI).resolve_left hnz)) Or.inl

def BorderPt (m0 : List Int) (W : Nat) (q : Pt) : Prop :=
  getM m0 W q ≠ 0 ∧ ∃ j, getM m0 W (nb q j) = 0

/-- The states of border following on a mask with the zero cells of `m0`: the pixel it stands on
and the pixel it came from. -/
structure FState (m0 : List Int) (W : Nat) (cur prev : Pt) : Prop where
  cur_nz : getM m0 W cur ≠ 0
  prev_nz : getM m0 W prev ≠ 0
  side : ∃ s < 8, prev = nb cur (s + 1) ∧ Side (getM m0 W · = 0) cur s

theorem FState.borderPt {m0 : List Int} {W : Nat} {c p : Pt} (h : FState m0 W c p) :
    BorderPt m0 W c := by
  obtain ⟨s, -, -, hs | hs⟩ := h.side <;> exact ⟨h.cur_nz, _, hs⟩

theorem FState.step {m0 : List Int} {W : Nat} {c p : Pt} (h : FState m0 W c p) :
    ∃ n, findNonzeroNeighbor m0 W c p false true = some n ∧ FState m0 W n c := by
  obtain ⟨hc, hp, s, hs, rfl, hS⟩ := h
  cases hn : findNonzeroNeighbor m0 W c (nb c (s + 1)) false true with
  | none =>
    -- the eighth direction looked at is the one the follower came from
    exact absurd (findNN_none hn (i := 7) (by decide)) hp
  | some n =>
    obtain ⟨i, hi, rfl, hnz, hz⟩ := findNN_iff.1 hn
    have hk : look (s + 1) false true i % 8 < 8 := Nat.mod_lt _ (by decide)
    rw [← nb_mod c (look (s + 1) false true i)] at hnz ⊢
    refine ⟨_, rfl, hnz, hc, _, Nat.mod_lt _ (by decide), (nb_back c hk).symm,
      side_step hk hS hnz ?_⟩
    rcases Nat.eq_zero_or_pos i with rfl | hpos
    · exact Or.inl ((Nat.add_mod_right s 8).trans (Nat.mod_eq_of_lt hs))
    · right
      rw [nb_mod_add, show look (s + 1) false true i + 1 = look (s + 1) false true (i - 1) by
        simp only [look]; omega]
      exact hz _ (by omega)

/-- The clockwise search undoes the counter-clockwise one, so two states that lead to the same
state are the same. -/
theorem FState.step_inj {m0 : List Int} {W : Nat} {c p p' n : Pt} (h : FState m0 W c p)
    (h' : FState m0 W c p') (e : findNonzeroNeighbor m0 W c p false true = some n)
    (e' : findNonzeroNeighbor m0 W c p' false true = some n) : p = p' := by
  obtain ⟨s, -, rfl, -⟩ := h.side
  obtain ⟨t, -, rfl, -⟩ := h'.side
  exact Option.some.inj ((findNN_inverse e h.prev_nz).symm.trans (findNN_inverse e' h'.prev_nz))

theorem follow_succ {m0 m : List Int} {W : Nat} {cur prev : Pt} (hZ : SameZeros W m m0)
    (hx : FState m0 W cur prev) (start startNb : Pt) (fuel : Nat) (border : List Pt) :
    ∃ n, findNonzeroNeighbor m0 W cur prev false true = some n ∧ FState m0 W n cur ∧
      follow W start startNb (fuel + 1) m cur prev border =
        if n = start ∧ cur = startNb then
          .ok ((markStep m W cur).1, if (markStep m W cur).2 then cur :: border else border)
        else follow W start startNb fuel (markStep m W cur).1 n cur
          (if (markStep m W cur).2 then cur :: border else border) := by
  obtain ⟨n, hn, hx'⟩ := hx.step
  exact ⟨n, hn, hx', by simp only [follow, hZ.findNN, hn, Option.some.injEq]⟩

/-- The last conjunct (the current pixel is pushed last, if the first marking step pushes it) is what makes
the contour non-empty in `visit_inv`. -/
theorem follow_result {m0 : List Int} {W : Nat} (start startNb : Pt) :
    ∀ (fuel : Nat) {m : List Int} {cur prev : Pt} (border : List Pt), SameZeros W m m0 →
      FState m0 W cur prev →
      follow W start startNb fuel m cur prev border = .nofuel ∨
      ∃ m' l, follow W start startNb fuel m cur prev border = .ok (m', l ++ border) ∧
        SameZeros W m' m0 ∧ (∀ q ∈ l, BorderPt m0 W q) ∧
        ((markStep m W cur).2 = true → l.getLast? = some cur) := by
  intro fuel
  induction fuel with
  | zero => intros; exact Or.inl rfl
  | succ fuel ih =>
    intro m cur prev border hZ hx
    obtain ⟨n, -, hx', e⟩ := follow_succ hZ hx start startNb fuel border
    have hZ' := hZ.markStep hx.cur_nz
    obtain ⟨l1, hl1, hb1, hlast1⟩ : ∃ l1,
        (if (markStep m W cur).2 = true then cur :: border else border) = l1 ++ border ∧
        (∀ q ∈ l1, BorderPt m0 W q) ∧ ((markStep m W cur).2 = true → l1.getLast? = some cur) := by
      split
      · exact ⟨[cur], rfl, fun q hq => List.mem_singleton.1 hq ▸ hx.borderPt, fun _ => rfl⟩
      · rename_i hf; exact ⟨[], rfl, nofun, fun ht => absurd ht hf⟩
    rw [e, hl1]
    split
    · exact Or.inr ⟨_, l1, rfl, hZ', hb1, hlast1⟩
    · rcases ih (l1 ++ border) hZ' hx' with h | ⟨m', l, h, hz, hb, -⟩
      · exact Or.inl h
      · refine Or.inr ⟨m', l ++ l1, by rw [h, List.append_assoc], hz,
          fun q hq => (List.mem_append.1 hq).elim (hb q) (hb1 q), fun ht => ?_⟩
        rw [List.getLast?_append, hlast1 ht]; rfl

/-- A state as a number below `8 · cells`: the cell of the current pixel and the direction of
the previous one. -/
def code (W : Nat) (x : Pt × Pt) : Nat := idx W x.1 * 8 + nbIndex x.1 x.2

theorem FState.code_lt {m0 : List Int} {W : Nat} {x : Pt × Pt} (hx : FState m0 W x.1 x.2) :
    nbIndex x.1 x.2 < 8 ∧ code W x < m0.length * 8 := by
  obtain ⟨s, -, e, -⟩ := hx.side
  have l1 : nbIndex x.1 x.2 < 8 := by rw [e, nbIndex_nb]; exact Nat.mod_lt _ (by decide)
  have : idx W x.1 < m0.length := by
    refine Nat.lt_of_not_le fun hle => (getM_ne_zero hx.cur_nz).2 ?_
    rw [List.getD_eq_getElem?_getD, List.getElem?_eq_none hle]; rfl
  unfold code; omega

theorem FState.code_inj {m0 : List Int} {W : Nat} {x y : Pt × Pt} (hx : FState m0 W x.1 x.2)
    (hy : FState m0 W y.1 y.2) (e : code W x = code W y) : x = y := by
  have l1 := hx.code_lt.1
  have l2 := hy.code_lt.1
  obtain ⟨s, -, ex, -⟩ := hx.side
  obtain ⟨t, -, ey, -⟩ := hy.side
  unfold code at e
  have hc : x.1 = y.1 := idx_inj (getM_ne_zero hx.cur_nz).1 (getM_ne_zero hy.cur_nz).1 (by omega)
  have hk : nbIndex x.1 x.2 = nbIndex y.1 y.2 := by omega
  rw [ex, ey, nbIndex_nb, nbIndex_nb] at hk
  exact Prod.ext hc (by rw [ex, ey, ← hc]; exact nb_congr _ hk)

theorem states_length_le {m0 : List Int} {W : Nat} {V : List (Pt × Pt)} (hn : V.Nodup)
    (hv : ∀ x ∈ V, FState m0 W x.1 x.2) : V.length ≤ m0.length * 8 := by
  have h1 : (V.map (code W)).Nodup := List.pairwise_map.2
    (hn.imp_of_mem fun ha hb hne e => hne ((hv _ ha).code_inj (hv _ hb) e))
  have := nodup_lt_length_le h1 fun n hn => by
    obtain ⟨x, hx, rfl⟩ := List.mem_map.1 hn
    exact (hv x hx).code_lt.2
  rwa [List.length_map] at this

/-- Border following does not run out of fuel.  `V` holds the states passed so far: each but the
start state has its predecessor in `V`, and the iteration is injective, so the next state is new
unless it is the start state, where `follow` returns; and there are at most `8 · cells` states. -/
theorem follow_ne_nofuel {m0 : List Int} {W : Nat} (p q0 : Pt) :
    ∀ (fuel : Nat) (V : List (Pt × Pt)) {m : List Int} {cur prev : Pt} (border : List Pt),
      SameZeros W m m0 → V.Nodup → (∀ x ∈ V, FState m0 W x.1 x.2) → (cur, prev) ∈ V →
      (∀ y ∈ V, y = (p, q0) ∨ ∃ x ∈ V, x ≠ (cur, prev) ∧ y.2 = x.1 ∧
        findNonzeroNeighbor m0 W x.1 x.2 false true = some y.1) →
      m0.length * 8 + 1 ≤ V.length + fuel →
      follow W p q0 fuel m cur prev border ≠ .nofuel := by
  intro fuel
  induction fuel with
  | zero => intro V _ _ _ _ _ hn hv _ _ hl; have := states_length_le hn hv; omega
  | succ fuel ih =>
    intro V m cur prev border hZ hn hv hh hP hl
    have hx := hv _ hh
    obtain ⟨n, hstep, hx', e⟩ := follow_succ hZ hx p q0 fuel border
    rw [e]
    split
    · nofun
    · rename_i hnot
      have hnew : (n, cur) ∉ V := fun hm => by
        rcases hP _ hm with e | ⟨x, hxV, hxn, hc, hs⟩
        · exact hnot (Prod.mk.inj e)
        · obtain ⟨x1, x2⟩ := x
          cases hc
          exact hxn (Prod.ext rfl ((hv _ hxV).step_inj hx hs hstep))
      refine ih ((n, cur) :: V) _ (hZ.markStep hx.cur_nz) (List.nodup_cons.2 ⟨hnew, hn⟩)
        (fun x hx => ?_) List.mem_cons_self (fun y hy => ?_) (by rw [List.length_cons]; omega)
      · rcases List.mem_cons.1 hx with rfl | hx
        · exact hx'
        · exact hv x hx
      · rcases List.mem_cons.1 hy with rfl | hy
        · exact Or.inr ⟨_, List.mem_cons_of_mem _ hh, fun e => hnew (e ▸ hh), rfl, hstep⟩
        · rcases hP y hy with e | ⟨x, hx, -, hs⟩
          · exact Or.inl e
          · exact Or.inr ⟨x, List.mem_cons_of_mem _ hx, fun e => hnew (e ▸ hx), hs⟩

theorem startNeighbor_some {m : List Int} {W : Nat} {o : Bool} {l : Int} {p sn : Pt}
    (h : startNeighbor m W o l p = some sn) :
    (markStep m W p).2 = true ∧ getM m W sn = 0 ∧ ∃ k, sn = nb p k := by
  have e6 : (p.1, p.2 - 1) = nb p 6 := Prod.ext (Int.add_zero _).symm rfl
  have e2 : (p.1, p.2 + 1) = nb p 2 := Prod.ext (Int.add_zero _).symm rfl
  unfold startNeighbor at h
  simp only at h
  split at h
  · split at h
    · rename_i hh; cases h; exact ⟨markStep_pushes hh.2.2, hh.2.1, 6, e6⟩
    · cases h
  · split at h
    · rename_i hh; cases h; exact ⟨markStep_pushes hh.2, hh.1, 6, e6⟩
    · split at h
      · rename_i hh; cases h; exact ⟨by unfold markStep; rw [if_pos hh.2], hh.2, 2, e2⟩
      · cases h

/-- The state in which border following starts: the clockwise search from the zero pixel beside
`p` has passed a zero just before the pixel it found. -/
theorem fstate_start {m m0 : List Int} {W : Nat} {o : Bool} {l : Int} {p sn q : Pt}
    (hZ : SameZeros W m m0) (hp : getM m W p ≠ 0) (hs : startNeighbor m W o l p = some sn)
    (hq : findNonzeroNeighbor m W p sn true false = some q) : FState m0 W p q := by
  obtain ⟨-, hz, j, rfl⟩ := startNeighbor_some hs
  rw [hZ.findNN] at hq
  obtain ⟨i, hi, rfl, hnz, hzs⟩ := findNN_iff.1 hq
  rcases Nat.eq_zero_or_pos i with rfl | hpos
  · exact absurd ((hZ _).1 hz) hnz
  · refine ⟨fun e => hp ((hZ p).2 e), hnz, _, Nat.mod_lt (j + (i - 1)) (by decide), ?_, Or.inl ?_⟩
    · rw [nb_mod_add, look, Nat.add_assoc, Nat.sub_add_cancel hpos]
    · rw [nb_mod]; exact hzs _ (by omega)

/-- What the scan keeps: the zero cells of the padded input `m0`, and contours that are
non-empty and consist of border pixels of `m0` (contours are in image coordinates). -/
def ScanInv (m0 : List Int) (W : Nat) (s : ScanState) : Prop :=
  SameZeros W s.m m0 ∧ ∀ c ∈ s.contours, c ≠ [] ∧ ∀ r ∈ c, BorderPt m0 W (r.1 + 1, r.2 + 1)

theorem ScanInv.cons {m0 m : List Int} {W : Nat} {s : ScanState} {l : Int} (hs : ScanInv m0 W s)
    (hZ : SameZeros W m m0) {border : List Pt} (hne : border ≠ [])
    (hb : ∀ q ∈ border, BorderPt m0 W q) :
    ScanInv m0 W ⟨m, (border.map fun q => (q.1 - 1, q.2 - 1)) :: s.contours, l⟩ := by
  refine ⟨hZ, fun c hc => ?_⟩
  rcases List.mem_cons.1 hc with rfl | hc
  · refine ⟨fun e => hne (List.map_eq_nil_iff.1 e), fun r hr => ?_⟩
    obtain ⟨q, hq, rfl⟩ := List.mem_map.1 hr
    simp only [Int.sub_add_cancel]
    exact hb q hq
  · exact hs.2 c hc

theorem visit_inv {m0 : List Int} {W fuel : Nat} (hf : m0.length * 8 ≤ fuel) (o : Bool)
    {s : ScanState} (p : Pt) (hs : ScanInv m0 W s) :
    ∃ s', visit W fuel o s p = .ok s' ∧ ScanInv m0 W s' := by
  have hZ := hs.1
  unfold visit
  simp only
  split
  · exact ⟨s, rfl, hs⟩
  · rename_i hcur
    have hcur0 : getM m0 W p ≠ 0 := fun e => hcur ((hZ p).2 e)
    split
    · exact ⟨_, rfl, hs⟩
    · rename_i sn hsn
      obtain ⟨hpush, hz, k, rfl⟩ := startNeighbor_some hsn
      split
      · exact ⟨_, rfl, hs.cons (hZ.setM (by decide) hcur0) (List.cons_ne_nil p [])
          fun q hq => List.mem_singleton.1 hq ▸ ⟨hcur0, k, (hZ _).1 hz⟩⟩
      · rename_i q hq
        have hx := fstate_start hZ hcur hsn hq
        have h2 := follow_ne_nofuel p q fuel [(p, q)] [] hZ
          (List.nodup_cons.2 ⟨nofun, List.nodup_nil⟩) (fun x hx' => List.mem_singleton.1 hx' ▸ hx)
          List.mem_cons_self (fun y hy => Or.inl (List.mem_singleton.1 hy))
          (by rw [List.length_singleton]; omega)
        rcases follow_result p q fuel [] hZ hx with h1 | ⟨m', l, h1, hZ', hb, hlast⟩
        · exact absurd h1 h2
        · rw [h1, List.append_nil]
          have hl := List.mem_of_getLast? (hlast hpush)
          exact ⟨_, rfl, hs.cons hZ' (List.ne_nil_of_mem (List.mem_reverse.2 hl))
            fun q hq => hb q (List.mem_reverse.1 hq)⟩

theorem scanAll_inv {m0 : List Int} {W fuel : Nat} (hf : m0.length * 8 ≤ fuel) (o : Bool) :
    ∀ (ps : List Pt) {s : ScanState}, ScanInv m0 W s →
      ∃ s', scanAll W fuel o ps s = .ok s' ∧ ScanInv m0 W s'
  | [], s, hs => ⟨s, rfl, hs⟩
  | p :: ps, s, hs => by
    obtain ⟨s1, h1, hs1⟩ := visit_inv hf o p
      (s := if p.2 = 1 then { s with lastNonzero := 0 } else s) (by split <;> exact hs)
    obtain ⟨s', h', hs'⟩ := scanAll_inv hf o ps hs1
    exact ⟨s', by simp only [scanAll, h1, h'], hs'⟩

theorem borderPt_padMask {rows cols : Nat} {mask : List Bool} {r : Pt}
    (h : BorderPt (padMask rows cols mask) (cols + 2) (r.1 + 1, r.2 + 1)) :
    maskAt rows cols mask r = true ∧ ∃ q ∈ neighbors r, maskAt rows cols mask q = false := by
  obtain ⟨h1, j, h2⟩ := h
  have e : nb (r.1 + 1, r.2 + 1) j = ((nb r j).1 + 1, (nb r j).2 + 1) :=
    Prod.ext (Int.add_right_comm ..) (Int.add_right_comm ..)
  rw [getM_padMask] at h1
  rw [e, getM_padMask] at h2
  refine ⟨?_, nb r j, nb_mem_neighbors r j, ?_⟩
  · cases hm : maskAt rows cols mask r
    · rw [hm] at h1; exact absurd rfl h1
    · rfl
  · cases hm : maskAt rows cols mask (nb r j)
    · rfl
    · rw [hm] at h2; cases h2

/-- **C36.T1/S5 for every mask, size and mode**: `find_contours` returns, within the fuel
`8 · padded pixels + 8` per border and without taking `unwrap()` of `None`; every contour is
non-empty, and each of its points is a foreground pixel inside the image with a position among
its eight neighbours that is not. -/
theorem findContours_spec (rows cols : Nat) (mask : List Bool) (o : Bool) :
    ∃ cs, findContours rows cols mask o = .ok cs ∧ ∀ c ∈ cs, c ≠ [] ∧ ∀ p ∈ c,
      maskAt rows cols mask p = true ∧ ∃ q ∈ neighbors p, maskAt rows cols mask q = false := by
  obtain ⟨s, h, -, hc⟩ := scanAll_inv (m0 := padMask rows cols mask) (W := cols + 2)
    (fuel := 8 * ((rows + 2) * (cols + 2)) + 8)
    (by simp only [padMask, List.length_map, List.length_range]; omega) o (scanOrder rows cols)
    (s := ⟨padMask rows cols mask, [], 0⟩) ⟨.refl _ _, nofun⟩
  refine ⟨s.contours.reverse, by simp only [findContours, h], fun c hcm => ?_⟩
  obtain ⟨hne, hb⟩ := hc c (List.mem_reverse.1 hcm)
  exact ⟨hne, fun p hp => borderPt_padMask (hb p hp)⟩

end RtenVerif.Contours
