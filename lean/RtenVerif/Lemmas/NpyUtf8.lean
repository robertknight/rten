import RtenVerif.Lemmas.ListBasics
import RtenVerif.Lemmas.Utf8
import RtenVerif.Model.Npy

/-!
# The UTF-8 validator of the model accepts exactly the well-formed UTF-8 byte sequences

`rten-serialize` itself does not implement UTF-8 validation: `read_header` calls
`std::str::from_utf8` on the header bytes. The model needs *some* definition of that call; it uses
`validUtf8` (the Unicode Table 3-7 automaton) and the harness ties it to `from_utf8` on boundary
heavy byte strings. Here `validUtf8` is proved equal to the definition of well-formedness:
a byte string is accepted iff it is the concatenation of the UTF-8 encodings of Unicode scalar
values (`0..0xD7FF`, `0xE000..0x10FFFF`).

The validator is first rewritten as one equation per class of lead byte.  Completeness: the encoder's
output is a row of Table 3-7 (`Utf8.Row`, established for the text model's identical encoder) and a row
is accepted and skipped.  Soundness only compares six-bit digits: a scalar value is
`((q * 64 + x) * 64 + y) * 64 + z` and its encoding is `lead + q`, `128 + x`, `128 + y`, `128 + z`.
-/
namespace RtenVerif.Npy

/-- Unicode scalar value: a code point that is not a surrogate. -/
def isScalar (c : Nat) : Prop := c < 0xD800 ∨ (0xE000 ≤ c ∧ c < 0x110000)

/-- UTF-8 encoding of a scalar value (Unicode Table 3-6). -/
def encodeScalar (c : Nat) : List Nat :=
  if c < 0x80 then [c]
  else if c < 0x800 then [192 + c / 64, 128 + c % 64]
  else if c < 0x10000 then [224 + c / 4096, 128 + c / 64 % 64, 128 + c % 64]
  else [240 + c / 262144, 128 + c / 4096 % 64, 128 + c / 64 % 64, 128 + c % 64]

/-- The second byte of a three- or four-byte sequence: a continuation byte, narrowed after the
lead bytes `E0`, `ED`, `F0`, `F4` (no overlong forms, no surrogates, nothing above U+10FFFF). -/
def secondOk (b0 b1 : Nat) : Bool :=
  if b0 = 224 then 160 ≤ b1 && b1 ≤ 191 else if b0 = 237 then 128 ≤ b1 && b1 ≤ 159
  else if b0 = 240 then 144 ≤ b1 && b1 ≤ 191 else if b0 = 244 then 128 ≤ b1 && b1 ≤ 143
  else isCont b1

theorem isCont_iff {b : Nat} : isCont b = true ↔ 128 ≤ b ∧ b ≤ 191 := by simp [isCont]

theorem secondOk_iff {b0 b1 : Nat} : secondOk b0 b1 = true ↔
    128 ≤ b1 ∧ b1 ≤ 191 ∧ (b0 = 224 → 160 ≤ b1) ∧ (b0 = 237 → b1 ≤ 159) ∧
      (b0 = 240 → 144 ≤ b1) ∧ (b0 = 244 → b1 ≤ 143) := by
  unfold secondOk isCont
  split
  · subst b0; simp; omega
  split
  · subst b0; simp; omega
  split
  · subst b0; simp; omega
  split
  · subst b0; simp; omega
  · simp [*]

theorem validUtf8_cons1 {b0 : Nat} (rest : List Nat) (h : b0 < 128) :
    validUtf8 (b0 :: rest) = validUtf8 rest := by
  conv => lhs; unfold validUtf8
  simp only [h, if_true]

theorem validUtf8_cons2 {b0 : Nat} (b1 : Nat) (rest : List Nat) (h0 : 194 ≤ b0) (h1 : b0 ≤ 223) :
    validUtf8 (b0 :: b1 :: rest) = (isCont b1 && validUtf8 rest) := by
  have : ¬ b0 < 128 := by omega
  conv => lhs; unfold validUtf8
  simp [h0, h1, this]

theorem validUtf8_cons3 {b0 : Nat} (b1 b2 : Nat) (rest : List Nat) (h0 : 224 ≤ b0) (h1 : b0 ≤ 239) :
    validUtf8 (b0 :: b1 :: b2 :: rest) = (secondOk b0 b1 && isCont b2 && validUtf8 rest) := by
  have : ¬ b0 < 128 := by omega
  have : ¬ b0 ≤ 223 := by omega
  have : b0 ≠ 240 := by omega
  have : b0 ≠ 244 := by omega
  conv => lhs; unfold validUtf8
  simp only [‹¬ b0 < 128›, if_false, secondOk]
  simp [*]

theorem validUtf8_cons4 {b0 : Nat} (b1 b2 b3 : Nat) (rest : List Nat) (h0 : 240 ≤ b0) (h1 : b0 ≤ 244) :
    validUtf8 (b0 :: b1 :: b2 :: b3 :: rest) =
      (secondOk b0 b1 && isCont b2 && isCont b3 && validUtf8 rest) := by
  have : ¬ b0 < 128 := by omega
  have : ¬ b0 ≤ 223 := by omega
  have : ¬ b0 ≤ 239 := by omega
  have : b0 ≠ 224 := by omega
  have : b0 ≠ 237 := by omega
  conv => lhs; unfold validUtf8
  simp only [‹¬ b0 < 128›, if_false, secondOk]
  simp [*]

theorem validUtf8_lead {b0 : Nat} {rest : List Nat} (h : validUtf8 (b0 :: rest) = true) :
    b0 < 128 ∨ (194 ≤ b0 ∧ b0 ≤ 223 ∧ ∃ b1 r, rest = b1 :: r) ∨
    (224 ≤ b0 ∧ b0 ≤ 239 ∧ ∃ b1 b2 r, rest = b1 :: b2 :: r) ∨
    (240 ≤ b0 ∧ b0 ≤ 244 ∧ ∃ b1 b2 b3 r, rest = b1 :: b2 :: b3 :: r) := by
  by_cases h1 : b0 < 128
  · exact .inl h1
  · unfold validUtf8 at h
    simp only [h1, if_false, Bool.and_eq_true, decide_eq_true_eq] at h
    match rest, h with
    | b1 :: rest1, h =>
      by_cases h2 : 194 ≤ b0 ∧ b0 ≤ 223
      · exact .inr (.inl ⟨h2.1, h2.2, _, _, rfl⟩)
      · simp only [h2, if_false] at h
        match rest1, h with
        | b2 :: rest2, h =>
          by_cases h3 : 224 ≤ b0 ∧ b0 ≤ 239
          · exact .inr (.inr (.inl ⟨h3.1, h3.2, _, _, _, rfl⟩))
          · simp only [h3, if_false] at h
            match rest2, h with
            | b3 :: rest3, h =>
              by_cases h4 : 240 ≤ b0 ∧ b0 ≤ 244
              · exact .inr (.inr (.inr ⟨h4.1, h4.2, _, _, _, _, rfl⟩))
              · simp only [h4, if_false] at h
                cases h

theorem shift6_div (a : Nat) {z : Nat} (hz : z < 64) : (a * 64 + z) / 64 = a :=
  (mul_add_div_mod a hz).1

theorem encodeScalar_two {q x : Nat} (hq : 2 ≤ q) (hq' : q < 32) (hx : x < 64) :
    encodeScalar (q * 64 + x) = [192 + q, 128 + x] := by
  rw [encodeScalar, if_neg (by omega), if_pos (by omega), shift6_div _ hx, Nat.mul_add_mod_of_lt hx]

theorem encodeScalar_three {q x y : Nat} (hq : q < 16) (hx : x < 64) (hy : y < 64)
    (h : 32 ≤ q * 64 + x) : encodeScalar ((q * 64 + x) * 64 + y) = [224 + q, 128 + x, 128 + y] := by
  have hc : ¬ (q * 64 + x) * 64 + y < 2048 := by omega
  rw [encodeScalar, if_neg (fun h => hc (Nat.lt_trans h (by decide))), if_neg hc, if_pos (by omega),
    ← Nat.div_div_eq_div_mul _ 64 64, shift6_div _ hy, shift6_div _ hx,
    Nat.mul_add_mod_of_lt hx, Nat.mul_add_mod_of_lt hy]

theorem encodeScalar_four {q x y z : Nat} (hx : x < 64) (hy : y < 64) (hz : z < 64)
    (h : 16 ≤ q * 64 + x) :
    encodeScalar (((q * 64 + x) * 64 + y) * 64 + z) = [240 + q, 128 + x, 128 + y, 128 + z] := by
  have hc : ¬ ((q * 64 + x) * 64 + y) * 64 + z < 65536 := by omega
  rw [encodeScalar, if_neg (fun h => hc (Nat.lt_trans h (by decide))),
    if_neg (fun h => hc (Nat.lt_trans h (by decide))), if_neg hc,
    ← Nat.div_div_eq_div_mul _ 4096 64, ← Nat.div_div_eq_div_mul _ 64 64,
    shift6_div _ hz, shift6_div _ hy, shift6_div _ hx,
    Nat.mul_add_mod_of_lt hx, Nat.mul_add_mod_of_lt hy, Nat.mul_add_mod_of_lt hz]

theorem isScalar_iff {c : Nat} : isScalar c ↔ Utf8.isScalar c = true := by
  simp [isScalar, Utf8.isScalar]

theorem validUtf8_row_append : ∀ (l : List Nat), Utf8.Row l → ∀ rest, validUtf8 (l ++ rest) = validUtf8 rest
  | [_], h, rest => validUtf8_cons1 rest h
  | [_, b1], ⟨h1, h2, h3⟩, rest => by
    rw [List.cons_append, List.cons_append, List.nil_append, validUtf8_cons2 _ _ h1 h2,
      show isCont b1 = true from h3, Bool.true_and]
  | [b0, b1, b2], ⟨h1, h2, h3, h4, h5, h6⟩, rest => by
    have := Utf8.isCont_iff.mp h5
    show validUtf8 (b0 :: b1 :: b2 :: rest) = _
    rw [validUtf8_cons3 _ _ _ h1 h2, show isCont b2 = true from h6, secondOk_iff.mpr (by omega)]
    rfl
  | [b0, b1, b2, b3], ⟨h1, h2, h3, h4, h5, h6, h7⟩, rest => by
    have := Utf8.isCont_iff.mp h5
    show validUtf8 (b0 :: b1 :: b2 :: b3 :: rest) = _
    rw [validUtf8_cons4 _ _ _ _ h1 h2, show isCont b2 = true from h6, show isCont b3 = true from h7,
      secondOk_iff.mpr (by omega)]
    rfl
  | [], h, _ => h.elim
  | _ :: _ :: _ :: _ :: _ :: _, h, _ => h.elim

/-- `encodeScalar c` is `Utf8.encCp c` by `rfl` (the text model's encoder has the same body), and that
is a row of the table. -/
theorem validUtf8_encode_append (c : Nat) (rest : List Nat) (h : isScalar c) :
    validUtf8 (encodeScalar c ++ rest) = validUtf8 rest :=
  validUtf8_row_append _ (Utf8.row_encCp c (isScalar_iff.mp h)) rest

theorem validUtf8_step (b0 : Nat) (rest : List Nat) (h : validUtf8 (b0 :: rest) = true) :
    ∃ c tl, isScalar c ∧ b0 :: rest = encodeScalar c ++ tl ∧ validUtf8 tl = true := by
  rcases validUtf8_lead h with h1 | ⟨h0, h1, b1, r, rfl⟩ | ⟨h0, h1, b1, b2, r, rfl⟩ |
    ⟨h0, h1, b1, b2, b3, r, rfl⟩
  · rw [validUtf8_cons1 _ h1] at h
    exact ⟨b0, rest, .inl (by omega), by simp [encodeScalar, h1], h⟩
  · rw [validUtf8_cons2 _ _ h0 h1, Bool.and_eq_true, isCont_iff] at h
    obtain ⟨⟨hx, hx'⟩, hv⟩ := h
    obtain ⟨q, rfl⟩ := Nat.exists_eq_add_of_le (Nat.le_trans (by decide : 192 ≤ 194) h0)
    obtain ⟨x, rfl⟩ := Nat.exists_eq_add_of_le hx
    exact ⟨q * 64 + x, r, .inl (by omega),
      by rw [encodeScalar_two (by omega) (by omega) (by omega)]; rfl, hv⟩
  · rw [validUtf8_cons3 _ _ _ h0 h1, Bool.and_eq_true, Bool.and_eq_true, isCont_iff, secondOk_iff] at h
    obtain ⟨⟨⟨hx, hx', hlo, hhi, -, -⟩, hy, hy'⟩, hv⟩ := h
    obtain ⟨q, rfl⟩ := Nat.exists_eq_add_of_le h0
    obtain ⟨x, rfl⟩ := Nat.exists_eq_add_of_le hx
    obtain ⟨y, rfl⟩ := Nat.exists_eq_add_of_le hy
    refine ⟨(q * 64 + x) * 64 + y, r, by unfold isScalar; omega, ?_, hv⟩
    rw [encodeScalar_three (by omega) (by omega) (by omega) (by omega)]; rfl
  · rw [validUtf8_cons4 _ _ _ _ h0 h1, Bool.and_eq_true, Bool.and_eq_true, Bool.and_eq_true,
      isCont_iff, isCont_iff, secondOk_iff] at h
    obtain ⟨⟨⟨⟨hx, hx', -, -, hlo, hhi⟩, hy, hy'⟩, hz, hz'⟩, hv⟩ := h
    obtain ⟨q, rfl⟩ := Nat.exists_eq_add_of_le h0
    obtain ⟨x, rfl⟩ := Nat.exists_eq_add_of_le hx
    obtain ⟨y, rfl⟩ := Nat.exists_eq_add_of_le hy
    obtain ⟨z, rfl⟩ := Nat.exists_eq_add_of_le hz
    refine ⟨((q * 64 + x) * 64 + y) * 64 + z, r, by unfold isScalar; omega, ?_, hv⟩
    rw [encodeScalar_four (by omega) (by omega) (by omega) (by omega)]; rfl

theorem validUtf8_of_scalars (cs : List Nat) (h : ∀ c ∈ cs, isScalar c) :
    validUtf8 (cs.map encodeScalar).flatten = true := by
  induction cs with
  | nil => rfl
  | cons c cs ih =>
    simp only [List.map_cons, List.flatten_cons]
    rw [validUtf8_encode_append c _ (h c (by simp))]
    exact ih (fun x hx => h x (by simp [hx]))

theorem encodeScalar_shape (c : Nat) : ∃ h t, encodeScalar c = h :: t ∧ ∀ x ∈ t, 128 ≤ x := by
  unfold encodeScalar
  repeat' split
  all_goals exact ⟨_, _, rfl, by simp⟩

theorem scalars_of_validUtf8 (bs : List Nat) (h : validUtf8 bs = true) :
    ∃ cs : List Nat, (∀ c ∈ cs, isScalar c) ∧ bs = (cs.map encodeScalar).flatten := by
  match bs with
  | [] => exact ⟨[], by simp, rfl⟩
  | b0 :: rest =>
    obtain ⟨c, tl, hc, heq, hv⟩ := validUtf8_step b0 rest h
    obtain ⟨cs, hcs, htl⟩ := scalars_of_validUtf8 tl hv
    refine ⟨c :: cs, ?_, by rw [heq, htl]; rfl⟩
    intro x hx
    rcases List.mem_cons.mp hx with rfl | hx
    · exact hc
    · exact hcs x hx
termination_by bs.length
decreasing_by
  obtain ⟨_, _, he, _⟩ := encodeScalar_shape c
  rw [heq, he]; simp; omega

/-! ## What the crate relies on: slicing validated text at ASCII quotes

`parse_string` re-validates `bytes[start..pos]` (the text between two `'`) with `from_utf8` and
`parse_descr` slices `descr[2..]` after two ASCII characters. Splitting well-formed UTF-8 at an
ASCII byte yields well-formed pieces, so the inner `from_utf8` of `parse_string` cannot fail. -/

/-- A quote cannot lie inside a run of continuation bytes. -/
theorem split_at_quote (xs : List Nat) : ∀ (tl a b : List Nat), xs ++ tl = a ++ 39 :: b →
    (∀ x ∈ xs, 128 ≤ x) → ∃ a', a = xs ++ a' ∧ tl = a' ++ 39 :: b := by
  induction xs with
  | nil => intro tl a b h _; exact ⟨a, rfl, by simpa using h⟩
  | cons x xs ih =>
    intro tl a b h hx
    cases a with
    | nil =>
      simp at h
      have := hx x (by simp)
      omega
    | cons a0 a1 =>
      simp only [List.cons_append, List.cons.injEq] at h
      obtain ⟨a', ha, htl⟩ := ih tl a1 b h.2 (fun y hy => hx y (by simp [hy]))
      exact ⟨a', by rw [h.1, ha]; rfl, htl⟩

/-- Peel one scalar value off `a`: its encoding ends before the quote. -/
theorem validUtf8_split_quote (a b : List Nat) (h : validUtf8 (a ++ 39 :: b) = true) :
    validUtf8 a = true ∧ validUtf8 b = true := by
  match a with
  | [] =>
    rw [List.nil_append, validUtf8_cons1 _ (by decide)] at h
    exact ⟨rfl, h⟩
  | a0 :: a1 =>
    obtain ⟨c, tl, hc, heq, hv⟩ := validUtf8_step a0 (a1 ++ 39 :: b) h
    obtain ⟨e0, et, he, hcont⟩ := encodeScalar_shape c
    rw [he] at heq
    simp only [List.cons_append, List.cons.injEq] at heq
    obtain ⟨a', ha, htl⟩ := split_at_quote et tl a1 b heq.2.symm hcont
    rw [htl] at hv
    obtain ⟨h1, h2⟩ := validUtf8_split_quote a' b hv
    refine ⟨?_, h2⟩
    have : a0 :: a1 = encodeScalar c ++ a' := by rw [he, heq.1, ha]; rfl
    rw [this, validUtf8_encode_append c a' hc]
    exact h1
termination_by a.length
decreasing_by rw [ha]; simp; omega

end RtenVerif.Npy
