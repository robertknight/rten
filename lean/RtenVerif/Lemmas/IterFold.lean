import RtenVerif.Lemmas.Iter
import RtenVerif.Lemmas.IterSim

/-!
C07 lemmas: `OffsetsBase::fold` visits exactly the remaining offsets, in order.

Each of the three nested loops visits a segment of the sequence `offR dims 0, offR dims 1, …`
(a row of the innermost dimension, the rest of the two inner dimensions, everything up to the
end) and stops after `len` elements: its result is `take len` of that segment.
-/
namespace RtenVerif.Iter
open OffsetsBase

theorem map_offR_row (d : Nat × Nat) (ds : List (Nat × Nat)) (q : Nat) {i n : Nat} (h : i + n ≤ d.1) :
    (List.range' (i + d.1 * q) n).map (offR (d :: ds)) =
      (List.range' i n).map (fun j => offR ds q + j * d.2) := by
  rw [map_range'_shift]
  apply List.map_congr_left
  intro j hj
  rw [List.mem_range'_1] at hj
  rw [offR_add_mul _ _ _ (by omega), Nat.add_comm]

theorem take_map_range'_add {β : Type} (f : Nat → β) (a m n len : Nat) :
    ((List.range' a (m + n)).map f).take len =
      ((List.range' a m).map f).take len ++ ((List.range' (a + m) n).map f).take (len - m) := by
  have := @List.range'_append a m n 1
  rw [Nat.one_mul] at this
  rw [← this, List.map_append, List.take_append, List.length_map, List.length_range']

theorem foldRow_spec (base st1 : Nat) : ∀ (c i1 len : Nat), 1 ≤ len →
    foldRow base st1 c i1 len =
      (((List.range' i1 c).map (fun i => base + i * st1)).take len, len - c)
  | 0, i1, len, _ => by simp [foldRow]
  | c + 1, i1, len, hl => by
    obtain ⟨l, rfl⟩ : ∃ l, len = l + 1 := ⟨len - 1, by omega⟩
    unfold foldRow
    rw [Nat.add_sub_cancel, Nat.add_sub_add_right, List.range'_succ, List.map_cons,
      List.take_succ_cons]
    split
    · next h0 => rw [h0, List.take_zero, Nat.zero_sub]
    · next h0 => rw [foldRow_spec base st1 c (i1 + 1) l (Nat.pos_of_ne_zero h0)]

theorem foldBlock_spec (st0 st1 sz0 sz1 : Nat) (D : List (Nat × Nat)) (q : Nat) :
    ∀ (c i0 idx1 len : Nat), 1 ≤ len → idx1 < sz1 → i0 + c ≤ sz0 →
    foldBlock (offR D q) st0 st1 sz1 c i0 idx1 len =
      (((List.range' (idx1 + sz1 * (i0 + sz0 * q)) (sz1 * c - idx1)).map
          (offR ((sz1, st1) :: (sz0, st0) :: D))).take len,
        len - (sz1 * c - idx1))
  | 0, i0, idx1, len, _, _, _ => by simp [foldBlock]
  | c + 1, i0, idx1, len, hl, hi, hc => by
    unfold foldBlock
    have hrow := map_offR_row (sz1, st1) ((sz0, st0) :: D) (i0 + sz0 * q)
      (i := idx1) (n := sz1 - idx1) (by simp only; omega)
    rw [offR_add_mul (sz0, st0) D q (by simp only; omega)] at hrow
    rw [foldRow_spec _ _ _ _ _ hl, Nat.add_comm (offR D q), ← hrow]
    have hsplit : sz1 * (c + 1) - idx1 = (sz1 - idx1) + sz1 * c := by rw [Nat.mul_succ]; omega
    have hnext : idx1 + sz1 * (i0 + sz0 * q) + (sz1 - idx1) = 0 + sz1 * (i0 + 1 + sz0 * q) := by
      rw [Nat.add_right_comm i0 1, Nat.mul_succ]; omega
    rw [hsplit, take_map_range'_add, hnext, Nat.sub_add_eq]
    simp only
    split
    · next h0 => rw [h0, List.take_zero, List.append_nil, Nat.zero_sub]
    · next h0 =>
      rw [foldBlock_spec st0 st1 sz0 sz1 D q c (i0 + 1) 0 _ (Nat.pos_of_ne_zero h0)
        (by omega) (by omega), Nat.sub_zero]

/-- What is left of block `e` from row `idx0`, column `idx1`, and where the next block starts. -/
theorem block_rest {sz0 sz1 idx0 idx1 : Nat} (e : Nat) (hi0 : idx0 < sz0) (hi1 : idx1 < sz1) :
    idx1 + sz1 * (idx0 + sz0 * e) + (sz1 * (sz0 - idx0) - idx1) = sz1 * (sz0 * (e + 1)) ∧
      1 ≤ sz1 * (sz0 - idx0) - idx1 := by
  have h1 : sz1 * (idx0 + 1) ≤ sz1 * sz0 := Nat.mul_le_mul_left _ hi0
  have h2 : sz1 * 1 ≤ sz1 * (sz0 - idx0) := Nat.mul_le_mul_left _ (by omega)
  rw [Nat.mul_sub, Nat.mul_succ sz0, Nat.mul_add sz1, Nat.mul_add sz1]
  rw [Nat.mul_succ] at h1
  rw [Nat.mul_sub] at h2
  omega

theorem foldOuter_spec (st0 st1 sz0 sz1 : Nat) (h1 : 0 < sz1) (h0 : 0 < sz0) :
    ∀ (fuel : Nat) (outer : List IterPos) (idx0 idx1 len : Nat),
      (∀ p ∈ outer, WF p) → idx0 < sz0 → idx1 < sz1 → 1 ≤ len → len ≤ fuel →
      foldOuter st0 st1 sz0 sz1 fuel outer idx0 idx1 len =
        ((List.range' (idx1 + sz1 * (idx0 + sz0 * enc outer))
            (sz1 * (sz0 * tot outer) - (idx1 + sz1 * (idx0 + sz0 * enc outer)))).map
          (offR ((sz1, st1) :: (sz0, st0) :: dimsR outer))).take len
  | 0, _, _, _, len, _, _, _, hl, hf => by omega
  | fuel + 1, outer, idx0, idx1, len, hw, hi0, hi1, hl, hf => by
    unfold foldOuter
    rw [← offR_enc outer hw, foldBlock_spec st0 st1 sz0 sz1 _ _ _ _ _ _ hl hi1 (by omega),
      stepOuterLoop_eq outer hw]
    obtain ⟨hR, hRpos⟩ := block_rest (enc outer) hi0 hi1
    have hle : sz1 * (sz0 * (enc outer + 1)) ≤ sz1 * (sz0 * tot outer) :=
      Nat.mul_le_mul_left _ (Nat.mul_le_mul_left _ (enc_lt outer))
    have hsplit : sz1 * (sz0 * tot outer) - (idx1 + sz1 * (idx0 + sz0 * enc outer)) =
        (sz1 * (sz0 - idx0) - idx1) +
          (sz1 * (sz0 * tot outer) - sz1 * (sz0 * (enc outer + 1))) := by omega
    rw [hsplit, take_map_range'_add, hR]
    simp only
    split
    · next hz => rw [hz, List.take_zero, List.append_nil]
    · next hz =>
      by_cases hadv : enc outer + 1 < tot outer
      · rw [decide_eq_true hadv, if_pos rfl,
          foldOuter_spec st0 st1 sz0 sz1 h1 h0 fuel (addPos outer 1) 0 0 _ (addPos_wf outer 1 hw) h0
            h1 (Nat.pos_of_ne_zero hz) (by omega),
          dimsR_addPos, tot_addPos, enc_addPos, Nat.mod_eq_of_lt hadv]
        simp only [Nat.zero_add]
      · have : enc outer + 1 = tot outer := by have := enc_lt outer; omega
        rw [decide_eq_false hadv, if_neg Bool.false_ne_true, this, Nat.sub_self, List.range'_zero,
          List.map_nil, List.take_nil, List.append_nil]

theorem fold_spec {s : OffsetsBase} (hs : Inv s) : s.fold = absB s := by
  by_cases hl : s.len = 0
  · simp [OffsetsBase.fold, absB, hl]
  · have hfo : s.fold = foldOuter s.inner0.stride s.inner1.stride s.inner0.size s.inner1.size
        (s.len + 1) s.outerRev s.inner0.index s.inner1.index s.len := by
      simp only [OffsetsBase.fold, hl, if_false, foldOuter, hs.outer]
    have wo : ∀ p ∈ s.outerRev, WF p := fun p hp => hs.wf p (by simp [allPos, hp])
    rw [hfo, foldOuter_spec _ _ _ _ (size_pos _) (size_pos _) _ _ _ _ _ wo (index_lt _) (index_lt _)
      (by omega) (by omega)]
    show ((List.range' (enc s.allPos) (tot s.allPos - enc s.allPos)).map (offR (dimsR s.allPos))).take
      s.len = absB s
    have hb := hs.bound hl
    rw [← List.map_take, List.take_range'_of_length_ge (by omega)]
    rfl

end RtenVerif.Iter
