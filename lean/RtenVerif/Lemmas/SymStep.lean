import RtenVerif.Lemmas.SymWF

/-! The arms of `simplify_canonical` (C11): each returns an expression with the value of the node
it replaces, and with the side conditions `WF` whenever that node has them (`Ev σ H` of the node is
kept).  Both facts follow the same case analysis of the arm, so they are proved together. -/
namespace RtenVerif.Sym

theorem isVal_true {e : SymExpr} {k : Int} (h : isVal e k = true) : e = .value k := by
  cases e <;> simp_all [isVal]

theorem mkVal_some {r : Option Int} {e : SymExpr} (h : mkVal r = some e) :
    ∃ v, r = some v ∧ e = .value v := by
  cases r <;> simp_all [mkVal]

section steps
variable {A : Arith} {σ : Env} {H : Prop} {l r e' : SymExpr} {v : Int}

theorem fold_spec (hA : Exact A) {o : Op} {z : Int} (h : mkVal (A.deliver o z) = some e') :
    Ev σ H e' z := by
  obtain ⟨w, hw, rfl⟩ := mkVal_some h
  cases deliver_exact hA hw
  exact Ev.value σ H _

theorem unit_right {o : Op} {k : Int} (he : Ev σ H (.bin o l r) v) (h0 : isVal r k = true)
    (hu : ∀ x, opF o x k = x) : Ev σ H l v := by
  obtain ⟨x, y, hx, hy, -, rfl⟩ := he.bin_inv
  cases isVal_true h0; cases ev_value.mp hy.1
  exact ⟨by rw [hx.1, hu], hx.2⟩

theorem unit_left {o : Op} {k : Int} (he : Ev σ H (.bin o l r) v) (h0 : isVal l k = true)
    (hu : ∀ y, opF o k y = y) : Ev σ H r v := by
  obtain ⟨x, y, hx, hy, -, rfl⟩ := he.bin_inv
  cases isVal_true h0; cases ev_value.mp hx.1
  exact ⟨by rw [hy.1, hu], hy.2⟩

theorem stepNeg_spec (hA : Exact A) (h : stepNeg A l = some e') (he : Ev σ H (.neg l) v) :
    Ev σ H e' v := by
  obtain ⟨x, hx, rfl⟩ := ev_neg_ok.mp he.1
  unfold stepNeg at h
  split at h
  · cases ev_value.mp hx
    exact fold_spec (o := .add) hA h
  · cases h
    obtain ⟨y, hy, rfl⟩ := ev_neg_ok.mp hx
    exact ⟨by rw [hy, Int.neg_neg], he.2⟩
  · cases h; exact he

theorem stepAdd_spec (hA : Exact A) (h : stepAdd A l r = some e')
    (he : Ev σ H (.bin .add l r) v) : Ev σ H e' v := by
  revert h
  fun_cases stepAdd A l r <;> intro h
  next h0 => cases h; exact unit_left he h0 Int.zero_add
  next _ h0 => cases h; exact unit_right he h0 Int.add_zero
  next => cases he.1; exact fold_spec (o := .add) hA h
  next hb _ =>
    cases h
    obtain ⟨x, y, hx, hy, -, rfl⟩ := he.bin_inv
    obtain ⟨z, hz, rfl⟩ := ev_neg_ok.mp hy.1
    cases beq_ev_eq hb hx.1 hz
    exact ⟨by rw [ev_value, opF, Int.add_right_neg], fun _ => trivial⟩
  all_goals cases h; exact he

theorem stepSub_spec (hA : Exact A) (h : stepSub A l r = some e')
    (he : Ev σ H (.bin .sub l r) v) : Ev σ H e' v := by
  unfold stepSub at h
  split at h
  · cases h; exact unit_right he ‹_› Int.sub_zero
  obtain ⟨x, y, hx, hy, -, rfl⟩ := ev_bin_ok.mp he.1
  split at h
  · cases ev_value.mp hx; cases ev_value.mp hy
    exact fold_spec (o := .sub) hA h
  · split at h <;> cases h
    · rename_i hb
      cases beq_ev_eq hb hx hy
      exact ⟨by rw [ev_value, opF, Int.sub_self], fun _ => trivial⟩
    · exact he

theorem stepMul_spec (hA : Exact A) (h : stepMul A l r = some e')
    (he : Ev σ H (.bin .mul l r) v) : Ev σ H e' v := by
  revert h
  fun_cases stepMul A l r <;> intro h
  next h0 => cases h; exact unit_left he h0 Int.one_mul
  next _ h0 => cases h; exact unit_right he h0 Int.mul_one
  next => cases he.1; exact fold_spec (o := .mul) hA h
  next => cases h; exact he

/-- The common shape of `stepMax` and `stepMin`. -/
def stepSel (o : Op) (f : Int → Int → Int) (l r : SymExpr) : Option SymExpr :=
  if beq l r then some l
  else
    match l, r with
    | .value x, .value y => some (.value (f x y))
    | l, r => some (.bin o l r)

theorem stepMax_eq : stepMax = stepSel .max (opF .max) := rfl
theorem stepMin_eq : stepMin = stepSel .min (opF .min) := rfl

theorem stepSel_spec {o : Op} (hidem : ∀ x, opF o x x = x) (h : stepSel o (opF o) l r = some e')
    (he : Ev σ H (.bin o l r) v) : Ev σ H e' v := by
  obtain ⟨x, y, hx, hy, -, rfl⟩ := he.bin_inv
  unfold stepSel at h
  split at h
  · rename_i hb
    cases h; cases beq_ev_eq hb hx.1 hy.1
    exact ⟨by rw [hx.1, hidem], hx.2⟩
  split at h <;> cases h
  · cases ev_value.mp hx.1; cases ev_value.mp hy.1
    exact Ev.value σ H _
  · exact he

/-- The `Broadcast` arms are sound on the constructor's domain: the operands are equal or one
of them is 1 (code after fix `a4a397a`: `eval` broadcasts a 1 to the other size). -/
theorem stepBroadcast_spec (h : stepBroadcast l r = some e')
    (hdom : ∀ x y, ev σ l = .ok x → ev σ r = .ok y → (x = y ∨ x = 1 ∨ y = 1))
    (he : Ev σ H (.bin .broadcast l r) v) : Ev σ H e' v := by
  obtain ⟨x, y, ⟨hx, hl⟩, ⟨hy, hr⟩, -, rfl⟩ := he.bin_inv
  have hd := hdom x y hx hy
  change Ev σ H e' (bcastI x y)
  revert h
  fun_cases stepBroadcast l r <;> intro h <;> cases h
  -- the leaves in the order of the definition, with the arm numbers the model gives them
  -- both constants: arms 1 (equal), 2 (left is 1), 3 (right is 1), 4 (neither: the left one)
  next => cases hx; cases hy; exact ⟨by rw [ev_value, bcastI_self], hl⟩
  next => cases hx; cases hy; exact ⟨by rw [ev_value, bcastI_one_left], hr⟩
  next hx1 _ => cases hx; exact ⟨by rw [ev_value, bcastI_dom_left hd hx1], hl⟩
  next _ hx1 _ => cases hx; exact ⟨by rw [ev_value, bcastI_dom_left hd hx1], hl⟩
  -- left constant only: arms 2 (it is 1), 4 (it is not)
  next => cases hx; exact ⟨by rw [bcastI_one_left, hy], hr⟩
  next hx1 _ => cases hx; exact ⟨by rw [ev_value, bcastI_dom_left hd hx1], hl⟩
  -- right constant only: arms 3 (it is 1), 5 (it is not)
  next => cases hy; exact ⟨by rw [bcastI_one_right, hx], hl⟩
  next hy1 _ => cases hy; exact ⟨by rw [ev_value, bcastI_dom_right hd hy1], hr⟩
  -- no constant: arms 6 (equal operands), 7 (the node stays)
  next hb => cases beq_ev_eq hb hx hy; exact ⟨by rw [bcastI_self, hx], hl⟩
  next => exact he

/-- The nested-quotient arm that `stepDiv` and `stepDivCeil` share: `(l' / c1) / c2` becomes `l' / (c1 * c2)`,
the product of two constants folded when `ok` admits it and it fits `i32`. -/
def mergeQuot (o : Op) (ok : Int → Int → Prop) [∀ a b, Decidable (ok a b)]
    (l' c1 c2 : SymExpr) : Option SymExpr :=
  match c1, c2 with
  | .value v1, .value v2 =>
    if ok v1 v2 then
      match chk (v1 * v2) with
      | some v => some (.bin o l' (.value v))
      | none => some (.bin o (.bin o l' (.value v1)) (.value v2))
    else some (.bin o l' (.bin .mul (.value v1) (.value v2)))
  | c1, c2 => some (.bin o l' (.bin .mul c1 c2))

theorem mergeQuot_cases {o : Op} {ok : Int → Int → Prop} [∀ a b, Decidable (ok a b)]
    {l' c1 : SymExpr} {z1 y : Int} (h : mergeQuot o ok l' c1 r = some e')
    (hz1 : Ev σ H c1 z1) (hy : Ev σ H r y) :
    e' = .bin o (.bin o l' c1) r ∨ ∃ m, e' = .bin o l' m ∧ Ev σ H m (z1 * y) := by
  have prod : Ev σ H (.bin .mul c1 r) (z1 * y) := Ev.up (o := .mul) rfl (by decide) _ _ _ _ hz1 hy
  revert h
  fun_cases mergeQuot o ok l' c1 r <;> intro h <;> cases h
  next hw => cases hz1.1; cases hy.1; cases (chk_some hw).1; exact .inr ⟨_, rfl, Ev.value σ H _⟩
  next => exact .inl rfl
  all_goals exact .inr ⟨_, rfl, prod⟩

theorem stepDiv_spec (hA : Exact A) (h : stepDiv A l r = some e')
    (he : Ev σ H (.bin .div l r) v) : Ev σ H e' v := by
  unfold stepDiv at h
  split at h
  · cases h; exact unit_right he ‹_› Int.tdiv_one
  obtain ⟨x, y, hx, hy, hy0, rfl⟩ := he.bin_inv
  have hy0 : y ≠ 0 := hy0 (.inl rfl)
  split at h
  · cases ev_value.mp hx.1; cases ev_value.mp hy.1
    rw [if_pos hy0] at h
    exact fold_spec (o := .div) hA h
  · -- `(l' / c1) / r = l' / (c1 * r)`
    rename_i l' c1
    obtain ⟨x1, z1, hx1, hz1, hz0, rfl⟩ := hx.bin_inv
    have hne : z1 * y ≠ 0 := Int.mul_ne_zero (hz0 (.inl rfl)) hy0
    have key : opF .div (opF .div x1 z1) y = opF .div x1 (z1 * y) := tdiv_tdiv x1 z1 y
    have h : mergeQuot .div (fun a b => a ≠ 0 ∧ b ≠ 0) l' c1 r = some e' := h
    rcases mergeQuot_cases h hz1 hy with rfl | ⟨m, rfl, hm⟩
    · exact he
    · exact ⟨key ▸ ev_bin_of hx1.1 hm.1 fun _ => hne,
        fun hH => wf_bin (by decide) (by decide) (hx1.2 hH) (hm.2 hH)⟩
  · cases h; exact he

/-- The `DivCeil` arms.  `hG` is the side condition written in the code comment of the
nested-`DivCeil` arm ("if b > 0 and c > 0"), which the code only checks when both divisors
are constants.  A merged divisor is then a product of two positive ones, so `WF` is kept. -/
theorem stepDivCeil_spec (hA : Exact A) (h : stepDivCeil A l r = some e')
    (hG : ∀ l' c1, l = .bin .divCeil l' c1 → ∀ v1 v2, ev σ c1 = .ok v1 → ev σ r = .ok v2 →
      0 < v1 ∧ 0 < v2)
    (he : Ev σ H (.bin .divCeil l r) v) : Ev σ H e' v := by
  unfold stepDivCeil at h
  split at h
  · cases h; exact unit_right he ‹_› divCeilI_one
  obtain ⟨x, y, hx, hy, hy0, rfl⟩ := he.bin_inv
  have hy0 : y ≠ 0 := hy0 (.inr rfl)
  split at h
  · cases ev_value.mp hx.1; cases ev_value.mp hy.1
    rw [if_pos hy0] at h
    exact fold_spec (o := .divCeil) hA h
  split at h
  · rename_i hb
    cases h; cases beq_ev_eq hb hx.1 hy.1
    exact ⟨by rw [ev_value, opF, divCeilI_self hy0], fun _ => trivial⟩
  split at h
  · -- `ceil(ceil(l' / c1) / r) = ceil(l' / (c1 * r))` for positive divisors
    rename_i l' c1 _ _
    obtain ⟨x1, z1, hx1, hz1, -, rfl⟩ := hx.bin_inv
    obtain ⟨hz1p, hyp⟩ := hG l' c1 rfl z1 y hz1.1 hy.1
    have hprod : 0 < z1 * y := Int.mul_pos hz1p hyp
    have key : opF .divCeil (opF .divCeil x1 z1) y = opF .divCeil x1 (z1 * y) :=
      divCeilI_divCeilI hz1p hyp
    have h : mergeQuot .divCeil (fun a b => 0 < a ∧ 0 < b) l' c1 r = some e' := h
    rcases mergeQuot_cases h hz1 hy with rfl | ⟨m, rfl, hm⟩
    · exact he
    · exact ⟨key ▸ ev_bin_of hx1.1 hm.1 fun _ => by omega,
        fun hH => ⟨hx1.2 hH, hm.2 hH, fun _ y' hy' => ev_inj hm.1 hy' ▸ hprod, nofun⟩⟩
  · cases h; exact he

end steps

theorem stepBin_spec {A : Arith} (hA : Exact A) {σ : Env} {H : Prop} {o : Op} {l r e' : SymExpr}
    {v : Int} (h : stepBin A o l r = some e')
    (hB : o = .broadcast → ∀ x y, ev σ l = .ok x → ev σ r = .ok y → (x = y ∨ x = 1 ∨ y = 1))
    (hC : o = .divCeil → ∀ l' c1, l = .bin .divCeil l' c1 → ∀ v1 v2, ev σ c1 = .ok v1 →
      ev σ r = .ok v2 → 0 < v1 ∧ 0 < v2)
    (he : Ev σ H (.bin o l r) v) : Ev σ H e' v := by
  cases o
  case add => exact stepAdd_spec hA h he
  case sub => exact stepSub_spec hA h he
  case mul => exact stepMul_spec hA h he
  case div => exact stepDiv_spec hA h (rcf_full he)
  case divCeil => exact stepDivCeil_spec hA h (hC rfl) he
  case max => exact stepSel_spec (opF_idem rfl) (stepMax_eq ▸ (h : stepMax l r = some e')) he
  case min => exact stepSel_spec (opF_idem rfl) (stepMin_eq ▸ (h : stepMin l r = some e')) he
  case broadcast => exact stepBroadcast_spec h (hB rfl) he

end RtenVerif.Sym
