import RtenVerif.Model.RtenHeader
import RtenVerif.Lemmas.LittleEndian

namespace RtenVerif.RtenHeader

theorem leBytes_eq_toLE : ∀ n v, leBytes n v = Npy.toLE n v
  | 0, _ => rfl
  | n + 1, v => congrArg _ (leBytes_eq_toLE n (v / 256))

theorem leValue_eq_fromLE : ∀ bs, leValue bs = Npy.fromLE bs
  | [] => rfl
  | b :: bs => congrArg (b + 256 * ·) (leValue_eq_fromLE bs)

theorem length_leBytes (n v : Nat) : (leBytes n v).length = n :=
  leBytes_eq_toLE n v ▸ Npy.toLE_length n v

theorem leValue_leBytes (n v : Nat) (h : v < 256 ^ n) : leValue (leBytes n v) = v := by
  rw [leBytes_eq_toLE, leValue_eq_fromLE]; exact Npy.fromLE_toLE n v h

theorem leBytes_lt (n v : Nat) : ∀ b ∈ leBytes n v, b < 256 :=
  leBytes_eq_toLE n v ▸ Npy.toLE_lt n v

theorem leValue_lt (bs : List Nat) (h : ∀ b ∈ bs, b < 256) : leValue bs < 256 ^ bs.length :=
  leValue_eq_fromLE bs ▸ Npy.fromLE_lt bs h

theorem leBytes_leValue (bs : List Nat) (h : ∀ b ∈ bs, b < 256) :
    leBytes bs.length (leValue bs) = bs := by
  rw [leBytes_eq_toLE, leValue_eq_fromLE]; exact Npy.toLE_fromLE bs h

theorem readN_some {buf : List Nat} {pos n : Nat} {r : List Nat} (h : readN buf pos n = some r) :
    pos + n ≤ buf.length ∧ r = (buf.drop pos).take n ∧ r.length = n := by
  unfold readN at h
  split at h
  · rename_i hle
    injection h with h
    refine ⟨hle, h.symm, ?_⟩
    rw [← h]; simp; omega
  · cases h

theorem readN_zero_iff {buf : List Nat} {n : Nat} {r : List Nat} :
    readN buf 0 n = some r ↔ n ≤ buf.length ∧ buf.take n = r := by
  unfold readN
  split
  · simp_all
  · simp only [reduceCtorEq, false_iff]; omega

theorem readN_add_iff {buf : List Nat} {p n k : Nat} {r r' : List Nat} (hr : r.length = n) :
    readN buf p (n + k) = some (r ++ r') ↔
      readN buf p n = some r ∧ readN buf (p + n) k = some r' := by
  unfold readN
  rw [← Nat.add_assoc, List.take_add, List.drop_drop]
  by_cases h : p + n + k ≤ buf.length
  · have h' : p + n ≤ buf.length := by omega
    have hl : ((buf.drop p).take n).length = r.length := by simp; omega
    simp only [h, h', if_true, Option.some.injEq]
    constructor
    · exact fun e => List.append_inj e hl
    · rintro ⟨rfl, rfl⟩; rfl
  · simp only [h, if_false, reduceCtorEq, false_iff]
    exact fun h2 => h2.2

/-- The five reads of `from_buf` are one read of the first 32 bytes, cut at 4, 8, 16 and 24. -/
theorem reads_iff {buf m vb ob lb tb : List Nat} (h0 : m.length = 4) (h1 : vb.length = 4)
    (h2 : ob.length = 8) (h3 : lb.length = 8) :
    (readN buf 0 4 = some m ∧ readN buf 4 4 = some vb ∧ readN buf 8 8 = some ob ∧
      readN buf 16 8 = some lb ∧ readN buf 24 8 = some tb) ↔
    readN buf 0 32 = some (m ++ vb ++ ob ++ lb ++ tb) := by
  rw [readN_add_iff (n := 24) (k := 8) (by simp [*]), readN_add_iff (n := 16) (k := 8) (by simp [*]),
    readN_add_iff (n := 8) (k := 8) (by simp [*]), readN_add_iff (n := 4) (k := 4) h0]
  simp only [and_assoc]

theorem allBelow_spec (p : Nat → Bool) (n : Nat) (h : allBelow p n = true) :
    ∀ i, i < n → p i = true := by
  induction n with
  | zero => intro i hi; omega
  | succ n ih =>
    intro i hi
    simp only [allBelow, Bool.and_eq_true] at h
    by_cases hin : i = n
    · subst hin; exact h.1
    · exact ih h.2 i (by omega)

end RtenVerif.RtenHeader
