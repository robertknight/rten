import RtenVerif.Model.Npy
import RtenVerif.Lemmas.IndexSpace

/-!
# Lemmas for the npy model: printer → parser round trips

Decimal digits (`usize::to_string` / `parse_usize`), the shape tuple (`parse_shape` on the joined
dims, by induction over the shape list), and the whole dictionary (`parse_header` on the `format!`
output of `build_header`).
-/
namespace RtenVerif.Npy

/-- `prod` is the element count of `Lemmas/IndexSpace.lean`. -/
theorem prod_eq_numel : prod = Arr.numel := by
  funext s; induction s with
  | nil => rfl
  | cons d ds ih => rw [prod, ih]; rfl

theorem isWs_digit {b : Nat} (h : isDigit b = true) : isWs b = false := by
  simp [isDigit, isWs] at *; omega

theorem decRev_val (f n : Nat) (h : n < f) :
    (decRev f n).foldr (fun d a => 10 * a + (d - 48)) 0 = n := by
  induction f generalizing n with
  | zero => omega
  | succ f ih =>
    unfold decRev
    by_cases h0 : n / 10 = 0
    · simp [h0]; omega
    · simp only [h0, if_false, List.foldr_cons]
      rw [ih (n / 10) (by omega)]; omega

theorem decRev_digits (f n : Nat) : ∀ b ∈ decRev f n, isDigit b = true := by
  induction f generalizing n with
  | zero => simp [decRev]
  | succ f ih =>
    unfold decRev
    intro b hb
    simp only [List.mem_cons] at hb
    rcases hb with rfl | hb
    · simp [isDigit]; omega
    · split at hb
      · simp at hb
      · exact ih _ b hb

theorem natDigits_digits (n : Nat) : ∀ b ∈ natDigits n, isDigit b = true := by
  intro b hb
  unfold natDigits at hb
  exact decRev_digits _ _ b (List.mem_reverse.mp hb)

theorem natDigits_cons (n : Nat) : ∃ d ds, natDigits n = d :: ds ∧ isDigit d = true := by
  cases h : natDigits n with
  | nil => simp [natDigits, decRev] at h
  | cons d ds => exact ⟨d, ds, rfl, natDigits_digits n d (by simp [h])⟩

theorem digitsVal_natDigits (n : Nat) : digitsVal (natDigits n) = n := by
  unfold digitsVal natDigits
  rw [List.foldl_reverse]
  exact decRev_val (n+1) n (by omega)

theorem spanDigits_append (ds rest : List Nat) (hd : ∀ b ∈ ds, isDigit b = true)
    (hr : ∀ b, rest.head? = some b → isDigit b = false) :
    spanDigits (ds ++ rest) = (ds, rest) := by
  induction ds with
  | nil =>
    cases rest with
    | nil => rfl
    | cons b r =>
      have := hr b rfl
      simp [spanDigits, this]
  | cons d ds ih =>
    have hd1 : isDigit d = true := hd d (by simp)
    have := ih (fun b hb => hd b (by simp [hb]))
    simp [spanDigits, hd1, this]

theorem parseUsize_natDigits (n : Nat) (rest : List Nat) (hn : n < usizeLimit)
    (hr : ∀ b, rest.head? = some b → isDigit b = false) :
    parseUsize (natDigits n ++ rest) = .ok (n, rest) := by
  unfold parseUsize
  rw [spanDigits_append _ _ (natDigits_digits n) hr]
  have : (natDigits n).isEmpty = false := by
    obtain ⟨d, ds, h, _⟩ := natDigits_cons n
    rw [h]; rfl
  simp [this, digitsVal_natDigits, hn]

theorem skipWs_not_ws {b : Nat} {rest : List Nat} (h : isWs b = false) :
    skipWs (b :: rest) = b :: rest := by simp [skipWs, h]

theorem shapeLoop_space (f : Nat) (x : List Nat) : shapeLoop f (32 :: x) = shapeLoop f x := by
  cases f <;> simp [shapeLoop, skipWs, isWs]

theorem shapeLoop_close (f : Nat) (tl : List Nat) : shapeLoop (f + 1) (41 :: tl) = .ok ([], tl) := by
  simp [shapeLoop, skipWs, isWs]

theorem shapeLoop_step (f d : Nat) (R : List Nat) (hd : d < usizeLimit)
    (hR : ∀ b, R.head? = some b → isDigit b = false) :
    shapeLoop (f + 1) (natDigits d ++ R) =
      match shapeLoop f (consumeOpt 44 (skipWs R)) with
      | .error e => .error e
      | .ok (vs, r') => .ok (d :: vs, r') := by
  obtain ⟨c, cs, hc, hcd⟩ := natDigits_cons d
  have hws : skipWs (natDigits d ++ R) = natDigits d ++ R := by
    rw [hc]; exact skipWs_not_ws (isWs_digit hcd)
  have hne : (natDigits d ++ R).head? ≠ some 41 := by
    rw [hc]; simp; intro h; subst h; simp [isDigit] at hcd
  conv => lhs; rw [shapeLoop]
  simp only [hws, hne, if_false, parseUsize_natDigits d R hd hR]
  rfl

/-- `close` is `)` or `,)`: anything that does not start with a digit and from which the separator
skipping leaves `)`. -/
theorem shapeLoop_join (ds : List Nat) (hne : ds ≠ []) (hall : ∀ d ∈ ds, d < usizeLimit)
    (close tl : List Nat) (hd : ∀ b, close.head? = some b → isDigit b = false)
    (hc : consumeOpt 44 (skipWs close) = 41 :: tl) :
    ∀ f, ds.length < f → shapeLoop f (joinDims ds ++ close) = .ok (ds, tl) := by
  induction ds with
  | nil => exact absurd rfl hne
  | cons d ds ih =>
    intro f hf
    obtain ⟨f, rfl⟩ : ∃ g, f = g + 1 := ⟨f - 1, by simp at hf; omega⟩
    have hd' : d < usizeLimit := hall d (by simp)
    cases ds with
    | nil =>
      obtain ⟨f, rfl⟩ : ∃ g, f = g + 1 := ⟨f - 1, by simp at hf; omega⟩
      rw [joinDims, shapeLoop_step _ d _ hd' hd, hc, shapeLoop_close]
    | cons d2 ds' =>
      simp only [joinDims, List.append_assoc, List.cons_append]
      rw [shapeLoop_step f d _ hd' (by simp [isDigit])]
      simp only [skipWs, isWs, consumeOpt]
      simp [shapeLoop_space,
        ih (by simp) (fun x hx => hall x (by simp [hx])) f (by simp at hf ⊢; omega)]

/-- Every dimension prints at least one digit, and all but the last a separator as well. -/
theorem joinDims_length_ge (ds : List Nat) : 3 * ds.length ≤ (joinDims ds).length + 2 := by
  induction ds with
  | nil => simp
  | cons d ds ih =>
    obtain ⟨c, cs, hc, _⟩ := natDigits_cons d
    cases ds with
    | nil => simp [joinDims, hc]
    | cons d2 ds' => simp [joinDims, hc] at ih ⊢; omega

theorem parseShape_dimsText (shape : List Nat) (hall : ∀ d ∈ shape, d < usizeLimit) (tl : List Nat) :
    parseShape (40 :: (dimsText shape ++ 41 :: tl)) = .ok (shape, tl) := by
  unfold parseShape
  simp only [expect, if_true]
  by_cases hs : shape = []
  · subst hs; simp [dimsText, joinDims, shapeLoop_close]
  · have hlen := joinDims_length_ge shape
    have hpos := List.length_pos_iff.mpr hs
    rw [dimsText, List.append_assoc]
    refine shapeLoop_join shape hs hall _ tl ?_ ?_ _ (by simp; omega)
    · split <;> simp [isDigit]
    · split <;> rfl

theorem scanQuote_append (s rest : List Nat) (h : 39 ∉ s) :
    scanQuote (s ++ 39 :: rest) = some (s, rest) := by
  induction s with
  | nil => simp [scanQuote]
  | cons b s ih =>
    have hb : b ≠ 39 := fun e => h (by simp [e])
    have := ih (fun hm => h (by simp [hm]))
    simp [scanQuote, hb, this]

theorem parseString_lit (s rest : List Nat) (h : 39 ∉ s) :
    parseString (39 :: (s ++ 39 :: rest)) = .ok (s, rest) := by
  simp [parseString, expect, scanQuote_append s rest h]

theorem parseDescr_descr (dt : DataType) :
    parseDescr dt.descr = .ok ⟨false, dt.kind, dt.itemSize⟩ := by
  cases dt <;> rfl

/-- Header dictionary as NumPy writes it for either order (rten's own writer only emits
`fortran_order: False`, for which this is `dictText`). Specification of a foreign writer. -/
def dictTextF (dt : DataType) (fo : Bool) (shape : List Nat) : List Nat :=
  pre1 ++ dt.descr ++
    [39, 44, 32, 39, 102, 111, 114, 116, 114, 97, 110, 95, 111, 114, 100, 101, 114, 39, 58, 32] ++
    (if fo then bTrue else bFalse) ++
    [44, 32, 39, 115, 104, 97, 112, 101, 39, 58, 32, 40] ++ dimsText shape ++ post

theorem dictTextF_false (dt : DataType) (shape : List Nat) : dictTextF dt false shape = dictText dt shape := by
  simp [dictTextF, dictText, pre2, bFalse]

theorem dictLoop_space (f : Nat) (x : List Nat) (fs : Fields) :
    dictLoop f (32 :: x) fs = dictLoop f x fs := by
  cases f <;> simp [dictLoop, skipWs, isWs]

theorem dictLoop_entry (f : Nat) {key val : List Nat} (rest : List Nat) {fs fs' : Fields}
    (hk : 39 ∉ key) (hws : ∀ r, skipWs (val ++ r) = val ++ r)
    (hv : ∀ r, parseValue key (val ++ r) fs = .ok (fs', r)) :
    dictLoop (f + 1) (39 :: (key ++ 39 :: 58 :: 32 :: (val ++ 44 :: 32 :: rest))) fs =
      dictLoop f rest fs' := by
  rw [dictLoop]
  simp [skipWs, isWs, parseString_lit key _ hk, expect, hws, hv, consumeOpt, dictLoop_space]

theorem parseValue_descr (dt : DataType) (fs : Fields) (r : List Nat) :
    parseValue kDescr (39 :: (dt.descr ++ [39]) ++ r) fs =
      .ok ({ fs with descr := some ⟨false, dt.kind, dt.itemSize⟩ }, r) := by
  simp [parseValue, parseString_lit dt.descr _ (by cases dt <;> decide), parseDescr_descr]

theorem parseValue_fortran (fo : Bool) (fs : Fields) (r : List Nat) :
    parseValue kFortran ((if fo then bTrue else bFalse) ++ r) fs =
      .ok ({ fs with fortran := some fo }, r) := by
  cases fo <;> simp [parseValue, kFortran, kDescr, parseBool, startsWith, bTrue, bFalse]

theorem parseValue_shape (shape : List Nat) (hall : ∀ d ∈ shape, d < usizeLimit) (fs : Fields)
    (r : List Nat) :
    parseValue kShape (40 :: (dimsText shape ++ [41]) ++ r) fs =
      .ok ({ fs with shape := some shape }, r) := by
  simp [parseValue, kShape, kDescr, kFortran, parseShape_dimsText shape hall]

theorem parseHeaderRest_dictTextF (dt : DataType) (fo : Bool) (shape : List Nat)
    (hall : ∀ d ∈ shape, d < usizeLimit) (tail : List Nat) :
    parseHeaderRest (dictTextF dt fo shape ++ tail) =
      .ok (⟨⟨false, dt.kind, dt.itemSize⟩, fo, shape⟩, tail) := by
  -- the text, bracketed as three entries `'key': value, ` and the closing brace
  have htext : dictTextF dt fo shape ++ tail =
      123 :: 39 :: (kDescr ++ 39 :: 58 :: 32 :: ((39 :: (dt.descr ++ [39])) ++ 44 :: 32 ::
        39 :: (kFortran ++ 39 :: 58 :: 32 :: ((if fo then bTrue else bFalse) ++ 44 :: 32 ::
        39 :: (kShape ++ 39 :: 58 :: 32 :: ((40 :: (dimsText shape ++ [41])) ++ 44 :: 32 ::
        125 :: tail)))))) := by
    simp only [dictTextF, List.append_assoc]
    rw [List.cons_append (a := 40), List.append_assoc]
    rfl
  rw [htext, parseHeaderRest]
  simp only [skipWs, isWs, expect]
  simp only [Nat.reduceEqDiff, Bool.or_self, Bool.false_eq_true, if_false, if_true, decide_false]
  generalize hF : (List.length _ + 1) = F
  obtain ⟨k, rfl⟩ : ∃ k, F = k + 4 := ⟨F - 4, by simp only [List.length_cons, List.length_append] at hF; omega⟩
  rw [dictLoop_entry _ _ (by decide) (fun _ => rfl) (parseValue_descr dt _),
    dictLoop_entry _ _ (by decide) (by cases fo <;> exact fun _ => rfl) (parseValue_fortran fo _),
    dictLoop_entry _ _ (by decide) (fun _ => rfl) (parseValue_shape shape hall _)]
  simp [dictLoop, skipWs, isWs]

/-- **Core of T1**: the header parser inverts the dictionary printer of `build_header`. -/
theorem parseHeaderRest_dictText (dt : DataType) (shape : List Nat)
    (hall : ∀ d ∈ shape, d < usizeLimit) (tail : List Nat) :
    parseHeaderRest (dictText dt shape ++ tail) =
      .ok (⟨⟨false, dt.kind, dt.itemSize⟩, false, shape⟩, tail) :=
  dictTextF_false dt shape ▸ parseHeaderRest_dictTextF dt false shape hall tail

end RtenVerif.Npy
