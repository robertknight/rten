import RtenVerif.Model.Copy
import RtenVerif.Lemmas.ListBasics

/-! C09: `copy_blocked` writes every destination element exactly the source element
`src[row * row_stride + col * col_stride]`. -/
namespace RtenVerif.Copy

theorem mem_span (lo len x : Nat) : x ∈ span lo len ↔ lo ≤ x ∧ x < lo + len := by
  simp only [span, List.mem_map, List.mem_range]
  constructor
  · rintro ⟨a, ha, rfl⟩; omega
  · intro h; exact ⟨x - lo, by omega, by omega⟩

theorem block_of (n x : Nat) (hx : x < n) :
    ∃ rb ∈ blocks n, rb.1 ≤ x ∧ x < rb.1 + rb.2 := by
  refine ⟨(64 * (x / 64), min 64 (n - 64 * (x / 64))), ?_, ?_, ?_⟩
  · simp only [blocks, List.mem_map, List.mem_range]
    exact ⟨x / 64, by omega, rfl⟩
  · simp only []; omega
  · simp only []; omega

theorem block_bound (n : Nat) (rb : Nat × Nat) (h : rb ∈ blocks n) : rb.1 + rb.2 ≤ n := by
  simp only [blocks, List.mem_map, List.mem_range] at h
  obtain ⟨b, hb, rfl⟩ := h
  simp only []; omega

theorem tile_of (s l x : Nat) (h : s ≤ x ∧ x < s + l) :
    (∃ t ∈ tileStarts s l, x ∈ span t 4) ∨ x ∈ span (s + 4 * (l / 4)) (l % 4) := by
  by_cases hx : x - s < 4 * (l / 4)
  · left
    refine ⟨s + 4 * ((x - s) / 4), ?_, ?_⟩
    · simp only [tileStarts, List.mem_map, List.mem_range]
      exact ⟨(x - s) / 4, by omega, rfl⟩
    · rw [mem_span]; omega
  · right
    rw [mem_span]; omega

theorem tile_bound (s l t : Nat) (h : t ∈ tileStarts s l) : s ≤ t ∧ t + 4 ≤ s + l := by
  simp only [tileStarts, List.mem_map, List.mem_range] at h
  obtain ⟨a, ha, rfl⟩ := h
  omega

theorem writes_valid (rows cols : Nat) (w : W) (h : w ∈ blockedWrites rows cols) :
    w.r < rows ∧ w.c < cols := by
  simp only [blockedWrites, List.mem_flatMap, List.mem_append, List.mem_map] at h
  obtain ⟨rb, hrb, cb, hcb, h⟩ := h
  have hr := block_bound rows rb hrb
  have hc := block_bound cols cb hcb
  rcases h with ⟨rt, hrt, h⟩ | ⟨r, hr', c, hc', rfl⟩
  · have ht := tile_bound _ _ _ hrt
    rcases h with ⟨ct, hct, r, hr', c, hc', rfl⟩ | ⟨r, hr', c, hc', rfl⟩
    · have htc := tile_bound _ _ _ hct
      rw [mem_span] at hr' hc'
      simp only []; omega
    · rw [mem_span] at hr' hc'
      simp only []; omega
  · rw [mem_span] at hr' hc'
    simp only []; omega

theorem writes_cover (rows cols r c : Nat) (hr : r < rows) (hc : c < cols) :
    ∃ w ∈ blockedWrites rows cols, w.r = r ∧ w.c = c := by
  obtain ⟨rb, hrb, hr1, hr2⟩ := block_of rows r hr
  obtain ⟨cb, hcb, hc1, hc2⟩ := block_of cols c hc
  simp only [blockedWrites, List.mem_flatMap, List.mem_append, List.mem_map]
  rcases tile_of rb.1 rb.2 r ⟨hr1, hr2⟩ with ⟨rt, hrt, hrm⟩ | hrm
  · rcases tile_of cb.1 cb.2 c ⟨hc1, hc2⟩ with ⟨ct, hct, hcm⟩ | hcm
    · exact ⟨⟨r, c, true⟩, ⟨rb, hrb, cb, hcb, Or.inl ⟨rt, hrt, Or.inl ⟨ct, hct, r, hrm, c, hcm, rfl⟩⟩⟩,
        rfl, rfl⟩
    · exact ⟨⟨r, c, false⟩, ⟨rb, hrb, cb, hcb, Or.inl ⟨rt, hrt, Or.inr ⟨r, hrm, c, hcm, rfl⟩⟩⟩,
        rfl, rfl⟩
  · have hcm : c ∈ span cb.1 cb.2 := by rw [mem_span]; omega
    exact ⟨⟨r, c, false⟩, ⟨rb, hrb, cb, hcb, Or.inr ⟨r, hrm, c, hcm, rfl⟩⟩, rfl, rfl⟩

/-- Both kernels read the same element: `transpose_tile` (offset `c * cs + r`) is used only when
`rs = 1`. -/
theorem copyBlocked_correct (rows cols rs cs : Nat) (src : Nat → Nat) :
    (copyBlocked rows cols rs cs src).length = rows * cols ∧
    ∀ r c, r < rows → c < cols →
      (copyBlocked rows cols rs cs src).getD (r * cols + c) 0 = src (r * rs + c * cs) := by
  refine ⟨?_, ?_⟩
  · unfold copyBlocked; rw [foldSet_length]; simp
  · intro r c hr hc
    unfold copyBlocked
    rw [List.getD_eq_getElem?_getD]
    refine (congrArg (Option.getD · 0) (foldSet_written _ _ _ _ _ _ ?_ ?_ ?_) :)
    · rw [List.length_replicate]
      exact mul_add_lt hr hc
    · intro w hw hp
      obtain ⟨hwr, hwc⟩ := writes_valid rows cols w hw
      have hrc : w.r = r ∧ w.c = c := by
        have h1 : (w.r * cols + w.c) % cols = (r * cols + c) % cols := by rw [hp]
        rw [Nat.mul_comm w.r, Nat.mul_comm r, Nat.mul_add_mod, Nat.mul_add_mod,
          Nat.mod_eq_of_lt hwc, Nat.mod_eq_of_lt hc] at h1
        refine ⟨?_, h1⟩
        rw [h1] at hp
        have : w.r * cols = r * cols := by omega
        exact Nat.eq_of_mul_eq_mul_right (by omega) this
      obtain ⟨e1, e2⟩ := hrc
      unfold readOff useTranspose
      rw [e1, e2]
      split
      · rename_i ht
        simp only [Bool.and_eq_true, beq_iff_eq] at ht
        rw [ht.1]
        congr 1
        omega
      · rfl
    · right
      obtain ⟨w, hw, e1, e2⟩ := writes_cover rows cols r c hr hc
      exact ⟨w, hw, by rw [e1, e2]⟩

end RtenVerif.Copy
