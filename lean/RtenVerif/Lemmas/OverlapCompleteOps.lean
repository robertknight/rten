import RtenVerif.Lemmas.OverlapComplete

/-!
Completeness side of C08 (part 2): contiguous layouts are dominance chains, acceptance is
`empty ∨ DomChain` (whence soundness, `accepted_injective`), and the view operations (slice with
a positive step, index_axis, unit axis insertion/removal) keep a dominance chain.
-/
namespace RtenVerif.Overlap

theorem keys_cons (d : Nat × Nat) (ds : List (Nat × Nat)) :
    keys (d :: ds) = if d.1 = 1 then keys ds else (d.2, d.1) :: keys ds := by
  by_cases h : d.1 = 1 <;> simp [keys, h]

theorem keys_append (A B : List (Nat × Nat)) : keys (A ++ B) = keys A ++ keys B := by
  simp [keys, List.filter_append]

theorem noZero_cons (d : Nat × Nat) (ds : List (Nat × Nat)) :
    NoZero (d :: ds) ↔ d.1 ≠ 0 ∧ NoZero ds := by
  simp [NoZero]

theorem noZero_append (A B : List (Nat × Nat)) : NoZero (A ++ B) ↔ NoZero A ∧ NoZero B := by
  simp [NoZero]

/-- For a contiguous layout without empty dims: the `(stride, size)` pairs taken innermost
first pass the loop, and the running product of `is_contiguous` is `1 + total span`. In
particular every non-unit stride equals `1 + Σ_{inner} (size_j - 1) * stride_j`. -/
theorem contig_chain : ∀ (dims : List (Nat × Nat)) (p : Nat), NoZero dims →
    contigR dims = some p →
    Passes 0 (keys dims).reverse ∧ p = 1 + spanSum (keys dims) := by
  intro dims
  induction dims with
  | nil =>
    intro p _ hp
    cases Option.some.inj hp
    exact ⟨passes_nil 0, rfl⟩
  | cons d ds ih =>
    intro p hz hp
    obtain ⟨hd0, hzds⟩ := (noZero_cons d ds).mp hz
    rw [keys_cons]
    obtain ⟨p', hc, ⟨h1, rfl⟩ | ⟨h1, h2, rfl⟩⟩ := contigR_cons_some hp
    · rw [if_pos h1]
      exact ih p hzds hc
    · obtain ⟨hpass, hp'⟩ := ih p' hzds hc
      rw [if_neg h1]
      constructor
      · rw [List.reverse_cons, passes_append, passes_cons, Nat.zero_add,
          spanSum_perm (List.reverse_perm _)]
        exact ⟨hpass, by rw [h2, hp']; exact Nat.lt_add_of_pos_left Nat.zero_lt_one, passes_nil _⟩
      · obtain ⟨k, hk⟩ : ∃ k, d.1 = k + 1 := ⟨d.1 - 1, by omega⟩
        show p' * d.1 = 1 + ((d.1 - 1) * d.2 + spanSum (keys ds))
        rw [hk, h2, Nat.mul_succ, Nat.add_sub_cancel, Nat.mul_comm p' k]
        omega

/-- (T2b) A contiguous layout with no empty dimension is a dominance chain (innermost first). -/
theorem contig_domChain {dims : List (Nat × Nat)} (hz : NoZero dims)
    (hc : isContiguous dims = true) : DomChain dims := by
  rw [isContiguous_eq] at hc
  obtain ⟨p, hp⟩ := Option.isSome_iff_exists.mp hc
  exact ⟨_, List.reverse_perm _, (contig_chain dims p hz hp).1⟩

theorem contigR_append_some {A B : List (Nat × Nat)} {p : Nat}
    (h : contigR (A ++ B) = some p) : ∃ q, contigR B = some q := by
  induction A generalizing p with
  | nil => exact ⟨p, h⟩
  | cons a A ih =>
    obtain ⟨p', hc, _⟩ := contigR_cons_some h
    exact ih hc

/-- (T2b), explicit form. -/
theorem contig_stride_eq {pre post : List (Nat × Nat)} {size stride : Nat}
    (hz : NoZero (pre ++ (size, stride) :: post))
    (hc : isContiguous (pre ++ (size, stride) :: post) = true) (h1 : size ≠ 1) :
    stride = 1 + spanSum (keys post) := by
  rw [isContiguous_eq] at hc
  obtain ⟨p, hp⟩ := Option.isSome_iff_exists.mp hc
  obtain ⟨q, hq⟩ := contigR_append_some hp
  have hzpost : NoZero post := ((noZero_cons _ _).mp ((noZero_append _ _).mp hz).2).2
  obtain ⟨p', hc', ⟨h, _⟩ | ⟨_, h2, _⟩⟩ := contigR_cons_some hq
  · exact absurd h h1
  · exact h2.trans (contig_chain post p' hzpost hc').2

/-- (T2a) Acceptance characterised with the code's own two paths. -/
theorem mayOverlap_false_iff {dims : List (Nat × Nat)} (hz : NoZero dims) :
    mayOverlap dims = false ↔ isContiguous dims = true ∨ StepsOverSorted dims := by
  unfold mayOverlap StepsOverSorted Passes
  unfold NoZero at hz
  simp only [hz, Bool.false_eq_true, if_false]
  by_cases hc : isContiguous dims = true
  · simp [hc]
  · simp only [hc]
    cases stepsOver 0 (sortedStrideShape dims) <;> simp

/-- (T2a) Acceptance characterised independently of the sort and of the dimension order. -/
theorem accepted_iff (dims : List (Nat × Nat)) :
    mayOverlap dims = false ↔ ¬ NoZero dims ∨ DomChain dims := by
  by_cases hz : NoZero dims
  · rw [mayOverlap_false_iff hz, stepsOverSorted_iff_domChain hz]
    constructor
    · rintro (h | h)
      · exact Or.inr (contig_domChain hz h)
      · exact Or.inr h
    · rintro (h | h)
      · exact absurd hz h
      · exact Or.inr h
  · have : mayOverlap dims = false := by
      unfold mayOverlap
      unfold NoZero at hz
      simp only [Bool.not_eq_false] at hz
      simp [hz]
    simp [this, hz]

theorem noZero_of_valid {dims : List (Nat × Nat)} {i : List Nat} (h : ValidIdx dims i) : NoZero dims := by
  induction h with
  | nil => rfl
  | cons hlt _ ih => exact (noZero_cons _ _).mpr ⟨by simp only; omega, ih⟩

/-- Soundness of the check: an accepted layout sends distinct valid indices to distinct offsets.
An empty tensor has no valid index; otherwise acceptance is a dominance chain, i.e. the sorted
check passes (a contiguous layout is one too). -/
theorem accepted_injective {dims : List (Nat × Nat)} {i j : List Nat} (hcheck : mayOverlap dims = false)
    (hi : ValidIdx dims i) (hj : ValidIdx dims j) (hoff : offset dims i = offset dims j) : i = j := by
  have hz := noZero_of_valid hi
  rcases (accepted_iff dims).mp hcheck with h | h
  · exact absurd hz h
  · exact stepsOverSorted_inj ((stepsOverSorted_iff_domChain hz).mpr h) hi hj hoff

theorem bool_eq_of_false_iff {a b : Bool} (h : a = false ↔ b = false) : a = b := by
  cases a <;> cases b <;> simp_all

theorem accept_perm {dims dims' : List (Nat × Nat)} (h : dims.Perm dims') :
    mayOverlap dims = mayOverlap dims' :=
  bool_eq_of_false_iff (by rw [accepted_iff, accepted_iff, noZero_perm h, domChain_perm h])

theorem chain_replace {L K : List (Nat × Nat)} {x y : Nat × Nat} (hperm : L.Perm (x :: K))
    (hp : Passes 0 L) (h1 : x.1 ≤ y.1) (h2 : span y ≤ span x) :
    ∃ L', L'.Perm (y :: K) ∧ Passes 0 L' := by
  obtain ⟨L1, L2, rfl⟩ := List.append_of_mem (hperm.mem_iff.mpr List.mem_cons_self)
  have hK : (L1 ++ L2).Perm K := (List.perm_middle.symm.trans hperm).cons_inv
  refine ⟨L1 ++ y :: L2, List.perm_middle.trans (hK.cons y), ?_⟩
  exact ((Dom.refl L1).append (.keep (Dom.refl L2) h1 h2)).passes (Nat.le_refl _) hp

theorem chain_drop {L K : List (Nat × Nat)} {x : Nat × Nat} (hperm : L.Perm (x :: K))
    (hp : Passes 0 L) : ∃ L', L'.Perm K ∧ Passes 0 L' := by
  obtain ⟨L1, L2, rfl⟩ := List.append_of_mem (hperm.mem_iff.mpr List.mem_cons_self)
  have hK : (L1 ++ L2).Perm K := (List.perm_middle.symm.trans hperm).cons_inv
  refine ⟨L1 ++ L2, hK, ?_⟩
  exact ((Dom.refl L1).append (.drop (Dom.refl L2))).passes (Nat.le_refl _) hp

/-! The view operations are stated with the affected dimension in front; `accept_perm` brings it there. -/

theorem accept_unit_head (s : Nat) (rest : List (Nat × Nat)) :
    mayOverlap ((1, s) :: rest) = mayOverlap rest :=
  bool_eq_of_false_iff (by
    rw [accepted_iff, accepted_iff, noZero_cons, DomChain, DomChain, keys_cons, if_pos rfl]
    simp)

/-- Dropping a non-empty dimension (`index_axis`) keeps acceptance. -/
theorem accept_drop_head {size stride : Nat} {rest : List (Nat × Nat)} (hsz : 1 ≤ size)
    (h : mayOverlap ((size, stride) :: rest) = false) : mayOverlap rest = false := by
  rw [accepted_iff] at h ⊢
  rcases h with h | ⟨L, hperm, hp⟩
  · left
    intro hz
    exact h ((noZero_cons _ _).mpr ⟨by simpa using Nat.ne_of_gt hsz, hz⟩)
  · right
    rw [keys_cons] at hperm
    by_cases h1 : size = 1
    · simp only [h1, if_true] at hperm
      exact ⟨L, hperm, hp⟩
    · simp only [h1, if_false] at hperm
      exact chain_drop hperm hp

theorem accept_slice_head {size stride size' step : Nat} {rest : List (Nat × Nat)}
    (hstep : 1 ≤ step) (hfit : size' = 0 ∨ (size' - 1) * step < size)
    (h : mayOverlap ((size, stride) :: rest) = false) :
    mayOverlap ((size', stride * step) :: rest) = false := by
  by_cases hs0 : size' = 0
  · subst hs0; simp [mayOverlap]
  have hfit := hfit.resolve_left hs0
  have hsz : 1 ≤ size := by omega
  rw [accepted_iff] at h ⊢
  rcases h with h | ⟨L, hperm, hp⟩
  · left
    intro hz
    apply h
    rw [noZero_cons] at hz ⊢
    exact ⟨by simpa using Nat.ne_of_gt hsz, hz.2⟩
  · right
    by_cases h1 : size = 1
    · -- the only slice of a unit dimension is a unit dimension
      have hs' : size' = 1 := by
        subst h1
        have h2 : (size' - 1) * step = 0 := by omega
        rcases Nat.mul_eq_zero.mp h2 with h3 | h3 <;> omega
      subst h1; subst hs'
      simp only [keys_cons, if_true] at hperm
      exact ⟨L, by simpa [keys_cons] using hperm, hp⟩
    · simp only [keys_cons, h1, if_false] at hperm
      by_cases h1' : size' = 1
      · obtain ⟨L', hperm', hp'⟩ := chain_drop hperm hp
        exact ⟨L', by simpa [keys_cons, h1'] using hperm', hp'⟩
      · have hle : (size' - 1) * step ≤ size - 1 := by omega
        have hspan : span (stride * step, size') ≤ span (stride, size) := by
          show (size' - 1) * (stride * step) ≤ (size - 1) * stride
          calc (size' - 1) * (stride * step)
              = ((size' - 1) * step) * stride := by
                rw [Nat.mul_comm stride step, Nat.mul_assoc]
            _ ≤ (size - 1) * stride := Nat.mul_le_mul_right _ hle
        have hstride : (stride, size).1 ≤ (stride * step, size').1 :=
          Nat.le_mul_of_pos_right stride hstep
        obtain ⟨L', hperm', hp'⟩ := chain_replace hperm hp hstride hspan
        exact ⟨L', by simpa [keys_cons, h1'] using hperm', hp'⟩

end RtenVerif.Overlap
