import RtenVerif.Lemmas.PlannerDfs
/-!
# Completeness of the planner on unique-producer graphs (converse of C03.T2b)

`ErrCause` says: the needed part of the graph has a cycle through values that were not supplied,
or a needed value nobody produces.  Both are excluded when the needed operators can be ranked so
that the registered source of every unresolved dependency has a strictly smaller rank (`Ranked`):
a ranked request has no error cause (`Ranked.no_errCause`, on every graph).

If *some* `PlanOK` plan exists for a request on a graph where every value has at most one
producer, the positions in that plan are such a ranking (`ranked_of_planOK`): every needed
operator is in the plan, and the source of a dependency stands strictly before its user.
-/
namespace RtenVerif.Planner
open RtenVerif.Graph

/-- What a value that is not initially available needs: its registered source satisfies `Q`,
or — only with `allow_missing_inputs` — nobody produces it. -/
def SourceIs (g : Graph) (opts : PlanOptions) (Q : Nat → Prop) (d : Nat) : Prop :=
  match getSource g d with
  | some (p, _) => Q p
  | none => opts.allowMissing = true

/-- `R f x`: operator `x` has rank `f`.  Requested outputs have ranked sources, and so have the
dependencies of every ranked operator, strictly below it. -/
structure Ranked (g : Graph) (opts : PlanOptions) (r0 outs : List Nat) (R : Nat → Nat → Prop) :
    Prop where
  root : ∀ o ∈ outs, rContains g r0 o = false → SourceIs g opts (fun p => ∃ f, R f p) o
  dep : ∀ f x xop d, R f x → getOp g x = some xop → d ∈ opDeps g xop → rContains g r0 d = false →
    SourceIs g opts (fun p => ∃ f', f' < f ∧ R f' p) d

section
variable {g : Graph} {opts : PlanOptions} {r0 outs : List Nat} {R : Nat → Nat → Prop}

theorem SourceIs.of_source {Q : Nat → Prop} {d p : Nat} {pop : OpNode}
    (h : SourceIs g opts Q d) (hs : getSource g d = some (p, pop)) : Q p := by
  rw [SourceIs, hs] at h; exact h

theorem SourceIs.of_none {Q : Nat → Prop} {d : Nat}
    (h : SourceIs g opts Q d) (hs : getSource g d = none) : opts.allowMissing = true := by
  rw [SourceIs, hs] at h; exact h

theorem Ranked.edge (hR : Ranked g opts r0 outs R) {f x p : Nat} (hx : R f x) (he : Edge g r0 x p) :
    ∃ f', f' < f ∧ R f' p := by
  obtain ⟨xop, d, pop, hxop, hd, hr, hs⟩ := he
  exact (hR.dep f x xop d hx hxop hd hr).of_source hs

theorem Ranked.needed (hR : Ranked g opts r0 outs R) {x : Nat} (hn : Needed g r0 outs x) :
    ∃ f, R f x := by
  induction hn with
  | root ho hr hs =>
    exact (hR.root _ ho hr).of_source hs
  | step _ hxop hd hr hs ih =>
    obtain ⟨f, hf⟩ := ih
    obtain ⟨f', _, hp⟩ := hR.edge hf ⟨_, _, _, hxop, hd, hr, hs⟩
    exact ⟨f', hp⟩

theorem Ranked.star (hR : Ranked g opts r0 outs R) {f p x : Nat} (hp : R f p)
    (hs : Star (Edge g r0) p x) : ∃ f', f' ≤ f ∧ R f' x := by
  induction hs with
  | refl => exact ⟨f, Nat.le_refl _, hp⟩
  | tail _ he ih =>
    obtain ⟨f1, h1, e1⟩ := ih
    obtain ⟨f2, h2, e2⟩ := hR.edge e1 he
    exact ⟨f2, Nat.le_trans (Nat.le_of_lt h2) h1, e2⟩

theorem Ranked.no_errCause (hR : Ranked g opts r0 outs R) {e : PlanError} :
    ¬ErrCause g opts r0 outs e := by
  intro hc
  cases hc with
  | cycle hx he hs =>
    -- going once round the cycle ranks `x` strictly lower, for ever
    obtain ⟨f, hf⟩ := hR.needed hx
    induction f using Nat.strongRecOn with
    | ind f ih =>
      obtain ⟨f1, h1, e1⟩ := hR.edge hf he
      obtain ⟨f2, h2, e2⟩ := hR.star e1 hs
      exact ih f2 (Nat.lt_of_le_of_lt h2 h1) e2
  | missing ham hx hxop hd hr hs =>
    obtain ⟨f, hf⟩ := hR.needed hx
    rw [(hR.dep f _ _ _ hf hxop hd hr).of_none hs] at ham
    cases ham
  | noSource ham ho hr hs =>
    rw [(hR.root _ ho hr).of_none hs] at ham
    cases ham

end

theorem avail_source {g : Graph} {am : Bool} {r0 l : List Nat} {d : Nat} (hu : UniqueProducer g)
    (ha : Avail g am (availAfter g r0 l) d) (hr0 : rContains g r0 d = false) :
    (∃ i ∈ l, sourceOf g d = some i) ∨ (am = true ∧ getSource g d = none) := by
  rcases ha with ha | ha
  · rcases rContains_append_cases ha with h | h
    · rw [hr0] at h; cases h
    · obtain ⟨i, hi, hd⟩ := List.mem_flatMap.mp h
      obtain ⟨op, hop, hd⟩ := mem_outsOf.mp hd
      exact Or.inl ⟨i, hi, hu i op d hop hd⟩
  · exact Or.inr ha

theorem sourceIs_of_avail {g : Graph} {opts : PlanOptions} {r0 l : List Nat} {d : Nat}
    {Q : Nat → Prop} (hu : UniqueProducer g) (hl : ∀ i ∈ l, Q i)
    (ha : Avail g opts.allowMissing (availAfter g r0 l) d) (hr0 : rContains g r0 d = false) :
    SourceIs g opts Q d := by
  unfold SourceIs
  rcases avail_source hu ha hr0 with ⟨i, hi, hs⟩ | ⟨ham, hs⟩
  · cases hsrc : getSource g d with
    | none => rw [getSource_none_iff.mp hsrc] at hs; cases hs
    | some pp =>
      obtain ⟨p, pop⟩ := pp
      have hip : i = p := Option.some.inj (hs.symm.trans (getSource_spec hsrc).1)
      exact hip ▸ hl i hi
  · rw [hs]; exact ham

theorem ranked_of_planOK {g : Graph} {opts : PlanOptions} {r0 outs Q : List Nat}
    (hu : UniqueProducer g) (hQ : PlanOK g opts.allowMissing r0 outs Q) :
    Ranked g opts r0 outs (fun f x => x ∈ Q ∧ Q.idxOf x = f) where
  root o ho hr := sourceIs_of_avail hu (fun i hi => ⟨_, hi, rfl⟩) (hQ.outputs o ho) hr
  dep f x xop d hx hxop hd hr := by
    obtain ⟨hxQ, rfl⟩ := hx
    obtain ⟨pre, post, hsplit⟩ := List.append_of_mem hxQ
    obtain ⟨op, hop, hav⟩ := validIds_split hQ.valid hsplit
    obtain rfl := Option.some.inj (hxop.symm.trans hop)
    have hxpre : x ∉ pre := fun hm =>
      (List.nodup_append.mp (hsplit ▸ hQ.nodup)).2.2 x hm x (List.mem_cons_self ..) rfl
    refine sourceIs_of_avail hu (fun i hi => ⟨_, ?_, hsplit ▸ List.mem_append_left _ hi, rfl⟩)
      (hav d hd) hr
    rw [hsplit, List.idxOf_append, List.idxOf_append, if_pos hi, if_neg hxpre, List.idxOf_cons_self,
      Nat.zero_add]
    exact List.idxOf_lt_length_of_mem hi

theorem no_errCause_of_planOK {g : Graph} {r0 outs Q : List Nat} {opts : PlanOptions}
    (hu : UniqueProducer g) (hQ : PlanOK g opts.allowMissing r0 outs Q) {e : PlanError} :
    ¬ErrCause g opts r0 outs e :=
  (ranked_of_planOK hu hQ).no_errCause

theorem needed_mem {g : Graph} {am : Bool} {r0 outs Q : List Nat} (hu : UniqueProducer g)
    (hQ : PlanOK g am r0 outs Q) {x : Nat} (hn : Needed g r0 outs x) : x ∈ Q := by
  obtain ⟨_, h, _⟩ := (ranked_of_planOK (opts := { allowMissing := am }) hu hQ).needed hn
  exact h

def upCheck (g : Graph) : Bool :=
  (List.range g.nodes.length).all (fun p =>
    match getOp g p with
    | some op => (opOutputs op).all (fun v => sourceOf g v == some p)
    | none => true)

theorem uniqueProducer_of_upCheck {g : Graph} (h : upCheck g = true) : UniqueProducer g :=
  fun _ _ v hop hv => beq_iff_eq.mp (List.all_eq_true.mp (forall_ops_of_check h hop) v hv)

end RtenVerif.Planner
