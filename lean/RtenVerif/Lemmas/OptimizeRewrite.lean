import RtenVerif.Lemmas.Optimize

/-! # C01 — soundness of replacing a subgraph by one fused operator (semantic core of T1) -/
namespace RtenVerif.Optimize

variable {K V : Type} (sem : Sem K V)

/-- **Semantic core of T1.** `pre ++ L :: post` is a plan; the fused subgraph consists of the
operators of `pre` selected by `inS` and of `L` (the operator producing the subgraph's declared
outputs). If
* (guard) no operator that stays reads (as input *or* through a subgraph capture) an output of the
  removed operators `pre.filter inS`,
* (hyp) on every environment that agrees with `env` outside the plan's outputs (so constants and
  graph inputs have their actual values) the fused operator `F` computes for the declared outputs
  what the replaced operators compute,
then every value that is not a removed intermediate has the same denotation (`run … env id`,
including failure `none`) before and after the rewrite. -/
theorem rewrite_core
    (pre post : List (Op K)) (L F : Op K) (inS : Op K → Bool) (env : Env V)
    (hwf : WF (pre ++ L :: post))
    (hfresh : ∀ i ∈ outsAll (pre ++ L :: post), env i = none)
    (houts : F.outs = L.outs)
    (hFreads : ∀ i ∈ F.reads, i ∉ outsAll (pre.filter inS))
    (hguardPre : ∀ o ∈ pre, inS o = false → ∀ i ∈ o.reads, i ∉ outsAll (pre.filter inS))
    (hguardPost : ∀ o ∈ post, ∀ i ∈ o.reads, i ∉ outsAll (pre.filter inS))
    (hsem : ∀ E : Env V, (∀ i, i ∉ outsAll (pre ++ L :: post) → E i = env i) →
        (∀ i ∈ outsAll (pre.filter inS ++ [L]), E i = none) →
        ∀ j ∈ L.outs, run sem (pre.filter inS ++ [L]) E j = step sem E F j) :
    ∀ i, i ∉ outsAll (pre.filter inS) →
      run sem (pre ++ L :: post) env i
        = run sem (pre.filter (fun o => !inS o) ++ F :: post) env i := by
  intro i hi
  let E := run sem pre env
  have hwfpre : WF pre := WF_sublist (List.sublist_append_left ..) hwf
  have hdisj : ∀ k ∈ outsAll pre, k ∉ L.outs := fun k hk hL =>
    WF_append_disjoint hwf k hk (mem_outsAll_cons.mpr (.inl hL))
  have hsubS : ∀ {k}, k ∈ outsAll (pre.filter inS) → k ∈ outsAll pre := outsAll_sublist List.filter_sublist
  have hEoff : ∀ k, k ∉ outsAll pre → E k = env k := run_off sem pre env
  -- the isolated environment: `E` with the removed intermediates erased
  let E0 : Env V := fun k => if k ∈ outsAll (pre.filter inS) then none else E k
  have hE0 : ∀ k, k ∉ outsAll (pre.filter inS) → E0 k = E k := fun k hk => if_neg hk
  have hstab : ∀ k, run sem (pre.filter inS) E0 k = E k :=
    run_filter_isolated sem inS pre env hwfpre fun k hk => hfresh k (mem_outsAll_append.mpr (.inl hk))
  have hE0env : ∀ k, k ∉ outsAll (pre ++ L :: post) → E0 k = env k := fun k hk => by
    have hnp : k ∉ outsAll pre := fun h => hk (mem_outsAll_append.mpr (.inl h))
    rw [hE0 k (mt hsubS hnp), hEoff k hnp]
  have hE0none : ∀ k ∈ outsAll (pre.filter inS ++ [L]), E0 k = none := fun k hk => by
    rcases mem_outsAll_append.mp hk with h | h
    · exact if_pos h
    · have hkL : k ∈ L.outs := (mem_outsAll_cons.mp h).elim id (nomatch ·)
      rw [hE0 k fun h' => hdisj k (hsubS h') hkL]
      exact run_prefix_fresh sem hwf hfresh k (mem_outsAll_cons.mpr (.inl hkL))
  -- at its position, the fused operator produces what the last operator of the subgraph produced
  have hstep : ∀ k, step sem E L k = step sem E F k := fun k => by
    by_cases hk : k ∈ L.outs
    · calc step sem E L k
          = run sem (pre.filter inS ++ [L]) E0 k := by
            rw [run_append]; exact (step_agree sem _ _ L k (fun r _ => hstab r) (hstab k)).symm
        _ = step sem E0 F k := hsem E0 hE0env hE0none k hk
        _ = step sem E F k :=
            step_agree sem E0 E F k (fun r hr => hE0 r (hFreads r hr)) (hE0 k fun h => hdisj k (hsubS h) hk)
    · rw [step_off sem E L k hk, step_off sem E F k (houts ▸ hk)]
  calc run sem (pre ++ L :: post) env i
      = run sem post (step sem E L) i := by rw [run_append]; rfl
    _ = run sem (F :: post) E i := run_congr sem post _ _ hstep i
    -- with `L` gone the removed operators of `pre` are dead: drop them
    _ = run sem (F :: post) (run sem (pre.filter fun o => !inS o) env) i := by
      refine run_agree sem (· ∉ outsAll (pre.filter inS)) (F :: post) _ _ (fun o ho => ?_) (fun k hk => ?_) i hi
      · rcases List.mem_cons.mp ho with rfl | m
        · exact hFreads
        · exact hguardPost o m
      · exact run_filter_dead sem (· ∈ outsAll (pre.filter inS)) inS pre env env
          (fun o ho hs r hr => mem_outsAll.mpr ⟨o, List.mem_filter.mpr ⟨ho, hs⟩, hr⟩) hguardPre (fun _ _ => rfl) k hk
    _ = _ := by rw [run_append]

end RtenVerif.Optimize
