import RtenVerif.Model.PartialRun
import RtenVerif.Lemmas.PlannerBasic
import RtenVerif.Lemmas.ListBasics
/-!
# Naive evaluation (`evalAt`): monotone in the budget, hence a partial function `Den`

Preceded by what the model's building blocks do: association lists read with `List.lookup`,
`gather`, `zipOuts`, `lookupVal`.
-/
namespace RtenVerif.PartialRun
open RtenVerif.Graph RtenVerif.Planner

section
variable {V : Type}

theorem gather_cons {lk : Nat → Option V} {d : Nat} {ds : List Nat} {args : List V} :
    gather lk (d :: ds) = some args ↔
      ∃ v vs, lk d = some v ∧ gather lk ds = some vs ∧ args = v :: vs := by
  rw [gather]
  constructor
  · intro h
    split at h
    · next v vs hd hg => exact ⟨v, vs, hd, hg, (Option.some.inj h).symm⟩
    · cases h
  · rintro ⟨v, vs, hd, hg, rfl⟩
    rw [hd, hg]

theorem gather_lookup_some {lk : Nat → Option V} {ds : List Nat} {args : List V}
    (h : gather lk ds = some args) : ∀ d ∈ ds, ∃ v, lk d = some v := by
  induction ds generalizing args with
  | nil => intro d hd; cases hd
  | cons a ds ih =>
    obtain ⟨v, vs, ha, hg, -⟩ := gather_cons.mp h
    intro d hd
    rcases List.mem_cons.mp hd with rfl | hd
    · exact ⟨v, ha⟩
    · exact ih hg d hd

theorem gather_total {lk : Nat → Option V} {ds : List Nat} (h : ∀ d ∈ ds, ∃ v, lk d = some v) :
    ∃ args, gather lk ds = some args := by
  induction ds with
  | nil => exact ⟨[], rfl⟩
  | cons d ds ih =>
    obtain ⟨v, hv⟩ := h d List.mem_cons_self
    obtain ⟨vs, hvs⟩ := ih (fun d' hd' => h d' (List.mem_cons_of_mem _ hd'))
    exact ⟨v :: vs, gather_cons.mpr ⟨v, vs, hv, hvs, rfl⟩⟩

theorem gather_zip {lk : Nat → Option V} {ds : List Nat} {args : List V}
    (h : gather lk ds = some args) :
    args.length = ds.length ∧ ∀ pr ∈ ds.zip args, lk pr.1 = some pr.2 := by
  induction ds generalizing args with
  | nil => cases Option.some.inj h; exact ⟨rfl, fun _ h => nomatch h⟩
  | cons a ds ih =>
    obtain ⟨v, vs, ha, hg, rfl⟩ := gather_cons.mp h
    obtain ⟨hl, hz⟩ := ih hg
    refine ⟨congrArg (· + 1) hl, fun pr hpr => ?_⟩
    rcases List.mem_cons.mp hpr with rfl | hpr
    · exact ha
    · exact hz pr hpr

theorem gather_congr {lk lk' : Nat → Option V} {ds : List Nat}
    (h : ∀ d ∈ ds, lk d = lk' d) : gather lk ds = gather lk' ds := by
  induction ds with
  | nil => rfl
  | cons a ds ih =>
    simp only [gather]
    rw [h a List.mem_cons_self, ih (fun d hd => h d (List.mem_cons_of_mem _ hd))]

theorem gather_mono {lk lk' : Nat → Option V} {ds : List Nat} {args : List V}
    (hm : ∀ d ∈ ds, ∀ v, lk d = some v → lk' d = some v) (h : gather lk ds = some args) :
    gather lk' ds = some args := by
  rw [← h]
  refine gather_congr fun d hd => ?_
  obtain ⟨v, hv⟩ := gather_lookup_some h d hd
  rw [hv, hm d hd v hv]

theorem gather_eq {lk lk' : Nat → Option V} {ds : List Nat} {a a' : List V}
    (h : gather lk ds = some a) (h' : gather lk' ds = some a')
    (hu : ∀ d ∈ ds, ∀ v v', lk d = some v → lk' d = some v' → v = v') : a = a' := by
  have : gather lk ds = gather lk' ds := gather_congr fun d hd => by
    obtain ⟨v, hv⟩ := gather_lookup_some h d hd
    obtain ⟨v', hv'⟩ := gather_lookup_some h' d hd
    rw [hv, hv', hu d hd v v' hv hv']
  rw [h, h'] at this
  exact Option.some.inj this

theorem keys_zipOuts {os : List (Option Nat)} {vs : List V} (h : ¬ vs.length < os.length) :
    (zipOuts os vs).map (fun p => p.1) = os.filterMap id := by
  induction os generalizing vs with
  | nil => cases vs <;> rfl
  | cons o os ih =>
    cases vs with
    | nil => exact absurd (Nat.succ_pos _) h
    | cons w ws =>
      have := ih (vs := ws) (fun hlt => h (Nat.succ_lt_succ hlt))
      cases o with
      | none => exact this
      | some o => exact congrArg (o :: ·) this

variable {g : Graph} {cv : Nat → V} {views temps : List (Nat × V)} {id : Nat}

theorem lookupVal_const (h : getNode g id = some .constant) :
    lookupVal g cv views temps id = some (cv id) := by
  rw [lookupVal, h]

theorem lookupVal_value (h : getNode g id = some .value) :
    lookupVal g cv views temps id = (views ++ temps).lookup id := by
  rw [lookupVal, h, List.lookup_append]
  cases views.lookup id <;> rfl

theorem lookupVal_none (h1 : getNode g id ≠ some .constant) (h2 : getNode g id ≠ some .value) :
    lookupVal g cv views temps id = none := by
  unfold lookupVal
  split
  · next h => exact absurd h h1
  · next h => exact absurd h h2
  · rfl

theorem lookupVal_some {v : V} (h : lookupVal g cv views temps id = some v) :
    getNode g id = some .constant ∧ v = cv id ∨
      getNode g id = some .value ∧ (views ++ temps).lookup id = some v := by
  unfold lookupVal at h
  split at h
  · exact Or.inl ⟨‹_›, (Option.some.inj h).symm⟩
  · next hn => exact Or.inr ⟨hn, by rw [← lookupVal_value (cv := cv) hn, lookupVal, hn]; exact h⟩
  · cases h

end

section
variable {Ω V : Type}
variable {g : Graph} {sem : Sem Ω V} {ω : Ω} {cv : Nat → V} {views : List (Nat × V)}

theorem evalAt_const {f id : Nat} (h : getNode g id = some .constant) :
    evalAt g sem ω cv views (f + 1) id = some (cv id) := by
  rw [evalAt, h]

theorem evalAt_view {f id : Nat} {v : V} (hn : getNode g id = some .value)
    (h : views.lookup id = some v) : evalAt g sem ω cv views (f + 1) id = some v := by
  rw [evalAt, hn]
  simp only [h]

theorem evalAt_op {f id p : Nat} {op : OpNode} {args outs : List V}
    (hn : getNode g id = some .value) (hl : views.lookup id = none)
    (hs : getSource g id = some (p, op))
    (hg : gather (evalAt g sem ω cv views f) (opDeps g op) = some args)
    (hsem : sem ω p args = some outs) (hlen : ¬ outs.length < op.outputs.length) :
    evalAt g sem ω cv views (f + 1) id = (zipOuts op.outputs outs).reverse.lookup id := by
  rw [evalAt, hn]
  simp only [hl, hs, hg, hsem, if_neg hlen]

theorem evalAt_inv {f id : Nat} {v : V} (h : evalAt g sem ω cv views f id = some v) :
    ∃ f', f = f' + 1 ∧
      (getNode g id = some .constant ∧ v = cv id ∨
       getNode g id = some .value ∧ views.lookup id = some v ∨
       getNode g id = some .value ∧ views.lookup id = none ∧ ∃ p op args outs,
         getSource g id = some (p, op) ∧
         gather (evalAt g sem ω cv views f') (opDeps g op) = some args ∧
         sem ω p args = some outs ∧ ¬ outs.length < op.outputs.length ∧
         (zipOuts op.outputs outs).reverse.lookup id = some v) := by
  revert h
  fun_cases evalAt g sem ω cv views f id
  case case2 f' hn => exact fun h => ⟨f', rfl, .inl ⟨hn, (Option.some.inj h).symm⟩⟩
  case case3 f' w hn hl => exact fun h => ⟨f', rfl, .inr (.inl ⟨hn, hl.trans h⟩)⟩
  case case8 f' p op args hg outs hsem hlen hn hl hs =>
    exact fun h => ⟨f', rfl, .inr (.inr ⟨hn, hl, p, op, args, outs, hs, hg, hsem, hlen, h⟩)⟩
  -- the other six leaves return `none`
  all_goals exact fun h => nomatch h

theorem evalAt_succ : ∀ (f id : Nat) (v : V),
    evalAt g sem ω cv views f id = some v → evalAt g sem ω cv views (f + 1) id = some v := by
  intro f
  induction f with
  | zero => intro id v h; cases h
  | succ f ih =>
    intro id v h
    obtain ⟨_, hf, h⟩ := evalAt_inv h
    cases hf
    rcases h with ⟨hn, rfl⟩ | ⟨hn, hl⟩ | ⟨hn, hl, p, op, args, outs, hs, hg, hsem, hlen, hv⟩
    · exact evalAt_const hn
    · exact evalAt_view hn hl
    · rw [evalAt_op hn hl hs (gather_mono (fun d _ => ih d) hg) hsem hlen]
      exact hv

theorem evalAt_le {f f' : Nat} (hle : f ≤ f') {id : Nat} {v : V}
    (h : evalAt g sem ω cv views f id = some v) : evalAt g sem ω cv views f' id = some v := by
  induction hle with
  | refl => exact h
  | step _ ih => exact evalAt_succ _ _ _ ih

variable (g sem ω cv views)

/-- `v` is the value of `id` in the naive full evaluation of the graph on the supplied
values `views` (for a budget large enough). -/
def Den (id : Nat) (v : V) : Prop := ∃ f, evalAt g sem ω cv views f id = some v

/-- The naive evaluation assigns at most one value to an id. -/
theorem Den.unique {id : Nat} {v w : V} (h1 : Den g sem ω cv views id v)
    (h2 : Den g sem ω cv views id w) : v = w := by
  obtain ⟨f1, h1⟩ := h1
  obtain ⟨f2, h2⟩ := h2
  have a := evalAt_le (Nat.le_max_left f1 f2) h1
  have b := evalAt_le (Nat.le_max_right f1 f2) h2
  rw [a] at b
  injection b

variable {g sem ω cv views}

theorem gather_den {lk : Nat → Option V} :
    ∀ (ds : List Nat) (args : List V), (∀ d ∈ ds, ∀ v, lk d = some v → Den g sem ω cv views d v) →
      gather lk ds = some args → ∃ F, gather (evalAt g sem ω cv views F) ds = some args := by
  intro ds
  induction ds with
  | nil => exact fun args _ h => ⟨0, h⟩
  | cons d ds ih =>
    intro args hm h
    obtain ⟨v, vs, hd, hg, rfl⟩ := gather_cons.mp h
    obtain ⟨f1, h1⟩ := hm d List.mem_cons_self v hd
    obtain ⟨f2, h2⟩ := ih vs (fun d' hd' => hm d' (List.mem_cons_of_mem _ hd')) hg
    exact ⟨max f1 f2, gather_cons.mpr ⟨v, vs,
      evalAt_le (Nat.le_max_left f1 f2) h1,
      gather_mono (fun d' _ v' => evalAt_le (Nat.le_max_right f1 f2)) h2, rfl⟩⟩

variable (g sem ω cv views) in
/-- Operator `p` is evaluated by the naive evaluation with budget `f` for its dependencies. -/
def OpEval (f p : Nat) : Prop :=
  ∃ op args outs, getOp g p = some op ∧
    gather (evalAt g sem ω cv views f) (opDeps g op) = some args ∧
    sem ω p args = some outs ∧ ¬ outs.length < op.outputs.length

theorem evalAt_unresolved {f d : Nat} {w : V} (h : evalAt g sem ω cv views f d = some w)
    (hr : rContains g (views.map (fun p => p.1)) d = false) :
    ∃ f' p pop, f = f' + 1 ∧ getSource g d = some (p, pop) ∧ OpEval g sem ω cv views f' p := by
  obtain ⟨hr1, hr2⟩ := Bool.or_eq_false_iff.mp hr
  obtain ⟨f', hf, h⟩ := evalAt_inv h
  rcases h with ⟨hn, -⟩ | ⟨-, hl⟩ | ⟨-, -, p, op, args, outs, hs, hg, hsem, hlen, -⟩
  · rw [isConstant_iff.mpr hn] at hr2; cases hr2
  · rw [List.contains_iff_mem.mpr (mem_keys_iff_lookup.mpr ⟨w, hl⟩)] at hr1; cases hr1
  · exact ⟨f', p, op, hf, hs, op, args, outs, (getSource_spec hs).2.1, hg, hsem, hlen⟩

theorem OpEval.dep {f x : Nat} (h : OpEval g sem ω cv views f x) {xop : OpNode}
    (hx : getOp g x = some xop) {d : Nat} (hd : d ∈ opDeps g xop) :
    ∃ w, evalAt g sem ω cv views f d = some w := by
  obtain ⟨op, args, outs, hop, hg, -, -⟩ := h
  cases hx.symm.trans hop
  exact gather_lookup_some hg d hd

end

end RtenVerif.PartialRun
