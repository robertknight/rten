import RtenVerif.Model.Poly

/-!
Lemmas for C35 (`RtenVerif.Model.Poly`): the pivot fold, the `Spans` specification and its
composition lemma, and Douglas–Peucker in one fuel induction (`dpInternal_spec`) with the fuel-free
statements `simplifyPolyline_spec`, `simplifyPolygon_spec` that follow from it.
-/
namespace RtenVerif.Poly

variable {P D : Type}

/-- The properties of the float comparisons `>=`, `>` that the Douglas–Peucker argument
uses.  They hold for IEEE comparisons *including NaN* (`ge a a` = "`a` is not NaN"), for any
linear order, and for `Option Nat` with `none` as NaN (`natCmp_laws` in `Props/C35`). -/
structure Cmp.Laws (c : Cmp D) : Prop where
  ge_total : ∀ a b, c.ge a a = true → c.ge b b = true → c.ge a b = true ∨ c.ge b a = true
  ge_trans : ∀ a b d, c.ge a b = true → c.ge b d = true → c.ge a d = true
  ge_left : ∀ a b, c.ge a b = true → c.ge a a = true
  gt_num : ∀ a e, c.gt a e = true → c.ge a a = true
  gt_mono : ∀ a b e, c.gt a e = true → c.ge b a = true → c.gt b e = true
  ge_not_gt : ∀ a e, c.ge e a = true → c.gt a e = false
  zero_num : c.ge c.zero c.zero = true

theorem pivot_spec (c : Cmp D) (h : c.Laws) (dist : P → D) :
    ∀ (l : List P) (i : Nat) (acc : Nat × D), c.ge acc.2 acc.2 = true →
      c.ge (pivot c dist l i acc).2 acc.2 = true ∧
      (∀ p ∈ l, c.ge (dist p) (dist p) = true → c.ge (pivot c dist l i acc).2 (dist p) = true) ∧
      (pivot c dist l i acc = acc ∨
        (i < (pivot c dist l i acc).1 ∧ (pivot c dist l i acc).1 ≤ i + l.length)) := by
  intro l
  induction l with
  | nil => intro i acc hacc; exact ⟨hacc, fun _ hp => (nomatch hp), .inl rfl⟩
  | cons p ps ih =>
    intro i acc hacc
    simp only [pivot]
    by_cases hge : c.ge (dist p) acc.2 = true
    · simp only [hge, if_true]
      obtain ⟨h2, h3, h4⟩ := ih (i + 1) (i + 1, dist p) (h.ge_left _ _ hge)
      refine ⟨h.ge_trans _ _ _ h2 hge, ?_, .inr ?_⟩
      · intro q hq hqn
        rcases List.mem_cons.mp hq with rfl | hq
        · exact h2
        · exact h3 q hq hqn
      · rcases h4 with h4 | h4
        · rw [h4]; simp only [List.length_cons]; omega
        · simp only [List.length_cons]; omega
    · rw [if_neg hge]
      obtain ⟨h2, h3, h4⟩ := ih (i + 1) acc hacc
      refine ⟨h2, ?_, ?_⟩
      · intro q hq hqn
        rcases List.mem_cons.mp hq with rfl | hq
        · exact h.ge_trans _ _ _ h2 ((h.ge_total _ _ hqn hacc).resolve_left hge)
        · exact h3 q hq hqn
      · rcases h4 with h4 | h4
        · exact .inl h4
        · exact .inr (by simp only [List.length_cons]; omega)

theorem pivot_within (c : Cmp D) (h : c.Laws) (dist : P → D) (eps : D) (l : List P)
    (hm : c.gt (pivot c dist l 0 (0, c.zero)).2 eps = false) :
    ∀ p ∈ l, c.gt (dist p) eps = false := by
  intro p hp
  obtain ⟨_, h3, _⟩ := pivot_spec c h dist l 0 (0, c.zero) h.zero_num
  cases hg : c.gt (dist p) eps with
  | false => rfl
  | true =>
    have := h.gt_mono _ _ _ hg (h3 p hp (h.gt_num _ _ hg))
    rw [hm] at this; cases this

theorem pivot_index (c : Cmp D) (h : c.Laws) (dist : P → D) (eps : D) (l : List P)
    (heps : c.ge eps c.zero = true)
    (hm : c.gt (pivot c dist l 0 (0, c.zero)).2 eps = true) :
    0 < (pivot c dist l 0 (0, c.zero)).1 ∧ (pivot c dist l 0 (0, c.zero)).1 ≤ l.length := by
  obtain ⟨_, _, h4⟩ := pivot_spec c h dist l 0 (0, c.zero) h.zero_num
  rcases h4 with h4 | h4
  · rw [h4, h.ge_not_gt _ _ heps] at hm
    cases hm
  · omega

/-- `Spans within inp out`: `out` arises from the polyline `inp` by deleting runs of interior
points, each deleted point `p` satisfying `within a b p` for the kept segment `a → b` that
spans it.  First and last point are kept. -/
inductive Spans (within : P → P → P → Prop) : List P → List P → Prop
  | single (a : P) : Spans within [a] [a]
  | seg (a b : P) (mid rest out : List P) :
      (∀ p ∈ mid, within a b p) → Spans within (b :: rest) (b :: out) →
      Spans within (a :: (mid ++ b :: rest)) (a :: b :: out)

theorem getLast?_cons_append_cons (a b : P) (mid rest : List P) :
    (a :: (mid ++ b :: rest)).getLast? = (b :: rest).getLast? := by
  rw [← List.cons_append, List.getLast?_append]
  cases h : (b :: rest).getLast? with
  | none => simp at h
  | some x => simp

theorem Spans.head {within : P → P → P → Prop} {b : P} {rest out : List P}
    (h : Spans within (b :: rest) out) : ∃ out', out = b :: out' := by
  cases h with
  | single => exact ⟨[], rfl⟩
  | seg a b' mid rest' out' _ _ => exact ⟨_, rfl⟩

theorem Spans.two {within : P → P → P → Prop} {inp out : List P}
    (h : Spans within inp out) (h2 : 2 ≤ inp.length) :
    ∃ a c out', out = a :: c :: out' ∧ inp.head? = some a := by
  cases h with
  | single a => simp at h2
  | seg a' b' mid rest' out' _ _ => exact ⟨_, _, _, rfl, rfl⟩

theorem Spans.sublist {within : P → P → P → Prop} {inp out : List P}
    (h : Spans within inp out) : out.Sublist inp := by
  induction h with
  | single a => exact List.Sublist.refl _
  | seg a b mid rest out _ _ ih =>
    exact List.Sublist.cons_cons a ((ih.trans (List.sublist_append_right mid (b :: rest))))

theorem Spans.getLast? {within : P → P → P → Prop} {inp out : List P}
    (h : Spans within inp out) : out.getLast? = inp.getLast? := by
  induction h with
  | single a => rfl
  | seg a b mid rest out _ _ ih =>
    rw [List.getLast?_cons_cons, ih, getLast?_cons_append_cons]

/-- Composition at a shared pivot `m`: `xs` ends with `m`, the second polyline starts with it. -/
theorem Spans.append {within : P → P → P → Prop} {xs o1 : List P}
    (h1 : Spans within xs o1) :
    ∀ {m : P} {ys o2 : List P}, xs.getLast? = some m → Spans within (m :: ys) o2 →
      Spans within (xs ++ ys) (o1.dropLast ++ o2) := by
  induction h1 with
  | single a =>
    intro m ys o2 hl h2
    simp at hl; subst hl
    simpa using h2
  | seg a b mid rest out hw _ ih =>
    intro m ys o2 hl h2
    have hl' : (b :: rest).getLast? = some m := by
      rw [← getLast?_cons_append_cons a b mid rest]; exact hl
    have h3 := ih hl' h2
    obtain ⟨L, hL⟩ := Spans.head (by simpa using h3)
    have e1 : (a :: b :: out).dropLast = a :: (b :: out).dropLast := rfl
    have e2 : a :: (mid ++ b :: rest) ++ ys = a :: (mid ++ b :: (rest ++ ys)) := by simp
    have e3 : (a :: b :: out).dropLast ++ o2 = a :: b :: L := by
      rw [e1, List.cons_append, hL]
    rw [e2, e3]
    refine Spans.seg a b mid (rest ++ ys) L hw ?_
    rw [← hL]; simpa using h3

theorem dropLast_concat_getLastD (a : P) (rest : List P) (h : rest ≠ []) :
    rest.dropLast ++ [rest.getLastD a] = rest := by
  rw [List.getLastD_eq_getLast?, List.getLast?_eq_some_getLast h, Option.getD_some,
    List.dropLast_concat_getLast]

/-- "`p` is not farther than `eps` from the segment `a → b`", as the code tests it. -/
def Within (c : Cmp D) (dist : P → P → P → D) (eps : D) (a b p : P) : Prop :=
  c.gt (dist a b p) eps = false

/-- Termination and specification in one fuel induction.  Both recursive calls are again on
polylines of at least two points (`1 ≤ m ≤ |inner|`), so the cases `[]`, `[p]` never arise. -/
theorem dpInternal_spec (c : Cmp D) (h : c.Laws) (dist : P → P → P → D) (eps : D)
    (heps : c.ge eps c.zero = true) :
    ∀ (fuel : Nat) (pts : List P) (k : Bool) (z : P), pts.length < fuel → 2 ≤ pts.length →
      pts.getLast? = some z →
      ∃ out, dpInternal c dist eps fuel pts k = some out ∧
        Spans (Within c dist eps) pts (if k then out else out ++ [z]) := by
  intro fuel
  induction fuel with
  | zero => intro pts k z hf; omega
  | succ fuel ih =>
    intro pts k z hf hlen hz
    match pts, hlen with
    | a :: b0 :: rest0, _ =>
      simp only [dpInternal]
      have hrest := dropLast_concat_getLastD a (b0 :: rest0) (by simp)
      generalize (b0 :: rest0).getLastD a = b at hrest ⊢
      generalize (b0 :: rest0).dropLast = inner at hrest ⊢
      have hlast : (a :: b0 :: rest0).getLast? = some b := by
        rw [← hrest]; exact getLast?_cons_append_cons a b inner []
      obtain rfl : b = z := Option.some.inj (hlast.symm.trans hz)
      have hlen : (a :: b0 :: rest0).length = inner.length + 2 := by
        rw [← hrest]; simp
      split
      · rename_i hgt
        have hidx := pivot_index c h _ eps _ heps hgt
        generalize (pivot c (dist a b) inner 0 (0, c.zero)).1 = m at hidx ⊢
        generalize a :: b0 :: rest0 = pts at hlen hlast hf ⊢
        have hmlt : m < pts.length := by omega
        -- the pivot `pts[m]` ends the left part and starts the right part
        have htk : (pts.take (m + 1)).getLast? = some pts[m] := by
          rw [List.getLast?_take]; simp [hmlt]
        obtain ⟨l, hl, hL⟩ := ih (pts.take (m + 1)) false pts[m]
          (by rw [List.length_take]; omega) (by rw [List.length_take]; omega) htk
        obtain ⟨r, hr, hR⟩ := ih (pts.drop m) k b (by rw [List.length_drop]; omega)
          (by rw [List.length_drop]; omega)
          (by rw [List.getLast?_drop, if_neg (by omega), hlast])
        rw [List.drop_eq_getElem_cons hmlt] at hR
        have := Spans.append hL htk hR
        rw [List.take_append_drop] at this
        refine ⟨l ++ r, by rw [hl, hr], ?_⟩
        cases k <;> simpa using this
      · rename_i hgt
        have hw := pivot_within c h (dist a b) eps inner (by simpa using hgt)
        have hS : Spans (Within c dist eps) (a :: (inner ++ b :: [])) (a :: b :: []) :=
          Spans.seg a b inner [] [] hw (Spans.single b)
        refine ⟨_, rfl, ?_⟩
        rw [← hrest]
        cases k <;> simpa using hS

theorem simplifyPolyline_spec (c : Cmp D) (h : c.Laws) (dist : P → P → P → D) (eps : D)
    (pts : List P) :
    (c.ge eps c.zero = false ∧ simplifyPolyline c dist eps pts = .panic) ∨
    (c.ge eps c.zero = true ∧ ∃ out, simplifyPolyline c dist eps pts = .ok out ∧
      (pts = [] ∧ out = [] ∨ Spans (Within c dist eps) pts out)) := by
  cases heps : c.ge eps c.zero with
  | false => exact .inl ⟨rfl, by simp [simplifyPolyline, heps]⟩
  | true =>
    refine .inr ⟨rfl, ?_⟩
    simp only [simplifyPolyline, heps, if_true]
    match pts with
    | [] => exact ⟨[], rfl, .inl ⟨rfl, rfl⟩⟩
    | [p] => exact ⟨[p], rfl, .inr (Spans.single p)⟩
    | a :: b :: rest =>
      obtain ⟨out, ho, hs⟩ := dpInternal_spec c h dist eps heps _ (a :: b :: rest) true _
        (Nat.lt_succ_self _) (by simp) (List.getLast?_eq_some_getLast (by simp))
      exact ⟨out, by rw [ho], .inr hs⟩

theorem simplifyPolyline_ok (c : Cmp D) (h : c.Laws) (dist : P → P → P → D) (eps : D)
    (pts out : List P) (hrun : simplifyPolyline c dist eps pts = .ok out) :
    c.ge eps c.zero = true ∧ (pts = [] ∧ out = [] ∨ Spans (Within c dist eps) pts out) := by
  rcases simplifyPolyline_spec c h dist eps pts with ⟨_, hp⟩ | ⟨he, o, ho, hs⟩
  · rw [hp] at hrun; cases hrun
  · rw [ho] at hrun; cases hrun; exact ⟨he, hs⟩

theorem Spans.ends {within : P → P → P → Prop} {a z : P} {rest out : List P}
    (h : Spans within (a :: rest ++ [z]) out) : ∃ o, out = a :: o ++ [z] ∧ o.Sublist rest := by
  obtain ⟨a', c', o', rfl, ha⟩ := h.two (by simp)
  cases ha
  obtain ⟨ys, hys⟩ := List.getLast?_eq_some_iff.mp
    ((List.getLast?_cons_cons.symm.trans h.getLast?).trans List.getLast?_concat)
  rw [hys] at h ⊢
  exact ⟨ys, rfl, (List.append_sublist_append_right [z]).mp (List.cons_sublist_cons.mp h.sublist)⟩

theorem simplifyPolygon_spec (c : Cmp D) (h : c.Laws) (dist : P → P → P → D) (eps : D)
    (a : P) (rest : List P) :
    (c.ge eps c.zero = false ∧ simplifyPolygon c dist eps (a :: rest) = .panic) ∨
    (c.ge eps c.zero = true ∧ ∃ o, simplifyPolygon c dist eps (a :: rest) = .ok (a :: o) ∧
      o.Sublist rest ∧ Spans (Within c dist eps) (a :: rest ++ [a]) (a :: o ++ [a])) := by
  simp only [simplifyPolygon]
  rcases simplifyPolyline_spec c h dist eps (a :: rest ++ [a]) with ⟨he, hp⟩ | ⟨he, o, ho, hs⟩
  · exact .inl ⟨he, by rw [hp]⟩
  · have hs := hs.resolve_left fun e => nomatch e.1
    obtain ⟨ys, rfl, hsub⟩ := hs.ends
    exact .inr ⟨he, ys, by rw [ho]; exact congrArg _ List.dropLast_concat, hsub, hs⟩

end RtenVerif.Poly
