import RtenVerif.Lemmas.ExecutorSim
/-!
# C02 — what `step_refines` is assembled from

The per-operator contract (`Contract`: `run_in_place` = `run` on the re-assembled inputs,
`FillsFrom`), the executor's input collection against the naive one (`inputs_sim`), and that
taking the in-place candidates never fails.
-/
namespace RtenVerif.Executor
open RtenVerif.Graph

/-- `full` is `ins` with every taken value put back at its position (`ins` has `none`
there). -/
inductive FillsFrom {V : Type} (taken : List (Nat × V)) :
    Nat → List (Option V) → List (Option V) → Prop
  | nil (pos : Nat) : FillsFrom taken pos [] []
  | keep {pos : Nat} {x : Option V} {xs ys : List (Option V)} :
      (∀ v, (pos, v) ∉ taken) → FillsFrom taken (pos + 1) xs ys →
      FillsFrom taken pos (x :: xs) (x :: ys)
  | put {pos : Nat} {v : V} {xs ys : List (Option V)} :
      (pos, v) ∈ taken → FillsFrom taken (pos + 1) xs ys →
      FillsFrom taken pos (none :: xs) (some v :: ys)

/-- The per-operator contract the executor relies on (discharged operator by operator by
the differential check of C13: `run_in_place` on an owned copy of the designated input, and
for commutative operators on either operand, is bit-identical to `run`). -/
structure Contract {V : Type} (ops : Ops V) (g : Graph) : Prop where
  /-- `in_place_inputs()` is a bit set: no position twice -/
  idxNodup : ∀ i, (ops.inPlaceIdx i).Nodup
  /-- operators with subgraphs (`If`, `Loop`) do not run in place -/
  notSub : ∀ i, ops.inPlaceIdx i ≠ [] → ops.isSubgraph i = false
  /-- `run_in_place` on the taken `(pos, value)`s — distinct positions, each of them a `None`
  placeholder of `ins`, exactly one of them for a commutative operator (the real commutative
  operators call `InPlaceInputs::into_single`) — equals `run` on the list with the values put
  back. -/
  inPlace : ∀ i op, getOp g i = some op → ∀ taken ins full, taken ≠ [] →
    (taken.map (fun t => t.1)).Nodup →
    (∀ p v, (p, v) ∈ taken → ins[p]? = some none) →
    (op.commutative = true → taken.length = 1) →
    (∀ p ∈ taken.map (fun t => t.1), p ∈ ops.inPlaceIdx i ∨ op.commutative = true) →
    FillsFrom taken 0 ins full → ops.runInPlace i taken ins = ops.run i full []

theorem FillsFrom.nil_taken {V : Type} {pos : Nat} {ins full : List (Option V)}
    (h : FillsFrom ([] : List (Nat × V)) pos ins full) : ins = full := by
  induction h with
  | nil => rfl
  | keep _ _ ih => rw [ih]
  | put hm _ _ => simp at hm

theorem FillsFrom.none_at {V : Type} {taken : List (Nat × V)} {pos : Nat} {ins full : List (Option V)}
    (h : FillsFrom taken pos ins full) :
    ∀ k v, (pos + k, v) ∈ taken → k < ins.length → ins[k]? = some none := by
  induction h with
  | nil => intro k v _ hk; simp at hk
  | @keep p0 _ _ _ hkeep _ ih =>
    intro k v hm hk
    cases k with
    | zero => exact absurd hm (hkeep v)
    | succ k =>
      simp only [List.getElem?_cons_succ]
      apply ih k v
      · have : p0 + 1 + k = p0 + (k + 1) := by omega
        rw [this]; exact hm
      · simpa using hk
  | @put p0 _ _ _ _ _ ih =>
    intro k v hm hk
    cases k with
    | zero => rfl
    | succ k =>
      simp only [List.getElem?_cons_succ]
      apply ih k v
      · have : p0 + 1 + k = p0 + (k + 1) := by omega
        rw [this]; exact hm
      · simpa using hk

theorem collectInputs_length {V : Type} (r : Run V) (st : St V) (tp : List Nat) :
    ∀ (l : List (Option Nat)) (pos : Nat) (ins : List (Option V)),
      collectInputs r st tp l pos = some ins → ins.length = l.length := by
  intro l
  induction l with
  | nil => intro pos ins h; cases h; rfl
  | cons oid rest ih =>
    intro pos ins h
    have key : ∀ x : Option V,
        (collectInputs r st tp rest (pos + 1)).map (fun l => x :: l) = some ins →
        ins.length = (oid :: rest).length := by
      intro x hx
      obtain ⟨tl, hc, rfl⟩ := Option.map_eq_some_iff.mp hx
      rw [List.length_cons, List.length_cons, ih (pos + 1) tl hc]
    simp only [collectInputs] at h
    split at h
    · exact key none h
    · split at h
      · exact key none h
      · split at h
        · cases h
        · exact key _ h

theorem inputs_sim {V : Type} (r : Run V) (lk : Nat → Option V) (st2 : St V)
    (taken : List (Nat × V)) (op : OpNode)
    (HT : ∀ p v, (p, v) ∈ taken → ∃ id, op.inputs[p]? = some (some id) ∧ lk id = some v)
    (HN : ∀ p id, p ∉ taken.map (fun t => t.1) → op.inputs[p]? = some (some id) →
      lookupInput r st2 id = lk id) :
    ∀ (l : List (Option Nat)) (pos : Nat), (∀ k, l[k]? = op.inputs[pos + k]?) →
      match collectInputs r st2 (taken.map (fun t => t.1)) l pos with
      | none => naiveInputs (lk) l = none
      | some ins => ∃ full, naiveInputs (lk) l = some full ∧ FillsFrom taken pos ins full := by
  intro l
  induction l with
  | nil => intro pos _; exact ⟨[], rfl, .nil pos⟩
  | cons oid rest ih =>
    intro pos hl
    have h0 : op.inputs[pos]? = some oid := by have := hl 0; simpa using this.symm
    have IH := ih (pos + 1) (fun k => by
      have := hl (k + 1)
      rw [List.getElem?_cons_succ] at this
      rw [this]; congr 1; omega)
    -- the head puts `x` in front of the executor's list and `y` in front of the naive one
    have key : ∀ x y : Option V,
        naiveInputs lk (oid :: rest) = (naiveInputs lk rest).map (fun l => y :: l) →
        (∀ ins full, FillsFrom taken (pos + 1) ins full → FillsFrom taken pos (x :: ins) (y :: full)) →
        match (collectInputs r st2 (taken.map (fun t => t.1)) rest (pos + 1)).map (fun l => x :: l) with
        | none => naiveInputs lk (oid :: rest) = none
        | some ins => ∃ full, naiveInputs lk (oid :: rest) = some full ∧
            FillsFrom taken pos ins full := by
      intro x y hn hfill
      cases hci : collectInputs r st2 (taken.map (fun t => t.1)) rest (pos + 1) with
      | none => rw [hci] at IH; rw [hn, IH]; rfl
      | some ins =>
        rw [hci] at IH
        obtain ⟨full, hf, hfl⟩ := IH
        exact ⟨y :: full, by rw [hn, hf]; rfl, hfill ins full hfl⟩
    simp only [collectInputs]
    by_cases hc : (taken.map (fun t => t.1)).contains pos = true
    · rw [if_pos hc]
      rw [List.contains_eq_mem, decide_eq_true_eq, List.mem_map] at hc
      obtain ⟨⟨p, v⟩, hm, rfl⟩ := hc
      obtain ⟨id, hid, hval⟩ := HT p v hm
      rw [h0] at hid; cases hid
      exact key none (some v) (by simp only [naiveInputs, hval]) (fun _ _ h => .put hm h)
    · rw [if_neg hc]
      have hnot : pos ∉ taken.map (fun t => t.1) := fun hm =>
        hc (by rw [List.contains_eq_mem, decide_eq_true_eq]; exact hm)
      have hkeep : ∀ v, (pos, v) ∉ taken := fun v hm => hnot (List.mem_map.mpr ⟨(pos, v), hm, rfl⟩)
      cases oid with
      | none => exact key none none rfl (fun _ _ h => .keep hkeep h)
      | some id =>
        simp only [HN pos id hnot h0]
        cases hv : lk id with
        | none => simp only [naiveInputs, hv]
        | some v =>
          exact key (some v) (some v) (by simp only [naiveInputs, hv]) (fun _ _ h => .keep hkeep h)

theorem takeAll_succeeds {V : Type} (r : Run V) (st : St V) (cs : List (Nat × Nat))
    (h : ∀ c ∈ cs, st.rc c.2 = 1 ∧ st.temps c.2 ≠ none) (hnd : (cs.map (fun c => c.2)).Nodup) :
    takeAll r st cs ≠ none := by
  induction cs generalizing st with
  | nil => simp [takeAll]
  | cons c cs ih =>
    obtain ⟨pos, id⟩ := c
    obtain ⟨hrc, hne⟩ := h (pos, id) List.mem_cons_self
    simp only at hrc hne
    cases ht : st.temps id with
    | none => exact absurd ht hne
    | some v =>
      have htv : takeValue r st id = ({ st with temps := upd st.temps id none }, some v) := by
        simp [takeValue, hrc, ht]
      simp only [takeAll, htv]
      simp only [List.map_cons, List.nodup_cons] at hnd
      have := ih { st with temps := upd st.temps id none } (by
        intro c hc
        obtain ⟨h1, h2⟩ := h c (List.mem_cons_of_mem _ hc)
        refine ⟨h1, ?_⟩
        have hne' : c.2 ≠ id := by
          rintro heq
          exact hnd.1 (List.mem_map.mpr ⟨c, hc, heq⟩)
        simpa [upd_apply, hne'] using h2) hnd.2
      cases hta : takeAll r { st with temps := upd st.temps id none } cs with
      | none => exact absurd hta this
      | some p => simp

theorem nodup_snd_of_fst {l : List (Nat × Nat)} (h1 : (l.map (fun c => c.1)).Nodup)
    (h2 : ∀ a ∈ l, ∀ b ∈ l, a.2 = b.2 → a.1 = b.1) : (l.map (fun c => c.2)).Nodup := by
  induction l with
  | nil => simp
  | cons a l ih =>
    simp only [List.map_cons, List.nodup_cons] at h1 ⊢
    refine ⟨?_, ih h1.2 (fun x hx y hy => h2 x (List.mem_cons_of_mem _ hx) y (List.mem_cons_of_mem _ hy))⟩
    intro hm
    rw [List.mem_map] at hm
    obtain ⟨b, hb, hbe⟩ := hm
    have := h2 a List.mem_cons_self b (List.mem_cons_of_mem _ hb) hbe.symm
    exact h1.1 (List.mem_map.mpr ⟨b, hb, this.symm⟩)

theorem filterMap_fst_nodup {idx : List Nat} (f : Nat → Option (Nat × Nat))
    (hf : ∀ pos c, f pos = some c → c.1 = pos) (h : idx.Nodup) :
    ((idx.filterMap f).map (fun c => c.1)).Nodup := by
  induction idx with
  | nil => simp
  | cons p idx ih =>
    simp only [List.nodup_cons] at h
    simp only [List.filterMap_cons]
    cases hp : f p with
    | none => exact ih h.2
    | some c =>
      simp only [List.map_cons, List.nodup_cons]
      refine ⟨?_, ih h.2⟩
      intro hm
      rw [List.mem_map] at hm
      obtain ⟨d, hd, hde⟩ := hm
      rw [List.mem_filterMap] at hd
      obtain ⟨q, hq, hfq⟩ := hd
      have := hf q d hfq
      have h2 := hf p c hp
      rw [h2] at hde
      rw [← this, hde] at hq
      exact h.1 hq

theorem candidates_comm_length {V : Type} {ops : Ops V} (i : Nat) (op : OpNode) (temps : Nat → Option V)
    (h : op.commutative = true) : (candidates ops i op temps).length ≤ 1 := by
  unfold candidates
  split
  · simp
  · split <;> simp

theorem candidates_fst_nodup {V : Type} {ops : Ops V} (i : Nat) (op : OpNode) (temps : Nat → Option V)
    (h : (ops.inPlaceIdx i).Nodup) : ((candidates ops i op temps).map (fun c => c.1)).Nodup := by
  unfold candidates
  split
  · simp
  · split
    · split <;> simp
    · apply filterMap_fst_nodup _ _ h
      intro pos c hc
      split at hc
      · simp only [Option.some.injEq] at hc; rw [← hc]
      · simp at hc

theorem Sim.count_le_one {V : Type} {r : Run V} {caps0 : Nat → Option (V × Bool)} {total : Nat → Nat}
    {i : Nat} {rest outs : List Nat}
    {st : St V} {E : Nat → Option V} (hs : Sim r caps0 total (i :: rest) outs st E) {op : OpNode}
    (hop : getOp r.g i = some op) {d : Nat} (hrc : st.rc d = 1) (hne : st.temps d ≠ none) :
    (opDeps r.g op).count d ≤ 1 := by
  cases ht : st.temps d with
  | none => exact absurd ht hne
  | some x =>
    have := hs.rc.one hop (hs.agree d x ht).1 hrc
    omega

theorem canTake_noTake {V : Type} {r : Run V} {st : St V} (hc : NoTake st) {id : Nat}
    (h : canTake r st id = true) : st.rc id = 1 ∧ st.temps id ≠ none := by
  have hcap : capTakeable st id = false := by
    unfold capTakeable
    cases hs : st.caps id with
    | none => rfl
    | some p =>
      obtain ⟨x, b⟩ := p
      have := hc id x b hs
      subst this; rfl
  unfold canTake at h
  rw [hcap] at h
  simp only [Bool.and_false, Bool.or_false, Bool.and_eq_true, beq_iff_eq,
    Option.isSome_iff_ne_none] at h
  exact ⟨h.1, h.2⟩

/-- From a `Sim` state the take phase never panics: the candidates that `run_in_place`
approved sit in `temp_values` with count 1, and exact counts make their ids distinct. -/
theorem Sim.take_succeeds {V : Type} {ops : Ops V} {r : Run V} {caps0 : Nat → Option (V × Bool)}
    {total : Nat → Nat} {i : Nat} {rest outs : List Nat} {st : St V} {E : Nat → Option V}
    (hs : Sim r caps0 total (i :: rest) outs st E) (hcw : CapsWF r caps0) (hct : Contract ops r.g)
    {op : OpNode} (hop : getOp r.g i = some op) :
    ∃ st1 taken, (if (!(candidates ops i op st.temps).isEmpty &&
      (candidates ops i op st.temps).all (fun c => canTake r st c.2) && !r.neverInPlace) = true
      then takeAll r st (candidates ops i op st.temps) else some (st, [])) = some (st1, taken) := by
  by_cases hcond : (!(candidates ops i op st.temps).isEmpty &&
      (candidates ops i op st.temps).all (fun c => canTake r st c.2) && !r.neverInPlace) = true
  · rw [if_pos hcond]
    simp only [Bool.and_eq_true, List.all_eq_true] at hcond
    have hall : ∀ c ∈ candidates ops i op st.temps, st.rc c.2 = 1 ∧ st.temps c.2 ≠ none :=
      fun c hc => canTake_noTake (hs.noTake hcw) (hcond.1.2 c hc)
    have hnd : ((candidates ops i op st.temps).map (fun c => c.2)).Nodup := by
      apply nodup_snd_of_fst (candidates_fst_nodup i op st.temps (hct.idxNodup i))
      intro a ha b hb hab
      apply Classical.byContradiction
      intro hne
      have := count_two_deps r.g (candidates_spec ha).1 (hab ▸ (candidates_spec hb).1) hne
      have := hs.count_le_one hop (hall a ha).1 (hall a ha).2
      omega
    cases hta : takeAll r st (candidates ops i op st.temps) with
    | none => exact absurd hta (takeAll_succeeds r st _ hall hnd)
    | some p => exact ⟨p.1, p.2, rfl⟩
  · rw [if_neg hcond]; exact ⟨st, [], rfl⟩

end RtenVerif.Executor
