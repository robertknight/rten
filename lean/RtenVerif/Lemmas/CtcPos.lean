import RtenVerif.Lemmas.CtcBound

/-! C39 (F): over `natOps` some extension has non-zero probability when the row has a positive
entry and the first beam state has positive probability. -/
namespace RtenVerif.Ctc

/-- Iteration `(0, l)` spreads `row[l] * (pb + pnb)` over its target cell and cell `(0, 0)`, both
of which are candidates; for `l = 0` the same amount goes to cell `(0, 0)` of the blank table. -/
theorem exists_nonzero_candidate (L : Nat) (beam : List (BState Nat)) (row : List Nat)
    (s : BState Nat) (hs : beam[0]? = some s) (hpos : 0 < s.pb + s.pnb)
    (l : Nat) (hl : l < L) (hrow : 0 < row.getD l 0) :
    ∃ c ∈ candidates natOps L beam.length (extendAll natOps L beam row),
      natOps.isZero c.prob = false := by
  have hlen : 0 < beam.length := (List.getElem?_eq_some_iff.mp hs).1
  suffices h : ∃ i j, i < beam.length ∧ j < L ∧
      0 < (extendAll natOps L beam row).nb i j + (extendAll natOps L beam row).nnb i j by
    obtain ⟨i, j, hi, hj, hp⟩ := h
    exact ⟨_, mem_candidates_of natOps L beam.length _ i j hi hj,
      by simpa [natOps] using Nat.ne_of_gt hp⟩
  by_cases hl0 : l = 0
  · subst hl0
    refine ⟨0, 0, hlen, hl, ?_⟩
    rw [nb_cell L beam row 0 s hs]
    exact Nat.lt_of_lt_of_le (Nat.mul_pos hrow hpos) (Nat.le_add_right _ _)
  · have hle := parts_le_nnb L beam row 0 s hs l hl0 hl 0 s hs l hl0 hl
    by_cases hv : 0 < extVal row s l
    · have hc : (extCell beam s.pre 0 l).1 < beam.length ∧ (extCell beam s.pre 0 l).2 < L := by
        cases hmt : mergeTarget beam s.pre l with
        | some ti => rw [extCell_some hmt]; exact ⟨mergeTarget_lt beam _ _ _ hmt, by omega⟩
        | none => rw [extCell_none hmt]; exact ⟨hlen, hl⟩
      refine ⟨_, _, hc.1, hc.2, ?_⟩
      have := hle (extCell beam s.pre 0 l).1 (extCell beam s.pre 0 l).2
      rw [cExt, if_pos ⟨rfl, rfl⟩] at this
      omega
    · refine ⟨0, 0, hlen, by omega, ?_⟩
      have hz := Nat.eq_zero_of_not_pos hv
      rw [extVal, Nat.mul_eq_zero] at hz
      have hlast : (labels s.pre).getLast? = some l := Decidable.by_contra fun hne => by
        rw [if_neg hne] at hz; omega
      have := hle 0 0
      rw [cRep, if_pos ⟨hlast, rfl, rfl⟩] at this
      rw [if_pos hlast] at hz
      have : 0 < row.getD l 0 * s.pnb := Nat.mul_pos hrow (by omega)
      omega

end RtenVerif.Ctc
