import RtenVerif.Lemmas.SymList

/-! The list passes of `remove_common_factors` (cancel matching factors, divide the two constants by their
gcd) take a common factor out of both products; `rcf_ind` is the case analysis of `rcf`.  That `rcf` keeps the
truncated quotient and the side conditions (`rcf_full`) is in `SymWF` (C11). -/
namespace RtenVerif.Sym

section passes
variable {σ : Env} {R : SymExpr → Int → Prop} (hR : ∀ t v, R t v → ev σ t = .ok v)
include hR

theorem removeFirst_spec {t : SymExpr} {tv : Int} (ht : ev σ t = .ok tv) :
    ∀ {rt rt' : List SymExpr} {rvs : List Int}, removeFirst t rt = some rt' →
      Vals R rt rvs → ∃ rvs', Vals R rt' rvs' ∧ prodL rvs = tv * prodL rvs'
  | [], _, _, h, _ => by cases h
  | u :: us, rt', _, h, .cons hu hus => by
    simp only [removeFirst] at h
    split at h
    · rename_i hb
      cases h; cases beq_ev_eq hb ht (hR _ _ hu)
      exact ⟨_, hus, prodL_cons ..⟩
    · split at h <;> cases h
      rename_i ts' hts'
      obtain ⟨rvs', hrvs', hp⟩ := removeFirst_spec ht hts' hus
      refine ⟨_ :: rvs', .cons hu hrvs', ?_⟩
      rw [prodL_cons, prodL_cons, hp, Int.mul_left_comm]

theorem cancel_spec :
    ∀ {lt rt : List SymExpr} {lvs rvs : List Int}, Vals R lt lvs → Vals R rt rvs →
      ∃ lvs' rvs' k, Vals R (cancel lt rt).1 lvs' ∧ Vals R (cancel lt rt).2 rvs' ∧
        prodL lvs = k * prodL lvs' ∧ prodL rvs = k * prodL rvs'
  | [], _, _, rvs, .nil, hr => ⟨[], rvs, 1, .nil, hr, (Int.one_mul _).symm, (Int.one_mul _).symm⟩
  | t :: lt, rt, _, rvs, .cons ht hl1, hr => by
    simp only [cancel]
    split
    · rename_i rt' hrt'
      obtain ⟨rvs1, hrvs1, hp⟩ := removeFirst_spec hR (hR _ _ ht) hrt' hr
      obtain ⟨lvs', rvs', k, h1, h2, h3, h4⟩ := cancel_spec hl1 hrvs1
      exact ⟨lvs', rvs', _ * k, h1, h2, by rw [prodL_cons, h3, Int.mul_assoc],
        by rw [hp, h4, Int.mul_assoc]⟩
    · obtain ⟨lvs', rvs', k, h1, h2, h3, h4⟩ := cancel_spec hl1 hr
      exact ⟨_ :: lvs', rvs', k, .cons ht h1, h2,
        by rw [prodL_cons, prodL_cons, h3, Int.mul_left_comm], h4⟩

theorem setFirstVal_spec (hval : ∀ c, R (.value c) c) {c c' : Int} :
    ∀ {ts : List SymExpr} {vs : List Int}, firstVal ts = some c → Vals R ts vs →
      ∃ vs' m, Vals R (setFirstVal c' ts) vs' ∧ prodL vs = c * m ∧ prodL vs' = c' * m
  | [], _, h, _ => by cases h
  | t :: ts, _, h, .cons (v := tv) (vs := tvs) ht hts => by
    cases t
    case value x =>
      cases h; cases ev_value.mp (hR _ _ ht)
      exact ⟨c' :: tvs, prodL tvs, .cons (hval c') hts, prodL_cons .., prodL_cons ..⟩
    all_goals
      obtain ⟨vs', m, h1, h2, h3⟩ := setFirstVal_spec hval (ts := ts) h hts
      exact ⟨tv :: vs', tv * m, .cons ht h1,
        by rw [prodL_cons, h2, Int.mul_left_comm], by rw [prodL_cons, h3, Int.mul_left_comm]⟩

end passes

theorem gcdI_spec {a b g : Int} (h : gcdI a b = some g) (hg : 1 < g) :
    a.tdiv g * g = a ∧ b.tdiv g * g = b := by
  unfold gcdI at h
  simp only [] at h
  split at h <;> simp at h
  subst h
  exact ⟨Int.tdiv_mul_cancel (Int.gcd_dvd_left a b), Int.tdiv_mul_cancel (Int.gcd_dvd_right a b)⟩

abbrev rcfTerms (l r : SymExpr) : List SymExpr × List SymExpr :=
  cancel (flatten .mul l) (flatten .mul r)

theorem rcf_ind {l r : SymExpr} {P : List SymExpr × List SymExpr → Prop} (base : P (rcfTerms l r))
    (gcd : ∀ lc rc g, firstVal (rcfTerms l r).1 = some lc → firstVal (rcfTerms l r).2 = some rc →
      gcdI lc rc = some g → 1 < g →
      P (setFirstVal (lc.tdiv g) (rcfTerms l r).1, setFirstVal (rc.tdiv g) (rcfTerms l r).2)) :
    ∃ q, rcf l r = (reduceOp .mul (.value 1) q.1, reduceOp .mul (.value 1) q.2) ∧ P q := by
  unfold rcf
  simp only []
  split
  · split
    · split
      · rename_i hcond
        exact ⟨_, rfl, gcd _ _ _ ‹_› ‹_› ‹_› hcond.1⟩
      · exact ⟨_, rfl, base⟩
    · exact ⟨_, rfl, base⟩
  · exact ⟨_, rfl, base⟩

end RtenVerif.Sym
