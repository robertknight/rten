import RtenVerif.Lemmas.Bpe
import RtenVerif.Lemmas.ListBasics

/-! Data-refinement lemmas for C28.T3: id-level merging simulates string-level reference BPE. -/
namespace RtenVerif.Bpe

set_option linter.unusedSectionVars false
variable {σ : Type} [DecidableEq σ]

theorem replacePairs_mem {a b c x : σ} {l : List σ} (h : x ∈ replacePairs a b c l) :
    x = c ∨ x ∈ l :=
  replacePairs_inv (fun l' => ∀ x ∈ l', x = c ∨ x ∈ l) a b c
    (fun pre post h x hx => by
      rcases List.mem_append.mp hx with hx | hx
      · exact h x (List.mem_append_left _ hx)
      · rcases List.mem_cons.mp hx with hx | hx
        · exact .inl hx
        · exact h x (List.mem_append_right _ (List.mem_cons_of_mem _ (List.mem_cons_of_mem _ hx))))
    l [] (fun _ => .inr) x h

theorem mem_refCandidatesBy {rank : σ × σ → Option Nat} {pieces : List σ} {c : (σ × σ) × Nat} :
    c ∈ refCandidatesBy rank pieces ↔ c.1 ∈ windows2 pieces ∧ rank c.1 = some c.2 := by
  obtain ⟨p, r⟩ := c
  simp only [refCandidatesBy, List.mem_filterMap, Option.map_eq_some_iff, Prod.mk.injEq]
  constructor
  · rintro ⟨q, hq, r', hr, rfl, rfl⟩; exact ⟨hq, hr⟩
  · rintro ⟨hq, hr⟩; exact ⟨p, hq, r, hr, rfl, rfl⟩

theorem refBestBy_eq_some {rank : σ × σ → Option Nat} {pieces : List σ} {p : σ × σ}
    (h : refBestBy rank pieces = some p) :
    ∃ r, minByKey (fun c : (σ × σ) × Nat => c.2) (refCandidatesBy rank pieces) = some (p, r) := by
  obtain ⟨⟨q, r⟩, hm, rfl⟩ := Option.map_eq_some_iff.mp h
  exact ⟨r, hm⟩

theorem replacePairs_map (v : σ → Nat) (D : σ → Prop)
    (hinj : ∀ x y, D x → D y → v x = v y → x = y)
    (a b c : σ) (ha : D a) (hb : D b) (l : List σ) (hl : ∀ x ∈ l, D x) :
    replacePairs (v a) (v b) (v c) (l.map v) = (replacePairs a b c l).map v := by
  induction l using replacePairs_induct a b with
  | nil => rfl
  | single x => rfl
  | hit x y rest hc ih =>
    have hrest : ∀ z ∈ rest, D z := fun z hz => hl z (by simp [hz])
    simp only [List.map_cons]
    rw [replacePairs_cons_cons, if_pos ⟨by rw [hc.1], by rw [hc.2]⟩, ih hrest,
      replacePairs_cons_cons, if_pos hc]
    rfl
  | miss x y rest hc ih =>
    have ht : ∀ z ∈ y :: rest, D z := fun z hz =>
      hl z (by simp only [List.mem_cons] at hz ⊢; exact Or.inr hz)
    have hx : D x := hl x (by simp)
    have hy : D y := hl y (by simp)
    have hc' : ¬ (v x = v a ∧ v y = v b) := fun h =>
      hc ⟨hinj x a hx ha h.1, hinj y b hy hb h.2⟩
    simp only [List.map_cons] at ih ⊢
    rw [replacePairs_cons_cons, if_neg hc', ih ht, replacePairs_cons_cons, if_neg hc]
    rfl

section sim
variable (v : σ → Nat) (D : σ → Prop) (hinj : ∀ x y, D x → D y → v x = v y → x = y)
  (cat : σ → σ → σ) (rank : σ × σ → Option Nat) (M : MergeMap Nat)
  (hlk : ∀ a b, D a → D b → lookup M (v a, v b) = (rank (a, b)).map (fun r => (r, v (cat a b))))
  (hclosed : ∀ a b r, rank (a, b) = some r → D (cat a b))

def candImg (v : σ → Nat) (cat : σ → σ → σ) (c : (σ × σ) × Nat) : (Nat × Nat) × (Nat × Nat) :=
  ((v c.1.1, v c.1.2), (c.2, v (cat c.1.1 c.1.2)))

include hlk in
theorem candidates_map (pieces : List σ) (hD : ∀ x ∈ pieces, D x) :
    candidates M (pieces.map v) = (refCandidatesBy rank pieces).map (candImg v cat) := by
  unfold candidates refCandidatesBy
  rw [windows2_map, List.filterMap_map, List.map_filterMap]
  apply filterMap_congr'
  intro p hp
  obtain ⟨h1, h2⟩ := windows2_mem hp
  simp only [Function.comp]
  rw [hlk p.1 p.2 (hD _ h1) (hD _ h2)]
  cases hr : rank (p.1, p.2) with
  | none => simp
  | some r => simp [candImg]

include hinj hlk in
theorem round_sim (pieces : List σ) (hD : ∀ x ∈ pieces, D x) :
    mergeRound M (pieces.map v) = (refStepBy cat rank pieces).map (List.map v) := by
  rw [mergeRound_eq]
  unfold findMinPair refStepBy refBestBy
  rw [candidates_map v D cat rank M hlk pieces hD]
  rw [minByKey_map (fun c : (σ × σ) × Nat => c.2) (fun c => c.2.1) (candImg v cat) (fun _ => rfl)]
  cases hm : minByKey (fun c : (σ × σ) × Nat => c.2) (refCandidatesBy rank pieces) with
  | none => rfl
  | some c =>
    obtain ⟨h1, h2⟩ := windows2_mem (mem_refCandidatesBy.mp (minByKey_mem _ hm)).1
    simp only [Option.map_some, candImg]
    rw [replacePairs_map v D hinj c.1.1 c.1.2 (cat c.1.1 c.1.2) (hD _ h1) (hD _ h2) pieces hD]

include hclosed in
theorem refStepBy_dom {pieces ps' : List σ} (hD : ∀ x ∈ pieces, D x)
    (h : refStepBy cat rank pieces = some ps') : ∀ x ∈ ps', D x := by
  obtain ⟨p, hb, rfl⟩ := Option.map_eq_some_iff.mp h
  obtain ⟨r, hm⟩ := refBestBy_eq_some hb
  intro x hx
  rcases replacePairs_mem hx with rfl | hx
  · exact hclosed p.1 p.2 r (mem_refCandidatesBy.mp (minByKey_mem _ hm)).2
  · exact hD x hx

include hclosed in
theorem refBpeFuelBy_dom : ∀ (n : Nat) (pieces : List σ), (∀ x ∈ pieces, D x) →
    ∀ x ∈ refBpeFuelBy cat rank n pieces, D x := by
  intro n pieces hD
  fun_induction refBpeFuelBy cat rank n pieces with
  | case1 ps => exact hD
  | case2 n ps hs => exact hD
  | case3 n ps ps' hs ih => exact ih (refStepBy_dom D cat rank hclosed hD hs)

include hinj hlk hclosed in
theorem fuel_sim : ∀ (n : Nat) (pieces : List σ), (∀ x ∈ pieces, D x) →
    bpeMergeFuel M n (pieces.map v) = (refBpeFuelBy cat rank n pieces).map v := by
  intro n pieces hD
  fun_induction refBpeFuelBy cat rank n pieces with
  | case1 ps => rfl
  | case2 n ps hs => rw [bpeMergeFuel, round_sim v D hinj cat rank M hlk ps hD, hs]; rfl
  | case3 n ps ps' hs ih =>
    rw [bpeMergeFuel, round_sim v D hinj cat rank M hlk ps hD, hs]
    exact ih (refStepBy_dom D cat rank hclosed hD hs)

include hinj hlk hclosed in
/-- Generic simulation: id-level `bpe_merge` on the ids of `pieces` = ids of the reference result. -/
theorem bpeMerge_sim (pieces : List σ) (hD : ∀ x ∈ pieces, D x) :
    bpeMerge M (pieces.map v) = (refBpeBy cat rank pieces).map v := by
  unfold bpeMerge refBpeBy
  rw [List.length_map]
  exact fuel_sim v D hinj cat rank M hlk hclosed _ pieces hD

end sim

/-! `build_merge_map` yields the last-occurrence rank `refRankLast` (a later `insert` overrides an earlier one),
which is the reference's `refRank` on a duplicate-free merge list. -/

theorem refRankLast_mem {ms : List (σ × σ)} {p : σ × σ} {r : Nat}
    (h : refRankLast ms p = some r) : p ∈ ms := by
  induction ms generalizing r with
  | nil => simp [refRankLast] at h
  | cons q rest ih =>
    simp only [refRankLast] at h
    cases hr : refRankLast rest p with
    | some r' => exact List.mem_cons_of_mem _ (ih hr)
    | none =>
      simp only [hr] at h
      by_cases hq : q = p
      · subst hq; simp
      · simp [hq] at h

theorem refRankLast_none {ms : List (σ × σ)} {p : σ × σ} (h : p ∉ ms) :
    refRankLast ms p = none := by
  cases hr : refRankLast ms p with
  | none => rfl
  | some r => exact absurd (refRankLast_mem hr) h

theorem refRankLast_eq_refRank {ms : List (σ × σ)} (hnd : ms.Nodup) (p : σ × σ) :
    refRankLast ms p = refRank ms p := by
  induction ms with
  | nil => rfl
  | cons q rest ih =>
    have hnd' := List.nodup_cons.mp hnd
    simp only [refRankLast, refRank]
    by_cases hq : q = p
    · subst hq
      rw [refRankLast_none hnd'.1]; simp
    · rw [ih hnd'.2, if_neg hq]
      cases refRank rest p <;> simp [hq]

theorem buildMergeMapFrom_cons_ok {dom : σ → Bool} {v : σ → Nat} {cat : σ → σ → σ} {i : Nat}
    {a b : σ} {rest : List (σ × σ)} {acc M : MergeMap Nat}
    (h : buildMergeMapFrom dom v cat i ((a, b) :: rest) acc = .ok M) :
    (dom a = true ∧ dom b = true ∧ dom (cat a b) = true) ∧
      buildMergeMapFrom dom v cat (i + 1) rest (((v a, v b), (i, v (cat a b))) :: acc) = .ok M := by
  rw [buildMergeMapFrom] at h
  split at h
  · rename_i hc
    exact ⟨by simpa [and_assoc] using hc, h⟩
  · cases h

theorem build_dom (dom : σ → Bool) (v : σ → Nat) (cat : σ → σ → σ) :
    ∀ (ms : List (σ × σ)) (i : Nat) (acc M : MergeMap Nat),
      buildMergeMapFrom dom v cat i ms acc = .ok M →
      ∀ p ∈ ms, dom p.1 = true ∧ dom p.2 = true ∧ dom (cat p.1 p.2) = true := by
  intro ms
  induction ms with
  | nil => intro _ _ _ _ p hp; cases hp
  | cons q rest ih =>
    intro i acc M h p hp
    obtain ⟨a, b⟩ := q
    obtain ⟨hc, h⟩ := buildMergeMapFrom_cons_ok h
    rcases List.mem_cons.mp hp with rfl | hp
    · exact hc
    · exact ih _ _ _ h p hp

theorem build_lookup (dom : σ → Bool) (v : σ → Nat) (cat : σ → σ → σ)
    (hinj : ∀ x y, dom x = true → dom y = true → v x = v y → x = y) :
    ∀ (ms : List (σ × σ)) (i : Nat) (acc M : MergeMap Nat),
      buildMergeMapFrom dom v cat i ms acc = .ok M →
      ∀ a b, dom a = true → dom b = true →
        lookup M (v a, v b) =
          match refRankLast ms (a, b) with
          | some r => some (i + r, v (cat a b))
          | none => lookup acc (v a, v b) := by
  intro ms
  induction ms with
  | nil =>
    intro i acc M h a b _ _
    cases h
    rfl
  | cons q rest ih =>
    intro i acc M h a b ha hb
    obtain ⟨a', b'⟩ := q
    obtain ⟨hc', h⟩ := buildMergeMapFrom_cons_ok h
    rw [ih _ _ _ h a b ha hb]
    simp only [refRankLast]
    cases hr : refRankLast rest (a, b) with
    | some r => simp only; congr 2; omega
    | none =>
      simp only [lookup]
      by_cases hq : (a', b') = (a, b)
      · cases hq
        simp
      · have hk : ¬ ((v a', v b') = (v a, v b)) := fun hk =>
          hq (by rw [hinj a' a hc'.1 ha (Prod.mk.inj hk).1, hinj b' b hc'.2.1 hb (Prod.mk.inj hk).2])
        rw [if_neg hk, if_neg hq]

end RtenVerif.Bpe
