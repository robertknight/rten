import RtenVerif.Model.Pattern

/-!
# C01 / T4 — matcher soundness: a successful match is an embedding of the pattern

`embeds g fuel p v σ` is the specification: pattern `p` (of depth ≤ `fuel`) is embedded in the graph
at node `v` under the binding `σ`:
* a symbol is bound by `σ` to exactly `v` (so equal symbols ⇒ equal value ids), `v` is a value or
  constant, and a `const_symbol` is a constant;
* a constant pattern sits on a constant node accepted by `constMatches` (exactly one element, float,
  within the stated tolerance);
* `anyOf` embeds one alternative;
* an operator pattern sits on an operator node (`v` itself or the producer of value `v`) of the same
  type and arity, a named pattern's key is bound by `σ` to that one operator, and the operand
  patterns are embedded at the operands — positionally, or swapped for a commutative operator, or,
  for an associative+commutative operator, the flattened operand patterns at pairwise distinct
  operands of the flattened operand chain (`SetE`: an injective assignment, i.e. a permutation since
  the lengths agree).
`matchPat_sound`: whatever `matchPat` returns is such an embedding and extends the bindings it
started from (needs `strictKeys`, the 9f07d3a fix; `C01Fusions.lean` has the witness without it).
-/
namespace RtenVerif.Pattern

def Ext (s s' : Syms) : Prop := ∀ n v, s.find n = some v → s'.find n = some v

theorem Ext.refl (s : Syms) : Ext s s := fun _ _ h => h
theorem Ext.trans {a b c : Syms} (h1 : Ext a b) (h2 : Ext b c) : Ext a c := fun n v h => h2 n v (h1 n v h)

theorem find_append_new {s : Syms} {n : String} {v : Nat} (h : s.find n = none) : (s ++ [(n, v)]).find n = some v := by
  unfold Syms.find at *
  rw [List.find?_append]
  cases hx : s.find? (fun x => x.1 == n) with
  | none => simp [List.find?]
  | some x => simp [hx] at h

theorem ext_append (s t : Syms) : Ext s (s ++ t) := by
  intro n v h
  unfold Syms.find at *
  rw [List.find?_append]
  cases hx : s.find? (fun x => x.1 == n) with
  | none => simp [hx] at h
  | some x => simpa [hx] using h

def ZipE (R : Pat → Nat → Syms → Prop) : List Pat → List (Option Nat) → Syms → Prop
  | [], [], _ => True
  | p :: ps, some i :: is, σ => R p i σ ∧ ZipE R ps is σ
  | _, _, _ => False

/-- patterns assigned to pairwise distinct entries (`idx ∉ used`, then marked used) of `nodes` -/
def SetE (R : Pat → Nat → Syms → Prop) : List Pat → List (Nat × Nat) → List (Nat × Nat) → List Nat → Syms → Prop
  | [], [], _, _, _ => True
  | p :: ps, x :: xs, nodes, used, σ => x ∈ nodes ∧ x.1 ∉ used ∧ R p x.2 σ ∧ SetE R ps xs nodes (x.1 :: used) σ
  | _, _, _, _, _ => False

def OperandsE (g : GView) (R : Pat → Nat → Syms → Prop) (name : String) (pins : List Pat) (o : OpNode) (σ : Syms) : Prop :=
  ZipE R pins o.ins σ ∨
  (commutative o.ty = true ∧ ∃ pa pb ia ib, pins = [pa, pb] ∧ o.ins = [some ia, some ib] ∧ R pb ia σ ∧ R pa ib σ) ∨
  (associative o.ty = true ∧ commutative o.ty = true ∧ ∃ a b sel, o.ins = [some a, some b] ∧
    SetE R (pins.flatMap (flattenPat name 32)) sel
      ((List.range (flattenGraph g name 32 a ++ flattenGraph g name 32 b).length).zip
        (flattenGraph g name 32 a ++ flattenGraph g name 32 b)) [] σ)

def enumIns (o : OpNode) : List (Nat × Option Nat) := (List.range o.ins.length).zip o.ins

/-- Rank condition at one operator: every single-element constant operand of positive rank has a
co-operand (another position) whose known rank is at least the constant's rank — so broadcasting the
constant cannot add dimensions to the operator's output (`c01_scalar_const_keeps_shape`). -/
def OpRankOK (g : GView) (rank : Nat → Option Nat) (o : OpNode) : Prop :=
  ∀ i w c, (i, some w) ∈ enumIns o → g.const? w = some c → c.shape.foldl (· * ·) 1 = 1 → 0 < c.shape.length →
    ∃ j other r, (j, some other) ∈ enumIns o ∧ j ≠ i ∧ rank other = some r ∧ c.shape.length ≤ r

/-- Rank clause of an operator pattern: if a constant pattern occurs among the (flattened) operand
patterns, the rank condition holds at the operator and — for an associative+commutative chain — at
every inner operator of the chain, i.e. at every possible consumer of a matched constant
(`flattenGraph_consumer`). -/
def RankClause (g : GView) (rank : Nat → Option Nat) (name : String) (pins : List Pat) (o : OpNode) : Prop :=
  ((associative o.ty && commutative o.ty && pins.length == 2) = true →
      (∃ p, p ∈ pins.flatMap (flattenPat name 32) ∧ isConstPat p = true) →
      ∀ c, c ∈ chainOps g name 32 o → OpRankOK g rank c) ∧
  ((associative o.ty && commutative o.ty && pins.length == 2) = false →
      (∃ p, p ∈ pins ∧ isConstPat p = true) → OpRankOK g rank o)

def embeds (g : GView) (cfg : MatchCfg) : Nat → Pat → Nat → Syms → Prop
  | 0, _, _, _ => False
  | fuel + 1, p, v, σ =>
    match p with
    | .sym name isC =>
      σ.find name = some v ∧ ((g.const? v).isSome = true ∨ g.values.contains v = true) ∧
        (isC = true → (g.const? v).isSome = true)
    | .const bits exact => ∃ c, g.const? v = some c ∧ constMatches c bits exact = true
    | .anyOf ps => ∃ q, q ∈ ps ∧ embeds g cfg fuel q v σ
    | .op name pins key =>
      ∃ o, (g.opById v = some o ∨ (g.values.contains v = true ∧ g.source v = some o)) ∧
        o.ty = name ∧ pins.length = o.ins.length ∧ (∀ k, key = some k → σ.find k = some o.oid) ∧
        (cfg.rankGuard = true → RankClause g cfg.rank name pins o) ∧
        OperandsE g (embeds g cfg fuel) name pins o σ

/-! Every clause is established for *every extension* `σ` of the binding returned, so what an earlier
sub-match established survives the later ones by transitivity of `Ext` alone. -/

section
variable (f : Pat → Nat → Syms → Option Syms) (R : Pat → Nat → Syms → Prop)
variable (hf : ∀ p v s s', f p v s = some s' → Ext s s' ∧ ∀ σ, Ext s' σ → R p v σ)
include hf

theorem bind_sound {p : Pat} {v : Nat} {s s' : Syms} {k : Syms → Option Syms} {Q : Prop}
    (h : (f p v s).bind k = some s') (hk : ∀ s1, k s1 = some s' → Ext s1 s' ∧ Q) :
    Ext s s' ∧ (∀ σ, Ext s' σ → R p v σ) ∧ Q := by
  obtain ⟨s1, h1, h2⟩ := Option.bind_eq_some_iff.mp h
  obtain ⟨e1, r1⟩ := hf p v s s1 h1
  obtain ⟨e2, q⟩ := hk s1 h2
  exact ⟨e1.trans e2, fun σ hσ => r1 σ (e2.trans hσ), q⟩

theorem matchZip_sound : ∀ (ps : List Pat) (is : List (Option Nat)) (s s' : Syms),
    matchZip f ps is s = some s' → Ext s s' ∧ ∀ σ, Ext s' σ → ZipE R ps is σ := by
  intro ps
  induction ps with
  | nil => intro is s s' h; cases is <;> cases h; exact ⟨Ext.refl _, fun _ _ => trivial⟩
  | cons p ps ih =>
    intro is s s' h
    match is, h with
    | some i :: is, h =>
      obtain ⟨e, r, z⟩ := bind_sound f R hf h fun s1 => ih is s1 s'
      exact ⟨e, fun σ hσ => ⟨r σ hσ, z σ hσ⟩⟩
    | [], h | none :: _, h => cases h

theorem matchSet_sound : ∀ (ps : List Pat) (nodes : List (Nat × Nat)) (used : List Nat) (s s' : Syms),
    matchSet f ps nodes used s = some s' → Ext s s' ∧ ∃ sel, ∀ σ, Ext s' σ → SetE R ps sel nodes used σ := by
  intro ps
  induction ps with
  | nil => intro nodes used s s' h; cases h; exact ⟨Ext.refl _, [], fun _ _ => trivial⟩
  | cons p ps ih =>
    intro nodes used s s' h
    simp only [matchSet] at h
    obtain ⟨x, hx, hfx⟩ := List.exists_of_findSome?_eq_some h
    by_cases hu : used.contains x.1 = true
    · rw [if_pos hu] at hfx; cases hfx
    · rw [if_neg hu] at hfx
      obtain ⟨e, r, sel, z⟩ := bind_sound f R hf hfx fun s1 => ih nodes (x.1 :: used) s1 s'
      exact ⟨e, x :: sel, fun σ hσ => ⟨hx, by simpa using hu, r σ hσ, z σ hσ⟩⟩

theorem strictMatch_sound (g : GView) (name : String) (pins : List Pat) (o : OpNode) (s s' : Syms)
    (h : strictMatch f pins o s = some s') : Ext s s' ∧ ∀ σ, Ext s' σ → OperandsE g R name pins o σ := by
  revert h
  fun_cases strictMatch f pins o s <;> intro h
  · rename_i pa pb ia ib hi hc s1 hb
    cases h
    obtain ⟨e, r1, r2⟩ := bind_sound f R hf hb fun s1 => hf pb ib s1 s'
    refine ⟨e, fun σ hσ => .inl ?_⟩
    rw [hi]
    exact ⟨r1 σ hσ, r2 σ hσ, trivial⟩
  · rename_i pa pb ia ib hi hc _
    obtain ⟨e, r1, r2⟩ := bind_sound f R hf h fun s1 => hf pa ib s1 s'
    exact ⟨e, fun σ hσ => .inr (.inl ⟨hc, pa, pb, ia, ib, rfl, hi, r1 σ hσ, r2 σ hσ⟩)⟩
  · obtain ⟨e, z⟩ := matchZip_sound f R hf _ _ s s' h
    exact ⟨e, fun σ hσ => .inl (z σ hσ)⟩

theorem chainMatch_sound (g : GView) (name : String) (pins : List Pat) (o : OpNode) (s s' : Syms)
    (h : chainMatch g f name pins o s = some s') : Ext s s' ∧ ∀ σ, Ext s' σ → OperandsE g R name pins o σ := by
  revert h
  fun_cases chainMatch g f name pins o s <;> intro h
  · rename_i hac _ a b hi _
    obtain ⟨e, sel, z⟩ := matchSet_sound f R hf _ _ _ s s' h
    simp only [Bool.and_eq_true] at hac
    exact ⟨e, fun σ hσ => .inr (.inr ⟨hac.1.1, hac.1.2, a, b, sel, hi, z σ hσ⟩)⟩
  all_goals cases h

theorem opMatches_sound (g : GView) (cfg : MatchCfg) (name : String) (pins : List Pat) (o : OpNode) (s s' : Syms)
    (h : opMatches g cfg f name pins o s = some s') :
    Ext s s' ∧ o.ty = name ∧ pins.length = o.ins.length ∧
      (cfg.rankGuard = true → constsPreserveRank g cfg.rank name pins o = true) ∧
      ∀ σ, Ext s' σ → OperandsE g R name pins o σ := by
  revert h
  fun_cases opMatches g cfg f name pins o s <;> intro h
  case case4 hty hlen s1 hm hg =>
    cases h
    -- whichever of the two matchers answered, its answer passed the rank guard
    have hops : Ext s s' ∧ ∀ σ, Ext s' σ → OperandsE g R name pins o σ := by
      cases hc : chainMatch g f name pins o s with
      | some s2 => rw [hc] at hm; cases hm; exact chainMatch_sound f R hf g name pins o s s' hc
      | none => rw [hc] at hm; exact strictMatch_sound f R hf g name pins o s s' hm
    exact ⟨hops.1, by simpa using hty, by simpa using hlen, fun hrg => by simpa [hrg] using hg, hops.2⟩
  all_goals cases h
end

theorem opConstsPreserveRank_sound (g : GView) (rank : Nat → Option Nat) (o : OpNode)
    (h : opConstsPreserveRank g rank o = true) : OpRankOK g rank o := by
  intro i w c hmem hc hone hpos
  unfold opConstsPreserveRank at h
  simp only [List.all_eq_true] at h
  have hi := h (i, some w) hmem
  simp only [Option.bind_some, hc, hone, beq_self_eq_true, Bool.true_and, decide_eq_true_eq, hpos, if_true,
    List.any_eq_true] at hi
  obtain ⟨⟨j, other⟩, hjm, hj⟩ := hi
  simp only [Bool.and_eq_true, bne_iff_ne, ne_eq] at hj
  obtain ⟨hji, hr⟩ := hj
  split at hr
  · rename_i r heq
    obtain ⟨ov, rfl, hrk⟩ := Option.bind_eq_some_iff.mp heq
    exact ⟨j, ov, r, hjm, hji, hrk, of_decide_eq_true hr⟩
  · cases hr

theorem constsPreserveRank_sound (g : GView) (rank : Nat → Option Nat) (name : String) (pins : List Pat) (o : OpNode)
    (h : constsPreserveRank g rank name pins o = true) : RankClause g rank name pins o := by
  unfold constsPreserveRank at h
  constructor
  · intro hch ⟨p, hp, hpc⟩ c hcm
    simp only [hch, if_true] at h
    have hany : (pins.flatMap (flattenPat name 32)).any isConstPat = true := List.any_eq_true.mpr ⟨p, hp, hpc⟩
    simp only [hany, Bool.not_true, Bool.false_eq_true, if_false] at h
    exact opConstsPreserveRank_sound g rank c (List.all_eq_true.mp h c hcm)
  · intro hch ⟨p, hp, hpc⟩
    simp only [hch, Bool.false_eq_true, if_false] at h
    have hany : pins.any isConstPat = true := List.any_eq_true.mpr ⟨p, hp, hpc⟩
    simp only [hany, Bool.not_true, Bool.false_eq_true, if_false, Bool.not_false, if_true] at h
    exact opConstsPreserveRank_sound g rank o h

theorem self_mem_chainOps (g : GView) (name : String) (fuel : Nat) (o : OpNode) : o ∈ chainOps g name fuel o := by
  cases fuel <;> exact List.mem_cons_self

/-- Every operand of the flattened chain below an input `v` of `o` is a direct input of an operator
of `o`'s chain — so the rank clause covers the consumer of every constant matched inside a chain. -/
theorem flattenGraph_consumer (g : GView) (name : String) : ∀ (fuel : Nat) (o : OpNode) (v w : Nat),
    some v ∈ o.ins → w ∈ flattenGraph g name fuel v →
      ∃ c, c ∈ chainOps g name fuel o ∧ some w ∈ c.ins := by
  intro fuel o v w hv h
  fun_induction flattenGraph g name fuel v generalizing o w with
  | case2 fuel v so hs hty l r hins ihl ihr =>
    -- `v` comes from a two-operand operator `so` of the chain: `so`'s chain is part of `o`'s
    have hsub : ∀ c, c ∈ chainOps g name fuel so → c ∈ chainOps g name (fuel + 1) o := by
      intro c hc
      simp only [chainOps, List.mem_cons, List.mem_flatMap]
      exact .inr ⟨v, List.mem_filterMap.mpr ⟨some v, hv, rfl⟩, by simp only [hs, hty, if_true, hins]; exact hc⟩
    rcases List.mem_append.mp h with h | h
    · obtain ⟨c, hc, hw⟩ := ihl so w (by rw [hins]; simp) h
      exact ⟨c, hsub c hc, hw⟩
    · obtain ⟨c, hc, hw⟩ := ihr so w (by rw [hins]; simp) h
      exact ⟨c, hsub c hc, hw⟩
  | case1 | case3 | case4 | case5 =>
    -- otherwise `v` is the only operand below itself
    exact ⟨o, self_mem_chainOps .., List.mem_singleton.mp h ▸ hv⟩

theorem bindKey_sound (key : Option String) (oid : Nat) (s s' : Syms) (h : bindKey true key oid s = some s') :
    Ext s s' ∧ ∀ k, key = some k → s'.find k = some oid := by
  revert h
  fun_cases bindKey true key oid s <;> intro h
  · cases h; exact ⟨Ext.refl _, nofun⟩
  · rename_i k prev hp _ he
    cases h
    exact ⟨Ext.refl _, fun k' hk' => by cases hk'; rw [hp, beq_iff_eq.mp he]⟩
  · cases h
  · contradiction
  · rename_i k hp
    cases h
    exact ⟨ext_append _ _, fun k' hk' => by cases hk'; exact find_append_new hp⟩

/-- The induction behind `matchPat_sound`: the pattern is embedded under every extension of the binding
returned (needed at the sub-matches, whose bindings are extended by the later ones). -/
theorem matchPat_sound_ext (g : GView) (cfg : MatchCfg) (hk : cfg.strictKeys = true) :
    ∀ (fuel : Nat) (p : Pat) (v : Nat) (s s' : Syms),
      matchPat g cfg fuel p v s = some s' → Ext s s' ∧ ∀ σ, Ext s' σ → embeds g cfg fuel p v σ := by
  intro fuel
  induction fuel with
  | zero => intro p v s s' h; cases h
  | succ fuel ih =>
    intro p v s s' h
    have core : ∀ o name pins key, (g.opById v = some o ∨ (g.values.contains v = true ∧ g.source v = some o)) →
        (opMatches g cfg (matchPat g cfg fuel) name pins o s).bind (bindKey cfg.strictKeys key o.oid) = some s' →
        Ext s s' ∧ ∀ σ, Ext s' σ → embeds g cfg (fuel + 1) (.op name pins key) v σ := by
      intro o name pins key hwhere hb
      obtain ⟨s1, h1, hb⟩ := Option.bind_eq_some_iff.mp hb
      obtain ⟨e1, hty, hlen, hrank, hops⟩ :=
        opMatches_sound (matchPat g cfg fuel) (embeds g cfg fuel) ih g cfg name pins o s s1 h1
      obtain ⟨e2, hkey⟩ := bindKey_sound key o.oid s1 s' (hk ▸ hb)
      exact ⟨e1.trans e2, fun σ hσ => ⟨o, hwhere, hty, hlen, fun k hk => hσ _ _ (hkey k hk),
        fun hrg => constsPreserveRank_sound g cfg.rank name pins o (hrank hrg), hops σ (e2.trans hσ)⟩⟩
    generalize hn : fuel + 1 = n at h ⊢
    revert h
    fun_cases matchPat g cfg n p v s <;> intro h <;> cases hn
    -- the branches that can succeed: an operator pattern at the operator `v` (case2) or at the producer of the
    -- value `v` (case3), a constant (case6), a symbol bound before (case11) or bound here (case13), `anyOf` (case14)
    case case2.refl name pins key o ho => exact core o name pins key (.inl ho) h
    case case3.refl name pins key o _ hval hs => exact core o name pins key (.inr ⟨hval, hs⟩) h
    case case6.refl bits exact c hm hc => cases h; exact ⟨Ext.refl _, fun _ _ => ⟨c, hc, hm⟩⟩
    case case11.refl name isC r hvc hcc hr hfind =>
      cases h
      simp only [Bool.not_eq_true', Bool.not_eq_false, Bool.or_eq_true, Bool.and_eq_true, not_and] at hvc hcc
      exact ⟨Ext.refl _, fun σ hσ => ⟨hσ _ _ (by rw [hfind, beq_iff_eq.mp hr]), hvc, hcc⟩⟩
    case case13.refl name isC hvc hcc hfind =>
      cases h
      simp only [Bool.not_eq_true', Bool.not_eq_false, Bool.or_eq_true, Bool.and_eq_true, not_and] at hvc hcc
      exact ⟨ext_append _ _, fun σ hσ => ⟨hσ _ _ (find_append_new hfind), hvc, hcc⟩⟩
    case case14.refl ps =>
      obtain ⟨q, hq, hfq⟩ := List.exists_of_findSome?_eq_some h
      obtain ⟨e, em⟩ := ih q v s s' hfq
      exact ⟨e, fun σ hσ => ⟨q, hq, em σ hσ⟩⟩
    all_goals cases h

/-- **T4 `matcher soundness`.** With the fixed key handling, a successful match returns a binding
that extends the initial one and under which the pattern is embedded at the matched node. -/
theorem matchPat_sound (g : GView) (cfg : MatchCfg) (hk : cfg.strictKeys = true) :
    ∀ (fuel : Nat) (p : Pat) (v : Nat) (s s' : Syms),
      matchPat g cfg fuel p v s = some s' → Ext s s' ∧ embeds g cfg fuel p v s' :=
  fun fuel p v s s' h => (matchPat_sound_ext g cfg hk fuel p v s s' h).imp_right (· s' (Ext.refl s'))

end RtenVerif.Pattern
