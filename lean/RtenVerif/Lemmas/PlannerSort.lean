import RtenVerif.Lemmas.PlannerDfs
/-!
# `sort_plan` (frontier re-ordering): permutation + validity + termination (C03.T4)

All statements are for `dedup = true`, i.e. the code with the `scheduled` set.
-/
namespace RtenVerif.Planner
open RtenVerif.Graph

def ids (l : List (Nat × OpNode)) : List Nat := l.map (fun e => e.1)

theorem mem_ids {l : List (Nat × OpNode)} {i : Nat} : i ∈ ids l ↔ ∃ e ∈ l, e.1 = i :=
  List.mem_map

theorem ids_append (a b : List (Nat × OpNode)) : ids (a ++ b) = ids a ++ ids b :=
  List.map_append

theorem any_id_iff {fr : List (Nat × OpNode)} {i : Nat} :
    fr.any (fun e => e.1 == i) = true ↔ i ∈ ids fr := by
  simp only [List.any_eq_true, mem_ids, beq_iff_eq]

theorem removeAt_spec : ∀ (l : List (Nat × OpNode)) (n : Nat), n < l.length →
    ∃ e l', removeAt l n = some (e, l') ∧ l.Perm (e :: l') := by
  intro l
  induction l with
  | nil => intro n h; simp at h
  | cons a l ih =>
    intro n h
    cases n with
    | zero => exact ⟨a, l, rfl, List.Perm.refl _⟩
    | succ n =>
      obtain ⟨e, l', h1, h2⟩ := ih n (by simpa using h)
      refine ⟨e, a :: l', by simp [removeAt, h1], ?_⟩
      exact (List.Perm.cons a h2).trans (List.Perm.swap e a l')

theorem pickPos_lt {fr : List (Nat × OpNode)} (h : fr ≠ []) : pickPos fr < fr.length := by
  unfold pickPos
  cases hf : fr.findIdx? (fun e => !e.2.inPlace) with
  | none =>
    simp only [Option.getD_none]
    cases fr with
    | nil => exact absurd rfl h
    | cons _ _ => simp
  | some i =>
    simp only [Option.getD_some]
    obtain ⟨hlt, _⟩ := List.findIdx?_eq_some_iff_getElem.mp hf
    exact hlt

theorem pushCandidates_cons {g : Graph} {r em : List Nat} (c : Nat × OpNode)
    (cs fr : List (Nat × OpNode)) :
    pushCandidates g true r em (c :: cs) fr =
      pushCandidates g true r em cs
        (if c.1 ∈ ids fr ∨ c.1 ∈ em ∨ depsResolved g r c.2 = false then fr else fr ++ [c]) := by
  rw [pushCandidates]
  by_cases h1 : c.1 ∈ ids fr
  · rw [if_pos (any_id_iff.mpr h1), if_pos (Or.inl h1)]
  · rw [if_neg (mt any_id_iff.mp h1)]
    by_cases h2 : c.1 ∈ em
    · rw [if_pos (by simpa using h2), if_pos (Or.inr (Or.inl h2))]
    · rw [if_neg (by simpa using h2)]
      cases h3 : depsResolved g r c.2
      · rw [if_neg Bool.false_ne_true, if_pos (Or.inr (Or.inr rfl))]
      · rw [if_pos rfl, if_neg (by simp [h1, h2])]

theorem pushCandidates_ind {g : Graph} {r em : List Nat} {Q : List (Nat × OpNode) → Prop}
    (cs : List (Nat × OpNode))
    (hstep : ∀ fr, ∀ c ∈ cs, Q fr → c.1 ∉ ids fr → c.1 ∉ em → depsResolved g r c.2 = true →
      Q (fr ++ [c])) :
    ∀ fr, Q fr → Q (pushCandidates g true r em cs fr) := by
  induction cs with
  | nil => exact fun _ h => h
  | cons c cs ih =>
    intro fr h
    rw [pushCandidates_cons]
    refine ih (fun fr c' hc' => hstep fr c' (List.mem_cons_of_mem _ hc')) _ ?_
    split
    · exact h
    · next hskip =>
      simp only [not_or, Bool.not_eq_false] at hskip
      exact hstep fr c List.mem_cons_self h hskip.1 hskip.2.1 hskip.2.2

theorem ids_sub_pushCandidates {g : Graph} {r em : List Nat} (cs fr : List (Nat × OpNode)) :
    ∀ a ∈ ids fr, a ∈ ids (pushCandidates g true r em cs fr) :=
  pushCandidates_ind (Q := fun fr' => ∀ a ∈ ids fr, a ∈ ids fr') cs
    (fun _ _ _ h _ _ _ a ha => ids_append .. ▸ List.mem_append_left _ (h a ha)) fr fun _ h => h

theorem pushCandidates_complete {g : Graph} {r em : List Nat} :
    ∀ (cs fr : List (Nat × OpNode)), ∀ c ∈ cs, depsResolved g r c.2 = true →
      c.1 ∈ ids (pushCandidates g true r em cs fr) ∨ c.1 ∈ em := by
  intro cs
  induction cs with
  | nil => exact fun _ _ h => nomatch h
  | cons c cs ih =>
    intro fr c' hc' hr
    rw [pushCandidates_cons]
    rcases List.mem_cons.mp hc' with rfl | hc'
    · split
      · next hskip =>
        rcases hskip with h | h | h
        · exact Or.inl (ids_sub_pushCandidates _ _ _ h)
        · exact Or.inr h
        · rw [hr] at h; cases h
      · exact Or.inl (ids_sub_pushCandidates _ _ _
          (ids_append .. ▸ List.mem_append_right _ (List.mem_singleton.mpr rfl)))
    · exact ih _ c' hc' hr

theorem mem_dependents {g : Graph} {P : List (Nat × OpNode)} {v : Nat} {x : Nat × OpNode} :
    x ∈ dependents g P v ↔ x ∈ P ∧ v ∈ opDeps g x.2 := by
  simp only [dependents, List.mem_flatMap, List.mem_map, List.mem_filter, beq_iff_eq]
  constructor
  · rintro ⟨e, he, d, ⟨hd, rfl⟩, rfl⟩
    exact ⟨he, hd⟩
  · rintro ⟨h1, h2⟩
    exact ⟨x, h1, v, ⟨h2, rfl⟩, rfl⟩

/-- Invariant of the `while !frontier.is_empty()` loop: `P` is the depth-first plan, `fr` the frontier, `em` the
`output_plan` so far and `r` the values resolved by it.  `complete` (every ready entry of `P` is in the frontier
or scheduled) is what makes a loop that stops with an empty frontier lose nothing (`all_emitted`). -/
structure SInv (g : Graph) (r0 : List Nat) (P fr : List (Nat × OpNode)) (r em : List Nat) :
    Prop where
  frP : ∀ e ∈ fr, e ∈ P
  frReady : ∀ e ∈ fr, depsResolved g r e.2 = true
  frNodup : (ids fr).Nodup
  emNodup : em.Nodup
  disj : ∀ a ∈ ids fr, a ∉ em
  emP : ∀ i ∈ em, i ∈ ids P
  valid : ValidIds g false r0 em
  res : r = availAfter g r0 em
  complete : ∀ e ∈ P, depsResolved g r e.2 = true → e.1 ∈ ids fr ∨ e.1 ∈ em

theorem sortStep {g : Graph} {r0 : List Nat} {P fr fr' : List (Nat × OpNode)} {r em : List Nat}
    {e : Nat × OpNode} (hops : ∀ e ∈ P, getOp g e.1 = some e.2)
    (hinv : SInv g r0 P fr r em) (hperm : fr.Perm (e :: fr')) :
    SInv g r0 P
      (pushCandidates g true (r ++ opOutputs e.2) (em ++ [e.1])
        ((opOutputs e.2).flatMap (dependents g P)) fr')
      (r ++ opOutputs e.2) (em ++ [e.1]) := by
  have he_fr : e ∈ fr := hperm.symm.subset (List.mem_cons_self ..)
  have hsub' : ∀ x ∈ fr', x ∈ fr := fun x hx => hperm.symm.subset (List.mem_cons_of_mem _ hx)
  have hnd' : (e.1 :: ids fr').Nodup := (hperm.map _).nodup_iff.mp hinv.frNodup
  have he_not_em : e.1 ∉ em := hinv.disj _ (mem_ids.mpr ⟨e, he_fr, rfl⟩)
  have heP : e ∈ P := hinv.frP e he_fr
  have hop : getOp g e.1 = some e.2 := hops e heP
  -- what the invariant says of the frontier alone goes through the candidate loop
  obtain ⟨q1, q2, q3, q4⟩ := pushCandidates_ind (g := g) (r := r ++ opOutputs e.2) (em := em ++ [e.1])
    (Q := fun fr => (∀ x ∈ fr, x ∈ P) ∧ (∀ x ∈ fr, depsResolved g (r ++ opOutputs e.2) x.2 = true) ∧
      (ids fr).Nodup ∧ ∀ a ∈ ids fr, a ∉ em ++ [e.1])
    ((opOutputs e.2).flatMap (dependents g P))
    (fun fr c hc ⟨q1, q2, q3, q4⟩ h1 h2 h3 => by
      obtain ⟨v, _, hv⟩ := List.mem_flatMap.mp hc
      rw [ids_append]
      exact ⟨List.forall_mem_append.mpr ⟨q1, List.forall_mem_singleton.mpr (mem_dependents.mp hv).1⟩,
        List.forall_mem_append.mpr ⟨q2, List.forall_mem_singleton.mpr h3⟩, nodup_snoc.mpr ⟨h1, q3⟩,
        List.forall_mem_append.mpr ⟨q4, List.forall_mem_singleton.mpr h2⟩⟩)
    fr' ⟨fun x hx => hinv.frP x (hsub' x hx),
      fun x hx => depsResolved_mono (fun v hv => List.mem_append_left _ hv) (hinv.frReady x (hsub' x hx)),
      (List.nodup_cons.mp hnd').2, fun a ha hm => by
        rcases List.mem_append.mp hm with hm | hm
        · obtain ⟨x, hx, hid⟩ := mem_ids.mp ha
          exact hinv.disj a (mem_ids.mpr ⟨x, hsub' x hx, hid⟩) hm
        · exact (List.nodup_cons.mp hnd').1 (List.mem_singleton.mp hm ▸ ha)⟩
  refine ⟨q1, q2, q3, nodup_snoc.mpr ⟨he_not_em, hinv.emNodup⟩, q4, ?_, ?_, ?_, ?_⟩
  · intro i hi
    rcases List.mem_append.mp hi with hi | hi
    · exact hinv.emP i hi
    · exact mem_ids.mpr ⟨e, heP, (List.mem_singleton.mp hi).symm⟩
  · exact validIds_snoc hinv.valid hop fun d hd =>
      Or.inl (hinv.res ▸ depsResolved_iff.mp (hinv.frReady e he_fr) d hd)
  · rw [availAfter_snoc, outsOf_eq hop, hinv.res]
  · intro x hxP hready
    by_cases hold : depsResolved g r x.2 = true
    · rcases hinv.complete x hxP hold with h | h
      · obtain ⟨y, hy, hid⟩ := mem_ids.mp h
        rcases List.mem_cons.mp (hperm.subset hy) with rfl | hy'
        · exact Or.inr (hid ▸ List.mem_append_right _ (List.mem_singleton.mpr rfl))
        · exact Or.inl (ids_sub_pushCandidates _ _ _ (mem_ids.mpr ⟨y, hy', hid⟩))
      · exact Or.inr (List.mem_append_left _ h)
    · -- some dependency became available only now: `x` is a dependent of an output of `e`
      obtain ⟨d, hd, hdr⟩ := List.all_eq_false.mp (Bool.eq_false_iff.mpr hold)
      have hdr : rContains g r d = false := Bool.eq_false_iff.mpr hdr
      rcases rContains_append_cases (depsResolved_iff.mp hready d hd) with h | h
      · rw [hdr] at h; cases h
      · exact pushCandidates_complete _ _ x
          (List.mem_flatMap.mpr ⟨d, h, mem_dependents.mpr ⟨hxP, hd⟩⟩) hready

structure SortResult (g : Graph) (r0 : List Nat) (P : List (Nat × OpNode)) (out : List Nat) :
    Prop where
  nodup : out.Nodup
  sub : ∀ i ∈ out, i ∈ ids P
  valid : ValidIds g false r0 out
  complete : ∀ e ∈ P, depsResolved g (availAfter g r0 out) e.2 = true → e.1 ∈ out

theorem SInv.result {g : Graph} {r0 : List Nat} {P : List (Nat × OpNode)} {r em : List Nat}
    (h : SInv g r0 P [] r em) : SortResult g r0 P em :=
  ⟨h.emNodup, h.emP, h.valid,
    fun e he hr => (h.complete e he (h.res ▸ hr)).resolve_left List.not_mem_nil⟩

/-- Bounds the number of iterations still to come. -/
theorem SInv.length_le {g : Graph} {r0 : List Nat} {P fr : List (Nat × OpNode)} {r em : List Nat}
    (h : SInv g r0 P fr r em) : fr.length + em.length ≤ P.length := by
  have hnd : (ids fr ++ em).Nodup :=
    List.nodup_append.mpr ⟨h.frNodup, h.emNodup, fun x hx y hy hxy => h.disj x hx (hxy ▸ hy)⟩
  have hsub : ids fr ++ em ⊆ ids P := by
    intro x hx
    rcases List.mem_append.mp hx with hx | hx
    · obtain ⟨y, hy, hid⟩ := mem_ids.mp hx
      exact mem_ids.mpr ⟨y, h.frP y hy, hid⟩
    · exact h.emP x hx
  simpa [ids] using hnd.length_le_of_subset hsub

theorem sortLoop_spec {g : Graph} {r0 : List Nat} {P : List (Nat × OpNode)}
    (hops : ∀ e ∈ P, getOp g e.1 = some e.2) :
    ∀ (fuel : Nat) (fr : List (Nat × OpNode)) (r em : List Nat), SInv g r0 P fr r em →
      P.length ≤ fuel + em.length →
      ∃ out, sortLoop g true P fuel fr r em = some out ∧ SortResult g r0 P out := by
  intro fuel
  induction fuel with
  | zero =>
    intro fr r em hinv hlen
    cases fr with
    | nil => exact ⟨em, rfl, hinv.result⟩
    | cons a fr =>
      have := hinv.length_le
      simp only [List.length_cons] at this
      omega
  | succ fuel ih =>
    intro fr r em hinv hlen
    cases fr with
    | nil => exact ⟨em, rfl, hinv.result⟩
    | cons a fr =>
      obtain ⟨e, fr', hrem, hperm⟩ := removeAt_spec (a :: fr) (pickPos (a :: fr))
        (pickPos_lt (List.cons_ne_nil a fr))
      simp only [sortLoop, hrem]
      apply ih _ _ _ (sortStep hops hinv hperm)
      rw [List.length_append, List.length_singleton]
      omega

/-- If the plan `P` is valid in its own (depth-first) order, a frontier loop that has
stopped has scheduled every entry. -/
theorem all_emitted {g : Graph} {P : List (Nat × OpNode)} {r out : List Nat} :
    ∀ (r0 : List Nat), ValidFrom g false r0 P → (∀ v, v ∈ r0 → v ∈ r) →
      (∀ e ∈ P, depsResolved g r e.2 = true → e.1 ∈ out) →
      (∀ e ∈ P, e.1 ∈ out → ∀ v ∈ opOutputs e.2, v ∈ r) → ∀ e ∈ P, e.1 ∈ out := by
  induction P with
  | nil => intro _ _ _ _ _ e he; cases he
  | cons a P ih =>
    intro r0 hv hsub hc ho e he
    have ha : a.1 ∈ out := by
      apply hc a (List.mem_cons_self ..)
      rw [depsResolved_iff]
      intro d hd
      rcases hv.1 d hd with h | ⟨h, _⟩
      · exact rContains_mono hsub h
      · cases h
    rcases List.mem_cons.mp he with rfl | he
    · exact ha
    · apply ih (r0 ++ opOutputs a.2) hv.2 _ (fun e' he' => hc e' (List.mem_cons_of_mem _ he'))
        (fun e' he' => ho e' (List.mem_cons_of_mem _ he')) e he
      intro v hv'
      rcases List.mem_append.mp hv' with h | h
      · exact hsub v h
      · exact ho a (List.mem_cons_self ..) ha v h

/-- **`sort_plan`**: with budget `P.length` the loop finishes, and returns a permutation of
the depth-first plan in which every entry still runs after all of its dependencies. -/
theorem sortPlan_spec {g : Graph} {r0 outs : List Nat} {st : St}
    (hinv : Inv g false r0 outs st) :
    ∃ out, sortPlanFuel g true st.plan.length st.plan r0 = some out ∧
      out.Perm (ids st.plan) ∧ ValidIds g false r0 out := by
  have hinit : SInv g r0 st.plan (st.plan.filter (fun e => depsResolved g r0 e.2)) r0 [] := by
    refine ⟨?_, ?_, ?_, by simp, by simp, by simp, trivial, by simp [availAfter], ?_⟩
    · intro e he; exact (List.mem_filter.mp he).1
    · intro e he; exact (List.mem_filter.mp he).2
    · exact List.Nodup.sublist (List.Sublist.map _ List.filter_sublist) hinv.nodup
    · intro e he hr
      left
      exact mem_ids.mpr ⟨e, List.mem_filter.mpr ⟨he, hr⟩, rfl⟩
  obtain ⟨out, hout, hres⟩ := sortLoop_spec hinv.ops st.plan.length _ r0 [] hinit (by simp)
  refine ⟨out, hout, ?_, hres.valid⟩
  have hall : ∀ e ∈ st.plan, e.1 ∈ out := by
    apply all_emitted (r := availAfter g r0 out) r0 hinv.valid
    · intro v hv; exact List.mem_append_left _ hv
    · exact hres.complete
    · intro e he hin v hv
      refine List.mem_append_right _ (List.mem_flatMap.mpr ⟨e.1, hin, ?_⟩)
      rw [outsOf_eq (hinv.ops e he)]
      exact hv
  have hnd : (ids st.plan).Nodup := hinv.nodup
  rw [List.perm_ext_iff_of_nodup hres.nodup hnd]
  intro a
  constructor
  · exact hres.sub a
  · intro ha
    obtain ⟨e, he, hid⟩ := mem_ids.mp ha
    exact hid ▸ hall e he

end RtenVerif.Planner
