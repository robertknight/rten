/-! Facts that mention no model, for the lemma files of every model: lists (`getD` within and past
the length, `insertIdx`/`eraseIdx`/`set` surgery, `zipIdx`, permutations of `range n`, consecutive
elements) and row-major index arithmetic, chains of `Except` checks and `bind`/`map`/`mapM` read
backwards from an `.ok`, association lists read with `List.lookup`, folds of `List.set` writes, plain
`foldl` facts, folds that widen what they cover. -/
namespace RtenVerif

theorem flatMap_congr' {α β : Type} {l : List α} {f g : α → List β}
    (h : ∀ a ∈ l, f a = g a) : l.flatMap f = l.flatMap g := by
  rw [List.flatMap_def, List.flatMap_def, List.map_congr_left h]

theorem filterMap_congr' {β γ : Type} {f g : β → Option γ} {l : List β}
    (h : ∀ x ∈ l, f x = g x) : l.filterMap f = l.filterMap g := by
  induction l with
  | nil => rfl
  | cons a t ih =>
    simp only [List.filterMap_cons]
    rw [h a (by simp), ih (fun x hx => h x (List.mem_cons_of_mem _ hx))]

theorem mul_add_lt {a A j L : Nat} (ha : a < A) (hj : j < L) : a * L + j < A * L :=
  calc a * L + j < a * L + L := Nat.add_lt_add_left hj _
    _ = (a + 1) * L := (Nat.succ_mul a L).symm
    _ ≤ A * L := Nat.mul_le_mul_right _ ha

theorem mul_add_div_mod {W x : Nat} (y : Nat) (hx : x < W) :
    (y * W + x) / W = y ∧ (y * W + x) % W = x :=
  ⟨by rw [Nat.mul_comm, Nat.mul_add_div (Nat.zero_lt_of_lt hx), Nat.div_eq_of_lt hx, Nat.add_zero],
    Nat.mul_add_mod_of_lt hx⟩

/-- The byte index of an element and every scale-index formula of the block-quantised
kernels (vblock / sub-vector, half / lane) are instances. -/
theorem div_split (n b x : Nat) : x / (n * b) * n + x % (n * b) / b = x / b := by
  rw [Nat.mod_mul_left_div_self, Nat.mul_comm n b, ← Nat.div_div_eq_div_mul]
  exact Nat.div_add_mod' _ _

theorem getD_map_range {β : Type} (n : Nat) (f : Nat → β) (k : Nat) (d : β) :
    ((List.range n).map f).getD k d = if k < n then f k else d := by
  rw [List.getD_eq_getElem?_getD, List.getElem?_map]
  split
  · rename_i h; rw [List.getElem?_range h]; rfl
  · rename_i h; rw [List.getElem?_eq_none (by simpa using h)]; rfl

theorem getD_set {β : Type} (l : List β) (i j : Nat) (v d : β) :
    (l.set i v).getD j d = if i = j ∧ i < l.length then v else l.getD j d := by
  simp only [List.getD_eq_getElem?_getD, List.getElem?_set]
  by_cases h : i = j
  · subst h
    by_cases hi : i < l.length <;> simp [hi]
  · simp [h]

theorem nodup_lt_length_le {l : List Nat} {N : Nat} (hn : l.Nodup) (hlt : ∀ a ∈ l, a < N) :
    l.length ≤ N := by
  have := hn.length_le_of_subset (fun a ha => List.mem_range.mpr (hlt a ha))
  rwa [List.length_range] at this

theorem map_getD_range {β : Type} (d : List β) (x : β) :
    (List.range d.length).map (fun i => d.getD i x) = d := by
  apply List.ext_getElem
  · simp
  · intro i h1 h2
    simp [List.getD_eq_getElem?_getD, List.getElem?_eq_getElem h2]

theorem getElem?_append_some {β : Type} {l r : List β} {i : Nat} {v : β} (h : l[i]? = some v) :
    (l ++ r)[i]? = some v := by
  rw [List.getElem?_append_left (List.getElem?_eq_some_iff.mp h).1]; exact h

theorem map_insertIdx {β γ : Type} (f : β → γ) (l : List β) (k : Nat) (b : β) :
    (l.insertIdx k b).map f = (l.map f).insertIdx k (f b) := by
  induction k generalizing l with
  | zero => simp
  | succ k ih => cases l <;> simp [ih]

theorem map_eraseIdx {β γ : Type} (f : β → γ) (l : List β) (k : Nat) :
    (l.eraseIdx k).map f = (l.map f).eraseIdx k := by
  induction k generalizing l with
  | zero => cases l <;> simp
  | succ k ih => cases l <;> simp [ih]

theorem insertIdx_eraseIdx_getD {α : Type} (l : List α) (k : Nat) (dflt : α) (hk : k < l.length) :
    (l.eraseIdx k).insertIdx k (l.getD k dflt) = l := by
  induction k generalizing l with
  | zero => cases l with
    | nil => simp at hk
    | cons a as => simp
  | succ k ih =>
    cases l with
    | nil => simp at hk
    | cons a as =>
      simp only [List.eraseIdx_cons_succ, List.getD_cons_succ, List.insertIdx_succ_cons,
        ih as (Nat.lt_of_succ_lt_succ hk)]

theorem set_eq_insert_erase {β : Type} (l : List β) (k : Nat) (x : β) (hk : k < l.length) :
    l.set k x = (l.eraseIdx k).insertIdx k x := by
  induction k generalizing l with
  | zero => cases l with
    | nil => simp at hk
    | cons a as => simp
  | succ k ih =>
    cases l with
    | nil => simp at hk
    | cons a as =>
      simp only [List.set_cons_succ, List.eraseIdx_cons_succ, List.insertIdx_succ_cons,
        ih as (Nat.lt_of_succ_lt_succ hk)]

theorem getD_insertIdx_self {β : Type} (l : List β) (k : Nat) (x dflt : β) (hk : k ≤ l.length) :
    (l.insertIdx k x).getD k dflt = x := by
  induction k generalizing l with
  | zero => simp
  | succ k ih =>
    cases l with
    | nil => simp at hk
    | cons a as =>
      simp only [List.insertIdx_succ_cons, List.getD_cons_succ]
      exact ih as (by simpa using hk)

theorem list_split {α : Type} (d : List α) (i : Nat) (h : i < d.length) :
    d = d.take i ++ d[i] :: d.drop (i + 1) := by
  rw [List.getElem_cons_drop, List.take_append_drop]

theorem insertIdx_eq {α : Type} (x : α) : ∀ (d : List α) (i : Nat), i ≤ d.length →
    d.insertIdx i x = d.take i ++ x :: d.drop i
  | d, 0, _ => by simp
  | [], i + 1, h => by simp at h
  | a :: d, i + 1, h => by
    rw [List.insertIdx_succ_cons, insertIdx_eq x d i (by simpa using h)]; simp

theorem getD_eq {α : Type} (d : List α) (i : Nat) (h : i < d.length) (x : α) :
    d.getD i x = d[i] := by
  simp [List.getD_eq_getElem?_getD, h]

theorem getD_map_lt {β γ : Type} (f : β → γ) (l : List β) (k : Nat) (hk : k < l.length) (dflt : γ) :
    (l.map f).getD k dflt = f l[k] := by
  simp [List.getD_eq_getElem?_getD, List.getElem?_eq_getElem hk]

theorem getD_take_drop (l : List Nat) (a n i : Nat) (hi : i < n) :
    ((l.drop a).take n).getD i 0 = l.getD (a + i) 0 := by
  simp only [List.getD_eq_getElem?_getD, List.getElem?_take, hi, if_true, List.getElem?_drop]

theorem getD_of_all {S : Nat → Prop} (offs : List Nat) (d x : Nat) (hd : S d)
    (hs : ∀ v, offs[x]? = some v → S v) : S (offs.getD x d) := by
  rw [List.getD_eq_getElem?_getD]
  cases hv : offs[x]? with
  | none => exact hd
  | some v => exact hs v hv

theorem getD_mono {l : List Nat} {d : Nat} (hs : l.Pairwise (· ≤ ·)) (hd : ∀ o ∈ l, o ≤ d)
    {a b : Nat} (hab : a ≤ b) : l.getD a d ≤ l.getD b d := by
  rcases Nat.lt_or_ge b l.length with hb | hb
  · have ha := Nat.lt_of_le_of_lt hab hb
    rw [List.getD_eq_getElem?_getD, List.getD_eq_getElem?_getD, List.getElem?_eq_getElem ha,
      List.getElem?_eq_getElem hb]
    rcases Nat.lt_or_eq_of_le hab with hlt | rfl
    · exact List.pairwise_iff_getElem.mp hs a b ha hb hlt
    · exact Nat.le_refl _
  · rw [List.getD_eq_getElem?_getD (i := b), List.getElem?_eq_none hb]
    exact getD_of_all (S := (· ≤ d)) l d a (Nat.le_refl d) fun v hv => hd v (List.mem_of_getElem? hv)

theorem perm_range_of_count : ∀ (n : Nat) (p : List Nat), p.length = n →
    (∀ d, d < n → p.count d = 1) → p.Perm (List.range n) := by
  intro n
  induction n with
  | zero =>
    intro p hl _
    have : p = [] := List.eq_nil_of_length_eq_zero hl
    subst this; exact List.Perm.refl _
  | succ n ih =>
    intro p hl hc
    have hmem : n ∈ p := List.count_pos_iff.mp (by rw [hc n (by omega)]; omega)
    have h1 := List.perm_cons_erase hmem
    have ih' := ih (p.erase n) (by rw [List.length_erase_of_mem hmem]; omega)
      (fun d hd => by rw [List.count_erase_of_ne (by omega)]; exact hc d (by omega))
    rw [List.range_succ]
    exact h1.trans ((ih'.cons n).trans (List.perm_append_comm (l₁ := [n])))

theorem perm_facts {p : List Nat} {n : Nat} (hp : p.Perm (List.range n)) :
    p.length = n ∧ (∀ a, a ∈ p ↔ a < n) ∧ p.Nodup :=
  ⟨by simpa using hp.length_eq, fun a => by simpa using hp.mem_iff (a := a),
    hp.nodup_iff.mpr List.nodup_range⟩

theorem idxOf_range (r a : Nat) (h : a < r) : (List.range r).idxOf a = a := by
  refine (List.findIdx_eq (by simpa using h)).mpr ⟨?_, fun j hj => ?_⟩
  · rw [List.getElem_range]; exact beq_self_eq_true a
  · rw [List.getElem_range]; exact beq_eq_false_iff_ne.mpr (Nat.ne_of_lt hj)

theorem all_range (n : Nat) (p : Nat → Bool) (h : ∀ a, a < n → p a = true) : (List.range n).all p = true :=
  List.all_eq_true.mpr fun a ha => h a (List.mem_range.mp ha)

theorem nodup_snoc {α : Type} {l : List α} {a : α} : (l ++ [a]).Nodup ↔ a ∉ l ∧ l.Nodup :=
  (List.perm_append_singleton a l).nodup_iff.trans List.nodup_cons

theorem filter_ne_cons_self {p : Nat} {l : List Nat} (h : p ∉ l) :
    (p :: l).filter (fun a => a != p) = l := by
  rw [List.filter_cons_of_neg (by simp), List.filter_eq_self]
  exact fun a ha => bne_iff_ne.mpr (fun e => h (e ▸ ha))

theorem count_cons_ite (d : Nat) (ds : List Nat) (v : Nat) :
    (d :: ds).count v = (if v = d then 1 else 0) + ds.count v := by
  rw [List.count_cons, Nat.add_comm]
  by_cases e : v = d
  · simp [e]
  · simp [e, Ne.symm e]

theorem eq_append_two {α : Type} : ∀ (x y : α) (l : List α), ∃ mid u v, x :: y :: l = mid ++ [u, v]
  | x, y, [] => ⟨[], x, y, rfl⟩
  | x, y, z :: l => by
    obtain ⟨mid, u, v, e⟩ := eq_append_two y z l
    exact ⟨x :: mid, u, v, by rw [e]; rfl⟩

theorem all_zip_pairs {α : Type} (f : α × α → Bool) : ∀ l : List α,
    (∀ pre a b post, l = pre ++ a :: b :: post → f (a, b) = true) → (l.zip (l.drop 1)).all f = true
  | [], _ => rfl
  | [_], _ => rfl
  | a :: b :: t, h => by
    have := all_zip_pairs f (b :: t) fun pre x y post e => h (a :: pre) x y post (by rw [e]; rfl)
    simp only [List.drop_succ_cons, List.drop_zero, List.zip_cons_cons, List.all_cons,
      Bool.and_eq_true] at this ⊢
    exact ⟨h [] a b t rfl, this⟩

theorem all_zip_triples {α : Type} (f : α × α × α → Bool) : ∀ l : List α,
    (∀ pre a b c post, l = pre ++ a :: b :: c :: post → f (a, b, c) = true) →
    (l.zip ((l.drop 1).zip (l.drop 2))).all f = true
  | [], _ => rfl
  | [_], _ => rfl
  | [_, _], _ => rfl
  | a :: b :: c :: t, h => by
    have := all_zip_triples f (b :: c :: t) fun pre x y z post e =>
      h (a :: pre) x y z post (by rw [e]; rfl)
    simp only [List.drop_succ_cons, List.drop_zero, List.zip_cons_cons, List.all_cons,
      Bool.and_eq_true] at this ⊢
    exact ⟨h [] a b c t rfl, this⟩

theorem zipIdx_nodup {α} (beam : List α) : beam.zipIdx.Nodup := by
  have h : (beam.zipIdx.map Prod.snd).Nodup := by
    rw [List.zipIdx_map_snd]; exact List.nodup_range' _
  unfold List.Nodup at h ⊢
  rw [List.pairwise_map] at h
  exact h.imp fun hab he => hab (congrArg Prod.snd he)

theorem eq_of_mem_zipIdx {α} {beam : List α} {sb : α × Nat} (hsb : sb ∈ beam.zipIdx) {i : Nat}
    {s : α} (hs : beam[i]? = some s) (hi : sb.2 = i) : sb = (s, i) := by
  have := List.mem_zipIdx_iff_getElem?.mp hsb
  rw [hi, hs] at this
  exact Prod.ext (Option.some.inj this).symm hi

theorem mem_zipIdx {α} {beam : List α} {i : Nat} {s : α} (hs : beam[i]? = some s) :
    (s, i) ∈ beam.zipIdx :=
  List.mem_zipIdx_iff_getElem?.mpr hs

theorem mem_range'_of {l L : Nat} (h1 : l ≠ 0) (h2 : l < L) : l ∈ List.range' 1 (L - 1) :=
  List.mem_range'_1.mpr ⟨Nat.pos_of_ne_zero h1,
    (Nat.add_sub_cancel' (Nat.le_of_lt_succ (Nat.succ_lt_succ (Nat.zero_lt_of_lt h2)))).symm ▸ h2⟩

theorem snoc_induction {α} {P : List α → Prop} (nil : P [])
    (snoc : ∀ a l, P a → P (a ++ [l])) : ∀ a, P a := by
  have h : ∀ r : List α, P r.reverse := by
    intro r
    induction r with
    | nil => exact nil
    | cons x r ih => rw [List.reverse_cons]; exact snoc _ _ ih
  intro a
  have := h a.reverse
  rwa [List.reverse_reverse] at this

/-! Argument checks are chains `if bad₁ then .error e₁ else if bad₂ then .error e₂ else … x`;
an `.ok` answer means every check passed.  `simp only [ite_error_eq_ok]` peels a whole chain;
`bind_eq_ok`, `map_eq_ok` and `mapM_ok_inv` read a `do` block backwards from its `.ok` result. -/

theorem ite_error_eq_ok {ε β : Type} {c : Prop} [Decidable c] {e : ε} {x : Except ε β} {v : β} :
    (if c then Except.error e else x) = .ok v ↔ ¬ c ∧ x = .ok v := by
  by_cases hc : c <;> simp [hc]

theorem bind_eq_ok {ε β γ : Type} {x : Except ε β} {f : β → Except ε γ} {c : γ}
    (h : x.bind f = .ok c) : ∃ b, x = .ok b ∧ f b = .ok c := by
  cases x with
  | error e => cases h
  | ok b => exact ⟨b, rfl, h⟩

theorem map_eq_ok {ε β γ : Type} {x : Except ε β} {f : β → γ} {c : γ} (h : x.map f = .ok c) :
    ∃ b, x = .ok b ∧ f b = c := by
  cases x with
  | error e => cases h
  | ok b => exact ⟨b, rfl, by injection h⟩

theorem mapM_ok {ε α β : Type} (f : α → Except ε β) (g : α → β) : ∀ (l : List α),
    (∀ a ∈ l, f a = .ok (g a)) → l.mapM f = .ok (l.map g)
  | [], _ => rfl
  | a :: l, h => by
    have h1 := h a (by simp)
    have h2 := mapM_ok f g l (fun b hb => h b (by simp [hb]))
    simp only [List.mapM_cons, h1, h2, List.map_cons]
    rfl

theorem mapM_ok_inv {ε α β : Type} (f : α → Except ε β) : ∀ (l : List α) (out : List β),
    l.mapM f = .ok out → out.length = l.length ∧ ∀ b ∈ out, ∃ a ∈ l, f a = .ok b
  | [], out, h => by
    injection h with h
    subst h
    exact ⟨rfl, fun b hb => nomatch hb⟩
  | a :: l, out, h => by
    rw [List.mapM_cons] at h
    obtain ⟨b, hb, h⟩ := bind_eq_ok h
    obtain ⟨bs, hbs, h⟩ := bind_eq_ok h
    injection h with h
    subst h
    obtain ⟨ih1, ih2⟩ := mapM_ok_inv f l bs hbs
    refine ⟨by simp [ih1], fun c hc => ?_⟩
    rcases List.mem_cons.mp hc with rfl | hc
    · exact ⟨a, List.mem_cons_self, hb⟩
    · obtain ⟨a', ha', hf⟩ := ih2 c hc
      exact ⟨a', List.mem_cons_of_mem _ ha', hf⟩

/-! Association lists keyed by `Nat`, read with `List.lookup`.  The stores of the `run_plan` models
(`temp_values`, inputs by id, capture frames) are association lists.  Core has `lookup_append`,
`lookup_eq_some_iff`, `lookup_isSome_iff`; here is what it lacks: membership of the pair found, lookup
against the key list, lookup after a filter on keys (`HashMap::remove` is the filter `(· != k)`). -/
section lookup
variable {V : Type}

theorem lookup_mem {l : List (Nat × V)} {k : Nat} {v : V} (h : l.lookup k = some v) :
    (k, v) ∈ l := by
  obtain ⟨l₁, l₂, rfl, -⟩ := List.lookup_eq_some_iff.mp h
  exact List.mem_append_right _ List.mem_cons_self

theorem mem_keys_iff_lookup {l : List (Nat × V)} {k : Nat} :
    k ∈ l.map (fun p => p.1) ↔ ∃ v, l.lookup k = some v := by
  rw [← Option.isSome_iff_exists, List.lookup_isSome_iff, List.mem_map]
  exact exists_congr fun p => and_congr_right fun _ => by rw [beq_iff_eq, eq_comm]

theorem lookup_eq_none_iff_keys {l : List (Nat × V)} {k : Nat} :
    l.lookup k = none ↔ k ∉ l.map (fun p => p.1) := by
  rw [mem_keys_iff_lookup, Option.eq_none_iff_forall_ne_some, not_exists]

theorem lookup_filter_key {l : List (Nat × V)} {q : Nat → Bool} {k : Nat} :
    (l.filter (fun p => q p.1)).lookup k = if q k then l.lookup k else none := by
  induction l with
  | nil => simp
  | cons a l ih =>
    by_cases hq : q a.1 = true
    · rw [List.filter_cons_of_pos (p := fun p : Nat × V => q p.1) hq, List.lookup_cons,
        List.lookup_cons, ih]
      cases hb : k == a.1
      · rfl
      · rw [eq_of_beq hb, if_pos hq, if_pos hq]
    · rw [List.filter_cons_of_neg (p := fun p : Nat × V => q p.1) hq, ih, List.lookup_cons]
      cases hb : k == a.1
      · rfl
      · rw [eq_of_beq hb, if_neg hq, if_neg hq]

end lookup

/-! Folds of writes `st.set (p w) (g w)` over a buffer; both models of `copy_blocked` and the write
loop of `append` are such folds.  When the value written to a slot is determined by the slot, the order
of the writes and repeated visits do not matter: a slot that is visited ends up holding that value. -/
section foldSet
variable {α β : Type} (L : List β) (p : β → Nat) (g : β → α)

theorem foldSet_length (st : List α) :
    (L.foldl (fun st w => st.set (p w) (g w)) st).length = st.length := by
  induction L generalizing st with
  | nil => rfl
  | cons x xs ih => rw [List.foldl_cons, ih, List.length_set]

/-- Every write to slot `q` writes `v`, so later writes to `q` write `v` again. -/
theorem foldSet_written (st : List α) (q : Nat) (v : α) (hq : q < st.length)
    (hval : ∀ w ∈ L, p w = q → g w = v) (h : st[q]? = some v ∨ ∃ w ∈ L, p w = q) :
    (L.foldl (fun st w => st.set (p w) (g w)) st)[q]? = some v := by
  induction L generalizing st with
  | nil => exact h.resolve_right (by simp)
  | cons x xs ih =>
    rw [List.foldl_cons]
    apply ih _ (by simpa using hq) (fun w hw => hval w (List.mem_cons_of_mem _ hw))
    by_cases hx : p x = q
    · left; subst hx; rw [List.getElem?_set_self hq, hval x List.mem_cons_self rfl]
    · rw [List.getElem?_set_ne hx]
      refine h.imp_right ?_
      rintro ⟨w, hw, hpw⟩
      rcases List.mem_cons.mp hw with rfl | hw
      · exact absurd hpw hx
      · exact ⟨w, hw, hpw⟩

theorem foldSet_untouched (st : List α) (q : Nat) (h : ∀ w ∈ L, p w ≠ q) :
    (L.foldl (fun st w => st.set (p w) (g w)) st)[q]? = st[q]? := by
  induction L generalizing st with
  | nil => rfl
  | cons x xs ih =>
    rw [List.foldl_cons, ih _ (fun w hw => h w (List.mem_cons_of_mem _ hw)),
      List.getElem?_set_ne (h x List.mem_cons_self)]

end foldSet

/-! Plain `foldl`: two folds related step by step, the element a running maximum picks, a step that
leaves the accumulator alone. -/

theorem foldl_rel {σ σ' γ γ' : Type} (R : σ → σ' → Prop) (f : σ → γ → σ) (f' : σ' → γ' → σ')
    (g : γ → γ') (l : List γ)
    (hstep : ∀ t t' x, R t t' → R (f t x) (f' t' (g x))) :
    ∀ init init', R init init' → R (l.foldl f init) ((l.map g).foldl f' init') := by
  induction l with
  | nil => intro i i' h; exact h
  | cons a l ih =>
    intro i i' h
    simp only [List.foldl_cons, List.map_cons]
    exact ih _ _ (hstep _ _ _ h)

theorem foldl_max_mem {α : Type} (key : α → Nat) (xs : List α) :
    ∀ (acc : Option α) (c : α),
      xs.foldl (fun acc x => match acc with
        | none => some x
        | some m => if key m ≤ key x then some x else some m) acc = some c →
      c ∈ xs ∨ acc = some c := by
  induction xs with
  | nil => intro acc c h; right; simpa using h
  | cons x xs ih =>
    intro acc c h
    simp only [List.foldl_cons] at h
    rcases ih _ c h with h' | h'
    · left; exact List.mem_cons_of_mem _ h'
    · cases acc with
      | none => simp only [Option.some.injEq] at h'; left; rw [← h']; exact List.mem_cons_self
      | some m =>
        simp only at h'
        split at h'
        · simp only [Option.some.injEq] at h'; left; rw [← h']; exact List.mem_cons_self
        · right; exact h'

theorem foldl_fixed {α β : Type} (f : β → α → β) (b : β) :
    ∀ (l : List α), (∀ a, a ∈ l → f b a = b) → l.foldl f b = b
  | [], _ => rfl
  | a :: l, h => by
    rw [List.foldl_cons, h a List.mem_cons_self]
    exact foldl_fixed f b l fun a' ha' => h a' (List.mem_cons_of_mem _ ha')

/-! A fold whose step only ever widens what the accumulator covers ends up covering every folded
element.  This is the shape of the bounding folds of `min_area_rect` (projection bounds of an
edge) and of `Polygon::bounding_rect`. -/

theorem foldl_covers {α β : Type} (step : β → α → β) (C : β → α → Prop)
    (hstep : ∀ acc q p, p = q ∨ C acc p → C (step acc q) p) (l : List α) (acc : β) (p : α)
    (h : p ∈ l ∨ C acc p) : C (l.foldl step acc) p := by
  induction l generalizing acc with
  | nil => exact h.resolve_left List.not_mem_nil
  | cons q qs ih =>
    refine ih _ ?_
    rcases h with h | h
    · rcases List.mem_cons.mp h with rfl | h
      · exact .inr (hstep acc p p (.inl rfl))
      · exact .inl h
    · exact .inr (hstep acc q p (.inr h))

end RtenVerif
