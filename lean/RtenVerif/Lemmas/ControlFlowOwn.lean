import RtenVerif.Lemmas.ControlFlowRc

/-!
# Ownership safety of captures (C24.T2)
-/
namespace RtenVerif.ControlFlow

variable {P V : Type}

theorem extractByVal_keys (gc ins : List Nat) : ∀ (ds : List Nat) (st : St V) (p : Nat × V),
    p ∈ (extractByVal gc ins st ds).2 → p.1 ∈ ds ∧ ins.contains p.1 = false ∧ st.rc p.1 = 1
  | [], st, p, h => nomatch h
  | n :: ns, st, p, h => by
    have ih := extractByVal_keys gc ins ns
    by_cases hin : ins.contains n = true
    · rw [extractByVal_cons_of_input gc ins st n ns hin] at h
      exact ⟨List.mem_cons_of_mem _ (ih st p h).1, (ih st p h).2⟩
    · have hin' : ins.contains n = false := by simpa using hin
      rw [extractByVal_cons gc ins st n ns hin'] at h
      rcases List.mem_append.mp h with h | h
      · obtain ⟨h1, h2, h3⟩ := ih _ p h
        exact ⟨List.mem_cons_of_mem _ h1, h2, by rw [← takeValue_rc gc st n]; exact h3⟩
      · obtain ⟨v, hv, rfl⟩ := List.mem_map.mp h
        exact ⟨List.mem_cons_self, hin', takeValue_some_rc gc st n v (Option.mem_toList.mp hv)⟩

/-- Core of T2: under the refcount invariant a value node whose count is 1 and that the current
operator depends on is used exactly once by that operator and by nothing afterwards — neither a
later step (as input or as capture of a nested subgraph) nor a requested output. -/
theorem rc_one_no_remaining_use {g : Graph P V} {op : Op P V} {rest : List (Op P V)} {st : St V}
    {n : Nat} (hinv : RcInv g (op :: rest) st) (hval : isValueNode g n = true)
    (hdep : n ∈ deps g op) (hrc : st.rc n = 1) :
    (deps g op).count n = 1 ∧ n ∉ rest.flatMap (deps g) ∧ n ∉ g.outputs := by
  have h := hinv n hval
  rw [hrc, remaining_cons g op rest n hval] at h
  have hpos : 0 < (deps g op).count n := List.count_pos_iff.mpr hdep
  have hrest : remaining g rest n = 0 := by omega
  simp only [remaining, hval, if_true, Nat.add_eq_zero_iff, List.count_eq_zero] at hrest
  exact ⟨by omega, hrest.1, hrest.2⟩

end RtenVerif.ControlFlow
