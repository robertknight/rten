import RtenVerif.Lemmas.Gather

/-! C09: `broadcast_strides` / `can_broadcast_to` refine NumPy's `broadcast_to`. -/
namespace RtenVerif.Layout
open RtenVerif.Arr RtenVerif.Overlap

theorem canBroadcast_eq (d : Dims) (t : List Nat) :
    NArr.canBroadcast (sizes d) t = canBroadcastTo d t := by
  unfold NArr.canBroadcast canBroadcastTo
  rw [sizes_length]
  by_cases h : d.length > t.length
  · rw [if_pos h, decide_eq_false (by omega)]; rfl
  · rw [if_neg h, decide_eq_true (by omega)]; rfl

theorem canBroadcastTo_spec (d : Dims) (t : List Nat) (hc : canBroadcastTo d t = true) :
    d.length ≤ t.length ∧ (t.drop (t.length - d.length)).length = d.length ∧
    (List.zip (sizes d) (t.drop (t.length - d.length))).all (fun (a, b) => a == b || a == 1) = true := by
  unfold canBroadcastTo at hc
  by_cases h : d.length > t.length
  · rw [if_pos h] at hc; cases hc
  · rw [if_neg h] at hc
    exact ⟨by omega, by rw [List.length_drop]; omega, hc⟩

theorem broadcast_zip (d : Dims) (t : List Nat) :
    List.zip t (broadcastStrides d t) =
      List.zip (t.take (t.length - d.length)) (List.replicate (t.take (t.length - d.length)).length 0) ++
      List.zip (t.drop (t.length - d.length))
        (List.zipWith (fun (p : Nat × Nat) tt => if p.1 == 1 && decide (tt > 1) then 0 else p.2)
          d (t.drop (t.length - d.length))) := by
  rw [← List.zip_append (by rw [List.length_replicate]), List.take_append_drop, List.length_take,
    Nat.min_eq_left (Nat.sub_le _ _)]
  rfl

theorem broadcast_shape (d : Dims) (t : List Nat) (hc : canBroadcastTo d t = true) :
    sizes (List.zip t (broadcastStrides d t)) = t := by
  obtain ⟨hle, hdl, -⟩ := canBroadcastTo_spec d t hc
  apply List.map_fst_zip
  unfold broadcastStrides
  rw [List.length_append, List.length_replicate, List.length_zipWith, hdl]
  omega

/-- The aligned part of a broadcast: kept axes, and size-1 axes stretched with stride 0. -/
theorem bc_reindex : ∀ (d : Dims) (tr : List Nat), tr.length = d.length →
    (List.zip (sizes d) tr).all (fun (a, b) => a == b || a == 1) = true →
    Reindex d 0 (List.zip tr (List.zipWith
        (fun (p : Nat × Nat) t => if p.1 == 1 && decide (t > 1) then 0 else p.2) d tr))
      (List.zipWith (fun n i => if n == 1 then 0 else i) (sizes d))
  | [], [], _, _ => fun idx hv => by cases idx <;> simp_all [sizes, validIdx, offset]
  | (n, st) :: ds, tt :: ts, hlen, hcb => by
    simp only [sizes_cons, List.zip_cons_cons, List.all_cons, Bool.and_eq_true, Bool.or_eq_true,
      beq_iff_eq] at hcb
    have := (bc_reindex ds ts (by simpa using hlen) hcb.2).cons (n := n) (st := st) (c := tt)
      (st' := if (n == 1 && decide (tt > 1)) = true then 0 else st) (a := 0)
      (φ := fun j => if (n == 1) = true then 0 else j)
      (g := List.zipWith (fun n i => if n == 1 then 0 else i) (sizes ((n, st) :: ds)))
      (fun j hj => by
        by_cases hn : n = 1
        · subst hn
          by_cases ht : tt > 1
          · simp [ht]
          · simp [show j = 0 by omega]
        · have := hcb.1.resolve_right hn
          simp [hn]; omega)
      fun j js _ => rfl
    rwa [Nat.zero_add] at this

/-- Leading axes of the target that the source does not have: stride 0. -/
theorem pad_reindex {d out : Dims} {F : List Nat → List Nat} (h : Reindex d 0 out F) :
    ∀ tp : List Nat, Reindex d 0 (List.zip tp (List.replicate tp.length 0) ++ out)
      (fun idx => F (idx.drop tp.length))
  | [] => h
  | _ :: tp => (pad_reindex h tp).cons_free (fun _ _ => Nat.mul_zero _) fun _ _ => rfl

theorem broadcast_reindex {d : Dims} {t : List Nat} (hc : canBroadcastTo d t = true) :
    Reindex d 0 (List.zip t (broadcastStrides d t)) (NArr.bcSrc (sizes d) (t.length - d.length)) := by
  obtain ⟨hle, hdl, hall⟩ := canBroadcastTo_spec d t hc
  have := pad_reindex (bc_reindex d _ hdl hall) (t.take (t.length - d.length))
  rwa [← broadcast_zip, List.length_take, Nat.min_eq_left (Nat.sub_le _ _)] at this

theorem broadcast_core (d : Dims) (t : List Nat) (hc : canBroadcastTo d t = true) :
    sizes (List.zip t (broadcastStrides d t)) = t ∧
    ∀ idx, validIdx t idx = true →
      validIdx (sizes d) (NArr.bcSrc (sizes d) (t.length - d.length) idx) = true ∧
      offset (List.zip t (broadcastStrides d t)) idx =
        offset d (NArr.bcSrc (sizes d) (t.length - d.length) idx) :=
  ⟨broadcast_shape d t hc, fun idx h =>
    let ⟨hv, ho⟩ := broadcast_reindex hc idx ((broadcast_shape d t hc).symm ▸ h)
    ⟨hv, (Nat.zero_add _).symm.trans ho⟩⟩

end RtenVerif.Layout
