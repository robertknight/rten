import RtenVerif.Model.Optimize

/-! # C01 — basic lemmas about `step` / `run` (frame, congruence, dead operators, stability) -/
namespace RtenVerif.Optimize

variable {K V : Type} (sem : Sem K V)

theorem outsAll_eq_flatMap (ops : List (Op K)) : outsAll ops = ops.flatMap (·.outs) := by
  induction ops with
  | nil => rfl
  | cons o os ih => rw [outsAll, ih, List.flatMap_cons]

theorem outsAll_append (a b : List (Op K)) : outsAll (a ++ b) = outsAll a ++ outsAll b := by
  simp only [outsAll_eq_flatMap, List.flatMap_append]

theorem mem_outsAll {ops : List (Op K)} {i : Id} : i ∈ outsAll ops ↔ ∃ o ∈ ops, i ∈ o.outs := by
  rw [outsAll_eq_flatMap, List.mem_flatMap]

@[simp] theorem mem_outsAll_cons {o : Op K} {os : List (Op K)} {i : Id} :
    i ∈ outsAll (o :: os) ↔ i ∈ o.outs ∨ i ∈ outsAll os := List.mem_append

@[simp] theorem mem_outsAll_append {a b : List (Op K)} {i : Id} :
    i ∈ outsAll (a ++ b) ↔ i ∈ outsAll a ∨ i ∈ outsAll b := by
  rw [outsAll_append, List.mem_append]

theorem outsAll_sublist {l' l : List (Op K)} (h : l'.Sublist l) {i : Id} (hi : i ∈ outsAll l') : i ∈ outsAll l :=
  have ⟨o, ho, hio⟩ := mem_outsAll.mp hi
  mem_outsAll.mpr ⟨o, h.subset ho, hio⟩

theorem WF_sublist {l' l : List (Op K)} (h : l'.Sublist l) : WF l → WF l' := by
  induction h with
  | slnil => exact id
  | cons o _ ih => exact fun hw => ih hw.2.2
  | cons_cons o hs ih =>
    exact fun ⟨h1, h2, h3⟩ => ⟨fun i hi hm => h1 i hi (outsAll_sublist (hs.cons_cons o) hm),
      fun i hi hm => h2 i hi (outsAll_sublist hs hm), ih h3⟩

theorem WF_append_disjoint {a b : List (Op K)} (h : WF (a ++ b)) : ∀ i ∈ outsAll a, i ∉ outsAll b := by
  induction a with
  | nil => exact fun _ hi => nomatch hi
  | cons o os ih =>
    intro i hi hb
    rcases mem_outsAll_cons.mp hi with hi | hi
    · exact h.2.1 i hi (mem_outsAll_append.mpr (.inr hb))
    · exact ih h.2.2 i hi hb

theorem WF_out_unique {ops : List (Op K)} (h : WF ops) {o1 o2 : Op K} {k : Id} (h1 : o1 ∈ ops) (h2 : o2 ∈ ops)
    (hk1 : k ∈ o1.outs) (hk2 : k ∈ o2.outs) : o1 = o2 := by
  induction ops with
  | nil => nomatch h1
  | cons o os ih =>
    obtain ⟨_, hw2, hw3⟩ := h
    rcases List.mem_cons.mp h1 with rfl | m1 <;> rcases List.mem_cons.mp h2 with rfl | m2
    · rfl
    · exact absurd (mem_outsAll.mpr ⟨o2, m2, hk2⟩) (hw2 k hk1)
    · exact absurd (mem_outsAll.mpr ⟨o1, m1, hk1⟩) (hw2 k hk2)
    · exact ih hw3 m1 m2

theorem bind_off (E : Env V) (is : List Id) (vs : List V) (j : Id) (hj : j ∉ is) : bind E is vs j = E j := by
  induction is generalizing vs with
  | nil => rfl
  | cons i is ih =>
    cases vs with
    | nil => rfl
    | cons v vs =>
      have ⟨h1, h2⟩ := not_or.mp (mt List.mem_cons.mpr hj)
      exact (if_neg h1).trans (ih vs h2)

theorem bind_agree (E1 E2 : Env V) (is : List Id) (vs : List V) (j : Id) (h : E1 j = E2 j) :
    bind E1 is vs j = bind E2 is vs j := by
  induction is generalizing vs with
  | nil => exact h
  | cons i is ih =>
    cases vs with
    | nil => exact h
    | cons v vs =>
      show (if j = i then some v else _) = if j = i then some v else _
      split
      · rfl
      · exact ih vs

@[simp] theorem readAll_nil (E : Env V) : readAll E [] = some [] := rfl

theorem readAll_cons (E : Env V) (i : Id) (is : List Id) :
    readAll E (i :: is) = (E i).bind fun v => (readAll E is).map (v :: ·) := by
  rw [readAll]
  cases E i <;> cases readAll E is <;> rfl

theorem readAll_append (E : Env V) (xs ys : List Id) :
    readAll E (xs ++ ys) = (readAll E xs).bind fun a => (readAll E ys).map fun b => a ++ b := by
  induction xs with
  | nil => cases h : readAll E ys <;> simp [readAll, h]
  | cons x xs ih =>
    rw [List.cons_append, readAll_cons, readAll_cons, ih]
    cases E x <;> cases readAll E xs <;> cases readAll E ys <;> rfl

theorem readAll_congr (E1 E2 : Env V) (is : List Id) (h : ∀ i ∈ is, E1 i = E2 i) : readAll E1 is = readAll E2 is := by
  induction is with
  | nil => rfl
  | cons i is ih =>
    rw [readAll_cons, readAll_cons, h i List.mem_cons_self, ih fun k hk => h k (List.mem_cons_of_mem _ hk)]

theorem result_congr (E1 E2 : Env V) (o : Op K) (h : ∀ i ∈ o.reads, E1 i = E2 i) :
    result sem E1 o = result sem E2 o := by
  rw [result, result, readAll_congr E1 E2 o.reads h]

theorem step_off (E : Env V) (o : Op K) (j : Id) (hj : j ∉ o.outs) : step sem E o j = E j := by
  unfold step
  cases result sem E o with
  | none => rfl
  | some rs => exact bind_off E o.outs rs j hj

theorem step_agree (E1 E2 : Env V) (o : Op K) (j : Id) (h : ∀ i ∈ o.reads, E1 i = E2 i) (hj : E1 j = E2 j) :
    step sem E1 o j = step sem E2 o j := by
  unfold step
  rw [result_congr sem E1 E2 o h]
  cases result sem E2 o with
  | none => exact hj
  | some rs => exact bind_agree E1 E2 o.outs rs j hj

def only? : List V → Option V
  | [r] => some r
  | _ => none

@[simp] theorem only?_singleton (r : V) : only? [r] = some r := rfl

theorem step_single (oid : Nat) (kind : K) (ins caps : List Id) (k : Id) (E : Env V) (j : Id) :
    step sem E ⟨oid, kind, ins, caps, [k]⟩ j =
      if j = k then ((readAll E (ins ++ caps)).bind fun vs => (sem.app kind vs).bind only?).or (E k) else E j := by
  by_cases h : j = k
  · subst h
    simp only [if_pos, step, result, Op.reads]
    cases readAll E (ins ++ caps) with
    | none => rfl
    | some vs =>
      simp only [Option.bind_some]
      cases sem.app kind vs with
      | none => rfl
      | some rs =>
        match rs with
        | [] | _ :: _ :: _ => rfl
        | [r] => exact if_pos rfl
  · rw [if_neg h]
    exact step_off sem E _ j (by simpa using h)

theorem run_append (a b : List (Op K)) (E : Env V) : run sem (a ++ b) E = run sem b (run sem a E) := by
  induction a generalizing E with
  | nil => rfl
  | cons o os ih => exact ih _

theorem run_off (ops : List (Op K)) (E : Env V) (j : Id) (hj : j ∉ outsAll ops) : run sem ops E j = E j := by
  induction ops generalizing E with
  | nil => rfl
  | cons o os ih =>
    rw [mem_outsAll_cons, not_or] at hj
    rw [run, ih _ hj.2, step_off sem E o j hj.1]

theorem run_agree (P : Id → Prop) (ops : List (Op K)) :
    ∀ (E1 E2 : Env V), (∀ o ∈ ops, ∀ i ∈ o.reads, P i) → (∀ i, P i → E1 i = E2 i) →
      ∀ i, P i → run sem ops E1 i = run sem ops E2 i := by
  induction ops with
  | nil => intro E1 E2 _ h; exact h
  | cons o os ih =>
    intro E1 E2 hr h
    refine ih _ _ (fun o' ho' => hr o' (List.mem_cons_of_mem _ ho')) fun k hk => ?_
    exact step_agree sem E1 E2 o k (fun r hr' => h r (hr o List.mem_cons_self r hr')) (h k hk)

theorem run_congr (ops : List (Op K)) (E1 E2 : Env V) (h : ∀ i, E1 i = E2 i) (i : Id) :
    run sem ops E1 i = run sem ops E2 i :=
  run_agree sem (fun _ => True) ops E1 E2 (fun _ _ _ _ => trivial) (fun k _ => h k) i trivial

/-- Removing operators whose outputs (`D`) nobody that stays reads. -/
theorem run_filter_dead (D : Id → Prop) (inS : Op K → Bool) (ops : List (Op K)) :
    ∀ (E1 E2 : Env V), (∀ o ∈ ops, inS o = true → ∀ i ∈ o.outs, D i) →
      (∀ o ∈ ops, inS o = false → ∀ i ∈ o.reads, ¬ D i) → (∀ i, ¬ D i → E1 i = E2 i) →
      ∀ i, ¬ D i → run sem ops E1 i = run sem (ops.filter fun o => !inS o) E2 i := by
  induction ops with
  | nil => intro E1 E2 _ _ h; exact h
  | cons o os ih =>
    intro E1 E2 hout hread h
    have hout' := fun o' ho' => hout o' (List.mem_cons_of_mem _ ho')
    have hread' := fun o' ho' => hread o' (List.mem_cons_of_mem _ ho')
    cases hs : inS o with
    | true =>
      simp only [run, List.filter, hs, Bool.not_true]
      refine ih _ _ hout' hread' fun k hk => ?_
      rw [step_off sem E1 o k fun hko => hk (hout o List.mem_cons_self hs k hko)]
      exact h k hk
    | false =>
      simp only [run, List.filter, hs, Bool.not_false]
      refine ih _ _ hout' hread' fun k hk => ?_
      exact step_agree sem E1 E2 o k (fun r hr => h r (hread o List.mem_cons_self hs r hr)) (h k hk)

/-- Stability: the operators of the subgraph, run in isolation on an environment that already
holds the values of everything else, recompute exactly what they computed inside the plan. -/
theorem run_filter_stable (inS : Op K → Bool) (ops : List (Op K)) :
    ∀ (Ec E0 : Env V), WF ops →
      (∀ i, i ∉ outsAll ops → Ec i = E0 i) →
      (∀ i, i ∈ outsAll ops → Ec i = none) →
      (∀ i, i ∈ outsAll (ops.filter inS) → E0 i = none) →
      (∀ i, i ∈ outsAll (ops.filter fun o => !inS o) → E0 i = run sem ops Ec i) →
      ∀ i, run sem (ops.filter inS) E0 i = run sem ops Ec i := by
  induction ops with
  | nil => intro Ec E0 _ h _ _ _ i; exact (h i (nomatch ·)).symm
  | cons o os ih =>
    intro Ec E0 ⟨hreads, houts, hwf'⟩ hag hfresh hS hN
    have hrd : ∀ r ∈ o.reads, Ec r = E0 r := fun r hr => hag r (hreads r hr)
    have hfresh' : ∀ k ∈ outsAll os, step sem Ec o k = none := fun k hk => by
      rw [step_off sem Ec o k fun h => houts k h hk]
      exact hfresh k (mem_outsAll_cons.mpr (.inr hk))
    cases hs : inS o with
    | true =>
      simp only [List.filter, hs, Bool.not_true, mem_outsAll_cons] at hS hN ⊢
      have hoff : ∀ {p : Op K → Bool} k, k ∈ outsAll (os.filter p) → step sem E0 o k = E0 k := fun k hk =>
        step_off sem E0 o k fun h => houts k h (outsAll_sublist List.filter_sublist hk)
      refine ih (step sem Ec o) (step sem E0 o) hwf' (fun k hk => ?_) hfresh'
        (fun k hk => (hoff k hk).trans (hS k (.inr hk))) (fun k hk => (hoff k hk).trans (hN k hk))
      refine step_agree sem Ec E0 o k hrd ?_
      by_cases hko : k ∈ o.outs
      · rw [hS k (.inl hko), hfresh k (mem_outsAll_cons.mpr (.inl hko))]
      · exact hag k fun h => (mem_outsAll_cons.mp h).elim hko hk
    | false =>
      simp only [List.filter, hs, Bool.not_false, mem_outsAll_cons] at hS hN ⊢
      refine ih (step sem Ec o) E0 hwf' (fun k hk => ?_) hfresh' hS fun k hk => hN k (.inr hk)
      by_cases hko : k ∈ o.outs
      · -- E0 holds the final value of a non-subgraph output; nothing later overwrites it
        rw [hN k (.inl hko)]
        exact (run_off sem os _ k hk).symm
      · rw [step_off sem Ec o k hko]
        exact hag k fun h => (mem_outsAll_cons.mp h).elim hko hk

theorem run_filter_isolated (inS : Op K → Bool) (ops : List (Op K)) (env : Env V) (hwf : WF ops)
    (hfresh : ∀ i ∈ outsAll ops, env i = none) (k : Id) :
    run sem (ops.filter inS) (fun k => if k ∈ outsAll (ops.filter inS) then none else run sem ops env k) k
      = run sem ops env k := by
  refine run_filter_stable sem inS ops env _ hwf (fun k hk => ?_) hfresh (fun k hk => if_pos hk) (fun k hk => ?_) k
  · exact ((if_neg (mt (outsAll_sublist List.filter_sublist) hk)).trans (run_off sem ops env k hk)).symm
  · -- an id written by an operator that stays is written by no selected one
    refine if_neg fun h => ?_
    obtain ⟨o1, ho1, hk1⟩ := mem_outsAll.mp hk
    obtain ⟨o2, ho2, hk2⟩ := mem_outsAll.mp h
    obtain ⟨m1, s1⟩ := List.mem_filter.mp ho1
    obtain ⟨m2, s2⟩ := List.mem_filter.mp ho2
    rw [WF_out_unique hwf m1 m2 hk1 hk2, s2] at s1
    cases s1

theorem run_prefix_fresh {pre rest : List (Op K)} {env : Env V} (hwf : WF (pre ++ rest))
    (hfresh : ∀ i ∈ outsAll (pre ++ rest), env i = none) (k : Id) (hk : k ∈ outsAll rest) :
    run sem pre env k = none :=
  (run_off sem pre env k fun h => WF_append_disjoint hwf k h hk).trans (hfresh k (mem_outsAll_append.mpr (.inr hk)))

end RtenVerif.Optimize
