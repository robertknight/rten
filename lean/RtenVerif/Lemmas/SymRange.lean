import RtenVerif.Lemmas.SymMachine

/-! The domain `Dom` of an assignment; on it `is_positive` (C11.T3) and `range` (C11.T2, for the code after
fix f73ff8c) are sound. -/
namespace RtenVerif.Sym

/-- Domain of a symbolic expression under an assignment: symbols flagged positive are
`≥ 0`, every constant and symbol value is an `i32`, `Broadcast` operands are `≥ 0`. -/
def Dom (σ : Env) : SymExpr → Prop
  | .value x => I32MIN ≤ x ∧ x ≤ I32MAX
  | .var n p => ∀ v, σ n = some v → I32MIN ≤ v ∧ v ≤ I32MAX ∧ (p = true → 0 ≤ v)
  | .neg a => Dom σ a
  | .bin o a b =>
    Dom σ a ∧ Dom σ b ∧
    (o = .broadcast → ∀ x y, ev σ a = .ok x → ev σ b = .ok y → 0 ≤ x ∧ 0 ≤ y)

theorem isPositive_sound (σ : Env) :
    ∀ (e : SymExpr) (v : Int), Dom σ e → isPositive e = true → ev σ e = .ok v → 0 ≤ v := by
  intro e
  induction e with
  | value x => intro v _ hp hv; cases ev_value.mp hv; exact of_decide_eq_true hp
  | var n p =>
    intro v hd hp hv
    simp only [ev, eval] at hv
    split at hv <;> cases hv
    exact (hd v ‹_›).2.2 hp
  | neg a _ => intro v _ hp; cases hp
  | bin o a b iha ihb =>
    intro v hd hp hv
    obtain ⟨hda, hdb, hdB⟩ := hd
    obtain ⟨x, y, hx, hy, h0, rfl⟩ := ev_bin_ok.mp hv
    cases o <;> simp only [isPositive, Bool.and_eq_true, Bool.or_eq_true] at hp <;> simp only [opF, bcastI]
    · exact Int.add_nonneg (iha x hda hp.1 hx) (ihb y hdb hp.2 hy)
    · simp at hp
    · exact Int.mul_nonneg (iha x hda hp.1 hx) (ihb y hdb hp.2 hy)
    · exact Int.tdiv_nonneg (iha x hda hp.1 hx) (ihb y hdb hp.2 hy)
    · have hy0 := h0 (.inr rfl)
      have := ihb y hdb hp.2 hy
      exact divCeilI_nonneg (iha x hda hp.1 hx) (by omega)
    · rcases hp with hp | hp
      · have := iha x hda hp hx; split <;> omega
      · have := ihb y hdb hp hy; split <;> omega
    · have := iha x hda hp.1 hx; have := ihb y hdb hp.2 hy; split <;> omega
    · have := hdB rfl x y hx hy; split <;> omega

def domB (σ : Env) : SymExpr → Bool
  | .value x => inI32 x
  | .var n p =>
    match σ n with
    | some v => inI32 v && (!p || decide (0 ≤ v))
    | none => true
  | .neg a => domB σ a
  | .bin o a b =>
    domB σ a && domB σ b &&
      (o != .broadcast ||
        match ev σ a, ev σ b with
        | .ok x, .ok y => decide (0 ≤ x) && decide (0 ≤ y)
        | _, _ => true)

theorem domB_sound (σ : Env) : ∀ e : SymExpr, domB σ e = true → Dom σ e := by
  intro e
  induction e with
  | value x => exact inI32_iff.mp
  | var n p =>
    intro h v hv
    simp only [domB, hv, Bool.and_eq_true, Bool.or_eq_true, Bool.not_eq_true',
      decide_eq_true_eq] at h
    have := inI32_iff.mp h.1
    exact ⟨this.1, this.2, fun hp => h.2.resolve_left (by simp [hp])⟩
  | neg a ih => exact ih
  | bin o a b iha ihb =>
    intro h
    simp only [domB, Bool.and_eq_true, Bool.or_eq_true, bne_iff_ne, ne_eq] at h
    exact ⟨iha h.1.1, ihb h.1.2, fun ho x y hx hy => by simpa [ho, hx, hy] using h.2⟩

theorem deliver_checked {o : Op} {z v : Int} (h : Arith.checked.deliver o z = some v) :
    v = z ∧ ((o = .max ∨ o = .min ∨ o = .broadcast) ∨ I32MIN ≤ z ∧ z ≤ I32MAX) := by
  cases o
  case max | min | broadcast => exact ⟨(Option.some.inj h).symm, .inl (by simp)⟩
  all_goals exact ⟨(chk_some h).1, .inr (chk_some h).2⟩

theorem range_bin (o : Op) (a b : SymExpr) : range (.bin o a b) = rangeOp o (range a) (range b) := by
  cases o <;> rfl

/-- **C11.T2.** Whenever the overflow-checked evaluation of `e` succeeds with `v` under an
assignment in the domain, `v` is an `i32`, it is the ideal value, and it lies in `range e`. -/
theorem range_sound (σ : Env) :
    ∀ (e : SymExpr) (v : Int), Dom σ e → evc σ e = .ok v →
      ev σ e = .ok v ∧ (I32MIN ≤ v ∧ v ≤ I32MAX) ∧ (range e).1 ≤ v ∧ v ≤ (range e).2 := by
  intro e v hd hv
  refine ⟨evc_ev σ e v hv, ?_⟩
  induction e generalizing v with
  | value x => cases hv; exact ⟨hd, Int.le_refl _, Int.le_refl _⟩
  | var n p =>
    simp only [evc, eval] at hv
    split at hv <;> cases hv
    rename_i hw
    obtain ⟨h1, h2, h3⟩ := hd v hw
    refine ⟨⟨h1, h2⟩, ?_⟩
    simp only [range]
    split
    · exact ⟨h3 ‹_›, h2⟩
    · exact ⟨h1, h2⟩
  | neg a ih =>
    obtain ⟨x, hx, hv⟩ := eval_neg_ok.mp hv
    obtain ⟨rfl, hr⟩ := chk_some hv
    obtain ⟨-, hb⟩ := ih x hd hx
    exact ⟨hr, sat_bounds (by omega) hr⟩
  | bin o a b iha ihb =>
    obtain ⟨hda, hdb, hdB⟩ := hd
    obtain ⟨x, y, hx, hy, h0, hv⟩ := eval_bin_ok.mp hv
    obtain ⟨rfl, hrng⟩ := deliver_checked hv
    obtain ⟨hxr, hxb⟩ := iha x hda hx
    obtain ⟨hyr, hyb⟩ := ihb y hdb hy
    have hr : I32MIN ≤ opF o x y ∧ opF o x y ≤ I32MAX := by
      rcases hrng with h | h
      · rcases opF_sel h x y with e | e <;> rw [e] <;> assumption
      · exact h
    exact ⟨hr, range_bin o a b ▸ rangeOp_sound hxb hyb h0
      (fun ho => hdB ho x y (evc_ev σ a x hx) (evc_ev σ b y hy)) hr⟩

end RtenVerif.Sym
