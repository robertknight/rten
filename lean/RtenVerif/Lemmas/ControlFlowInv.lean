import RtenVerif.Lemmas.ControlFlowEnv
import RtenVerif.Lemmas.ControlFlowOwn

/-!
# Simulation invariant for `runPlan = evalG` (C24.T1) and its preservation by the common tail of
every step (store the outputs, release what is no longer needed)
-/
namespace RtenVerif.ControlFlow

variable {P V : Type}

theorem dec1_temp_effect (st : St V) (n m : Nat) :
    look (dec1 st n).temp m = look st.temp m ∨
    (look (dec1 st n).temp m = none ∧ (dec1 st n).rc m = 0) := by
  unfold dec1
  by_cases hz : (st.rc n - 1 == 0) = true
  · simp only [hz, if_true]
    by_cases hm : m = n
    · subst hm
      exact Or.inr ⟨look_erase_self _ _, by rw [if_pos rfl]; exact eq_of_beq hz⟩
    · exact Or.inl (look_erase_ne hm)
  · simp only [hz]
    exact Or.inl rfl

theorem decDeps_temp_effect : ∀ (ds : List Nat) (st : St V) (m : Nat),
    look (decDeps st ds).temp m = look st.temp m ∨
    (look (decDeps st ds).temp m = none ∧ (decDeps st ds).rc m = 0)
  | [], _, _ => Or.inl rfl
  | n :: ns, st, m => by
    rw [decDeps_cons]
    split
    · exact decDeps_temp_effect ns st m
    · rcases decDeps_temp_effect ns (dec1 st n) m with h | h
      · rcases dec1_temp_effect st n m with h' | ⟨h1, h2⟩
        · exact Or.inl (h.trans h')
        · exact Or.inr ⟨h.trans h1, by rw [decDeps_rc, h2, Nat.zero_sub]⟩
      · exact Or.inr h

/-- Owned arguments go to `temp_values`, views stay in `inputs`: a name reads its argument in one of the two
and nothing in the other. -/
theorem look_args : ∀ (ins : List Nat) (args : List (Bool × V)) (n : Nat), ins.Nodup →
    (look (borrowedArgs ins args) n = look (ins.zip (args.map (·.2))) n ∧
      look (ownedArgs ins args) n = none) ∨
    (look (borrowedArgs ins args) n = none ∧
      look (ownedArgs ins args) n = look (ins.zip (args.map (·.2))) n)
  | [], _, _, _ => Or.inl ⟨rfl, rfl⟩
  | _ :: _, [], _, _ => Or.inl ⟨rfl, rfl⟩
  | i :: is, (fl, v) :: as, n, hnd => by
    obtain ⟨hni, hnd'⟩ := List.nodup_cons.mp hnd
    have ih := look_args is as n hnd'
    have hb : borrowedArgs (i :: is) ((fl, v) :: as) =
        if fl then borrowedArgs is as else (i, v) :: borrowedArgs is as := by cases fl <;> rfl
    have ho : ownedArgs (i :: is) ((fl, v) :: as) =
        if fl then (i, v) :: ownedArgs is as else ownedArgs is as := by cases fl <;> rfl
    rw [hb, ho, List.map_cons, List.zip_cons_cons, look_cons]
    by_cases hi : i = n
    · subst hi
      have hz : look (is.zip (as.map (·.2))) i = none :=
        Decidable.by_contra fun h => hni (look_zip_key h)
      rw [hz] at ih
      cases fl
      · exact Or.inl ⟨by simp [look_cons], by rcases ih with h | h <;> simpa using h.2⟩
      · exact Or.inr ⟨by rcases ih with h | h <;> simpa using h.1, by simp [look_cons]⟩
    · cases fl <;> simpa [look_cons, hi] using ih

theorem collectOutputs_eq (views : Env V) (env : List (Frame V)) (σ : Env V) :
    ∀ (outs : List Nat) (temp : Env V), outs.Nodup →
      (∀ n ∈ outs, (match look views n with
          | some v => some v
          | none => match getInput env n with
            | some v => some v
            | none => look temp n) = look σ n) →
      collectOutputs views env temp outs = lookups (look σ) outs
  | [], _, _, _ => rfl
  | n :: ns, temp, hnd, h => by
    obtain ⟨hnn, hnd'⟩ := List.nodup_cons.mp hnd
    -- later names are read from a `temp_values` that differs at most at `n`
    have htail : ∀ t, (∀ m ∈ ns, look t m = look temp m) →
        collectOutputs views env t ns = lookups (look σ) ns := fun t ht =>
      collectOutputs_eq views env σ ns t hnd' fun m hm => by
        rw [ht m hm]; exact h m (List.mem_cons_of_mem _ hm)
    rw [collectOutputs, lookups, ← h n List.mem_cons_self]
    cases look views n with
    | some v => simp only [htail temp fun _ _ => rfl]
    | none =>
      cases getInput env n with
      | some v => simp only [htail temp fun _ _ => rfl]
      | none =>
        cases look temp n with
        | none => rfl
        | some v =>
          simp only [htail (erase temp n) fun m hm =>
            look_erase_ne fun hmn => hnn (hmn ▸ hm)]

mutual
/-- Every name defined anywhere inside the graph (all nesting levels). -/
def Graph.allDefs : Graph P V → List Nat
  | .mk i c ops o => Graph.defs (.mk i c ops o) ++ allDefsOps ops
def allDefsOps : List (Op P V) → List Nat
  | [] => []
  | op :: rest => Op.allDefs op ++ allDefsOps rest
def Op.allDefs : Op P V → List Nat
  | .prim _ _ _ => []
  | .ifOp _ t e _ => Graph.allDefs t ++ Graph.allDefs e
  | .loop _ _ _ b _ => Graph.allDefs b
end

def disjointB (a b : List Nat) : Bool := a.all (fun x => !b.contains x)

/-- Well-formed programs of nesting depth `< fuel`: distinct local names, distinct outputs that the
graph defines, no name defined inside a subgraph is also defined by the enclosing graph
(ONNX: no shadowing). -/
def wfG : Nat → Graph P V → Bool
  | 0, _ => false
  | f + 1, g =>
    decide g.defs.Nodup && decide g.outputs.Nodup && g.outputs.all (fun n => g.defs.contains n) &&
    g.ops.all (fun op =>
      (match op with
       | .prim _ _ _ => true
       | .ifOp _ t e _ =>
         wfG f t && wfG f e && disjointB t.allDefs g.defs && disjointB e.allDefs g.defs
       | .loop _ _ _ b _ => wfG f b && disjointB b.allDefs g.defs))

/-- Names that the remaining steps (or the outputs) may still look up. -/
def Needed (g : Graph P V) (rest : List (Op P V)) (n : Nat) : Prop :=
  n ∈ rest.flatMap (fun op => op.directInputs ++ op.capNames) ∨ n ∈ g.outputs

section
variable {g : Graph P V} {op : Op P V} {rest : List (Op P V)} {st : St V} {n : Nat}

theorem needed_tail (h : Needed g rest n) : Needed g (op :: rest) n := by
  rcases h with h | h
  · left; simp only [List.flatMap_cons, List.mem_append]; right; exact h
  · right; exact h

theorem needed_head (h : n ∈ op.directInputs ∨ n ∈ op.capNames) : Needed g (op :: rest) n := by
  left; simp only [List.flatMap_cons, List.mem_append]; left; exact h

/-- A name the graph knows that `op` looks up is a dependency of `op`: `deps` drops only the capture names
that do not resolve in this graph. -/
theorem mem_deps_of_needed (hn : n ∈ g.defs ∨ n ∈ g.caps)
    (h : n ∈ op.directInputs ∨ n ∈ op.capNames) : n ∈ deps g op := by
  unfold deps
  by_cases hi : n ∈ op.directInputs
  · exact List.mem_append_left _ hi
  · rcases h with h | h
    · exact absurd h hi
    · apply List.mem_append_right
      rw [List.mem_filter]
      refine ⟨h, ?_⟩
      rcases hn with hn | hn <;> simp [hn, hi]

theorem valueDefs_sub_defs (h : n ∈ g.valueDefs) : n ∈ g.defs := by
  simp only [Graph.valueDefs, Graph.defs, List.mem_append] at h ⊢
  rcases h with h | h
  · left; left; exact h
  · right; exact h

theorem isValueNode_of_valueDefs (h : n ∈ g.valueDefs) : isValueNode g n = true := by
  simp [isValueNode, h]

theorem not_needed_of_rc_zero (hinv : RcInv g rest st) (hval : isValueNode g n = true)
    (hres : n ∈ g.defs ∨ n ∈ g.caps) (hz : st.rc n = 0) : ¬ Needed g rest n := by
  have h := (hinv n hval).symm.trans hz
  simp only [remaining, hval, if_true, Nat.add_eq_zero_iff, List.count_eq_zero] at h
  rintro (hn | hn)
  · obtain ⟨op, hop, hmem⟩ := List.mem_flatMap.mp hn
    exact h.1 (List.mem_flatMap.mpr
      ⟨op, hop, mem_deps_of_needed hres (List.mem_append.mp hmem)⟩)
  · exact h.2 hn

end

/-- Facts that stay fixed during one `run_plan` invocation. -/
structure Ctx (g : Graph P V) (views : Env V) (σp : Env V) : Prop where
  nodup : g.defs.Nodup
  vkeys : ∀ n, look views n ≠ none → n ∈ g.inputs ++ g.consts.map (·.1)
  shadowσ : ∀ n, n ∈ g.allDefs → look σp n = none

/-- Before the steps `rest`: `b` is what the naive evaluation of the graph has bound so far, on top
of the enclosing naive environment `σp`.  `agree` is the simulation proper: every name that may
still be looked up reads the same on both sides. -/
structure Inv (g : Graph P V) (views : Env V) (σp : Env V)
    (rest : List (Op P V)) (st : St V) (b : Env V) : Prop where
  shadowE : ∀ n, n ∈ g.allDefs → getInput st.env n = none
  headok : headOK st.env
  /-- a value that was moved by value into this graph's environment is named at most once among
  the graph's (transitive) capture names -/
  byvalonce : ∀ n, look (headByVal st.env) n ≠ none → g.capNames.count n ≤ 1
  rc : RcInv g rest st
  keys : ∀ n, look st.temp n ≠ none → n ∈ g.valueDefs
  bkeys : ∀ n, look b n ≠ none → n ∈ g.defs
  disj : ∀ n, look views n ≠ none → look st.temp n = none
  agree : ∀ n, Needed g rest n → opLookup views st n = look (b ++ σp) n

section
variable {g : Graph P V} {views σp b : Env V} {op : Op P V} {rest : List (Op P V)} {st st1 : St V}
  {n : Nat}

theorem defs_sub_allDefs (h : n ∈ g.defs) : n ∈ g.allDefs := by
  cases g with
  | mk i c ops o => exact List.mem_append_left _ h

theorem outs_valueDefs (hop : op ∈ g.ops) (h : n ∈ op.outs) : n ∈ g.valueDefs :=
  List.mem_append_right _ (List.mem_flatMap.mpr ⟨op, hop, h⟩)

theorem Ctx.views_none (ctx : Ctx g views σp) (n : Nat) (h : n ∉ g.defs) : look views n = none :=
  Decidable.by_contra fun hv => h (List.mem_append_left _ (ctx.vkeys n hv))

theorem outs_not_views (ctx : Ctx g views σp) (hop : op ∈ g.ops) (h : n ∈ op.outs) :
    look views n = none :=
  Decidable.by_contra fun hv =>
    (List.nodup_append.mp ctx.nodup).2.2 n (ctx.vkeys n hv) n (List.mem_flatMap.mpr ⟨op, hop, h⟩) rfl

theorem Inv.temp_none (inv : Inv g views σp rest st b) (n : Nat) (h : n ∉ g.defs) :
    look st.temp n = none :=
  Decidable.by_contra fun ht => h (valueDefs_sub_defs (inv.keys n ht))

end

/-- The state `st1` of a step just before its outputs are stored: `st` with some dependencies of
`op` of count 1 moved out — of `temp_values` or of the capture environment —, taken for in-place
execution or captured by value.  It bounds what may have moved (the executor model's
`Executor.Moved` lists it); the last three fields are those of `Inv`, still true of `st1.env`. -/
structure Moved (g : Graph P V) (op : Op P V) (st st1 : St V) : Prop where
  rc : st1.rc = st.rc
  temp : ∀ m, look st1.temp m = look st.temp m ∨
    (look st1.temp m = none ∧ st.rc m = 1 ∧ m ∈ deps g op)
  env : ∀ m, getInput st1.env m = getInput st.env m ∨
    (st.rc m = 1 ∧ m ∈ deps g op ∧ isValueNode g m = true ∧ (m ∈ g.defs ∨ m ∈ g.caps))
  shadowE : ∀ m, m ∈ g.allDefs → getInput st1.env m = none
  headok : headOK st1.env
  byvalonce : ∀ n, look (headByVal st1.env) n ≠ none → g.capNames.count n ≤ 1

section
variable {g : Graph P V} {views σp b : Env V} {rest : List (Op P V)} {st : St V}

theorem Moved.refl {op : Op P V} (inv : Inv g views σp rest st b) : Moved g op st st :=
  ⟨rfl, fun _ => Or.inl rfl, fun _ => Or.inl rfl, inv.shadowE, inv.headok, inv.byvalonce⟩

/-- Whatever a step moves out of the state, it moves by `take_value` of one of its dependencies. -/
theorem Moved.step {op : Op P V} {s : St V} {n : Nat} (mv : Moved g op st s) (hdep : n ∈ deps g op) :
    Moved g op st (takeValue g.caps s n).2 := by
  rcases takeValue_cases g.caps s n with h | ⟨hrc, _, _, h⟩ | ⟨hrc, _, hg, h⟩ <;> rw [h]
  · exact mv
  · refine { mv with temp := fun m => ?_ }
    dsimp only
    by_cases hm : m = n
    · subst hm; exact Or.inr ⟨look_erase_self _ _, mv.rc ▸ hrc, hdep⟩
    · rw [look_erase_ne hm]; exact mv.temp m
  · have hcap : n ∈ g.caps := List.contains_iff_mem.mp hg
    refine ⟨mv.rc, mv.temp, fun m => ?_, fun m hm => getInput_takeInput_none _ (mv.shadowE m hm),
      headOK_takeInput _ _ mv.headok, fun m hm => mv.byvalonce m fun h => hm (headByVal_takeInput _ _ _ h)⟩
    by_cases hm : m = n
    · subst hm; exact Or.inr ⟨mv.rc ▸ hrc, hdep, by simp [isValueNode, hcap], Or.inr hcap⟩
    · dsimp only; rw [getInput_takeInput_ne hm]; exact mv.env m

theorem inv_finish {op : Op P V} {st1 : St V} (ctx : Ctx g views σp) (hop : op ∈ g.ops)
    (inv : Inv g views σp (op :: rest) st b) (mv : Moved g op st st1) (r : List V) :
    Inv g views σp rest
      (decDeps { st1 with temp := op.outs.zip r ++ st1.temp } (deps g op)) (op.outs.zip r ++ b) := by
  have heff := decDeps_temp_effect (deps g op) { st1 with temp := op.outs.zip r ++ st1.temp }
  have hrc' := fun n => (decDeps_rc (deps g op) { st1 with temp := op.outs.zip r ++ st1.temp } n).trans
    (show st1.rc n - _ = st.rc n - _ by rw [mv.rc])
  have henv' := decDeps_env (deps g op) { st1 with temp := op.outs.zip r ++ st1.temp }
  generalize decDeps { st1 with temp := op.outs.zip r ++ st1.temp } (deps g op) = st'
    at heff hrc' henv' ⊢
  generalize hT : op.outs.zip r = T at heff ⊢
  have hTkey : ∀ n, look T n ≠ none → n ∈ op.outs := fun n h => look_zip_key (hT ▸ h)
  have hrcinv : RcInv g rest st' := rcInv_of_rc_eq g op rest st st' inv.rc hrc'
  have hzero : ∀ n, st.rc n = 1 → n ∈ deps g op → st'.rc n = 0 := fun n h1 hd => by
    rw [hrc' n, h1]; exact Nat.sub_eq_zero_of_le (List.count_pos_iff.mpr hd)
  -- `T ++ st.temp` is what `temp_values` would be if nothing were moved or released
  have hideal : ∀ n, look (T ++ st.temp) n ≠ none → n ∈ g.valueDefs := fun n hn =>
    (look_append_ne_none hn).elim (fun h => outs_valueDefs hop (hTkey n h)) (inv.keys n)
  -- the real `temp_values` agree with it except on names that are not needed any more
  have hdrop : ∀ n, st'.rc n = 0 → look st'.temp n = none →
      look st'.temp n = look (T ++ st.temp) n ∨ (look st'.temp n = none ∧ ¬ Needed g rest n) := by
    intro n hz hn
    by_cases hl : look (T ++ st.temp) n = none
    · exact Or.inl (hn.trans hl.symm)
    · have hv := hideal n hl
      exact Or.inr ⟨hn, not_needed_of_rc_zero hrcinv (isValueNode_of_valueDefs hv)
        (Or.inl (valueDefs_sub_defs hv)) hz⟩
  have hpt : ∀ n, look st'.temp n = look (T ++ st.temp) n ∨
      (look st'.temp n = none ∧ ¬ Needed g rest n) := by
    intro n
    rcases heff n with h | ⟨h1, h2⟩
    · rcases mv.temp n with h' | ⟨h1', h2', h3'⟩
      · exact Or.inl (by rw [h, look_append, look_append, h'])
      · rw [look_append, h1'] at h
        cases hz : look T n with
        | some v => exact Or.inl (by rw [h, hz, look_append, hz])
        | none => rw [hz] at h; exact hdrop n (hzero n h2' h3') h
    · exact hdrop n h2 h1
  refine ⟨by rw [henv']; exact mv.shadowE, by rw [henv']; exact mv.headok,
    by rw [henv']; exact mv.byvalonce, hrcinv, ?_, ?_, ?_, ?_⟩
  · intro n hn
    rcases hpt n with h | ⟨h, _⟩
    · exact hideal n (h ▸ hn)
    · exact absurd h hn
  · exact fun n hn => (look_append_ne_none hn).elim
      (fun h => valueDefs_sub_defs (outs_valueDefs hop (hTkey n h))) (inv.bkeys n)
  · intro n hn
    rcases hpt n with h | ⟨h, _⟩
    · have hz : look T n = none :=
        Decidable.by_contra fun hz => hn (outs_not_views ctx hop (hTkey n hz))
      rw [h, look_append_right _ hz]
      exact inv.disj n hn
    · exact h
  · intro n hn
    have ht : look st'.temp n = look (T ++ st.temp) n := (hpt n).resolve_right fun h => h.2 hn
    have hge : getInput st'.env n = getInput st.env n := by
      rw [henv']
      exact (mv.env n).resolve_right fun ⟨h1, h2, h3, h4⟩ =>
        not_needed_of_rc_zero hrcinv h3 h4 (hzero n h1 h2) hn
    have hagree := inv.agree n (needed_tail hn)
    unfold opLookup at hagree ⊢
    rw [ht, hge, List.append_assoc, look_append T (b ++ σp), look_append T st.temp]
    cases hz : look T n with
    | some v =>
      rw [outs_not_views ctx hop (hTkey n (hz ▸ Option.some_ne_none v))]
    | none => exact hagree

end

end RtenVerif.ControlFlow
