import RtenVerif.Model.RunPurity
import RtenVerif.Lemmas.ListBasics
/-!
# Lemmas for C25.T1 / T3: what `run_plan` hands out mutably comes from places it owns

Invariant of the execution loop (`Inv`):
* every recorded take was found in `temp_values` or in the by-value map of the capture
  environment (`Loc.owned`);
* every entry of `temp_values` is an owned input of this run or an output of one of the
  graph's operators that lists the id as an output (`TempsOK`).

The output collection (`collectOutputs_forall`): an entry is a clone, or was moved out of
`temp_values` after the lookup among constants and lent inputs missed.
-/
namespace RtenVerif.RunPurity

variable {V : Type}

theorem mem_tRemove {ts : Temps V} {id : Nat} {e : Nat × Origin × V} (h : e ∈ tRemove ts id) :
    e ∈ ts := by
  unfold tRemove at h
  exact (List.mem_filter.mp h).1

theorem mem_tInsert {ts : Temps V} {id : Nat} {o : Origin} {v : V} {e : Nat × Origin × V}
    (h : e ∈ tInsert ts id o v) : e = (id, o, v) ∨ e ∈ ts := by
  unfold tInsert at h
  rcases List.mem_cons.mp h with h | h
  · exact Or.inl h
  · exact Or.inr (mem_tRemove h)

theorem tGet_mem {ts : Temps V} {id : Nat} {o : Origin} {v : V} (h : tGet ts id = some (o, v)) :
    (id, o, v) ∈ ts := by
  fun_induction tGet ts id with
  | case1 => cases h
  | case2 => cases h; exact List.mem_cons_self
  | case3 _ _ _ _ ih => exact List.mem_cons_of_mem _ (ih h)

def EntryOK (r : Run V) (e : Nat × Origin × V) : Prop :=
  match e.2.1 with
  | .ownedIn => (e.1, e.2.2) ∈ r.owned
  | .opOut op => ∃ o, r.g.node op = .op o ∧ some e.1 ∈ o.outputs

def TempsOK (r : Run V) (ts : Temps V) : Prop := ∀ e, e ∈ ts → EntryOK r e

theorem tempsOK_remove {r : Run V} {ts : Temps V} (h : TempsOK r ts) (id : Nat) :
    TempsOK r (tRemove ts id) := fun e he => h e (mem_tRemove he)

theorem tempsOK_insert {r : Run V} {ts : Temps V} (h : TempsOK r ts) {id : Nat} {o : Origin} {v : V}
    (he : EntryOK r (id, o, v)) : TempsOK r (tInsert ts id o v) := by
  intro e hm
  rcases mem_tInsert hm with h1 | h1
  · rw [h1]; exact he
  · exact h e h1

theorem tempsOK_store {r : Run V} {opId : Nat} {o : Op} (hnode : r.g.node opId = .op o)
    (ids : List (Option Nat)) (vs : List V) (ts : Temps V) (hsub : ids ⊆ o.outputs)
    (h : TempsOK r ts) : TempsOK r (storeOutputs r opId ts ids vs) := by
  fun_induction storeOutputs r opId ts ids vs with
  | case1 | case2 => exact h
  | case3 _ _ _ _ ih | case4 _ _ _ _ _ _ ih => exact ih (List.cons_subset.mp hsub).2 h
  | case5 _ _ _ _ _ _ ih =>
    obtain ⟨hd, tl⟩ := List.cons_subset.mp hsub
    exact ih tl (tempsOK_insert h ⟨o, hnode, hd⟩)

theorem tempsOK_init (r : Run V) (l : List (Nat × V)) (ts : Temps V) (hsub : l ⊆ r.owned)
    (h : TempsOK r ts) : TempsOK r (initTemps r.g ts l) := by
  fun_induction initTemps r.g ts l with
  | case1 => exact h
  | case2 _ _ _ _ _ ih => exact ih (List.cons_subset.mp hsub).2 h
  | case3 _ _ _ _ _ ih =>
    obtain ⟨hd, tl⟩ := List.cons_subset.mp hsub
    exact ih tl (tempsOK_insert h hd)

/-- A take is legitimate: the value was removed from this run's `temp_values`, or it is the
value the enclosing capture environment held by value under that id at entry. -/
def TakeOK (r : Run V) (t : Take V) : Prop :=
  (∃ id, t.loc = .temp id) ∨ (∃ id, t.loc = .capVal id ∧ r.envTake id = some t.val)

theorem TakeOK.owned {r : Run V} {t : Take V} (h : TakeOK r t) : t.loc.owned = true := by
  rcases h with ⟨id, h⟩ | ⟨id, h, _⟩ <;> rw [h] <;> rfl

def TakesOwned (r : Run V) (recs : List (StepRec V)) : Prop :=
  ∀ s, s ∈ recs → ∀ t, t ∈ s.takes → TakeOK r t

/-- The remaining by-value captures are a subset of those at entry. -/
def CapsOK (r : Run V) (st : St V) : Prop := ∀ id v, st.capTake id = some v → r.envTake id = some v

structure Inv (r : Run V) (st : St V) : Prop where
  takes : TakesOwned r st.recs
  temps : TempsOK r st.temps
  caps : CapsOK r st

/-- What `take_value` can do to the state: it only removes. -/
structure Shrinks (st' st : St V) : Prop where
  recs : st'.recs = st.recs
  temps : ∀ e, e ∈ st'.temps → e ∈ st.temps
  caps : ∀ id v, st'.capTake id = some v → st.capTake id = some v

theorem Shrinks.refl (st : St V) : Shrinks st st := ⟨rfl, fun _ h => h, fun _ _ h => h⟩

theorem Shrinks.trans {a b c : St V} (h1 : Shrinks a b) (h2 : Shrinks b c) : Shrinks a c :=
  ⟨h1.recs.trans h2.recs, fun e he => h2.temps e (h1.temps e he),
   fun id v h => h2.caps id v (h1.caps id v h)⟩

theorem capsOK_shrinks {r : Run V} {st' st : St V} (hs : Shrinks st' st) (h : CapsOK r st) :
    CapsOK r st' := fun id v hv => h id v (hs.caps id v hv)

theorem tempsOK_shrinks {r : Run V} {st' st : St V} (hs : Shrinks st' st) (h : TempsOK r st.temps) :
    TempsOK r st'.temps := fun e he => h e (hs.temps e he)

theorem upd_none_some {f : Nat → Option V} {k id : Nat} {v : V} (h : upd f k none id = some v) :
    f id = some v := by
  unfold upd at h
  split at h
  · cases h
  · exact h

def Took (r : Run V) (st : St V) (ts : List (Take V)) (st' : St V) : Prop :=
  Shrinks st' st ∧ ∀ t, t ∈ ts → TakeOK r t

theorem Took.nil {r : Run V} (st : St V) : Took r st [] st :=
  ⟨Shrinks.refl st, fun _ ht => nomatch ht⟩

theorem Took.cons {r : Run V} {st st1 st' : St V} {t : Take V} {ts : List (Take V)}
    (h1 : Shrinks st1 st ∧ TakeOK r t) (h2 : Took r st1 ts st') : Took r st (t :: ts) st' :=
  ⟨h2.1.trans h1.1, List.forall_mem_cons.mpr ⟨h1.2, h2.2⟩⟩

theorem Took.append {r : Run V} {st st1 st2 : St V} {ts ts' : List (Take V)}
    (h1 : Took r st ts st1) (h2 : Took r st1 ts' st2) : Took r st (ts ++ ts') st2 :=
  ⟨h2.1.trans h1.1, fun t ht => (List.mem_append.mp ht).elim (h1.2 t) (h2.2 t)⟩

/-- **Key fact.** In the code, `take_value` yields a value only out of `temp_values` or out of
the by-value map of the capture environment, and the value it yields is the one stored there. -/
theorem takeValue_code {r : Run V} {st st' : St V} {id : Nat} {v : V} {loc : Loc}
    (hc : CapsOK r st) (h : takeValue .code r st id = some (v, loc, st')) (pos : Option Nat) :
    Shrinks st' st ∧ TakeOK r { pos := pos, id := id, loc := loc, val := v } := by
  unfold takeValue at h
  split at h
  · split at h
    -- found in `temp_values`
    · cases h
      exact ⟨⟨rfl, fun e he => mem_tRemove he, fun _ _ h => h⟩, .inl ⟨id, rfl⟩⟩
    · split at h
      · split at h
        · next v' htk =>
          -- a capture the environment still holds by value
          cases h
          exact ⟨⟨rfl, fun e he => he, fun _ _ h => upd_none_some h⟩, .inr ⟨id, rfl, hc id v htk⟩⟩
        · cases h
      · cases h
  · cases h

theorem takeAll_code {r : Run V} {cs : List (Nat × Nat)} {st st' : St V} {ts : List (Take V)}
    (hc : CapsOK r st) (h : takeAll .code r st cs = some (ts, st')) : Took r st ts st' := by
  induction cs generalizing st ts with
  | nil => cases h; exact Took.nil _
  | cons c cs ih =>
    rw [takeAll] at h
    split at h
    · cases h
    · next v loc st1 htv =>
      have h1 := takeValue_code hc htv (some c.1)
      split at h
      · cases h
      · next hrest => cases h; exact Took.cons h1 (ih (capsOK_shrinks h1.1 hc) hrest)

theorem takeByValue_code {r : Run V} (ds : List Nat) (st : St V) (hc : CapsOK r st) :
    Took r st (takeByValue .code r st ds).1 (takeByValue .code r st ds).2 := by
  induction ds generalizing st with
  | nil => exact Took.nil st
  | cons d ds ih =>
    rw [takeByValue]
    split
    · exact ih st hc
    · next v loc st1 htv =>
      have h1 := takeValue_code hc htv none
      exact Took.cons h1 (ih st1 (capsOK_shrinks h1.1 hc))

theorem decDeps_spec (usePool : Bool) (ds : List Nat) (st : St V) :
    Shrinks (decDeps usePool st ds) st := by
  induction ds generalizing st with
  | nil => exact Shrinks.refl _
  | cons d ds ih =>
    rw [decDeps]
    refine (ih _).trans ?_
    split
    · exact ⟨rfl, fun e he => mem_tRemove he, fun _ _ h => h⟩
    · exact ⟨rfl, fun e he => he, fun _ _ h => h⟩

theorem Inv.shrinks {r : Run V} {st st' : St V} (h : Inv r st) (hs : Shrinks st' st) : Inv r st' :=
  ⟨hs.recs ▸ h.takes, tempsOK_shrinks hs h.temps, capsOK_shrinks hs h.caps⟩

theorem Inv.took_push {r : Run V} {st st2 : St V} {ts : List (Take V)} (h : Inv r st)
    (ht : Took r st ts st2) (k opId : Nat) (ip : Bool) :
    Inv r { st2 with recs := { step := k, op := opId, inPlace := ip, takes := ts } :: st2.recs } :=
  have h2 := h.shrinks ht.1
  ⟨List.forall_mem_cons.mpr ⟨ht.2, h2.takes⟩, h2.temps, h2.caps⟩

theorem Inv.store {r : Run V} {st : St V} (h : Inv r st) {opId : Nat} {o : Op}
    (hnode : r.g.node opId = .op o) (outs : List V) :
    Inv r { st with temps := storeOutputs r opId st.temps o.outputs outs } :=
  ⟨h.takes, tempsOK_store hnode _ _ _ (List.Subset.refl _) h.temps, h.caps⟩

theorem step_inv (ops : Ops V) {r : Run V} {st : St V} (k opId : Nat) (h : Inv r st) :
    Inv r (step .code ops r st k opId).1 := by
  unfold step
  split
  · next o hnode =>
    dsimp only
    split
    · exact h
    · next ipTakes st1 htake =>
      have h1 : Took r st ipTakes st1 := by
        split at htake
        · exact takeAll_code h.caps htake
        · cases htake; exact Took.nil st
      have h2 : Took r st1 (if o.subgraph then takeByValue .code r st1 o.capDeps else ([], st1)).1
          (if o.subgraph then takeByValue .code r st1 o.capDeps else ([], st1)).2 := by
        split
        · exact takeByValue_code _ _ (capsOK_shrinks h1.1 h.caps)
        · exact Took.nil st1
      generalize (if o.subgraph then takeByValue .code r st1 o.capDeps else ([], st1)) = bv at h2
      -- the state in which the step is recorded; every failure exit returns it
      have h3 := h.took_push (h1.append h2) k opId
        (runInPlaceOk .code r st (candidates ops o st.temps))
      split
      · exact h3
      · split
        · exact h3
        · split
          · exact h3
          · exact (h3.store hnode _).shrinks (decDeps_spec _ _ _)
  · exact h

theorem steps_inv (ops : Ops V) {r : Run V} (plan : List Nat) (st : St V) (k : Nat)
    (h : Inv r st) : Inv r (steps .code ops r st k plan).1 := by
  induction plan generalizing st k with
  | nil => exact h
  | cons opId rest ih =>
    have hs := step_inv ops k opId h
    rw [steps]
    split
    · next st' heq => rw [heq] at hs; exact ih st' (k + 1) hs
    · next st' e heq => rw [heq] at hs; exact hs

theorem initSt_inv {r : Run V} {plan outs : List Nat} {st0 : St V}
    (h : initSt r plan outs = some st0) : Inv r st0 := by
  unfold initSt at h
  split at h
  · cases h
  · cases h
    refine ⟨fun s hs => (by cases hs), ?_, fun _ _ h => h⟩
    exact tempsOK_init r r.owned [] (List.Subset.refl _) (fun _ he => nomatch he)

theorem steps_append (var : Variant) (ops : Ops V) (r : Run V) :
    ∀ (pre suf : List Nat) (st : St V) (k : Nat),
      (steps var ops r st k pre).2 = none →
      steps var ops r st k (pre ++ suf) =
        steps var ops r (steps var ops r st k pre).1 (k + pre.length) suf := by
  intro pre
  induction pre with
  | nil => intro suf st k _; rfl
  | cons opId rest ih =>
    intro suf st k h
    rw [List.cons_append, steps, steps] at *
    split
    · next st' heq =>
      rw [heq] at h
      rw [ih suf st' (k + 1) h, List.length_cons, Nat.add_right_comm, Nat.add_assoc]
    · next heq => rw [heq] at h; cases h

theorem constOrInput_missing {r : Run V} {id : Nat} (h : constOrInput r id = .missing) :
    r.g.node id = .value ∧ r.borrowed id = none := by
  unfold constOrInput at h
  split at h
  · cases h
  · next hn =>
    split at h
    · cases h
    · next hb => exact ⟨hn, hb⟩
  · cases h

theorem collectOutputs_forall (r : Run V) (P : Nat × OutSrc × V → Prop)
    (hc : ∀ o l v, P (o, .cloned l, v))
    (hm : ∀ o org v, constOrInput r o = .missing → P (o, .moved org, v)) :
    ∀ (outs : List Nat) (st : St V) (os : List (Nat × OutSrc × V)),
      collectOutputs r st outs = some os → ∀ e, e ∈ os → P e := by
  intro outs
  induction outs with
  | nil =>
    intro st os h e he
    cases h
    cases he
  | cons o rest ih =>
    intro st os h e he
    -- every successful branch conses one entry `x` onto what is collected for `rest`
    have step : ∀ (st' : St V) (x : Nat × OutSrc × V),
        (collectOutputs r st' rest).map (x :: ·) = some os → P x → P e := by
      intro st' x hmap hx
      obtain ⟨os', hrest, rfl⟩ := Option.map_eq_some_iff.mp hmap
      rcases List.mem_cons.mp he with rfl | he
      · exact hx
      · exact ih st' os' hrest e he
    rw [collectOutputs] at h
    split at h
    · cases h
    · exact step _ _ h (hc _ _ _)
    · next hlook =>
      split at h
      · exact step _ _ h (hc _ _ _)
      · split at h
        · cases h
        · exact step _ _ h (hm _ _ _ hlook)

theorem writeOne_owned (ops : Ops V) (k op : Nat) (m : Mem V) (t : Take V) (h : t.loc.owned = true) :
    writeOne ops k op m t = m := by
  unfold writeOne
  cases hl : t.loc <;> simp_all [Loc.owned]

theorem memAfter_owned (ops : Ops V) (recs : List (StepRec V)) (m : Mem V)
    (h : ∀ s, s ∈ recs → ∀ t, t ∈ s.takes → t.loc.owned = true) : memAfter ops m recs = m :=
  foldl_fixed _ m recs fun s hs =>
    foldl_fixed _ m s.takes fun t ht => writeOne_owned ops _ _ m t (h s hs t ht)

theorem runPlan_takesOwned (ops : Ops V) (r : Run V) (plan outs : List Nat) :
    TakesOwned r (runPlan .code ops r plan outs).recs := by
  unfold runPlan
  split
  · exact fun _ hs => nomatch hs
  · next st0 hinit =>
    have hinv : TakesOwned r (steps .code ops r st0 0 plan).1.recs.reverse := fun s hs =>
      (steps_inv ops plan st0 0 (initSt_inv hinit)).takes s (List.mem_reverse.mp hs)
    split
    · next heq => rwa [heq] at hinv
    · next heq => rw [heq] at hinv; split <;> exact hinv

end RtenVerif.RunPurity
