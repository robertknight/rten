import RtenVerif.Lemmas.NArr
import RtenVerif.Lemmas.ListBasics

/-! Helper lemmas for C09: offsets and index validity under list surgery (append, reverse,
inserting and erasing an axis), and how much storage a layout needs. -/
namespace RtenVerif.Layout
open RtenVerif.Arr RtenVerif.Overlap

@[simp] theorem sizes_nil : sizes [] = [] := rfl
@[simp] theorem sizes_cons (p : Nat × Nat) (d : Dims) : sizes (p :: d) = p.1 :: sizes d := rfl
@[simp] theorem sizes_length (d : Dims) : (sizes d).length = d.length := List.length_map _

theorem sizes_insertIdx (d : Dims) (k : Nat) (p : Nat × Nat) :
    sizes (d.insertIdx k p) = (sizes d).insertIdx k p.1 := map_insertIdx _ d k p

theorem sizes_eraseIdx (d : Dims) (k : Nat) : sizes (d.eraseIdx k) = (sizes d).eraseIdx k :=
  map_eraseIdx _ d k

theorem sizes_getD (d : Dims) (k : Nat) : (sizes d).getD k 0 = (d.getD k (0, 0)).1 := by
  simp only [sizes, List.getD_eq_getElem?_getD, List.getElem?_map]
  cases d[k]? <;> rfl

theorem strides_getD (d : Dims) (k : Nat) : (strides d).getD k 0 = (d.getD k (0, 0)).2 := by
  simp only [strides, List.getD_eq_getElem?_getD, List.getElem?_map]
  cases d[k]? <;> rfl

theorem offset_append (a b : Dims) (i j : List Nat) (h : a.length = i.length) :
    offset (a ++ b) (i ++ j) = offset a i + offset b j := by
  induction a generalizing i with
  | nil => cases i <;> simp_all [offset]
  | cons d ds ih =>
    cases i with
    | nil => simp at h
    | cons x xs =>
      obtain ⟨sz, st⟩ := d
      simp only [List.cons_append, offset, ih xs (Nat.succ_inj.mp h), Nat.add_assoc]

theorem validIdx_append (a b i j : List Nat) (h : a.length = i.length) :
    validIdx (a ++ b) (i ++ j) = (validIdx a i && validIdx b j) := by
  induction a generalizing i with
  | nil => cases i <;> simp_all [validIdx]
  | cons d ds ih =>
    cases i with
    | nil => simp at h
    | cons x xs => simp only [List.cons_append, validIdx, ih xs (Nat.succ_inj.mp h), Bool.and_assoc]

theorem offset_reverse (d : Dims) (i : List Nat) (h : d.length = i.length) :
    offset d.reverse i.reverse = offset d i := by
  induction d generalizing i with
  | nil => cases i <;> simp_all [offset]
  | cons x xs ih =>
    cases i with
    | nil => simp at h
    | cons y ys =>
      obtain ⟨a, b⟩ := x
      have h' : xs.length = ys.length := Nat.succ_inj.mp h
      rw [List.reverse_cons, List.reverse_cons, offset_append _ _ _ _ (by simp [h']), ih ys h']
      simp only [offset, Nat.add_zero, Nat.add_comm]

theorem validIdx_reverse (s i : List Nat) (h : s.length = i.length) :
    validIdx s.reverse i.reverse = validIdx s i := by
  induction s generalizing i with
  | nil => cases i <;> simp_all [validIdx]
  | cons x xs ih =>
    cases i with
    | nil => simp at h
    | cons y ys =>
      have h' : xs.length = ys.length := Nat.succ_inj.mp h
      rw [List.reverse_cons, List.reverse_cons, validIdx_append _ _ _ _ (by simp [h']), ih ys h']
      simp [validIdx, Bool.and_comm]

/-! ### inserting and erasing an axis

These lemmas carry all the T1 theorems whose reference re-inserts or drops one index
component (`insert_axis`, `remove_axis`, `index_axis`, `move_axis`, the geometry of `append`). -/

theorem insertIdx_valid {d : Dims} {idx : List Nat} (k : Nat) (p : Nat × Nat) (x : Nat)
    (hk : k ≤ d.length) (h : validIdx (sizes d) idx = true) :
    validIdx (sizes (d.insertIdx k p)) (idx.insertIdx k x) = decide (x < p.1) ∧
    offset (d.insertIdx k p) (idx.insertIdx k x) = x * p.2 + offset d idx := by
  induction k generalizing d idx with
  | zero => obtain ⟨a, b⟩ := p; simp [validIdx, offset, h]
  | succ k ih =>
    match d, idx, hk, h with
    | (a, b) :: d, i :: idx, hk, h =>
      simp only [sizes_cons, validIdx, Bool.and_eq_true, decide_eq_true_eq] at h
      obtain ⟨h1, h2⟩ := ih (Nat.le_of_succ_le_succ hk) h.2
      simp only [List.insertIdx_succ_cons, sizes_cons, validIdx, offset, h1, h2, h.1, decide_true,
        Bool.true_and, Nat.add_left_comm, true_and]

theorem valid_insertIdx {d : Dims} {idx : List Nat} (k : Nat) (p : Nat × Nat)
    (hk : k ≤ d.length) (h : validIdx (sizes (d.insertIdx k p)) idx = true) :
    idx.getD k 0 < p.1 ∧ validIdx (sizes d) (idx.eraseIdx k) = true ∧
    offset (d.insertIdx k p) idx = idx.getD k 0 * p.2 + offset d (idx.eraseIdx k) := by
  induction k generalizing d idx with
  | zero =>
    obtain ⟨a, b⟩ := p
    cases idx with
    | nil => simp [validIdx] at h
    | cons i idx => simpa [validIdx, offset] using h
  | succ k ih =>
    match d, idx, hk, h with
    | (a, b) :: d, [], _, h => simp [validIdx] at h
    | (a, b) :: d, i :: idx, hk, h =>
      simp only [List.insertIdx_succ_cons, sizes_cons, validIdx, Bool.and_eq_true,
        decide_eq_true_eq] at h
      obtain ⟨h1, h2, h3⟩ := ih (Nat.le_of_succ_le_succ hk) h.2
      simp only [List.insertIdx_succ_cons, List.getD_cons_succ, List.eraseIdx_cons_succ, sizes_cons,
        validIdx, offset, h1, h2, h3, h.1, decide_true, Bool.true_and, Nat.add_left_comm, true_and]

theorem eraseIdx_valid {d : Dims} {idx : List Nat} {k : Nat} (x : Nat) (hk : k < d.length)
    (h : validIdx (sizes (d.eraseIdx k)) idx = true) :
    validIdx (sizes d) (idx.insertIdx k x) = decide (x < (d.getD k (0, 0)).1) ∧
    offset d (idx.insertIdx k x) = x * (d.getD k (0, 0)).2 + offset (d.eraseIdx k) idx := by
  have := insertIdx_valid k (d.getD k (0, 0)) x
    (by rw [List.length_eraseIdx_of_lt hk]; omega) h
  rwa [insertIdx_eraseIdx_getD d k _ hk] at this

theorem numelD_cons (n st : Nat) (ds : Dims) : numelD ((n, st) :: ds) = n * numelD ds := rfl

theorem minDataLen_empty (d : Dims) (h : numelD d = 0) : minDataLen d = 0 := by
  unfold minDataLen
  rw [(numel_eq_zero_iff _).mp h]
  rfl

theorem minDataLen_nonempty (d : Dims) (h : numelD d ≠ 0) :
    minDataLen d = (d.map (fun p => (p.1 - 1) * p.2)).sum + 1 := by
  unfold minDataLen
  rw [if_neg (fun hz => h ((numel_eq_zero_iff _).mpr hz))]

theorem offset_le_sum (d : Dims) (idx : List Nat) (h : validIdx (sizes d) idx = true) :
    offset d idx ≤ (d.map (fun p => (p.1 - 1) * p.2)).sum := by
  fun_induction offset d idx
  case case1 n st ds i is ih =>
    simp only [sizes_cons, validIdx, Bool.and_eq_true, decide_eq_true_eq] at h
    have := ih h.2
    simp only [List.map_cons, List.sum_cons]
    have : i * st ≤ (n - 1) * st := Nat.mul_le_mul_right st (by omega)
    omega
  case case2 => exact Nat.zero_le _

theorem offset_lt_minDataLen (d : Dims) (idx : List Nat) (h : validIdx (sizes d) idx = true) :
    offset d idx < minDataLen d := by
  have hne : numelD d ≠ 0 := by
    have := numel_pos_of_valid h
    unfold numelD; omega
  rw [minDataLen_nonempty d hne]
  have := offset_le_sum d idx h
  omega

theorem validIdx_last (d : Dims) (h : numelD d ≠ 0) :
    validIdx (sizes d) ((sizes d).map (· - 1)) = true := by
  induction d with
  | nil => rfl
  | cons p ds ih =>
    obtain ⟨n, st⟩ := p
    rw [numelD_cons] at h
    have hn : n ≠ 0 := fun h0 => h (by simp [h0])
    simp only [sizes_cons, List.map_cons, validIdx, ih fun h0 => h (by simp [h0]), Bool.and_true,
      decide_eq_true_eq]
    omega

/-- The last index sits at the largest offset, the one `min_data_len` is made of. -/
theorem offset_last (d : Dims) :
    offset d ((sizes d).map (· - 1)) = (d.map fun p => (p.1 - 1) * p.2).sum := by
  induction d with
  | nil => rfl
  | cons p ds ih =>
    obtain ⟨n, st⟩ := p
    simp only [sizes_cons, List.map_cons, offset, List.sum_cons, ih]

end RtenVerif.Layout
