import RtenVerif.Lemmas.IterView

/-!
C07 lemmas: `AxisChunks`/`AxisChunksMut` (current, fixed `next_back`/`split_at`)
refine the deque over the logical chunk list; `flatMap_range'_steps` is the telescoping
behind "the chunks' index ranges partition the axis" (`c07_chunks_cover`).
-/
namespace RtenVerif.Iter

/-- Number of chunks: `size.div_ceil(chunk)`. -/
def nChunks (size c : Nat) : Nat := (size + c - 1) / c

/-- The `k`-th logical chunk of `axis_chunks(axis, c)` on `v`: indices `[k*c, min((k+1)*c, size))`
of the axis. -/
def chunkItem (v : View) (axis c k : Nat) : Item :=
  (View.mk (v.base + k * c * v.stride axis)
    (View.setSize v.dims axis (min ((k + 1) * c) (v.size axis) - k * c))).item

def chunksSpec (v : View) (axis c : Nat) : List Item :=
  (List.range (nChunks (v.size axis) c)).map (chunkItem v axis c)

theorem lt_nChunks {size c : Nat} (hc : 0 < c) (k : Nat) : k < nChunks size c ↔ k * c < size := by
  unfold nChunks
  rw [Nat.lt_iff_add_one_le, Nat.le_div_iff_mul_le hc, Nat.succ_mul]
  omega

theorem nat_eq_of_lt_iff {a b : Nat} (h : ∀ k, k < a ↔ k < b) : a = b := by
  have := h a; have := h b; omega

theorem chunksSpec_length (v : View) (axis c : Nat) :
    (chunksSpec v axis c).length = nChunks (v.size axis) c := by simp [chunksSpec]

/-- The sub-view of the indices `a .. b` of the axis, as an item; chunk `k` is the slice
`k*c .. min((k+1)*c, size)`. -/
def sliceItem (v : View) (axis a b : Nat) : Item :=
  (View.mk (v.base + a * v.stride axis) (View.setSize v.dims axis (b - a))).item

theorem chunkItem_eq_sliceItem (v : View) (axis c k : Nat) :
    chunkItem v axis c k = sliceItem v axis (k * c) (min ((k + 1) * c) (v.size axis)) := rfl

theorem sliceItem_left (v : View) (axis mid a b : Nat) (ha : axis < v.dims.length) :
    sliceItem (leftView v axis mid) axis a b = sliceItem v axis a b := by
  simp only [sliceItem, leftView, view_stride_setSize _ _ _ _ ha, setSize_setSize]
  rfl

theorem sliceItem_right (v : View) (axis mid a b : Nat) (ha : axis < v.dims.length)
    (hb : a < b → b ≤ v.size axis - mid) :
    sliceItem (rightView v axis mid) axis a b = sliceItem v axis (mid + a) (mid + b) := by
  simp only [sliceItem, rightView, view_stride_setSize _ _ _ _ ha, setSize_setSize,
    Nat.add_sub_add_left]
  apply item_congr
  intro hne
  rw [total_setSize _ _ _ ha] at hne
  have hE : total (v.dims.eraseIdx axis) ≠ 0 := fun h0 => hne (by rw [h0, Nat.mul_zero])
  have hba : b - a ≠ 0 := fun h0 => hne (by rw [h0, Nat.zero_mul])
  have hw : total (View.setSize v.dims axis (v.size axis - mid)) ≠ 0 := by
    rw [total_setSize _ _ _ ha]
    exact Nat.mul_ne_zero (by have := hb (by omega); omega) hE
  rw [if_neg hw, Nat.add_mul, Nat.add_assoc]
  rfl

theorem chunksSpec_eq_window (v : View) (axis c : Nat) :
    chunksSpec v axis c = window (chunkItem v axis c) 0 (nChunks (v.size axis) c) :=
  (window_zero ..).symm

theorem chunks_left (v : View) (axis c k0 : Nat) (ha : axis < v.dims.length) (hc : 0 < c)
    (hk : k0 ≤ nChunks (v.size axis) c) :
    chunksSpec (leftView v axis (min (c * k0) (v.size axis))) axis c = (chunksSpec v axis c).take k0 := by
  have hsz : (leftView v axis (min (c * k0) (v.size axis))).size axis = min (c * k0) (v.size axis) :=
    view_size_setSize _ _ _ _ ha
  have hn : nChunks (min (c * k0) (v.size axis)) c = k0 := by
    apply nat_eq_of_lt_iff
    intro k
    rw [lt_nChunks hc, Nat.lt_min, Nat.mul_comm c k0, Nat.mul_lt_mul_right hc]
    exact ⟨And.left, fun h => ⟨h, (lt_nChunks hc k).mp (Nat.lt_of_lt_of_le h hk)⟩⟩
  rw [chunksSpec_eq_window, chunksSpec_eq_window, window_take _ _ _ hk, Nat.zero_add, hsz, hn]
  apply window_congr
  intro k _ hk'
  rw [chunkItem_eq_sliceItem, chunkItem_eq_sliceItem, sliceItem_left _ _ _ _ _ ha, hsz]
  rw [← Nat.min_assoc, Nat.mul_comm c k0, Nat.min_eq_left (Nat.mul_le_mul_right c hk')]

theorem chunks_right (v : View) (axis c k0 : Nat) (ha : axis < v.dims.length) (hc : 0 < c) :
    chunksSpec (rightView v axis (min (c * k0) (v.size axis))) axis c = (chunksSpec v axis c).drop k0 := by
  have hsz : (rightView v axis (min (c * k0) (v.size axis))).size axis =
      v.size axis - min (c * k0) (v.size axis) := view_size_setSize _ _ _ _ ha
  have hn : nChunks (v.size axis - min (c * k0) (v.size axis)) c = nChunks (v.size axis) c - k0 := by
    apply nat_eq_of_lt_iff
    intro k
    rw [lt_nChunks hc, Nat.lt_sub_iff_add_lt, Nat.lt_sub_iff_add_lt, lt_nChunks hc, Nat.add_mul,
      Nat.mul_comm c k0]
    omega
  rw [chunksSpec_eq_window, chunksSpec_eq_window, window_drop, Nat.zero_add, hsz, hn]
  refine (window_congr _ _ _ fun k _ hk' => ?_).trans
    ((window_shift (chunkItem v axis c) 0 _ k0).trans ?_)
  · -- chunk `k` of the right half is chunk `k + k0` of the whole
    have h2 : (k + k0) * c < v.size axis := (lt_nChunks hc _).mp (by omega)
    rw [Nat.add_mul] at h2
    have hmid : min (c * k0) (v.size axis) = k0 * c := by rw [Nat.mul_comm c k0]; omega
    rw [chunkItem_eq_sliceItem, chunkItem_eq_sliceItem, hsz, hmid,
      sliceItem_right _ _ _ _ _ ha (fun _ => Nat.min_le_right ..)]
    rw [← Nat.add_min_add_left, Nat.add_sub_of_le (by omega), Nat.succ_mul k c,
      Nat.succ_mul (k + k0) c, Nat.add_mul k k0 c, ← Nat.add_assoc, Nat.add_comm (k0 * c)]
  · by_cases h : k0 ≤ nChunks (v.size axis) c
    · rw [Nat.zero_add, Nat.sub_add_cancel h]
    · rw [window_of_le _ _ _ (by omega), window_of_le _ _ _ (by omega)]

structure ChunksInv (s : AxisChunks) : Prop where
  chunk : 0 < s.chunk
  rem : ∀ r, s.remainder = some r → s.axis < r.dims.length ∧ 0 < r.size s.axis

def absC (s : AxisChunks) : List Item :=
  match s.remainder with
  | none => []
  | some r => chunksSpec r s.axis s.chunk

theorem nChunks_zero {c : Nat} (hc : 0 < c) : nChunks 0 c = 0 := by
  unfold nChunks
  exact Nat.div_eq_of_lt (by omega)

/-- Storing a possibly empty remainder (`non_empty` filter) keeps invariant and abstraction. -/
theorem nonEmpty_spec (x : View) (axis c : Nat) (ha : axis < x.dims.length) (hc : 0 < c) :
    ChunksInv { remainder := AxisChunks.nonEmpty axis x, axis := axis, chunk := c } ∧
    absC { remainder := AxisChunks.nonEmpty axis x, axis := axis, chunk := c } = chunksSpec x axis c := by
  unfold AxisChunks.nonEmpty
  by_cases hz : x.size axis > 0
  · simp only [hz, if_true]
    refine ⟨⟨hc, ?_⟩, rfl⟩
    intro r hr
    simp only [Option.some.injEq] at hr
    subst hr
    exact ⟨ha, hz⟩
  · have h0 : x.size axis = 0 := by omega
    simp only [hz, if_false]
    refine ⟨⟨hc, fun r hr => by simp at hr⟩, ?_⟩
    simp [absC, chunksSpec, h0, nChunks_zero hc]

theorem chunks_len (s : AxisChunks) : AxisChunks.len s = (absC s).length := by
  unfold AxisChunks.len absC
  cases s.remainder with
  | none => rfl
  | some r => simp [chunksSpec_length, nChunks]

theorem chunks_nextOk : NextOk AxisChunks.next ChunksInv absC := by
  intro s hs
  cases hr : s.remainder with
  | none => simp [AxisChunks.next, absC, hr, hs]
  | some r =>
    obtain ⟨ha, hpos⟩ := hs.rem r hr
    have hc := hs.chunk
    have hn : 0 < nChunks (r.size s.axis) s.chunk := (lt_nChunks hc 0).mpr (by omega)
    obtain ⟨hI, hA⟩ := nonEmpty_spec (rightView r s.axis (min s.chunk (r.size s.axis))) s.axis s.chunk
      (by rw [rightView_len]; exact ha) hc
    have hsplit := view_splitAt_some r s.axis (min s.chunk (r.size s.axis)) ha (Nat.min_le_right _ _)
    simp only [AxisChunks.next, hr, hsplit]
    have habs : absC s = chunksSpec r s.axis s.chunk := by simp only [absC, hr]
    rw [habs]
    refine ⟨?_, ?_, hI⟩
    · rw [chunksSpec_eq_window, window_head?, if_pos hn]
      simp only [chunkItem, leftView, Nat.zero_mul, Nat.add_zero, Nat.zero_add, Nat.one_mul,
        Nat.sub_zero]
    · rw [hA, ← List.drop_one, ← chunks_right r s.axis s.chunk 1 ha hc, Nat.mul_one]

theorem lastChunk_spec {size c : Nat} (hc : 0 < c) (hs : 0 < size) :
    size - AxisChunks.lastChunkLen size c = (nChunks size c - 1) * c := by
  have hn : 0 < nChunks size c := (lt_nChunks hc 0).mpr (by omega)
  obtain ⟨m, hm⟩ : ∃ m, nChunks size c = m + 1 := ⟨_, (Nat.succ_pred_eq_of_pos hn).symm⟩
  have h1 : m * c < size := (lt_nChunks hc m).mp (by omega)
  have h2 : ¬ ((m + 1) * c < size) := fun h => by
    have := (lt_nChunks hc (m + 1)).mpr h; omega
  rw [hm, Nat.add_sub_cancel]
  -- `size = m * c + t` with `0 < t ≤ c`
  obtain ⟨t, rfl⟩ : ∃ t, size = m * c + t := ⟨size - m * c, by omega⟩
  rw [Nat.succ_mul] at h2
  unfold AxisChunks.lastChunkLen
  rw [Nat.add_comm (m * c) t, Nat.add_mul_mod_self_right]
  by_cases htc : t = c
  · rw [htc, Nat.mod_self, if_pos rfl, Nat.add_sub_cancel_left]
  · rw [Nat.mod_eq_of_lt (by omega), if_neg (by omega), Nat.add_sub_cancel_left]

theorem rightView_item (v : View) (axis mid : Nat) :
    (rightView v axis mid).item = sliceItem v axis mid (v.size axis) :=
  item_congr _ _ _ fun hne => if_neg hne

theorem chunks_backOk : BackOk AxisChunks.nextBack ChunksInv absC := by
  intro s hs
  cases hr : s.remainder with
  | none => simp [AxisChunks.nextBack, absC, hr, hs]
  | some r =>
    obtain ⟨ha, hpos⟩ := hs.rem r hr
    have hc := hs.chunk
    have l1 := lastChunk_spec hc hpos
    have hn : 0 < nChunks (r.size s.axis) s.chunk := (lt_nChunks hc 0).mpr (by omega)
    -- the split point is `c * (n - 1)`: the last chunk is the right half, the others the left
    have hlt : (nChunks (r.size s.axis) s.chunk - 1) * s.chunk < r.size s.axis :=
      (lt_nChunks hc _).mp (by omega)
    have hge : r.size s.axis ≤ (nChunks (r.size s.axis) s.chunk - 1 + 1) * s.chunk := by
      have := (lt_nChunks (size := r.size s.axis) hc (nChunks (r.size s.axis) s.chunk)).mpr
      rw [Nat.sub_add_cancel hn]
      omega
    have hmid : r.size s.axis - AxisChunks.lastChunkLen (r.size s.axis) s.chunk =
        min (s.chunk * (nChunks (r.size s.axis) s.chunk - 1)) (r.size s.axis) := by
      rw [l1, Nat.mul_comm s.chunk, Nat.min_eq_left (Nat.le_of_lt hlt)]
    obtain ⟨hI, hA⟩ := nonEmpty_spec
      (leftView r s.axis (r.size s.axis - AxisChunks.lastChunkLen (r.size s.axis) s.chunk)) s.axis s.chunk
      (by rw [leftView_len]; exact ha) hc
    have hsplit := view_splitAt_some r s.axis
      (r.size s.axis - AxisChunks.lastChunkLen (r.size s.axis) s.chunk) ha (Nat.sub_le _ _)
    simp only [AxisChunks.nextBack, hr, hsplit]
    have habs : absC s = chunksSpec r s.axis s.chunk := by simp only [absC, hr]
    rw [habs]
    refine ⟨?_, ?_, hI⟩
    · rw [chunksSpec_eq_window, window_getLast?, if_pos hn, rightView_item, l1, chunkItem_eq_sliceItem,
        Nat.min_eq_right hge]
    · rw [hA, hmid, chunks_left r s.axis s.chunk _ ha hc (Nat.sub_le _ _), List.dropLast_eq_take,
        chunksSpec_length]

theorem chunks_split (s : AxisChunks) (k : Nat) (hs : ChunksInv s) (hk : k ≤ (absC s).length) :
    ∃ a b, AxisChunks.splitAt s k = some (a, b) ∧ absC a = (absC s).take k ∧
      absC b = (absC s).drop k ∧ ChunksInv a ∧ ChunksInv b := by
  have hlen : k ≤ s.len := by rw [chunks_len]; exact hk
  cases hr : s.remainder with
  | none =>
    have hnone : ChunksInv { s with remainder := none } := ⟨hs.chunk, fun r h => by simp at h⟩
    refine ⟨{ s with remainder := none }, { s with remainder := none }, ?_, ?_, ?_, hnone, hnone⟩
    · simp only [AxisChunks.splitAt, hlen, if_true, hr]
    · simp [absC, hr]
    · simp [absC, hr]
  | some r =>
    obtain ⟨ha, hpos⟩ := hs.rem r hr
    have hc := hs.chunk
    have hk' : k ≤ nChunks (r.size s.axis) s.chunk := by
      simpa [absC, hr, chunksSpec_length] using hk
    have hsplit := view_splitAt_some r s.axis (min (s.chunk * k) (r.size s.axis)) ha (Nat.min_le_right _ _)
    obtain ⟨hIl, hAl⟩ := nonEmpty_spec (leftView r s.axis (min (s.chunk * k) (r.size s.axis))) s.axis
      s.chunk (by rw [leftView_len]; exact ha) hc
    obtain ⟨hIr, hAr⟩ := nonEmpty_spec (rightView r s.axis (min (s.chunk * k) (r.size s.axis))) s.axis
      s.chunk (by rw [rightView_len]; exact ha) hc
    refine ⟨_, _, by simp only [AxisChunks.splitAt, hlen, if_true, hr, hsplit, Option.map_some],
      ?_, ?_, hIl, hIr⟩
    · rw [hAl]; simp only [absC, hr]; exact chunks_left r s.axis s.chunk k ha hc hk'
    · rw [hAr]; simp only [absC, hr]; exact chunks_right r s.axis s.chunk k ha hc

theorem chunks_refines : Refines AxisChunks.ops ChunksInv absC where
  next := chunks_nextOk
  nextBack := chunks_backOk
  nth := fun s n hs => defaultNth_spec chunks_nextOk n s hs
  len := fun s _ => chunks_len s
  fold := fun s hs => drainFront_spec chunks_nextOk _ s hs (by rw [chunks_len]; exact Nat.le_refl _)
  rev := fun s hs => drainBack_spec chunks_backOk _ s hs (by rw [chunks_len]; exact Nat.le_refl _)
  splitOk := chunks_split
  splitPanic := fun s k _ hk => by
    show AxisChunks.splitAt s k = none
    have : ¬ k ≤ s.len := by rw [chunks_len]; omega
    simp only [AxisChunks.splitAt, this, if_false]

theorem chunks_history (h : Hist) (s : AxisChunks) (hs : ChunksInv s) :
    run AxisChunks.ops h s = run (listOps Item) h (absC s) :=
  run_refines chunks_refines h s hs

theorem chunks_new (v : View) (axis c : Nat) (ha : axis < v.dims.length) (hc : 0 < c) :
    ChunksInv (AxisChunks.new v axis c) ∧ absC (AxisChunks.new v axis c) = chunksSpec v axis c :=
  nonEmpty_spec v axis c ha hc

def chunkRange (size c k : Nat) : List Nat :=
  List.range' (k * c) (min ((k + 1) * c) size - k * c)

theorem flatMap_range'_steps (b : Nat → Nat) (hb : ∀ j k, j ≤ k → b j ≤ b k) : ∀ n : Nat,
    (List.range n).flatMap (fun k => List.range' (b k) (b (k + 1) - b k)) =
      List.range' (b 0) (b n - b 0)
  | 0 => by simp
  | n + 1 => by
    have h0 := hb 0 n (Nat.zero_le n)
    have h1 := hb n (n + 1) (Nat.le_succ n)
    have := @List.range'_append (b 0) (b n - b 0) (b (n + 1) - b n) 1
    rw [Nat.one_mul, Nat.add_sub_of_le h0] at this
    rw [List.range_succ, List.flatMap_append, flatMap_range'_steps b hb n, List.flatMap_singleton,
      this]
    congr 1
    omega

end RtenVerif.Iter
