import RtenVerif.Lemmas.PlanCache
/-!
# The reduced `run_plan` never panics on an accepted request (C26)

Refcount invariant on `Model/PlanCache.lean`'s `runPlan`: for a plan that satisfies C03's
`ValidIds`/`PlanOK` for the supplied ids and requested outputs, on a graph whose operator inputs
are value or constant nodes, none of the four modelled panic sites is reachable.

Invariant (lower-bound form, robust against the sticky `u8` saturation): for every value node
`v`, `rc[v] = 255 ∨ rc[v] ≥` the number of uses of `v` still ahead (occurrences among the
dependencies of the operators still to run + occurrences among the requested outputs); a value
with a use still ahead that has been supplied or produced is a view input or in `temp_values`.

`partial_run` runs the plan that `prune_plan` leaves, which is still valid (`PruneInv`).
-/
namespace RtenVerif.PlanCache
open RtenVerif.Graph RtenVerif.Planner

/-- Operator inputs are value or constant nodes of the graph (what the model loaders build). -/
def WFG (g : Graph) : Prop :=
  ∀ i op, getOp g i = some op → ∀ d ∈ opInputs op, isValueOrConstant g d = true

/-- `operator_dependencies` of plan entry `i` (`[]` if `i` is not an operator). -/
def depsOf (g : Graph) (i : Nat) : List Nat :=
  match getOp g i with
  | some op => opDeps g op
  | none => []

def usesAhead (g : Graph) (rest outs : List Nat) (v : Nat) : Nat :=
  (rest.flatMap (depsOf g)).count v + outs.count v

def RcLow (g : Graph) (rc : List Nat) (f : Nat → Nat) : Prop :=
  ∀ v, getNode g v = some .value → ∃ c, rc[v]? = some c ∧ (c = 255 ∨ f v ≤ c)

/-- Values with a use ahead that are available (`R`) are view inputs or in `temp_values`. -/
def TempOK (g : Graph) (views R temp : List Nat) (f : Nat → Nat) : Prop :=
  ∀ v, getNode g v = some .value → 1 ≤ f v → v ∈ R → v ∈ views ∨ v ∈ temp

theorem RcLow.mono {g : Graph} {rc : List Nat} {f f' : Nat → Nat} (h : RcLow g rc f)
    (hle : ∀ v, getNode g v = some .value → f' v ≤ f v) : RcLow g rc f' := by
  intro v hv
  obtain ⟨c, hc, h1⟩ := h v hv
  exact ⟨c, hc, h1.imp id (fun h2 => Nat.le_trans (hle v hv) h2)⟩

theorem TempOK.mono {g : Graph} {views R temp : List Nat} {f f' : Nat → Nat}
    (h : TempOK g views R temp f) (hle : ∀ v, getNode g v = some .value → f' v ≤ f v) :
    TempOK g views R temp f' :=
  fun v hv h1 hr => h v hv (Nat.le_trans h1 (hle v hv)) hr

theorem RcLow.set {g : Graph} {rc : List Nat} {f f' : Nat → Nat} {id c c' : Nat} (h : RcLow g rc f)
    (hc : rc[id]? = some c) (hid : c = 255 ∨ f id ≤ c → c' = 255 ∨ f' id ≤ c')
    (hne : ∀ v, v ≠ id → f' v ≤ f v) : RcLow g (rc.set id c') f' := by
  intro v hv
  obtain ⟨c0, hc0, h1⟩ := h v hv
  by_cases hvi : v = id
  · subst hvi
    obtain rfl := Option.some.inj (hc.symm.trans hc0)
    exact ⟨c', List.getElem?_set_self (List.getElem?_eq_some_iff.mp hc).1, hid h1⟩
  · exact ⟨c0, by rw [List.getElem?_set_ne (Ne.symm hvi)]; exact hc0,
      h1.imp_right (Nat.le_trans (hne v hvi))⟩

theorem rcInc_ok {g : Graph} {rc : List Nat} {f : Nat → Nat} {id : Nat}
    (hl : rc.length = g.nodes.length) (hlt : id < g.nodes.length) (h : RcLow g rc f) :
    ∃ rc', rcInc rc id = some rc' ∧ rc'.length = g.nodes.length ∧
      RcLow g rc' (fun v => f v + if v = id then 1 else 0) := by
  obtain ⟨c, hc⟩ : ∃ c, rc[id]? = some c := ⟨_, List.getElem?_eq_getElem (hl ▸ hlt)⟩
  refine ⟨rc.set id (if c < 255 then c + 1 else 255), by simp only [rcInc, hc], by simp [hl],
    h.set hc (fun h1 => ?_) (fun v hv => by simp [hv])⟩
  simp only [if_true]
  split <;> omega

theorem rcIncDeps_ok {g : Graph} :
    ∀ (ds : List Nat) (rc : List Nat) (f : Nat → Nat), rc.length = g.nodes.length → RcLow g rc f →
      ∃ rc', rcIncDeps g ds rc = some rc' ∧ rc'.length = g.nodes.length ∧
        RcLow g rc' (fun v => f v + ds.count v) := by
  intro ds
  induction ds with
  | nil => intro rc f hl h; exact ⟨rc, rfl, hl, by simpa using h⟩
  | cons d ds ih =>
    intro rc f hl h
    by_cases hn : getNode g d = some .value
    · obtain ⟨rc1, e1, l1, r1⟩ := rcInc_ok hl (getNode_lt hn) h
      obtain ⟨rc', h1, h2, h3⟩ := ih _ _ l1 r1
      exact ⟨rc', by simp only [rcIncDeps, hn, e1]; exact h1, h2,
        h3.mono fun v _ => by rw [count_cons_ite, Nat.add_assoc]; exact Nat.le_refl _⟩
    · -- ids that are not value nodes are not counted, and `RcLow` only speaks of value nodes
      obtain ⟨rc', h1, h2, h3⟩ := ih rc f hl h
      refine ⟨rc', ?_, h2, h3.mono ?_⟩
      · rw [rcIncDeps]
        split
        · exact absurd ‹_› hn
        · exact h1
      · intro v hv
        have : d ≠ v := fun e => hn (e ▸ hv)
        simp [this]

theorem rcInitPlan_ok {g : Graph} :
    ∀ (plan : List Nat) (rc : List Nat) (f : Nat → Nat), rc.length = g.nodes.length → RcLow g rc f →
      (∀ i ∈ plan, (getOp g i).isSome = true) →
      ∃ rc', rcInitPlan g plan rc = .ok rc' ∧ rc'.length = g.nodes.length ∧
        RcLow g rc' (fun v => f v + (plan.flatMap (depsOf g)).count v) := by
  intro plan
  induction plan with
  | nil => intro rc f hl h _; exact ⟨rc, rfl, hl, by simpa using h⟩
  | cons i is ih =>
    intro rc f hl h hops
    obtain ⟨op, hop⟩ := Option.isSome_iff_exists.mp (hops i (List.mem_cons_self ..))
    obtain ⟨rc1, h1, h2, h3⟩ := rcIncDeps_ok (opDeps g op) rc f hl h
    obtain ⟨rc2, k1, k2, k3⟩ := ih rc1 _ h2 h3 (fun j hj => hops j (List.mem_cons_of_mem _ hj))
    refine ⟨rc2, ?_, k2, k3.mono ?_⟩
    · simp only [rcInitPlan, hop, h1]; exact k1
    · intro v _
      simp only [List.flatMap_cons, List.count_append, depsOf, hop]
      omega

theorem rcIncOuts_ok {g : Graph} :
    ∀ (outs : List Nat) (rc : List Nat) (f : Nat → Nat), rc.length = g.nodes.length → RcLow g rc f →
      (∀ o ∈ outs, o < g.nodes.length) →
      ∃ rc', rcIncOuts outs rc = some rc' ∧ rc'.length = g.nodes.length ∧
        RcLow g rc' (fun v => f v + outs.count v) := by
  intro outs
  induction outs with
  | nil => intro rc f hl h _; exact ⟨rc, rfl, hl, by simpa using h⟩
  | cons o os ih =>
    intro rc f hl h hr
    obtain ⟨rc1, e1, l1, r1⟩ := rcInc_ok hl (hr o (List.mem_cons_self ..)) h
    obtain ⟨rc', h1, h2, h3⟩ := ih _ _ l1 r1 (fun o' ho' => hr o' (List.mem_cons_of_mem _ ho'))
    exact ⟨rc', by simp only [rcIncOuts, e1]; exact h1, h2,
      h3.mono fun v _ => by rw [count_cons_ite, Nat.add_assoc]; exact Nat.le_refl _⟩

theorem mem_addTemps {v : Nat} : ∀ (os t : List Nat), v ∈ addTemps t os ↔ v ∈ t ∨ v ∈ os := by
  intro os
  induction os with
  | nil => intro t; simp [addTemps]
  | cons o os ih =>
    intro t
    simp only [addTemps, ih]
    by_cases hc : t.contains o = true
    · simp only [hc, if_true, List.mem_cons]
      have : o ∈ t := List.contains_iff_mem.mp hc
      constructor
      · rintro (h | h)
        · exact Or.inl h
        · exact Or.inr (Or.inr h)
      · rintro (h | h | h)
        · exact Or.inl h
        · subst h; exact Or.inl this
        · exact Or.inr h
    · simp only [hc, Bool.false_eq_true, if_false, List.mem_append, List.mem_cons, List.not_mem_nil,
        or_false]
      exact or_assoc

theorem lookupInputs_none {g : Graph} {views temp : List Nat} :
    ∀ (ds : List Nat),
      (∀ d ∈ ds, getNode g d = some .constant ∨
        (getNode g d = some .value ∧ (d ∈ views ∨ d ∈ temp))) →
      lookupInputs g views temp ds = none := by
  intro ds
  induction ds with
  | nil => intro _; rfl
  | cons d ds ih =>
    intro h
    have hrest := ih (fun d' hd' => h d' (List.mem_cons_of_mem _ hd'))
    rcases h d (List.mem_cons_self ..) with hc | ⟨hv, hm⟩
    · simp only [lookupInputs, hc]; exact hrest
    · have : (views.contains d || temp.contains d) = true := by
        simp only [Bool.or_eq_true, List.contains_iff_mem]; exact hm
      simp only [lookupInputs, hv, this, if_true]; exact hrest

theorem rcDec_ok {g : Graph} {rc : List Nat} {f : Nat → Nat} {d : Nat}
    (hl : rc.length = g.nodes.length) (hlt : d < g.nodes.length)
    (h : RcLow g rc (fun v => f v + if v = d then 1 else 0)) :
    ∃ rc' r, rcDec rc d = some (rc', r) ∧ rc'.length = g.nodes.length ∧ RcLow g rc' f ∧
      (r = some 0 → getNode g d = some .value → f d = 0) := by
  obtain ⟨c, hc⟩ : ∃ c, rc[d]? = some c := ⟨_, List.getElem?_eq_getElem (hl ▸ hlt)⟩
  have hkeep : RcLow g rc f := h.mono fun v _ => Nat.le_add_right ..
  simp only [rcDec, hc, beq_iff_eq]
  split
  · exact ⟨_, _, rfl, hl, hkeep, nofun⟩
  split
  · exact ⟨_, _, rfl, hl, hkeep, nofun⟩
  refine ⟨_, _, rfl, by simp [hl],
    h.set hc (fun h1 => Or.inr (by simp only [if_true] at h1; omega)) (fun _ _ => Nat.le_add_right ..),
    fun e hv => ?_⟩
  -- the count returned is 0 although the bound for `d` still included this use
  obtain ⟨c', hc', hlow⟩ := h d hv
  obtain rfl := Option.some.inj (hc.symm.trans hc')
  have := Option.some.inj e
  simp only [if_true] at hlow
  omega

theorem TempOK.erase {g : Graph} {views R temp : List Nat} {f : Nat → Nat} {d : Nat}
    (h : TempOK g views R temp f) (hd : getNode g d = some .value → f d = 0) :
    TempOK g views R (temp.erase d) f := fun v hv h1 hr =>
  (h v hv h1 hr).imp_right fun hm =>
    (List.mem_erase_of_ne (by rintro rfl; have := hd hv; omega)).mpr hm

theorem decDeps_ok {g : Graph} {views R : List Nat} {f : Nat → Nat} :
    ∀ (ds : List Nat) (st : RSt), st.rc.length = g.nodes.length → (∀ d ∈ ds, d < g.nodes.length) →
      RcLow g st.rc (fun v => ds.count v + f v) → TempOK g views R st.temp (fun v => ds.count v + f v) →
      ∃ st', decDeps ds st = some st' ∧ st'.rc.length = g.nodes.length ∧ RcLow g st'.rc f ∧
        TempOK g views R st'.temp f := by
  intro ds
  induction ds with
  | nil => intro st hl _ h1 h2; exact ⟨st, rfl, hl, by simpa using h1, by simpa using h2⟩
  | cons d ds ih =>
    intro st hl hr h1 h2
    obtain ⟨hd, hr'⟩ := List.forall_mem_cons.mp hr
    obtain ⟨rc', r, e1, l1, r1, z1⟩ := rcDec_ok (f := fun v => ds.count v + f v) hl hd
      (h1.mono fun v _ => by rw [count_cons_ite]; omega)
    have h2' : TempOK g views R st.temp (fun v => ds.count v + f v) :=
      h2.mono fun v _ => by rw [count_cons_ite]; omega
    obtain ⟨st', k1, k2⟩ := ih ⟨if r == some 0 then st.temp.erase d else st.temp, rc'⟩ l1 hr' r1 (by
      show TempOK g views R (if r == some 0 then st.temp.erase d else st.temp) _
      split
      · next hr0 => exact h2'.erase (z1 (by simpa using hr0))
      · exact h2')
    exact ⟨st', by simp only [decDeps, e1]; exact k1, k2⟩

theorem collectOutputs_none {g : Graph} {views : List Nat} :
    ∀ (os temp : List Nat), os.Nodup → (∀ o ∈ os, isValueOrConstant g o = true) →
      (∀ o ∈ os, getNode g o = some .value → o ∈ views ∨ o ∈ temp) →
      collectOutputs g views os temp = none := by
  intro os
  induction os with
  | nil => intro _ _ _ _; rfl
  | cons o os ih =>
    intro temp hnd hk hav
    have hnd' := (List.nodup_cons.mp hnd).2
    have hno := (List.nodup_cons.mp hnd).1
    have hk' : ∀ o' ∈ os, isValueOrConstant g o' = true := fun o' h => hk o' (List.mem_cons_of_mem _ h)
    rcases isValueOrConstant_iff.mp (hk o (List.mem_cons_self ..)) with hn | hn
    · simp only [collectOutputs, hn]
      by_cases hv : views.contains o = true
      · simp only [hv, if_true]
        exact ih temp hnd' hk' (fun o' h hv => hav o' (List.mem_cons_of_mem _ h) hv)
      · have hnv : o ∉ views := fun h => hv (List.contains_iff_mem.mpr h)
        have hot : o ∈ temp := (hav o (List.mem_cons_self ..) hn).resolve_left hnv
        simp only [hv, Bool.false_eq_true, if_false, List.contains_iff_mem.mpr hot, if_true]
        apply ih _ hnd' hk'
        intro o' h hv'
        have hne : o' ≠ o := fun e => hno (e ▸ h)
        rcases hav o' (List.mem_cons_of_mem _ h) hv' with h1 | h1
        · exact Or.inl h1
        · exact Or.inr ((List.mem_erase_of_ne hne).mpr h1)
    · simp only [collectOutputs, hn]
      exact ih temp hnd' hk' (fun o' h hv => hav o' (List.mem_cons_of_mem _ h) hv)

theorem usesAhead_cons {g : Graph} {i : Nat} {op : OpNode} (hop : getOp g i = some op)
    (rest outs : List Nat) (v : Nat) :
    usesAhead g (i :: rest) outs v = (opDeps g op).count v + usesAhead g rest outs v := by
  simp only [usesAhead, List.flatMap_cons, List.count_append, depsOf, hop]
  omega

theorem mem_r_of_avail {g : Graph} {r : List Nat} {d : Nat} (hv : getNode g d = some .value)
    (h : Avail g false r d) : d ∈ r := by
  rcases h with h | ⟨h, _⟩
  · exact (rContains_iff.mp h).resolve_right (by simp [isConstant, hv])
  · cases h

theorem opDeps_lt {g : Graph} (hwf : WFG g) {i : Nat} {op : OpNode} (hop : getOp g i = some op) :
    ∀ d ∈ opDeps g op, d < g.nodes.length := by
  intro d hd
  unfold opDeps at hd
  rcases List.mem_append.mp hd with h | h
  · exact lt_of_isVoC (hwf i op hop d h)
  · have := (List.mem_filter.mp h).2
    simp only [Bool.and_eq_true, decide_eq_true_eq] at this
    exact this.1

/-- The plan loop stops at a failing kernel (`opsOk = false`) or runs to completion and re-establishes the
invariants. -/
theorem execLoop_ok {g : Graph} {views outs : List Nat} (hwf : WFG g) (opsOk : Bool) :
    ∀ (rest r : List Nat) (st : RSt), ValidIds g false r rest → st.rc.length = g.nodes.length →
      RcLow g st.rc (usesAhead g rest outs) → TempOK g views r st.temp (usesAhead g rest outs) →
      (opsOk = false ∧ execLoop g views opsOk rest st = .error .errOp) ∨
      ∃ st', execLoop g views opsOk rest st = .ok st' ∧ RcLow g st'.rc (usesAhead g [] outs) ∧
        TempOK g views (availAfter g r rest) st'.temp (usesAhead g [] outs) := by
  intro rest
  induction rest with
  | nil =>
    intro r st _ _ h1 h2
    exact Or.inr ⟨st, rfl, h1, (availAfter_nil g r).symm ▸ h2⟩
  | cons i is ih =>
    intro r st hv hl h1 h2
    obtain ⟨⟨op, hop, havail⟩, hrest⟩ := hv
    have houts := outsOf_eq hop
    have hlook : lookupInputs g views st.temp (opInputs op) = none := by
      apply lookupInputs_none
      intro d hd
      rcases isValueOrConstant_iff.mp (hwf i op hop d hd) with hn | hn
      · have hdm : d ∈ opDeps g op := List.mem_append_left _ hd
        refine Or.inr ⟨hn, h2 d hn ?_ (mem_r_of_avail hn (havail d hdm))⟩
        rw [usesAhead_cons hop]
        have := List.count_pos_iff.mpr hdm
        omega
      · exact Or.inl hn
    -- a failing kernel stops the run with an error
    cases hops : opsOk with
    | false =>
      left
      refine ⟨rfl, ?_⟩
      simp only [execLoop, hop, hlook, Bool.not_false, if_true]
    | true =>
    subst hops
    obtain ⟨st1, k1, k2, k3, k4⟩ := decDeps_ok (g := g) (views := views) (R := r ++ outsOf g i)
      (f := usesAhead g is outs) (opDeps g op)
      { st with temp := addTemps st.temp (opOutputs op) } hl (opDeps_lt hwf hop)
      (h1.mono (fun v _ => Nat.le_of_eq (usesAhead_cons hop ..).symm))
      (by
        intro v hvv hone hvR
        rcases List.mem_append.mp hvR with hr | hr
        · rcases h2 v hvv (usesAhead_cons hop .. ▸ hone) hr with h | h
          · exact Or.inl h
          · exact Or.inr ((mem_addTemps _ _).mpr (Or.inl h))
        · rw [houts] at hr
          exact Or.inr ((mem_addTemps _ _).mpr (Or.inr hr)))
    rcases ih (r ++ outsOf g i) st1 hrest k2 k3 k4 with ⟨hcontra, _⟩ | ⟨st', e1, e2, e3⟩
    · cases hcontra
    refine Or.inr ⟨st', ?_, e2, availAfter_cons .. ▸ e3⟩
    simp only [execLoop, hop, hlook, Bool.not_true, Bool.false_eq_true, if_false, k1]
    exact e1

/-- **An accepted request never panics in `run_plan`.**  On a graph whose operator inputs are
value or constant nodes, with distinct value-or-constant output ids and a plan that is
dependency-closed from the supplied ids and makes every requested output available (the parts of
`ArgsOK` and `PlanOK` that are used; `get_cached_plan` hands out such a plan:
`c26_accepted_plan_ok`), the reduced `run_plan` reaches none of its four panic sites and — when the
operator kernels succeed — returns `Ok`. -/
theorem runPlan_valid {g : Graph} (hwf : WFG g) (opsOk : Bool) {inputs : List (Nat × InVal)}
    {plan outs : List Nat} (hnd : outs.Nodup) (hkind : ∀ o ∈ outs, isValueOrConstant g o = true)
    (hvalid : ValidIds g false (inputs.map (·.1)) plan)
    (houts : ∀ o ∈ outs, Avail g false (availAfter g (inputs.map (·.1)) plan) o) :
    (opsOk = false ∧ runPlan g opsOk inputs plan outs = .errOp) ∨
      runPlan g opsOk inputs plan outs = .ok := by
  have hl0 : (List.replicate g.nodes.length 0).length = g.nodes.length := List.length_replicate ..
  have hlow0 : RcLow g (List.replicate g.nodes.length 0) (fun _ => 0) := by
    intro v hv
    refine ⟨0, ?_, Or.inr (Nat.le_refl 0)⟩
    rw [List.getElem?_replicate]; simp [getNode_lt hv]
  obtain ⟨rc1, a1, a2, a3⟩ := rcInitPlan_ok plan _ _ hl0 hlow0 (validIds_ops hvalid)
  obtain ⟨rc2, b1, b2, b3⟩ := rcIncOuts_ok outs rc1 _ a2 a3 (fun o ho => lt_of_isVoC (hkind o ho))
  have hlow : RcLow g rc2 (usesAhead g plan outs) :=
    b3.mono (fun v _ => by simp [usesAhead])
  -- views are the supplied ids not owned, `temp_values` starts with the owned ones
  have htemp : TempOK g ((inputs.filter (fun p => !p.2.owned)).map (·.1)) (inputs.map (·.1))
      (addTemps [] ((inputs.filter (fun p => p.2.owned)).map (·.1))) (usesAhead g plan outs) := by
    intro v _ _ hvR
    obtain ⟨⟨id, x⟩, hm, rfl⟩ := List.mem_map.mp hvR
    by_cases ho : x.owned = true
    · right
      exact (mem_addTemps _ _).mpr (Or.inr (List.mem_map.mpr ⟨(id, x), List.mem_filter.mpr ⟨hm, ho⟩, rfl⟩))
    · left
      exact List.mem_map.mpr ⟨(id, x), List.mem_filter.mpr ⟨hm, by simpa using ho⟩, rfl⟩
  rcases execLoop_ok hwf opsOk plan _ ⟨_, rc2⟩ hvalid b2 hlow htemp with ⟨hf, herr⟩ | ⟨st', c1, _, c3⟩
  · exact Or.inl ⟨hf, by simp only [runPlan, a1, b1, herr]⟩
  -- output collection: every requested value node still has a use ahead (the request itself)
  have hcol := collectOutputs_none outs st'.temp hnd hkind fun o ho hv =>
    c3 o hv (Nat.le_trans (List.count_pos_iff.mpr ho) (Nat.le_add_left _ _))
      (mem_r_of_avail hv (houts o ho))
  exact Or.inr (by simp only [runPlan, a1, b1, c1, hcol])

/-- The same from C03's `PlanOK` (what `get_cached_plan` hands out). -/
theorem runPlan_accepted {g : Graph} (hwf : WFG g) (opsOk : Bool) {inputs : List (Nat × InVal)}
    {plan outs : List Nat} (hargs : ArgsOK g (inputs.map (·.1)) outs)
    (hok : PlanOK g false (resolvedNew g (inputs.map (·.1)) false) outs plan) :
    (opsOk = false ∧ runPlan g opsOk inputs plan outs = .errOp) ∨
      runPlan g opsOk inputs plan outs = .ok := by
  have hr0 : resolvedNew g (inputs.map (·.1)) false = inputs.map (·.1) := by simp [resolvedNew]
  rw [hr0] at hok
  exact runPlan_valid hwf opsOk hargs.1 hargs.2.1 hok.valid hok.outputs

/-- With succeeding kernels an accepted request returns `Ok`. -/
theorem runPlan_ok {g : Graph} (hwf : WFG g) {inputs : List (Nat × InVal)} {plan outs : List Nat}
    (hargs : ArgsOK g (inputs.map (·.1)) outs)
    (hok : PlanOK g false (resolvedNew g (inputs.map (·.1)) false) outs plan) :
    runPlan g true inputs plan outs = .ok := by
  rcases runPlan_accepted hwf true hargs hok with ⟨h, _⟩ | h
  · cases h
  · exact h

def WFGo (g : Graph) : Prop :=
  ∀ i op, getOp g i = some op → ∀ o ∈ opOutputs op, isValueOrConstant g o = true

theorem nodup_addTemps : ∀ (os t : List Nat), t.Nodup → (addTemps t os).Nodup := by
  intro os
  induction os with
  | nil => intro t h; exact h
  | cons o os ih =>
    intro t h
    simp only [addTemps]
    apply ih
    by_cases hc : t.contains o = true
    · rw [if_pos hc]; exact h
    · rw [if_neg hc]
      have hno : o ∉ t := fun hm => hc (List.contains_iff_mem.mpr hm)
      rw [List.nodup_append]
      refine ⟨h, by simp, ?_⟩
      intro a ha b hb
      simp only [List.mem_singleton] at hb
      subst hb
      exact fun e => hno (e ▸ ha)

structure PruneInv (g : Graph) (ins : List Nat) (st : PruneSt) : Prop where
  valid : ValidIds g false ins st.pruned
  res : st.resolved = availAfter g ins st.pruned
  cand : ∀ v ∈ st.cand, v ∈ availAfter g ins st.pruned
  nodup : st.cand.Nodup

theorem pruneLoop_inv {g : Graph} {ins : List Nat} :
    ∀ (plan : List Nat) (st : PruneSt), PruneInv g ins st → PruneInv g ins (pruneLoop g plan st) := by
  intro plan
  induction plan with
  | nil => intro st h; exact h
  | cons i is ih =>
    intro st h
    unfold pruneLoop
    cases hop : getOp g i with
    | none => exact ih st h
    | some op =>
      simp only
      split
      · exact ih _ ⟨h.valid, h.res, h.cand, h.nodup⟩
      · rename_i hcond
        have hall : (opDeps g op).all (rContains g st.resolved) = true := by
          cases hd : (opDeps g op).all (rContains g st.resolved) with
          | true => rfl
          | false => simp [hd] at hcond
        have hav : availAfter g ins (st.pruned ++ [i]) = availAfter g ins st.pruned ++ opOutputs op := by
          rw [availAfter_snoc, outsOf_eq hop]
        apply ih
        refine ⟨validIds_snoc h.valid hop fun d hd => Or.inl (h.res ▸ List.all_eq_true.mp hall d hd),
          ?_, ?_, nodup_addTemps _ _ h.nodup⟩
        · show st.resolved ++ opOutputs op = _
          rw [hav, h.res]
        · intro v hv
          rw [hav]
          rcases (mem_addTemps _ _).mp hv with hv | hv
          · exact List.mem_append_left _ (h.cand v hv)
          · exact List.mem_append_right _ hv

/-- `partial_run` never panics in `run_plan`, whatever the request: what `create_plan` lets through has
well-formed ids, and `prune_plan` keeps the plan valid. -/
theorem partialRun_no_panic {m : Mdl} (hwf : WFG m.g) (hwo : WFGo m.g) (opsOk : Bool)
    (inputs : List (Nat × InVal)) (outs : List Nat) :
    (partialRun m opsOk inputs outs).isPanic = false := by
  unfold partialRun
  split
  · rfl
  · simp only
    cases hp : createPlan m.g (inputs.map (·.1)) outs { allowMissing := true, capturesAvailable := false } with
    | error e => rfl
    | ok plan =>
      simp only
      have hargs := argsOK_of_createPlan_ok hp
      have hinv := pruneLoop_inv (g := m.g) (ins := inputs.map (·.1)) plan
        { resolved := inputs.map (·.1), pruned := [], cand := inputs.map (·.1), prunedResolved := [] }
        ⟨trivial, (availAfter_nil ..).symm, fun v hv => (availAfter_nil ..).symm ▸ hv, hargs.2.2.1⟩
      simp only [prunePlan]
      generalize pruneLoop m.g plan _ = st at hinv ⊢
      -- candidates are supplied ids or outputs of kept operators
      have hkind : ∀ o ∈ st.cand, isValueOrConstant m.g o = true := fun o ho => by
        rcases List.mem_append.mp (hinv.cand o ho) with hm | hm
        · exact hargs.2.2.2 o hm
        · obtain ⟨i, _, hm⟩ := List.mem_flatMap.mp hm
          obtain ⟨op, hop, hm⟩ := mem_outsOf.mp hm
          exact hwo i op hop o hm
      rcases runPlan_valid hwf opsOk
        (outs := st.cand.filter (fun o => outs.contains o || st.prunedResolved.contains o))
        (List.filter_sublist.nodup hinv.nodup) (fun o ho => hkind o (List.mem_filter.mp ho).1)
        hinv.valid (fun o ho => Or.inl (rContains_of_mem (hinv.cand o (List.mem_filter.mp ho).1)))
        with ⟨_, h⟩ | h <;> (rw [h]; rfl)

theorem mem_opNodes {g : Graph} {i : Nat} {op : OpNode} (h : getOp g i = some op) : (i, op) ∈ opNodes g := by
  unfold opNodes
  rw [List.mem_filterMap]
  exact ⟨i, List.mem_range.mpr (getOp_lt h), by simp [h]⟩

theorem wfgB_sound {g : Graph} (h : wfgB g = true) : WFG g := by
  intro i op hop d hd
  exact List.all_eq_true.mp (List.all_eq_true.mp h _ (mem_opNodes hop)) d hd

theorem wfgoB_sound {g : Graph} (h : wfgoB g = true) : WFGo g := by
  intro i op hop o ho
  exact List.all_eq_true.mp (List.all_eq_true.mp h _ (mem_opNodes hop)) o ho

theorem uniqueProducerB_sound {g : Graph} (h : uniqueProducerB g = true) : UniqueProducer g := by
  intro p op v hop hv
  have := List.all_eq_true.mp (List.all_eq_true.mp h _ (mem_opNodes hop)) v hv
  simpa using this

theorem outsValueB_sound {g : Graph} (h : outsValueB g = true) :
    ∀ i op, getOp g i = some op → ∀ o ∈ opOutputs op, getNode g o = some .value := by
  intro i op hop o ho
  have := List.all_eq_true.mp (List.all_eq_true.mp h _ (mem_opNodes hop)) o ho
  unfold isValueB at this
  cases hn : getNode g o with
  | none => simp [hn] at this
  | some nd => cases nd <;> simp_all

end RtenVerif.PlanCache

