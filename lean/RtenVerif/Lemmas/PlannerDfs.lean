import RtenVerif.Lemmas.PlannerSpec
/-!
# The depth-first phase (`visit`, `depsLoop`, `planOutputs`): the two halves of its specification

What a successful call establishes — the invariant `Inv` of `PlanBuilder` and the frame
conditions `Post` — and what a failing call reports, stated on the graph alone (`ErrCause`).
`Lemmas/PlannerTotal.lean` proves both of every call by one induction.
-/
namespace RtenVerif.Planner
open RtenVerif.Graph

def pOuts (plan : List (Nat × OpNode)) : List Nat := plan.flatMap (fun e => opOutputs e.2)

theorem pOuts_append (p q : List (Nat × OpNode)) : pOuts (p ++ q) = pOuts p ++ pOuts q := by
  simp [pOuts, List.flatMap_append]

theorem mem_pOuts {plan : List (Nat × OpNode)} {v : Nat} :
    v ∈ pOuts plan ↔ ∃ e ∈ plan, v ∈ opOutputs e.2 := by
  simp [pOuts, List.mem_flatMap]

/-- `ValidIds` on entries that carry their operator node (`validIds_of_validFrom`). -/
def ValidFrom (g : Graph) (am : Bool) : List Nat → List (Nat × OpNode) → Prop
  | _, [] => True
  | r, e :: es => (∀ d ∈ opDeps g e.2, Avail g am r d) ∧ ValidFrom g am (r ++ opOutputs e.2) es

theorem validFrom_snoc {g : Graph} {am : Bool} {r : List Nat} {p : List (Nat × OpNode)}
    {e : Nat × OpNode} :
    ValidFrom g am r (p ++ [e]) ↔
      ValidFrom g am r p ∧ ∀ d ∈ opDeps g e.2, Avail g am (r ++ pOuts p) d := by
  induction p generalizing r with
  | nil => simp [ValidFrom, pOuts]
  | cons a p ih =>
    simp only [List.cons_append, ValidFrom, ih, pOuts, List.flatMap_cons, List.append_assoc]
    constructor
    · rintro ⟨h1, h2, h3⟩; exact ⟨⟨h1, h2⟩, h3⟩
    · rintro ⟨⟨h1, h2⟩, h3⟩; exact ⟨h1, h2, h3⟩

theorem validIds_of_validFrom {g : Graph} {am : Bool} {r : List Nat} {P : List (Nat × OpNode)}
    (hv : ValidFrom g am r P) (hops : ∀ e ∈ P, getOp g e.1 = some e.2) :
    ValidIds g am r (P.map (fun e => e.1)) := by
  induction P generalizing r with
  | nil => trivial
  | cons e es ih =>
    have he := hops e (List.mem_cons_self ..)
    exact ⟨⟨e.2, he, hv.1⟩, outsOf_eq he ▸ ih hv.2 (fun e' h' => hops e' (List.mem_cons_of_mem _ h'))⟩

theorem flatMap_outsOf_map {g : Graph} {P : List (Nat × OpNode)}
    (hops : ∀ e ∈ P, getOp g e.1 = some e.2) :
    (P.map (fun e => e.1)).flatMap (outsOf g) = pOuts P := by
  induction P with
  | nil => rfl
  | cons e es ih =>
    simp only [List.map_cons, List.flatMap_cons, pOuts, outsOf_eq (hops e (List.mem_cons_self ..))]
    congr 1
    exact ih (fun e' h' => hops e' (List.mem_cons_of_mem _ h'))

/-- Invariant of `PlanBuilder` during the traversal. -/
structure Inv (g : Graph) (am : Bool) (r0 outs : List Nat) (st : St) : Prop where
  res : st.resolved = r0 ++ pOuts st.plan
  valid : ValidFrom g am r0 st.plan
  nodup : (st.plan.map (fun e => e.1)).Nodup
  ops : ∀ e ∈ st.plan, getOp g e.1 = some e.2
  needed : ∀ e ∈ st.plan, Needed g r0 outs e.1

theorem Inv.init (g : Graph) (am : Bool) (r0 outs : List Nat) :
    Inv g am r0 outs { resolved := r0, plan := [], active := [] } :=
  ⟨(List.append_nil _).symm, trivial, List.nodup_nil, fun _ he => absurd he List.not_mem_nil,
    fun _ he => absurd he List.not_mem_nil⟩

/-- Frame conditions of a successful `visit` / loop. -/
structure Post (g : Graph) (am : Bool) (r0 outs : List Nat) (st st' : St) : Prop where
  inv : Inv g am r0 outs st'
  active : st'.active = st.active
  ext : ∃ extra, st'.plan = st.plan ++ extra ∧ ∀ e ∈ extra, e.1 ∉ st.active

theorem Post.refl {g : Graph} {am : Bool} {r0 outs : List Nat} {st : St}
    (h : Inv g am r0 outs st) : Post g am r0 outs st st :=
  ⟨h, rfl, [], by simp, by simp⟩

theorem Post.trans {g : Graph} {am : Bool} {r0 outs : List Nat} {a b c : St}
    (h1 : Post g am r0 outs a b) (h2 : Post g am r0 outs b c) : Post g am r0 outs a c := by
  obtain ⟨e1, hp1, hn1⟩ := h1.ext
  obtain ⟨e2, hp2, hn2⟩ := h2.ext
  refine ⟨h2.inv, h2.active.trans h1.active, e1 ++ e2, ?_, ?_⟩
  · rw [hp2, hp1, List.append_assoc]
  · intro e he
    rcases List.mem_append.mp he with he | he
    · exact hn1 e he
    · have := hn2 e he
      rwa [h1.active] at this

theorem Post.mono {g : Graph} {am : Bool} {r0 outs : List Nat} {a b : St}
    (ha : Inv g am r0 outs a) (h : Post g am r0 outs a b) : ∀ v, v ∈ a.resolved → v ∈ b.resolved := by
  obtain ⟨e1, hp1, _⟩ := h.ext
  intro v hv
  rw [h.inv.res, hp1, pOuts_append]
  rw [ha.res] at hv
  rcases List.mem_append.mp hv with hv | hv
  · exact List.mem_append_left _ hv
  · exact List.mem_append_right _ (List.mem_append_left _ hv)

theorem rContains_false_r0 {g : Graph} {am : Bool} {r0 outs : List Nat} {st : St} {d : Nat}
    (h : Inv g am r0 outs st) (hd : rContains g st.resolved d = false) :
    rContains g r0 d = false := by
  cases hc : rContains g r0 d with
  | false => rfl
  | true =>
    have := rContains_mono (fun v hv => h.res ▸ List.mem_append_left _ hv) hc
    rw [hd] at this; cases this

/-- Static "needs" edge: operator `x` has a dependency that is not initially available
and whose registered source is operator `p`. -/
def Edge (g : Graph) (r0 : List Nat) (x p : Nat) : Prop :=
  ∃ xop d pop, getOp g x = some xop ∧ d ∈ opDeps g xop ∧ rContains g r0 d = false ∧
    getSource g d = some (p, pop)

inductive Star (R : Nat → Nat → Prop) : Nat → Nat → Prop
  | refl (a : Nat) : Star R a a
  | tail {a b c : Nat} : Star R a b → R b c → Star R a c

/-- What a traversal error reports, stated on the graph alone (C03.T2b):
* `cycle`: a needed operator `x` needs `p`, and `p` (transitively) needs `x`
  — a dependency cycle through values that were not supplied;
* `missingInput`: a needed operator depends on a value that is not available initially
  and that no operator produces (and missing inputs are not allowed);
* `noSource`: the same for a requested output. -/
inductive ErrCause (g : Graph) (opts : PlanOptions) (r0 outs : List Nat) : PlanError → Prop
  | cycle {x p : Nat} : Needed g r0 outs x → Edge g r0 x p → Star (Edge g r0) p x →
      ErrCause g opts r0 outs .cycle
  | missing {x d : Nat} {xop : OpNode} : opts.allowMissing = false → Needed g r0 outs x →
      getOp g x = some xop → d ∈ opDeps g xop → rContains g r0 d = false →
      getSource g d = none → ErrCause g opts r0 outs .missingInput
  | noSource {o : Nat} : opts.allowMissing = false → o ∈ outs → rContains g r0 o = false →
      getSource g o = none → ErrCause g opts r0 outs .noSource

/-- The active set, most recent first, is a path of `Edge`s. -/
def Chain (g : Graph) (r0 : List Nat) : List Nat → Prop
  | [] => True
  | [_] => True
  | a :: b :: rest => Edge g r0 b a ∧ Chain g r0 (b :: rest)

theorem Chain.star {g : Graph} {r0 : List Nat} :
    ∀ (rest : List Nat) (x p : Nat), Chain g r0 (x :: rest) → p ∈ x :: rest →
      Star (Edge g r0) p x := by
  intro rest
  induction rest with
  | nil =>
    intro x p _ hp
    simp only [List.mem_singleton] at hp
    subst hp; exact Star.refl _
  | cons b rest ih =>
    intro x p hc hp
    rcases List.mem_cons.mp hp with rfl | hp
    · exact Star.refl _
    · exact Star.tail (ih b p hc.2 hp) hc.1

end RtenVerif.Planner
