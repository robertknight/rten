import RtenVerif.Lemmas.Reindex
import RtenVerif.Lemmas.ListBasics

/-! C09: selections on a layout as index maps.  Arithmetic-progression selections (`slice`,
`slice_axis`, `split`, …) refine the reference `gather`; `squeezed`, which picks position 0 of
every size-1 axis, refines `numpy.squeeze`. -/
namespace RtenVerif.Layout
open RtenVerif.Arr RtenVerif.Overlap

/-- Layout-level selector of one axis: pick position `i` (axis dropped), or take the `c`
positions `a, a+t, a+2t, …` (axis kept with size `c`, stride multiplied by `t`). -/
inductive ASel
  | pick (i : Nat)
  | arith (a c t : Nat)

def ASel.toSel : ASel → Sel
  | .pick i => .pick i
  | .arith a c t => .take ((List.range c).map (fun j => a + j * t))

/-- Storage offset added by a selection. -/
def aOff : Dims → List ASel → Nat
  | (_, st) :: ds, .pick i :: ss => st * i + aOff ds ss
  | (_, st) :: ds, .arith a _ _ :: ss => st * a + aOff ds ss
  | _, _ => 0

/-- Dims after a selection (axes beyond the selectors are kept). -/
def aDims : Dims → List ASel → Dims
  | _ :: ds, .pick _ :: ss => aDims ds ss
  | (_, st) :: ds, .arith _ c t :: ss => (c, st * t) :: aDims ds ss
  | ds, _ => ds

/-- Admissible: no more selectors than axes, every selected position in range. -/
def aOk : List Nat → List ASel → Prop
  | _, [] => True
  | [], _ :: _ => False
  | n :: ns, .pick i :: ss => i < n ∧ aOk ns ss
  | n :: ns, .arith a c t :: ss => (c = 0 ∨ a + (c - 1) * t < n) ∧ aOk ns ss

theorem sizes_aDims : ∀ (d : Dims) (ss : List ASel), aOk (sizes d) ss →
    sizes (aDims d ss) = selShape (ss.map ASel.toSel) (sizes d)
  | d, [], _ => by cases d <;> rfl
  | [], _ :: _, hok => by simp [sizes, aOk] at hok
  | (n, st) :: ds, .pick i :: ss, hok => sizes_aDims ds ss hok.2
  | (n, st) :: ds, .arith a c t :: ss, hok => by
    simp only [aDims, sizes_cons, List.map_cons, ASel.toSel, selShape, List.length_map,
      List.length_range, sizes_aDims ds ss hok.2]

theorem select_reindex : ∀ (d : Dims) (ss : List ASel), aOk (sizes d) ss →
    Reindex d (aOff d ss) (aDims d ss) (selSrc (ss.map ASel.toSel))
  | d, [], _ => by
    have : aOff d [] = 0 ∧ aDims d [] = d := by cases d <;> exact ⟨rfl, rfl⟩
    rw [this.1, this.2]; exact .refl d
  | [], _ :: _, hok => by simp [sizes, aOk] at hok
  | (n, st) :: ds, .pick i :: ss, hok => by
    have := (select_reindex ds ss hok.2).cons_pick (n := n) (st := st) hok.1
      (g := selSrc ((ASel.pick i :: ss).map ASel.toSel)) fun js => rfl
    rwa [Nat.mul_comm] at this
  | (n, st) :: ds, .arith a c t :: ss, hok => by
    refine (select_reindex ds ss hok.2).cons (n := n) (st := st) (φ := fun j => a + j * t)
      (fun j hj => ⟨?_, ?_⟩) fun j js hj => ?_
    · rcases hok.1 with hc0 | hb
      · omega
      · have : j * t ≤ (c - 1) * t := Nat.mul_le_mul_right t (by omega)
        omega
    · rw [Nat.add_mul, Nat.mul_comm a st, Nat.mul_assoc j t st, Nat.mul_comm t st]
    · simp only [List.map_cons, ASel.toSel, selSrc, getD_map_range c _ j 0, if_pos hj]

theorem sizes_filter_one (d : Dims) :
    sizes (d.filter (fun p => p.1 != 1)) = (sizes d).filter (· != 1) := by
  induction d with
  | nil => rfl
  | cons p ds ih =>
    simp only [sizes] at ih
    simp only [List.filter_cons, sizes, List.map_cons]
    split <;> simp_all

theorem squeeze_reindex : ∀ d : Dims,
    Reindex d 0 (d.filter fun p => p.1 != 1) (NArr.unsqueeze (sizes d))
  | [] => fun idx hv => by cases idx <;> simp_all [sizes, validIdx, NArr.unsqueeze, offset]
  | (n, st) :: ds => by
    by_cases hn : n = 1
    · subst hn
      have := (squeeze_reindex ds).cons_pick (g := NArr.unsqueeze (sizes ((1, st) :: ds)))
        (n := 1) (st := st) Nat.one_pos fun js => by simp [NArr.unsqueeze]
      simpa [List.filter_cons] using this
    · have := (squeeze_reindex ds).keep (n, st) (g := NArr.unsqueeze (sizes ((n, st) :: ds)))
        fun j js => by simp [NArr.unsqueeze, hn]
      simpa [List.filter_cons, hn] using this

end RtenVerif.Layout
