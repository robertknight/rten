import RtenVerif.Lemmas.ShapeInfer

/-! `evalList` commutes with the list operations the rules are built from, and the three zipping
modes of `symbolic_binary_op` follow the executed broadcast; what `Agrees` gives for value-carrying
tensors, singly and in lists. -/
namespace RtenVerif.ShapeInfer

theorem evalList_nil (σ : Env) : evalList σ [] = some [] := rfl

theorem evalList_cons (σ : Env) (e : Sym) (es : List Sym) (vs : List Int)
    (h : evalList σ (e :: es) = some vs) :
    ∃ v vs', e.eval σ = some v ∧ evalList σ es = some vs' ∧ vs = v :: vs' :=
  mapO_cons_eq_some.mp h

theorem evalList_cons_intro (σ : Env) (e : Sym) (es : List Sym) (v : Int) (vs : List Int)
    (he : e.eval σ = some v) (hes : evalList σ es = some vs) : evalList σ (e :: es) = some (v :: vs) :=
  mapO_cons_eq_some.mpr ⟨v, vs, he, hes, rfl⟩

theorem evalList_singleton (σ : Env) (e : Sym) (v : Int) : evalList σ [e] = some [v] ↔ e.eval σ = some v := by
  simp [evalList_iff]

theorem evalList_append (σ : Env) (as bs : List Sym) (va vb : List Int)
    (h1 : evalList σ as = some va) (h2 : evalList σ bs = some vb) : evalList σ (as ++ bs) = some (va ++ vb) := by
  rw [evalList_iff] at *
  rw [List.map_append, h1, h2, List.map_append]

theorem evalList_drop (σ : Env) (n : Nat) (es : List Sym) (vs : List Int)
    (h : evalList σ es = some vs) : evalList σ (es.drop n) = some (vs.drop n) := by
  rw [evalList_iff] at *
  rw [List.map_drop, h, List.map_drop]

theorem evalList_take (σ : Env) (n : Nat) (es : List Sym) (vs : List Int)
    (h : evalList σ es = some vs) : evalList σ (es.take n) = some (vs.take n) := by
  rw [evalList_iff] at *
  rw [List.map_take, h, List.map_take]

theorem evalList_getElem (σ : Env) (es : List Sym) (vs : List Int) (k : Nat) (e : Sym)
    (h : evalList σ es = some vs) (hk : es[k]? = some e) : ∃ v, vs[k]? = some v ∧ e.eval σ = some v := by
  have := congrArg (·[k]?) (evalList_iff.mp h)
  simp only [List.getElem?_map, hk, Option.map_some] at this
  cases hv : vs[k]? with
  | none => simp [hv] at this
  | some v => exact ⟨v, rfl, by simpa [hv] using this⟩

theorem evalList_replicate_val (σ : Env) (v : Int) (k : Nat) :
    evalList σ (List.replicate k (Sym.val v)) = some (List.replicate k v) := by
  rw [evalList_iff, List.map_replicate, List.map_replicate]
  rfl

/-! The mode of `symbolic_binary_op` and of the executed broadcast is decided by which side has length 1. -/

theorem zipCycle_right {op : Sym → Sym → Option Sym} {l : List Sym} (y : Sym) (hl : l.length ≠ 1) :
    zipCycle op l [y] = mapO (fun x => op x y) l := by
  unfold zipCycle
  split
  · exact absurd rfl hl
  · rename_i h; cases h; rfl
  · rename_i h; exact (h y rfl).elim

theorem zipCycle_zip {op : Sym → Sym → Option Sym} {l r : List Sym} (hl : l.length ≠ 1) (hr : r.length ≠ 1) :
    zipCycle op l r = mapO (fun p => op p.1 p.2) (List.zip l r) := by
  unfold zipCycle
  split
  · exact absurd rfl hl
  · exact absurd rfl hr
  · rfl

theorem czip_right {f : Int → Int → Option Int} {l : List Int} (y : Int) (hl : l.length ≠ 1) :
    czip f l [y] = mapO (fun x => f x y) l := by
  unfold czip
  split
  · exact absurd rfl hl
  · rename_i h; cases h; rfl
  · rename_i h; exact (h y rfl).elim

theorem czip_zip {f : Int → Int → Option Int} {l r : List Int} (hl : l.length ≠ 1) (hr : r.length ≠ 1) :
    czip f l r = if l.length = r.length then mapO (fun p => f p.1 p.2) (List.zip l r) else none := by
  unfold czip
  split
  · exact absurd rfl hl
  · exact absurd rfl hr
  · rfl

/-- Whatever mode `symbolic_binary_op` chooses (left cycling, right cycling, plain zip), the executed
broadcast of the evaluated operands chooses the same one, since evaluation keeps lengths; each mode
is `mapO_lift`.  `S` restricts the element rule to the operands it is a homomorphism on. -/
theorem zipCycle_soundOn (σ : Env) (S) (op) (f) (h : OpHomOn σ S op f) (l r : List Sym) (vl vr : List Int)
    (out : List Sym) (w : List Int) (hSl : ∀ x ∈ l, S x) (hSr : ∀ y ∈ r, S y)
    (hl : evalList σ l = some vl) (hr : evalList σ r = some vr)
    (hi : zipCycle op l r = some out) (he : czip f vl vr = some w) : evalList σ out = some w := by
  have hll := evalList_length σ l vl hl
  have hrl := evalList_length σ r vr hr
  by_cases h1 : l.length = 1
  · obtain ⟨x, rfl⟩ := List.length_eq_one_iff.mp h1
    obtain ⟨vx, rfl⟩ := List.length_eq_one_iff.mp (hll ▸ h1)
    have hx := (evalList_singleton σ x vx).mp hl
    exact mapO_lift (fun y hy o vy b ho hvy hb =>
      h x y o vx vy b (hSl x (List.mem_singleton_self x)) (hSr y hy) ho hx hvy hb) hi hr he
  by_cases h2 : r.length = 1
  · obtain ⟨y, rfl⟩ := List.length_eq_one_iff.mp h2
    obtain ⟨vy, rfl⟩ := List.length_eq_one_iff.mp (hrl ▸ h2)
    have hy := (evalList_singleton σ y vy).mp hr
    rw [zipCycle_right y h1] at hi
    rw [czip_right vy (hll ▸ h1)] at he
    exact mapO_lift (fun x hx o vx b ho hvx hb =>
      h x y o vx vy b (hSl x hx) (hSr y (List.mem_singleton_self y)) ho hvx hy hb) hi hl he
  · rw [zipCycle_zip h1 h2] at hi
    rw [czip_zip (hll ▸ h1) (hrl ▸ h2)] at he
    split at he
    · exact mapO_lift (g := fun p => op p.1 p.2) (k := fun p => f p.1 p.2)
        (fun c hc o d b ho hd hb => h c.1 c.2 o d.1 d.2 b (hSl _ (List.of_mem_zip hc).1)
          (hSr _ (List.of_mem_zip hc).2) ho (pairO_eq_some.mp hd).1 (pairO_eq_some.mp hd).2 hb)
        hi (mapO_zip hl hr) he
    · cases he

theorem STn.eq_scalar_of_isScalar : ∀ {t : STn}, t.isScalar = true → ∃ e, t = .scalar e
  | .scalar e, _ => ⟨e, rfl⟩
  | .vector _, h | .shape _, h | .unknown, h => nomatch h

theorem agrees_values (σ : Env) (t : STn) (c : CT) (es : List Sym) (h : Agrees σ t c) (hv : t.values = some es) :
    ∃ vs, c.values = some vs ∧ evalList σ es = some vs ∧ t.isScalar = c.isScalar := by
  cases t with
  | scalar e => obtain ⟨v, rfl, hev⟩ := h; cases hv; exact ⟨[v], rfl, (evalList_singleton σ e v).mpr hev, rfl⟩
  | vector es' => obtain ⟨vs, rfl, hev⟩ := h; cases hv; exact ⟨vs, rfl, hev, rfl⟩
  | shape ds => cases hv
  | unknown => cases hv

theorem scalar_binary_agrees {σ : Env} {S} {op} {f} (h : OpHomOn σ S op f) {x y : Sym} {vx vy : Int}
    {r : STn} {cr : CT} (hSx : S x) (hSy : S y) (hx : x.eval σ = some vx) (hy : y.eval σ = some vy)
    (hi : (op x y).map STn.scalar = some r) (he : (f vx vy).map CT.scalar = some cr) : Agrees σ r cr := by
  obtain ⟨o, ho, rfl⟩ := Option.map_eq_some_iff.mp hi
  obtain ⟨w, hf, rfl⟩ := Option.map_eq_some_iff.mp he
  exact ⟨w, rfl, h x y o vx vy w hSx hSy ho hx hy hf⟩

inductive AgreesL (σ : Env) : List STn → List CT → Prop
  | nil : AgreesL σ [] []
  | cons {t c ts cs} : Agrees σ t c → AgreesL σ ts cs → AgreesL σ (t :: ts) (c :: cs)

theorem evalList_flatten_values (σ : Env) {ts : List STn} {cs : List CT} (hag : AgreesL σ ts cs) :
    ∀ {ess : List (List Sym)} {vss : List (List Int)},
    mapO STn.values ts = some ess → mapO CT.values cs = some vss →
    evalList σ ess.flatten = some vss.flatten := by
  induction hag with
  | nil => intro _ _ h1 h2; cases h1; cases h2; rfl
  | @cons t c ts cs ht _ ih =>
    intro _ _ h1 h2
    obtain ⟨es, ess, htv, hts, rfl⟩ := mapO_cons_eq_some.mp h1
    obtain ⟨vs, vss, hcv, hcs, rfl⟩ := mapO_cons_eq_some.mp h2
    obtain ⟨_, hcv', hev, _⟩ := agrees_values σ t c es ht htv
    cases hcv.symm.trans hcv'
    exact evalList_append σ es ess.flatten vs vss.flatten hev (ih hts hcs)

end RtenVerif.ShapeInfer
