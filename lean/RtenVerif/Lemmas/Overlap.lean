import RtenVerif.Model.Overlap

/-! C08 lemmas: valid indices as a predicate (`ValidIdx`) and as the members of the duplicate-free
list `indices`, and `is_contiguous` as a right fold (`contigR`).  The facts about the model's insertion
sort are in `Lemmas/InsertionSort.lean`. -/
namespace RtenVerif.Overlap

inductive ValidIdx : List (Nat × Nat) → List Nat → Prop
  | nil : ValidIdx [] []
  | cons {size stride i : Nat} {ds : List (Nat × Nat)} {is : List Nat} :
      i < size → ValidIdx ds is → ValidIdx ((size, stride) :: ds) (i :: is)

theorem mem_indices_valid : ∀ (dims : List (Nat × Nat)) (i : List Nat), i ∈ indices dims → ValidIdx dims i
  | [], i, h => by
    simp only [indices, List.mem_singleton] at h
    subst h; exact .nil
  | (sz, st) :: ds, i, h => by
    simp only [indices, List.mem_flatMap, List.mem_range, List.mem_map] at h
    obtain ⟨a, ha, is, his, rfl⟩ := h
    exact .cons ha (mem_indices_valid ds is his)

theorem indices_nodup : ∀ dims : List (Nat × Nat), (indices dims).Nodup
  | [] => by simp [indices]
  | (sz, st) :: ds => by
    simp only [indices]
    unfold List.Nodup
    rw [List.pairwise_flatMap]
    refine ⟨?_, ?_⟩
    · intro a _
      rw [List.pairwise_map]
      exact (indices_nodup ds).imp (fun hne heq => hne (List.cons.inj heq).2)
    · refine (List.nodup_range (n := sz)).imp ?_
      intro a b hab x hx y hy hxy
      simp only [List.mem_map] at hx hy
      obtain ⟨_, _, rfl⟩ := hx
      obtain ⟨_, _, rfl⟩ := hy
      exact hab (List.cons.inj hxy).1

theorem mixed_radix {s x y a b : Nat} (hx : x < s) (hy : y < s)
    (h : x + a * s = y + b * s) : x = y ∧ a = b := by
  have h1 : (x + a * s) % s = (y + b * s) % s := by rw [h]
  rw [Nat.add_mul_mod_self_right, Nat.add_mul_mod_self_right,
    Nat.mod_eq_of_lt hx, Nat.mod_eq_of_lt hy] at h1
  subst h1
  have h2 : a * s = b * s := by omega
  have hs : 0 < s := by omega
  exact ⟨rfl, Nat.eq_of_mul_eq_mul_right hs h2⟩

/-- `is_contiguous` loop as a right fold (innermost dimension first). -/
def contigR : List (Nat × Nat) → Option Nat
  | [] => some 1
  | d :: ds => contigStep (contigR ds) d

theorem isContiguous_eq (dims : List (Nat × Nat)) :
    isContiguous dims = (contigR dims).isSome := by
  unfold isContiguous
  rw [List.foldl_reverse]
  congr 1
  induction dims with
  | nil => rfl
  | cons d ds ih => simp [List.foldr, contigR, ih]

theorem contigR_cons_some {d : Nat × Nat} {ds : List (Nat × Nat)} {p : Nat}
    (h : contigR (d :: ds) = some p) :
    ∃ p', contigR ds = some p' ∧ ((d.1 = 1 ∧ p = p') ∨ (d.1 ≠ 1 ∧ d.2 = p' ∧ p = p' * d.1)) := by
  have h' : contigStep (contigR ds) d = some p := h
  cases hc : contigR ds with
  | none => rw [hc] at h'; cases h'
  | some p' =>
    rw [hc] at h'
    refine ⟨p', rfl, ?_⟩
    have h' : (if d.1 = 1 then some p' else if d.2 ≠ p' then none else some (p' * d.1)) = some p := h'
    split at h'
    · next h1 => exact .inl ⟨h1, (Option.some.inj h').symm⟩
    · next h1 =>
      split at h'
      · cases h'
      · next h2 => exact .inr ⟨h1, Decidable.not_not.mp h2, (Option.some.inj h').symm⟩

end RtenVerif.Overlap
