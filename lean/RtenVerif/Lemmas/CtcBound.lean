import RtenVerif.Lemmas.Ctc
import RtenVerif.Lemmas.NatListSum
import RtenVerif.Lemmas.ListBasics

/-! C39 over exact `Nat` arithmetic.  The extension tables are sums of what each iteration
`(state, label)` of the extension loops adds; for a beam with distinct label sequences every
cell has at most two contributing iterations, so a beam step is exactly one step `dpStep` of
the textbook prefix recursion `dpRev`, applied to the beam read as a partial table `look` from
label sequences to `(pb, pnb)`.  The score bound (T3), and in `CtcNoPrune` exactness (S4),
follow by monotonicity / congruence of `dpStep`. -/
namespace RtenVerif.Ctc

variable (B L : Nat) (beam : List (BState Nat)) (row : List Nat)

/-- What extending `s` by label `l` adds to its target cell. -/
def extVal (row : List Nat) (s : BState Nat) (l : Nat) : Nat :=
  row.getD l 0 * (s.pb + if (labels s.pre).getLast? = some l then 0 else s.pnb)

/-- What iteration `(bi, label)` adds to cell `(i, j)` of `next_prob_no_blank` as the
extension of `s` by `label` … -/
def cExt (beam : List (BState Nat)) (row : List Nat) (bi : Nat) (s : BState Nat) (label : Nat)
    (i j : Nat) : Nat :=
  if i = (extCell beam s.pre bi label).1 ∧ j = (extCell beam s.pre bi label).2 then
    extVal row s label else 0

/-- … and, when `label` repeats the last label of `s`, as `s` staying as it is. -/
def cRep (row : List Nat) (bi : Nat) (s : BState Nat) (label : Nat) (i j : Nat) : Nat :=
  if (labels s.pre).getLast? = some label ∧ i = bi ∧ j = 0 then row.getD label 0 * s.pnb else 0

theorem upd_add (t : Table Nat) (a b A i j : Nat) :
    Table.upd t a b (t a b + A) i j = t i j + if i = a ∧ j = b then A else 0 := by
  unfold Table.upd
  split
  · next h => rw [h.1, h.2]
  · rfl

theorem extLabel_nnb (bi : Nat) (s : BState Nat)
    (t : Tabs Nat) (label : Nat) (i j : Nat) :
    (extLabel natOps beam row bi s t label).nnb i j =
      t.nnb i j + (cExt beam row bi s label i j + cRep row bi s label i j) := by
  rw [extLabel_eq_core, show (s.pre.getLast?).map (·.label) = (labels s.pre).getLast? by
    unfold labels; rw [List.getLast?_map]]
  unfold extCore cExt cRep extVal
  generalize extCell beam s.pre bi label = c
  simp only [natOps]
  by_cases hc : (labels s.pre).getLast? = some label
  · rw [hc, show (some label != some label) = false by simp, if_neg Bool.false_ne_true]
    dsimp only
    rw [upd_add (Table.upd t.nnb c.1 c.2 _) bi 0, upd_add]
    simp only [true_and, if_true, Nat.add_zero, Nat.mul_comm, Nat.add_assoc]
  · rw [show (some label != (labels s.pre).getLast?) = true by
      simpa using fun h : some label = _ => hc h.symm, if_pos rfl]
    simp only [Nat.add_assoc, upd_add, hc, false_and, if_false, Nat.add_zero, ← Nat.add_mul,
      Nat.mul_comm]

theorem extendAll_nnb (i j : Nat) :
    (extendAll natOps L beam row).nnb i j = (beam.zipIdx.map fun sb =>
      ((List.range' 1 (L - 1)).map fun label =>
        cExt beam row sb.2 sb.1 label i j + cRep row sb.2 sb.1 label i j).sum).sum := by
  unfold extendAll
  refine (foldl_add_closed (fun t : Tabs Nat => t.nnb i j) _ _ (fun t sb => ?_) _ _).trans
    (Nat.zero_add _)
  unfold extState
  exact foldl_add_closed (fun t : Tabs Nat => t.nnb i j) _ _
    (fun t x => extLabel_nnb beam row sb.2 sb.1 t x i j) _ _

theorem foldl_extLabel_nb {α} (ops : Ops α) (beam : List (BState α)) (row : List α) (bi : Nat)
    (s : BState α) (ls : List Nat) (t : Tabs α) :
    (ls.foldl (extLabel ops beam row bi s) t).nb = t.nb :=
  List.foldlRecOn (motive := fun t' : Tabs α => t'.nb = t.nb) _ _ rfl fun t' h x _ => by
    rw [extLabel_eq_core]; unfold extCore; split <;> exact h

theorem extendAll_nb (i j : Nat) :
    (extendAll natOps L beam row).nb i j = (beam.zipIdx.map fun sb =>
      if i = sb.2 ∧ j = 0 then (sb.1.pb + sb.1.pnb) * row.getD 0 0 else 0).sum := by
  unfold extendAll
  refine (foldl_add_closed (fun t : Tabs Nat => t.nb i j) _ _ (fun t sb => ?_) _ _).trans
    (Nat.zero_add _)
  unfold extState
  rw [foldl_extLabel_nb]
  simp only [natOps, Nat.add_assoc, ← Nat.add_mul]
  exact upd_add t.nb sb.2 0 _ i j

theorem nb_cell (i : Nat) (s : BState Nat)
    (hs : beam[i]? = some s) :
    (extendAll natOps L beam row).nb i 0 = row.getD 0 0 * (s.pb + s.pnb) := by
  rw [extendAll_nb, sum_map_eq_single (zipIdx_nodup beam) (mem_zipIdx hs),
    if_pos ⟨rfl, rfl⟩, Nat.mul_comm]
  intro sb hsb hne
  exact eq_of_mem_zipIdx hsb hs (Decidable.by_contra fun h => hne (if_neg fun hc => h hc.1.symm))

/-- The extension part of one iteration and the repeat part of another (or the same one) fit
together into their cell: both are summands of it. -/
theorem parts_le_nnb (b₁ : Nat) (s₁ : BState Nat) (h₁ : beam[b₁]? = some s₁) (l₁ : Nat)
    (h0₁ : l₁ ≠ 0) (hL₁ : l₁ < L) (b₂ : Nat) (s₂ : BState Nat) (h₂ : beam[b₂]? = some s₂)
    (l₂ : Nat) (h0₂ : l₂ ≠ 0) (hL₂ : l₂ < L) (i j : Nat) :
    cExt beam row b₁ s₁ l₁ i j + cRep row b₂ s₂ l₂ i j ≤ (extendAll natOps L beam row).nnb i j := by
  rw [extendAll_nnb]
  simp only [sum_map_add]
  -- stated on their own: as arguments of `Nat.add_le_add` their functions are found by
  -- unification, slowly
  have hExt := le_sum2_of_mem (fun sb l => cExt beam row sb.2 sb.1 l i j) (mem_zipIdx h₁)
    (mem_range'_of h0₁ hL₁)
  have hRep := le_sum2_of_mem (fun sb l => cRep row sb.2 sb.1 l i j) (mem_zipIdx h₂)
    (mem_range'_of h0₂ hL₂)
  exact Nat.add_le_add hExt hRep

theorem nnb_ext_cell (i l : Nat)
    (hl : l ≠ 0) (hlL : l < L) (s : BState Nat) (hs : beam[i]? = some s) :
    (extendAll natOps L beam row).nnb i l = cExt beam row i s l i l := by
  have hrep : ∀ bi s' label, cRep row bi s' label i l = 0 := fun _ _ _ => if_neg fun h => hl h.2.2
  rw [extendAll_nnb, sum2_eq_single (zipIdx_nodup beam) (List.nodup_range' _)
    (mem_zipIdx hs) (mem_range'_of hl hlL), hrep, Nat.add_zero]
  intro sb hsb label _ hne
  rw [hrep, Nat.add_zero] at hne
  have hc := of_ite_ne_zero hne
  cases hmt : mergeTarget beam sb.1.pre label with
  | some ti => rw [extCell_some hmt] at hc; exact absurd hc.2 hl
  | none => rw [extCell_none hmt] at hc; exact ⟨eq_of_mem_zipIdx hsb hs hc.1.symm, hc.2.symm⟩

def look (beam : List (BState Nat)) (s : List Nat) : Nat × Nat :=
  match beam.find? (fun st => labels st.pre == s) with
  | some st => (st.pb, st.pnb)
  | none => (0, 0)

theorem look_cases (beam : List (BState Nat)) (s : List Nat) :
    ((∀ st ∈ beam, labels st.pre ≠ s) ∧ look beam s = (0, 0)) ∨
      ∃ (j : Nat) (st : BState Nat), beam[j]? = some st ∧ labels st.pre = s ∧
        look beam s = (st.pb, st.pnb) := by
  unfold look
  cases hf : beam.find? (fun st => labels st.pre == s) with
  | none => exact Or.inl ⟨fun st hst => by simpa using List.find?_eq_none.mp hf st hst, rfl⟩
  | some st =>
    obtain ⟨j, hj⟩ := List.getElem?_of_mem (List.mem_of_find?_eq_some hf)
    have hp := List.find?_some hf
    exact Or.inr ⟨j, st, hj, eq_of_beq hp, rfl⟩

theorem look_of_mem {beam : List (BState Nat)} (hd : Distinct beam) {i : Nat} {s : BState Nat}
    (hs : beam[i]? = some s) : look beam (labels s.pre) = (s.pb, s.pnb) := by
  rcases look_cases beam (labels s.pre) with ⟨h, _⟩ | ⟨j, st, hj, hl, hlook⟩
  · exact absurd rfl (h s (List.mem_of_getElem? hs))
  · rw [distinct_idx beam hd j i st s hj hs hl, hs] at hj
    rw [hlook, Option.some.inj hj]

theorem look_of_not_mem {beam : List (BState Nat)} {s : List Nat}
    (h : ∀ st ∈ beam, labels st.pre ≠ s) : look beam s = (0, 0) := by
  unfold look
  rw [List.find?_eq_none.mpr fun st hst => by simpa using h st hst]

/-- One time step of `dpRev`, on an arbitrary table `f` for the steps before. -/
def dpStep (row : List Nat) (f : List Nat → Nat × Nat) (s : List Nat) : Nat × Nat :=
  (row.getD 0 0 * ((f s).1 + (f s).2),
    match s.getLast? with
    | none => 0
    | some m => row.getD m 0 * ((f s).2 + (f s.dropLast).1 +
        (if s.dropLast.getLast? = some m then 0 else (f s.dropLast).2)))

theorem dpRev_cons (row : List Nat) (d : List (List Nat)) (s : List Nat) :
    dpRev (row :: d) s = dpStep row (dpRev d) s := rfl

theorem dpStep_snd_snoc (row : List Nat) (f : List Nat → Nat × Nat) (s' : List Nat) (m : Nat) :
    (dpStep row f (s' ++ [m])).2 = row.getD m 0 * ((f (s' ++ [m])).2 + (f s').1 +
      (if s'.getLast? = some m then 0 else (f s').2)) := by
  simp only [dpStep, List.getLast?_concat, List.dropLast_concat]

theorem dpStep_mono {row : List Nat} {f g : List Nat → Nat × Nat}
    (h : ∀ s, (f s).1 ≤ (g s).1 ∧ (f s).2 ≤ (g s).2) (s : List Nat) :
    (dpStep row f s).1 ≤ (dpStep row g s).1 ∧ (dpStep row f s).2 ≤ (dpStep row g s).2 := by
  refine ⟨Nat.mul_le_mul_left _ (Nat.add_le_add (h s).1 (h s).2), ?_⟩
  unfold dpStep
  cases s.getLast? with
  | none => exact Nat.le_refl _
  | some m =>
    refine Nat.mul_le_mul_left _ (Nat.add_le_add (Nat.add_le_add (h s).2 (h s.dropLast).1) ?_)
    split
    · exact Nat.le_refl _
    · exact (h s.dropLast).2

theorem dpStep_congr {row : List Nat} {f g : List Nat → Nat × Nat} {s : List Nat}
    (h1 : f s = g s) (h2 : f s.dropLast = g s.dropLast) : dpStep row f s = dpStep row g s := by
  unfold dpStep; rw [h1, h2]

theorem cExt_stay {i : Nat} {s : BState Nat} (hs : beam[i]? = some s) {bi label : Nat}
    {s' : BState Nat} (hlabel : label ∈ List.range' 1 (L - 1))
    (hne : cExt beam row bi s' label i 0 ≠ 0) :
    mergeTarget beam s'.pre label = some i ∧ labels s.pre = labels s'.pre ++ [label] := by
  have hc := of_ite_ne_zero hne
  cases hmt : mergeTarget beam s'.pre label with
  | none =>
    rw [extCell_none hmt] at hc
    exact absurd hc.2.symm (Nat.ne_of_gt (List.mem_range'_1.mp hlabel).1)
  | some ti =>
    rw [extCell_some hmt] at hc
    obtain ⟨s2, hs2, hl2⟩ := mergeTarget_sound beam s'.pre label ti hmt
    obtain rfl : i = ti := hc.1
    rw [hs] at hs2
    exact ⟨rfl, Option.some.inj hs2 ▸ hl2⟩

theorem cRep_stay {i : Nat} {s : BState Nat} (hs : beam[i]? = some s) {sb : BState Nat × Nat}
    (hsb : sb ∈ beam.zipIdx) {label : Nat} (hne : cRep row sb.2 sb.1 label i 0 ≠ 0) :
    sb = (s, i) ∧ (labels s.pre).getLast? = some label := by
  have hc := of_ite_ne_zero hne
  have := eq_of_mem_zipIdx hsb hs hc.2.1.symm
  exact ⟨this, by rw [← hc.1, this]⟩

theorem sum_cRep_stay (i : Nat) (s : BState Nat) (hs : beam[i]? = some s) (S' : List Nat) (m : Nat)
    (hS : labels s.pre = S' ++ [m]) (hm : m ∈ List.range' 1 (L - 1)) :
    (beam.zipIdx.map fun sb => ((List.range' 1 (L - 1)).map fun label =>
      cRep row sb.2 sb.1 label i 0).sum).sum = row.getD m 0 * s.pnb := by
  have hlast : (labels s.pre).getLast? = some m := by rw [hS, List.getLast?_concat]
  have huniq : ∀ sb ∈ beam.zipIdx, ∀ label ∈ List.range' 1 (L - 1),
      cRep row sb.2 sb.1 label i 0 ≠ 0 → sb = (s, i) ∧ label = m := fun sb hsb label _ hne =>
    ⟨(cRep_stay beam row hs hsb hne).1,
      Option.some.inj ((cRep_stay beam row hs hsb hne).2.symm.trans hlast)⟩
  rw [sum2_eq_single (g := fun (sb : BState Nat × Nat) label => cRep row sb.2 sb.1 label i 0)
    (zipIdx_nodup beam) (List.nodup_range' _) (mem_zipIdx hs) hm huniq]
  exact if_pos ⟨hlast, rfl, rfl⟩

theorem sum_cExt_stay (hd : Distinct beam) (i : Nat) (s : BState Nat) (hs : beam[i]? = some s)
    (S' : List Nat) (m : Nat) (hS : labels s.pre = S' ++ [m]) (hm : m ∈ List.range' 1 (L - 1)) :
    (beam.zipIdx.map fun sb => ((List.range' 1 (L - 1)).map fun label =>
      cExt beam row sb.2 sb.1 label i 0).sum).sum = row.getD m 0 * ((look beam S').1 +
        if S'.getLast? = some m then 0 else (look beam S').2) := by
  have hpar : ∀ sb ∈ beam.zipIdx, ∀ label ∈ List.range' 1 (L - 1),
      cExt beam row sb.2 sb.1 label i 0 ≠ 0 → labels sb.1.pre = S' ∧ label = m := by
    intro sb hsb label hlabel hne
    have h := (cExt_stay L beam row hs hlabel hne).2
    rw [hS] at h
    have h2 := List.append_inj' h rfl
    exact ⟨h2.1.symm, (List.cons.inj h2.2).1.symm⟩
  rcases look_cases beam S' with ⟨hno, h0⟩ | ⟨j, sj, hj, hlj, hlook⟩
  · rw [h0, sum2_eq_zero fun sb hsb label hlabel hne => hno sb.1
      (List.mem_of_getElem? (List.mem_zipIdx_iff_getElem?.mp hsb)) (hpar sb hsb label hlabel hne).1]
    simp
  · have huniq : ∀ sb ∈ beam.zipIdx, ∀ label ∈ List.range' 1 (L - 1),
        cExt beam row sb.2 sb.1 label i 0 ≠ 0 → sb = (sj, j) ∧ label = m :=
      fun sb hsb label hlabel hne =>
        ⟨eq_of_mem_zipIdx hsb hj (distinct_idx beam hd _ _ _ _
          (List.mem_zipIdx_iff_getElem?.mp hsb) hj
          ((hpar sb hsb label hlabel hne).1.trans hlj.symm)),
        (hpar sb hsb label hlabel hne).2⟩
    rw [sum2_eq_single (g := fun (sb : BState Nat × Nat) label => cExt beam row sb.2 sb.1 label i 0)
      (zipIdx_nodup beam) (List.nodup_range' _) (mem_zipIdx hj) hm huniq, cExt,
      extCell_some (mergeTarget_eq beam hd sj.pre m i s hs (by rw [hS, hlj])),
      if_pos ⟨rfl, rfl⟩, extVal, hlj, hlook]

theorem nnb_stay_cell (hd : Distinct beam)
    (i : Nat) (s : BState Nat) (hs : beam[i]? = some s) (hok : okSeq L (labels s.pre)) :
    (extendAll natOps L beam row).nnb i 0 = (dpStep row (look beam) (labels s.pre)).2 := by
  have hsplit : ∀ sb : BState Nat × Nat, ((List.range' 1 (L - 1)).map fun label =>
      cExt beam row sb.2 sb.1 label i 0 + cRep row sb.2 sb.1 label i 0).sum = _ :=
    fun sb => sum_map_add _ _ _
  rw [extendAll_nnb, funext hsplit, sum_map_add]
  rcases List.eq_nil_or_concat (labels s.pre) with hnil | ⟨S', m, hS⟩
  · rw [hnil, sum2_eq_zero, sum2_eq_zero]
    · rfl
    · intro sb hsb label _ hne
      have := (cRep_stay beam row hs hsb hne).2
      rw [hnil] at this; cases this
    · intro sb hsb label hlabel hne
      have := (cExt_stay L beam row hs hlabel hne).2
      rw [hnil] at this
      exact List.append_ne_nil_of_right_ne_nil _ (List.cons_ne_nil _ _) this.symm
  · rw [List.concat_eq_append] at hS
    have hm := hok m (by rw [hS]; simp)
    have hmr := mem_range'_of hm.1 hm.2
    rw [sum_cExt_stay L beam row hd i s hs S' m hS hmr, sum_cRep_stay L beam row i s hs S' m hS hmr,
      hS, dpStep_snd_snoc, ← hS, look_of_mem hd hs, ← Nat.mul_add]
    congr 1
    omega

theorem nnb_ext_dp (hd : Distinct beam) (i l : Nat) (hl : l ≠ 0) (hlL : l < L) (s : BState Nat)
    (hs : beam[i]? = some s) (hmt : mergeTarget beam s.pre l = none) :
    (extendAll natOps L beam row).nnb i l = (dpStep row (look beam) (labels s.pre ++ [l])).2 ∧
      (dpStep row (look beam) (labels s.pre ++ [l])).1 = 0 := by
  have hnew : look beam (labels s.pre ++ [l]) = (0, 0) := look_of_not_mem fun st hst he => by
    have := mergeTarget_isSome beam s.pre l st hst he
    rw [hmt] at this; cases this
  rw [nnb_ext_cell L beam row i l hl hlL s hs, cExt, extCell_none hmt, if_pos ⟨rfl, rfl⟩,
    dpStep_snd_snoc, hnew, look_of_mem hd hs]
  simp only [dpStep, hnew, extVal, Nat.zero_add, Nat.mul_zero, and_self]

/-- A redirected non-blank extension has probability zero and is never selected, so the states
kept are those for which the tables hold the recursion's value. -/
theorem beamStep_dp (pos : Nat) (row : List Nat)
    (hr : Reach L beam) (hd : Distinct beam) (st : BState Nat)
    (hst : st ∈ beamStep natOps B L beam pos row) :
    st.pb = (dpStep row (look beam) (labels st.pre)).1 ∧
      st.pnb = (dpStep row (look beam) (labels st.pre)).2 := by
  obtain ⟨i, s, l, hs, rfl, hl⟩ := mem_beamStep natOps B L beam hr.1 pos row st hst
  have hlook := look_of_mem hd hs
  rw [labels_ext]
  by_cases h0 : l = 0
  · subst h0
    refine ⟨?_, nnb_stay_cell L beam row hd i s hs (hr.2 s (List.mem_of_getElem? hs))⟩
    simp only [if_true, dpStep, hlook]
    exact nb_cell L beam row i s hs
  · obtain ⟨hlL, hnz⟩ := hl h0
    have hnb := (extendAll_inv natOps L beam row).1 i l h0
    rw [hnb, nnb_ext_cell L beam row i l h0 hlL s hs] at hnz
    simp only [if_neg h0, hnb]
    cases hmt : mergeTarget beam s.pre l with
    | some ti =>
      rw [cExt, extCell_some hmt, if_neg fun h => h0 h.2] at hnz
      cases hnz
    | none =>
      obtain ⟨h1, h2⟩ := nnb_ext_dp L beam row hd i l h0 hlL s hs hmt
      exact ⟨h2.symm, h1⟩

/-- Every beam state's `(pb, pnb)` is bounded by the prefix recursion over the rows
processed so far (`doneRev`: last processed row first). -/
def Inv (doneRev : List (List Nat)) (beam : List (BState Nat)) : Prop :=
  ∀ st ∈ beam, st.pb ≤ (dpRev doneRev (labels st.pre)).1 ∧
    st.pnb ≤ (dpRev doneRev (labels st.pre)).2

theorem Inv.look_le {d : List (List Nat)} {beam : List (BState Nat)} (h : Inv d beam)
    (s : List Nat) : (look beam s).1 ≤ (dpRev d s).1 ∧ (look beam s).2 ≤ (dpRev d s).2 := by
  rcases look_cases beam s with ⟨_, h0⟩ | ⟨j, st, hj, hl, hlook⟩
  · rw [h0]; exact ⟨Nat.zero_le _, Nat.zero_le _⟩
  · rw [hlook, ← hl]; exact h st (List.mem_of_getElem? hj)

theorem beamStep_inv (d : List (List Nat)) (beam : List (BState Nat)) (pos : Nat)
    (row : List Nat) (hr : Reach L beam) (hd : Distinct beam) (hinv : Inv d beam) :
    Inv (row :: d) (beamStep natOps B L beam pos row) := by
  intro st hst
  obtain ⟨h1, h2⟩ := beamStep_dp B L beam pos row hr hd st hst
  rw [h1, h2, dpRev_cons]
  exact dpStep_mono hinv.look_le _

end RtenVerif.Ctc
