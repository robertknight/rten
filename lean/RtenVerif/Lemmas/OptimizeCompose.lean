import RtenVerif.Lemmas.OptimizeRewrite

/-!
# C01 — the rewritten plan is again a well-formed, fresh plan (composition of rewrites: partial)

So `c01_rewrite_sound` can be applied again to the result (next replacement of the batch / next pass):
`WF_fuse` and `fresh_fuse` re-establish `hwf` / `hfresh` for `pre.filter (¬inS) ++ F :: post`.
Not proved: that the guards evaluated on the *original* graph for every replacement of one
`apply_fusion` batch still hold after the earlier replacements of the batch were applied (the
claimed-operator check makes the removed sets disjoint; stability of `usedOutside` under removal of
a disjoint subgraph is the missing lemma), and the 3-pass loop as a whole.
-/
namespace RtenVerif.Optimize

variable {K : Type}

/-- The plan after `fuse` is well-formed, provided the fused operator reads nothing that it or a
later operator produces (its inputs are inputs of the removed subgraph). -/
theorem WF_fuse (pre post : List (Op K)) (L F : Op K) (p : Op K → Bool)
    (hwf : WF (pre ++ L :: post)) (houts : F.outs = L.outs)
    (hFr : ∀ i ∈ F.reads, i ∉ outsAll (L :: post)) : WF (pre.filter p ++ F :: post) := by
  have heq : ∀ l : List (Op K), outsAll (l ++ F :: post) = outsAll (l ++ L :: post) := fun l => by
    simp only [outsAll_append, outsAll, houts]
  -- dropping operators keeps the plan well-formed; then `F` takes the place of `L`
  suffices key : ∀ a, WF (a ++ L :: post) → WF (a ++ F :: post) from
    key _ (WF_sublist (List.filter_sublist.append_right _) hwf)
  intro a
  induction a with
  | nil => exact fun ⟨_, g2, g3⟩ => ⟨fun i hi => heq [] ▸ hFr i hi, fun i hi => g2 i (houts ▸ hi), g3⟩
  | cons o os ih =>
    exact fun ⟨g1, g2, g3⟩ => ⟨fun i hi => heq (o :: os) ▸ g1 i hi, fun i hi => heq os ▸ g2 i hi, ih g3⟩

/-- … and its operator outputs are still undefined in the initial environment. -/
theorem fresh_fuse {V : Type} (pre post : List (Op K)) (L F : Op K) (p : Op K → Bool) (env : Env V)
    (hfresh : ∀ i ∈ outsAll (pre ++ L :: post), env i = none) (houts : F.outs = L.outs) :
    ∀ i ∈ outsAll (pre.filter p ++ F :: post), env i = none := by
  intro i hi
  refine hfresh i ?_
  rw [mem_outsAll_append, mem_outsAll_cons] at hi ⊢
  rw [← houts]
  exact hi.imp_left (outsAll_sublist List.filter_sublist)

end RtenVerif.Optimize
