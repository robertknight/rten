import RtenVerif.Lemmas.AxisSel
import RtenVerif.Lemmas.Overlap
import RtenVerif.Lemmas.ListBasics

/-! C09.T4 lemmas for `append`: the element-wise write loop, and the grown layout. -/
namespace RtenVerif.Layout
open RtenVerif.Arr RtenVerif.Overlap

def writeFold (L : List (List Nat)) (p : List Nat → Nat) (g : List Nat → Nat) (st : List Nat) :
    List Nat :=
  L.foldl (fun st idx => st.set (p idx) (g idx)) st

theorem writeFold_length (L : List (List Nat)) (p g) (st : List Nat) :
    (writeFold L p g st).length = st.length := foldSet_length L p g st

theorem writeAll_spec (store : List Nat) (start : Nat) (d : Dims) (oshape : List Nat)
    (g : List Nat → Nat)
    (hinj : ∀ a b, validIdx oshape a = true → validIdx oshape b = true →
      start + offset d a = start + offset d b → a = b) :
    (∀ idx', validIdx oshape idx' = true → start + offset d idx' < store.length →
      (writeAll store start d oshape g).getD (start + offset d idx') 0 = g idx') ∧
    (∀ q, (∀ idx', validIdx oshape idx' = true → start + offset d idx' ≠ q) →
      (writeAll store start d oshape g).getD q 0 = store.getD q 0) :=
  ⟨fun idx' hv hlt => (List.getD_eq_getElem?_getD ..).trans <| congrArg (Option.getD · 0) <|
      foldSet_written (idxs oshape) (fun idx => start + offset d idx) g store _ _ hlt
        (fun a ha h => congrArg g (hinj a idx' (mem_idxs.mp ha) hv h)) (Or.inr ⟨idx', mem_idxs.mpr hv, rfl⟩),
    fun q h => (List.getD_eq_getElem?_getD ..).trans <| (congrArg (Option.getD · 0) <|
      foldSet_untouched (idxs oshape) (fun idx => start + offset d idx) g store q
        fun idx hm => h idx (mem_idxs.mp hm)).trans (List.getD_eq_getElem?_getD ..).symm⟩

theorem resizeDim_eq (d : Dims) (axis c : Nat) (hk : axis < d.length) :
    resizeDim d axis c = (d.eraseIdx axis).insertIdx axis (c, (d.getD axis (0, 0)).2) := by
  rw [resizeDim_eq_set, set_eq_insert_erase _ _ _ hk]

/-- Index of the grown tensor that element `idx'` of `other` is written to. -/
def shiftIdx (axis old : Nat) (idx' : List Nat) : List Nat :=
  (idx'.eraseIdx axis).insertIdx axis (old + idx'.getD axis 0)

/-- `nd` is the layout after `append` of `c` entries along `axis`, `sd` the block
`slice_axis_mut(axis, old..old+c)` they are written to. -/
theorem append_geometry (d : Dims) (axis c : Nat) (hk : axis < d.length) :
    let old := (d.getD axis (0, 0)).1
    let st := (d.getD axis (0, 0)).2
    let nd := resizeDim d axis (old + c)
    let sd := resizeDim nd axis c
    (∀ idx', validIdx (sizes sd) idx' = true →
      validIdx (sizes nd) (shiftIdx axis old idx') = true ∧
      old * st + offset sd idx' = offset nd (shiftIdx axis old idx') ∧
      old ≤ (shiftIdx axis old idx').getD axis 0) ∧
    (∀ idx, validIdx (sizes d) idx = true →
      validIdx (sizes nd) idx = true ∧ offset nd idx = offset d idx ∧ idx.getD axis 0 < old) ∧
    (∀ a b, validIdx (sizes sd) a = true → validIdx (sizes sd) b = true →
      shiftIdx axis old a = shiftIdx axis old b → a = b) ∧
    (∀ idx, validIdx (sizes nd) idx = true →
      (idx.getD axis 0 < old ∧ validIdx (sizes d) idx = true) ∨
      (¬ idx.getD axis 0 < old ∧ validIdx (sizes sd) (idx.set axis (idx.getD axis 0 - old)) = true ∧
        shiftIdx axis old (idx.set axis (idx.getD axis 0 - old)) = idx)) := by
  intro old st nd sd
  -- all three layouts are `d` without `axis`, with an axis of size `old`, `old + c`, `c` put back
  have hE : axis ≤ (d.eraseIdx axis).length := by rw [List.length_eraseIdx_of_lt hk]; omega
  have hd : (d.eraseIdx axis).insertIdx axis (old, st) = d := insertIdx_eraseIdx_getD d axis (0, 0) hk
  have hnd : nd = (d.eraseIdx axis).insertIdx axis (old + c, st) := resizeDim_eq d axis _ hk
  have hsd : sd = (d.eraseIdx axis).insertIdx axis (c, st) :=
    (resizeDim_resizeDim d axis _ c).trans (resizeDim_eq d axis c hk)
  have hlen : ∀ {n : Nat} {idx : List Nat},
      validIdx (sizes ((d.eraseIdx axis).insertIdx axis (n, st))) idx = true → axis < idx.length := by
    intro n idx hv
    rw [validIdx_length hv, sizes_length, List.length_insertIdx_of_le_length hE]
    omega
  refine ⟨fun idx' hv => ?_, fun idx hv => ?_, fun a b ha hb hab => ?_, fun idx hv => ?_⟩
  · rw [hsd] at hv
    obtain ⟨hx, hr, ho⟩ := valid_insertIdx axis _ hE hv
    obtain ⟨hv', ho'⟩ := insertIdx_valid axis (old + c, st) (old + idx'.getD axis 0) hE hr
    refine ⟨?_, ?_, ?_⟩
    · rw [hnd]; exact hv'.trans (decide_eq_true (Nat.add_lt_add_left hx old))
    · show _ = offset nd ((idx'.eraseIdx axis).insertIdx axis (old + idx'.getD axis 0))
      rw [hsd, hnd, ho, ho', Nat.add_mul, Nat.add_assoc]
    · unfold shiftIdx
      rw [getD_insertIdx_self _ _ _ _ (by
        rw [List.length_eraseIdx_of_lt (hlen hv)]; have := hlen hv; omega)]
      omega
  · rw [← hd] at hv
    have e1 := insertIdx_eraseIdx_getD idx axis 0 (hlen hv)
    obtain ⟨hx, hr, ho⟩ := valid_insertIdx axis _ hE hv
    obtain ⟨hv', ho'⟩ := insertIdx_valid axis (old + c, st) (idx.getD axis 0) hE hr
    rw [e1, ← hnd] at hv' ho'
    rw [hd] at ho
    exact ⟨hv'.trans (decide_eq_true (Nat.lt_add_right c hx)), ho'.trans ho.symm, hx⟩
  · rw [hsd] at ha hb
    have hla := hlen ha
    have hlb := hlen hb
    unfold shiftIdx at hab
    have h1 : a.eraseIdx axis = b.eraseIdx axis := by
      simpa only [List.eraseIdx_insertIdx_self] using congrArg (fun l => l.eraseIdx axis) hab
    have h2 : List.getD _ axis 0 = List.getD _ axis 0 := congrArg (fun l => l.getD axis 0) hab
    rw [getD_insertIdx_self _ _ _ _ (by rw [List.length_eraseIdx_of_lt hla]; omega),
      getD_insertIdx_self _ _ _ _ (by rw [List.length_eraseIdx_of_lt hlb]; omega)] at h2
    rw [← insertIdx_eraseIdx_getD a axis 0 hla, ← insertIdx_eraseIdx_getD b axis 0 hlb, h1,
      show a.getD axis 0 = b.getD axis 0 by omega]
  · rw [hnd] at hv
    have hl := hlen hv
    have e1 := insertIdx_eraseIdx_getD idx axis 0 hl
    obtain ⟨hx, hr, -⟩ := valid_insertIdx axis _ hE hv
    by_cases hi : idx.getD axis 0 < old
    · have hv' := (insertIdx_valid axis (old, st) (idx.getD axis 0) hE hr).1
      rw [e1, hd] at hv'
      exact Or.inl ⟨hi, hv'.trans (decide_eq_true hi)⟩
    · have hv' := (insertIdx_valid axis (c, st) (idx.getD axis 0 - old) hE hr).1
      rw [← hsd, ← set_eq_insert_erase _ _ _ hl] at hv'
      refine Or.inr ⟨hi, hv'.trans (decide_eq_true (by show _ < c; have : _ < old + c := hx; omega)), ?_⟩
      unfold shiftIdx
      rw [set_eq_insert_erase _ _ _ hl, List.eraseIdx_insertIdx_self, getD_insertIdx_self _ _ _ _ (by
        rw [List.length_eraseIdx_of_lt hl]; omega),
        show old + (idx.getD axis 0 - old) = idx.getD axis 0 by omega, e1]

end RtenVerif.Layout
