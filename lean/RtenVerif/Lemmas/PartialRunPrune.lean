import RtenVerif.Model.PartialRun
import RtenVerif.Lemmas.PlannerSpec
/-!
# `prune_plan`: the loop invariant (C04 T3, T4), and the deep determinism flag

The kept operators form a valid plan from the supplied ids alone, whose available values are
exactly `resolved_values` (`PruneInv`); every property of the pruned plan is read off that.
-/
namespace RtenVerif.PartialRun
open RtenVerif.Graph RtenVerif.Planner

theorem prunedAt_false {g : Graph} {r : List Nat} {op : OpNode} (h : prunedAt g r op = false) :
    op.deterministic = true ∧ depsResolved g r op = true ∧ hasUnresolvedCaptures g op = false := by
  unfold prunedAt at h
  cases h1 : op.deterministic <;> cases h2 : depsResolved g r op <;>
    cases h3 : hasUnresolvedCaptures g op <;> simp [h1, h2, h3] at h ⊢

theorem mem_addNew {c os : List Nat} {v : Nat} : v ∈ addNew c os ↔ v ∈ c ∨ v ∈ os := by
  induction os generalizing c with
  | nil => simp [addNew]
  | cons o os ih =>
    rw [addNew, List.mem_cons]
    split
    · next h =>
      rw [ih]
      have : o ∈ c := List.contains_iff_mem.mp h
      constructor
      · exact Or.imp_right Or.inr
      · rintro (h1 | rfl | h1)
        · exact Or.inl h1
        · exact Or.inl this
        · exact Or.inr h1
    · rw [ih, List.mem_append, List.mem_singleton, or_assoc]

theorem addNew_nodup {c os : List Nat} (h : c.Nodup) : (addNew c os).Nodup := by
  induction os generalizing c with
  | nil => exact h
  | cons o os ih =>
    rw [addNew]
    split
    · exact ih h
    · next hc =>
      refine ih (List.nodup_append.mpr ⟨h, List.nodup_cons.mpr ⟨List.not_mem_nil, List.nodup_nil⟩, fun a ha b hb hab => hc ?_⟩)
      cases List.mem_singleton.mp hb
      exact List.contains_iff_mem.mpr (hab ▸ ha)

theorem pruneStep_pruned {g : Graph} {st : PruneSt} {id : Nat} {op : OpNode}
    (h : getOp g id = some op) (hp : prunedAt g st.resolved op = true) :
    pruneStep g st id =
      { st with prIn := st.prIn ++ (opDeps g op).filter (rContains g st.resolved) } := by
  simp [pruneStep, h, hp]

theorem pruneStep_kept {g : Graph} {st : PruneSt} {id : Nat} {op : OpNode}
    (h : getOp g id = some op) (hp : prunedAt g st.resolved op = false) :
    pruneStep g st id =
      { resolved := st.resolved ++ opOutputs op, kept := st.kept ++ [id],
        cand := addNew st.cand (opOutputs op), prIn := st.prIn } := by
  simp [pruneStep, h, hp]

theorem pruneStep_cases {g : Graph} {motive : PruneSt → Prop} (st : PruneSt) (id : Nat)
    (absent : getOp g id = none → motive st)
    (pruned : ∀ op, getOp g id = some op → prunedAt g st.resolved op = true →
      motive { st with prIn := st.prIn ++ (opDeps g op).filter (rContains g st.resolved) })
    (kept : ∀ op, getOp g id = some op → prunedAt g st.resolved op = false →
      motive { resolved := st.resolved ++ opOutputs op, kept := st.kept ++ [id],
               cand := addNew st.cand (opOutputs op), prIn := st.prIn }) :
    motive (pruneStep g st id) := by
  unfold pruneStep
  split
  · next h => exact absent h
  · next op h =>
    split
    · next hp => exact pruned op h hp
    · next hp => exact kept op h (Bool.eq_false_iff.mpr hp)

theorem foldl_pruneStep_inv {g : Graph} (P : PruneSt → Prop) (plan : List Nat)
    (hstep : ∀ st, ∀ id ∈ plan, P st → P (pruneStep g st id)) :
    ∀ st : PruneSt, P st → P (plan.foldl (pruneStep g) st) := by
  induction plan with
  | nil => exact fun st h => h
  | cons a rest ih =>
    exact fun st h => ih (fun st id hid => hstep st id (List.mem_cons_of_mem _ hid)) _
      (hstep st a List.mem_cons_self h)

structure Grows (a b : PruneSt) : Prop where
  resolved : ∀ v ∈ a.resolved, v ∈ b.resolved
  kept : ∀ v ∈ a.kept, v ∈ b.kept
  cand : ∀ v ∈ a.cand, v ∈ b.cand
  prIn : ∀ v ∈ a.prIn, v ∈ b.prIn

theorem Grows.refl (a : PruneSt) : Grows a a := ⟨fun _ h => h, fun _ h => h, fun _ h => h, fun _ h => h⟩

theorem Grows.trans {a b c : PruneSt} (h1 : Grows a b) (h2 : Grows b c) : Grows a c :=
  ⟨fun v h => h2.resolved v (h1.resolved v h), fun v h => h2.kept v (h1.kept v h),
   fun v h => h2.cand v (h1.cand v h), fun v h => h2.prIn v (h1.prIn v h)⟩

theorem pruneStep_grows (g : Graph) (st : PruneSt) (id : Nat) : Grows st (pruneStep g st id) :=
  pruneStep_cases st id (fun _ => Grows.refl _)
    (fun _ _ _ => ⟨fun _ h => h, fun _ h => h, fun _ h => h, fun _ h => List.mem_append_left _ h⟩)
    (fun _ _ _ => ⟨fun _ h => List.mem_append_left _ h, fun _ h => List.mem_append_left _ h,
      fun _ h => mem_addNew.mpr (Or.inl h), fun _ h => h⟩)

theorem foldl_grows (g : Graph) (plan : List Nat) (st : PruneSt) :
    Grows st (plan.foldl (pruneStep g) st) :=
  foldl_pruneStep_inv (Grows st) plan (fun s id _ h => h.trans (pruneStep_grows g s id)) st
    (Grows.refl st)

theorem ins_sub_resolved (g : Graph) (plan ins : List Nat) :
    (∀ v ∈ ins, v ∈ (pruneFold g plan ins).resolved) ∧ (∀ v ∈ ins, v ∈ (pruneFold g plan ins).cand) :=
  ⟨(foldl_grows g plan (pruneInit ins)).resolved, (foldl_grows g plan (pruneInit ins)).cand⟩

/-- `v` can be computed from the supplied values `S` and constants by deterministic
operators alone (that capture nothing from outside the graph): it does not (transitively)
depend on a missing input nor on a non-deterministic operator. -/
inductive Computable (g : Graph) (S : List Nat) : Nat → Prop
  | supplied {v : Nat} : v ∈ S → Computable g S v
  | const {v : Nat} : isConstant g v = true → Computable g S v
  | op {v p : Nat} {op : OpNode} : getOp g p = some op → op.deterministic = true →
      hasUnresolvedCaptures g op = false →
      (∀ d ∈ opDeps g op, Computable g S d) → v ∈ opOutputs op → Computable g S v

/-- Loop invariant of `prune_plan`: the kept operators are deterministic operators of the plan
and form a valid plan from the supplied ids `ins`, after which exactly `resolved_values` is
available (T3); all of it is computable from `ins` (T4); `candidate_outputs` lists the same ids,
each once if the supplied ids are distinct. -/
structure PruneInv (g : Graph) (plan ins : List Nat) (st : PruneSt) : Prop where
  resolved : st.resolved = availAfter g ins st.kept
  valid : ValidIds g false ins st.kept
  sub : ∀ k ∈ st.kept, k ∈ plan
  det : ∀ k ∈ st.kept, ∃ op, getOp g k = some op ∧ op.deterministic = true
  computable : ∀ v ∈ st.resolved, Computable g ins v
  cand : ∀ v, v ∈ st.cand ↔ v ∈ st.resolved
  nodup : ins.Nodup → st.cand.Nodup

theorem pruneFold_inv (g : Graph) (plan ins : List Nat) :
    PruneInv g plan ins (pruneFold g plan ins) := by
  refine foldl_pruneStep_inv (PruneInv g plan ins) plan (fun st id hid inv => ?_) _
    ⟨(availAfter_nil g ins).symm, trivial, fun _ h => (nomatch h), fun _ h => (nomatch h),
      fun v hv => .supplied hv, fun _ => Iff.rfl, id⟩
  refine pruneStep_cases st id (fun _ => inv) (fun _ _ _ => ⟨inv.resolved, inv.valid, inv.sub,
    inv.det, inv.computable, inv.cand, inv.nodup⟩) fun op hop hp => ?_
  obtain ⟨hdet, hres, hcap⟩ := prunedAt_false hp
  rw [depsResolved_iff] at hres
  refine ⟨?_, ?_, ?_, ?_, ?_, ?_, fun h => addNew_nodup (inv.nodup h)⟩
  · show st.resolved ++ opOutputs op = availAfter g ins (st.kept ++ [id])
    rw [availAfter_snoc, outsOf_eq hop, inv.resolved]
  · exact validIds_append.mpr ⟨inv.valid,
      ⟨op, hop, fun d hd => Or.inl (inv.resolved ▸ hres d hd)⟩, trivial⟩
  · intro k hk
    rcases List.mem_append.mp hk with hk | hk
    · exact inv.sub k hk
    · exact List.mem_singleton.mp hk ▸ hid
  · intro k hk
    rcases List.mem_append.mp hk with hk | hk
    · exact inv.det k hk
    · exact ⟨op, List.mem_singleton.mp hk ▸ hop, hdet⟩
  · intro v hv
    rcases List.mem_append.mp hv with hv | hv
    · exact inv.computable v hv
    · exact .op hop hdet hcap (fun d hd => (Bool.or_eq_true_iff.mp (hres d hd)).elim
        (fun h => inv.computable d (List.contains_iff_mem.mp h)) .const) hv
  · intro v
    show v ∈ addNew st.cand _ ↔ v ∈ st.resolved ++ _
    rw [mem_addNew, List.mem_append, inv.cand v]

theorem mem_newOutputs {st : PruneSt} {outs : List Nat} {v : Nat} :
    v ∈ newOutputs st outs ↔ v ∈ st.cand ∧ (v ∈ outs ∨ v ∈ st.prIn) := by
  simp [newOutputs, List.mem_filter]

theorem newOutputs_spec (g : Graph) (plan ins outs : List Nat) :
    ∀ v ∈ newOutputs (pruneFold g plan ins) outs, v ∈ ins ∨ ∃ k, v ∈ outsOf g k := by
  intro v hv
  have inv := pruneFold_inv g plan ins
  have hv := (mem_newOutputs.mp hv).1
  rw [inv.cand, inv.resolved, mem_availAfter] at hv
  exact hv.imp_right fun ⟨k, _, hk⟩ => ⟨k, hk⟩

theorem pruneFold_split (g : Graph) (pre post ins : List Nat) (b : Nat) :
    pruneFold g (pre ++ b :: post) ins =
      post.foldl (pruneStep g) (pruneStep g (pruneFold g pre ins) b) := by
  simp [pruneFold, List.foldl_append]

/-- **T4b (loop level)** a dependency of a pruned operator that is resolved when the loop
reaches the operator, and is not a constant, is among the returned ids. -/
theorem pruned_input_returned {g : Graph} {pre post ins outs : List Nat} {b d : Nat} {op : OpNode}
    (hop : getOp g b = some op)
    (hp : prunedAt g (pruneFold g pre ins).resolved op = true)
    (hd : d ∈ opDeps g op) (hr : rContains g (pruneFold g pre ins).resolved d = true)
    (hc : isConstant g d = false) :
    d ∈ newOutputs (pruneFold g (pre ++ b :: post) ins) outs := by
  rw [mem_newOutputs, pruneFold_split]
  have hgrow := foldl_grows g post (pruneStep g (pruneFold g pre ins) b)
  have hdres : d ∈ (pruneFold g pre ins).resolved :=
    (rContains_iff.mp hr).resolve_right (by simp [hc])
  rw [pruneStep_pruned hop hp] at hgrow ⊢
  exact ⟨hgrow.cand d (((pruneFold_inv g pre ins).cand d).mpr hdres),
    Or.inr (hgrow.prIn d (List.mem_append_right _ (List.mem_filter.mpr ⟨hd, hr⟩)))⟩

theorem kept_at_step {g : Graph} {pre post ins : List Nat} {b : Nat} {op : OpNode}
    (hop : getOp g b = some op)
    (hp : prunedAt g (pruneFold g pre ins).resolved op = false) :
    b ∈ (pruneFold g (pre ++ b :: post) ins).kept ∧
      ∀ v ∈ opOutputs op, v ∈ (pruneFold g (pre ++ b :: post) ins).resolved := by
  rw [pruneFold_split]
  have hgrow := foldl_grows g post (pruneStep g (pruneFold g pre ins) b)
  rw [pruneStep_kept hop hp] at hgrow ⊢
  exact ⟨hgrow.kept b (List.mem_append_right _ List.mem_cons_self),
    fun v hv => hgrow.resolved v (List.mem_append_right _ hv)⟩

mutual
theorem deep_iff : ∀ t : DTree, t.deep = true ↔ ∀ t' ∈ t.nodes, t'.own = true
  | .node own subs => by
    simp only [DTree.deep, DTree.nodes, Bool.and_eq_true, List.mem_cons, forall_eq_or_imp]
    rw [deepSubs_iff subs]
    rfl
theorem deepSubs_iff : ∀ subs : List (List DTree),
    deepSubs subs = true ↔ ∀ t' ∈ nodesSubs subs, t'.own = true
  | [] => by simp [deepSubs, nodesSubs]
  | ops :: rest => by
    rw [deepSubs, nodesSubs, Bool.and_eq_true, List.forall_mem_append, deepOps_iff ops,
      deepSubs_iff rest]
theorem deepOps_iff : ∀ ops : List DTree,
    deepOps ops = true ↔ ∀ t' ∈ nodesOps ops, t'.own = true
  | [] => by simp [deepOps, nodesOps]
  | t :: ts => by
    rw [deepOps, nodesOps, Bool.and_eq_true, List.forall_mem_append, deep_iff t, deepOps_iff ts]
end

def DeepFlags (g : Graph) (tree : Nat → DTree) : Prop :=
  ∀ p op, getOp g p = some op → op.deterministic = (tree p).deep

def deepFlagsB (g : Graph) (tree : Nat → DTree) : Bool :=
  (List.range g.nodes.length).all (fun p =>
    match getOp g p with
    | some op => op.deterministic == (tree p).deep
    | none => true)

theorem deepFlags_of_check {g : Graph} {tree : Nat → DTree} (h : deepFlagsB g tree = true) :
    DeepFlags g tree :=
  fun _ _ hop => beq_iff_eq.mp (forall_ops_of_check h hop)

/-- Non-vacuity: `If{then: [If{then:[RandomUniform], else:[Neg]}], else: [Identity]}` is not
deep-deterministic although its own flag and the flags at depth 1 are set. -/
example : (DTree.node true [[.node true [[.node false []], [.node true []]]], [.node true []]]).deep
    = false := by decide
example : (DTree.node true [[.node true [[.node true []], [.node true []]]], [.node true []]]).deep
    = true := by decide

end RtenVerif.PartialRun
