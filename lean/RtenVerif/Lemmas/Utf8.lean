import RtenVerif.Model.Utf8

/-!
The encoding of a scalar value is one row of Unicode Table 3-7 (`Row`); that the validator accepts
it, that its bytes are `< 256` and that it is a lead byte followed by continuation bytes are all
read off the row, with the bytes as variables.
-/
namespace RtenVerif.Utf8

theorem char_isScalar (c : Char) : isScalar c.toNat = true := by
  have h := c.valid
  simp only [isScalar, Bool.or_eq_true, decide_eq_true_eq, Bool.and_eq_true]
  rcases h with h | h
  · left; exact h
  · right; exact ⟨by have := h.1; show 0xE000 ≤ c.val.toNat; omega, h.2⟩

theorem isCont_iff {b : Nat} : isCont b = true ↔ 0x80 ≤ b ∧ b ≤ 0xBF := by
  simp [isCont]

/-- One row of Table 3-7 (well-formed UTF-8 byte sequences): the byte sequences `valid` accepts
for a single scalar value. -/
def Row : List Nat → Prop
  | [b0] => b0 < 0x80
  | [b0, b1] => 0xC2 ≤ b0 ∧ b0 ≤ 0xDF ∧ isCont b1 = true
  | [b0, b1, b2] => 0xE0 ≤ b0 ∧ b0 ≤ 0xEF ∧ (b0 = 0xE0 → 0xA0 ≤ b1) ∧ (b0 = 0xED → b1 ≤ 0x9F) ∧
      isCont b1 = true ∧ isCont b2 = true
  | [b0, b1, b2, b3] => 0xF0 ≤ b0 ∧ b0 ≤ 0xF4 ∧ (b0 = 0xF0 → 0x90 ≤ b1) ∧ (b0 = 0xF4 → b1 ≤ 0x8F) ∧
      isCont b1 = true ∧ isCont b2 = true ∧ isCont b3 = true
  | _ => False

theorem row_encCp (c : Nat) (hc : isScalar c = true) : Row (encCp c) := by
  simp only [isScalar, Bool.or_eq_true, decide_eq_true_eq, Bool.and_eq_true] at hc
  unfold encCp
  split
  · assumption
  split
  · simp only [Row, isCont_iff]; omega
  split
  · simp only [Row, isCont_iff]; omega
  · simp only [Row, isCont_iff]; omega

theorem valid_row_append : ∀ (l : List Nat), Row l → ∀ rest, valid (l ++ rest) = valid rest
  | [b0], h, rest => by
    rw [List.singleton_append, valid.eq_def]; exact if_pos (show b0 < 0x80 from h)
  | [b0, b1], ⟨h1, h2, h3⟩, rest => by
    show valid (b0 :: b1 :: rest) = _
    rw [valid, if_neg (show ¬ b0 < 0x80 by omega), if_pos ⟨h1, h2⟩, h3, Bool.true_and]
  | [b0, b1, b2], ⟨h1, h2, h3, h4, h5, h6⟩, rest => by
    rw [isCont_iff] at h5
    have l1 : (if b0 = 0xE0 then 0xA0 else 0x80) ≤ b1 := by split; exact h3 ‹_›; exact h5.1
    have l2 : b1 ≤ (if b0 = 0xED then 0x9F else 0xBF) := by split; exact h4 ‹_›; exact h5.2
    show valid (b0 :: b1 :: b2 :: rest) = _
    rw [valid, if_neg (show ¬ b0 < 0x80 by omega), if_neg (show ¬ (0xC2 ≤ b0 ∧ b0 ≤ 0xDF) by omega),
      if_pos ⟨h1, h2⟩]
    simp only [l1, l2, h6, decide_true, Bool.true_and]
  | [b0, b1, b2, b3], ⟨h1, h2, h3, h4, h5, h6, h7⟩, rest => by
    rw [isCont_iff] at h5
    have l1 : (if b0 = 0xF0 then 0x90 else 0x80) ≤ b1 := by split; exact h3 ‹_›; exact h5.1
    have l2 : b1 ≤ (if b0 = 0xF4 then 0x8F else 0xBF) := by split; exact h4 ‹_›; exact h5.2
    show valid (b0 :: b1 :: b2 :: b3 :: rest) = _
    rw [valid, if_neg (show ¬ b0 < 0x80 by omega), if_neg (show ¬ (0xC2 ≤ b0 ∧ b0 ≤ 0xDF) by omega),
      if_neg (show ¬ (0xE0 ≤ b0 ∧ b0 ≤ 0xEF) by omega), if_pos ⟨h1, h2⟩]
    simp only [l1, l2, h6, h7, decide_true, Bool.true_and]
  | [], h, _ => h.elim
  | _ :: _ :: _ :: _ :: _ :: _, h, _ => h.elim

theorem isCont_eq_false {b : Nat} (h : b < 0x80 ∨ 0xC0 ≤ b) : isCont b = false := by
  simp only [isCont, Bool.and_eq_false_iff, decide_eq_false_iff_not]; omega

theorem row_shape : ∀ (l : List Nat), Row l →
    ∃ b tl, l = b :: tl ∧ isCont b = false ∧ b < 256 ∧ ∀ x ∈ tl, isCont x = true
  | [b0], h => ⟨b0, [], rfl, isCont_eq_false (.inl h), Nat.lt_trans h (by decide), by simp⟩
  | [b0, b1], ⟨h1, h2, h3⟩ =>
    ⟨b0, _, rfl, isCont_eq_false (.inr (by omega)), by omega, by simp [h3]⟩
  | [b0, b1, b2], ⟨h1, h2, _, _, h5, h6⟩ =>
    ⟨b0, _, rfl, isCont_eq_false (.inr (by omega)), by omega, by simp [h5, h6]⟩
  | [b0, b1, b2, b3], ⟨h1, h2, _, _, h5, h6, h7⟩ =>
    ⟨b0, _, rfl, isCont_eq_false (.inr (by omega)), by omega, by simp [h5, h6, h7]⟩
  | [], h => h.elim
  | _ :: _ :: _ :: _ :: _ :: _, h => h.elim

theorem row_lt (l : List Nat) (h : Row l) : ∀ b ∈ l, b < 256 := by
  obtain ⟨b0, tl, rfl, _, h0, htl⟩ := row_shape l h
  intro b hb
  rcases List.mem_cons.mp hb with rfl | hb
  · exact h0
  · have := isCont_iff.mp (htl b hb); omega

theorem isBoundary_cons_append_lt (b : Nat) {tl rest : List Nat} (htl : ∀ x ∈ tl, isCont x = true)
    {q : Nat} (hq : q < tl.length) : isBoundary (b :: tl ++ rest) (q + 1) = false := by
  have hget : (b :: tl ++ rest)[q + 1]? = some tl[q] := by
    rw [List.cons_append, List.getElem?_cons_succ, List.getElem?_append_left hq,
      List.getElem?_eq_getElem hq]
  have hlen : (q + 1 == (b :: tl ++ rest).length) = false := by simp; omega
  simp only [isBoundary, hget, hlen, htl _ (List.getElem_mem hq)]
  rfl

/-- `hr` makes position `l.length` a boundary whether or not `rest` is empty. -/
theorem isBoundary_append_add {l rest : List Nat} (hl : l ≠ [])
    (hr : ∀ b, rest[0]? = some b → isCont b = false) (q : Nat) :
    isBoundary (l ++ rest) (l.length + q) = isBoundary rest q := by
  have hpos := List.length_pos_iff.mpr hl
  by_cases hq : q = 0
  · subst hq
    cases rest with
    | nil => simp [isBoundary]
    | cons b r => simp [isBoundary, hr b rfl]
  · have hget : (l ++ rest)[l.length + q]? = rest[q]? := by
      rw [List.getElem?_append_right (Nat.le_add_right _ _), Nat.add_sub_cancel_left]
    have h1 : (l.length + q == 0) = false := by simp; omega
    have h2 : (q == 0) = false := by simp [hq]
    have h3 : (l.length + q == (l ++ rest).length) = (q == rest.length) := by
      rw [List.length_append, Bool.eq_iff_iff, beq_iff_eq, beq_iff_eq]; omega
    simp only [isBoundary, hget, h1, h2, h3]

theorem valid_encode : ∀ (cs : List Nat), (∀ c ∈ cs, isScalar c = true) → valid (encode cs) = true
  | [], _ => rfl
  | c :: cs, h => by
    rw [encode, valid_row_append _ (row_encCp c (h c (by simp)))]
    exact valid_encode cs (fun x hx => h x (List.mem_cons_of_mem _ hx))

theorem encode_append (a b : List Nat) : encode (a ++ b) = encode a ++ encode b := by
  induction a with
  | nil => rfl
  | cons c cs ih => simp [encode, ih]

theorem encode_lt : ∀ (cs : List Nat), (∀ c ∈ cs, isScalar c = true) → ∀ b ∈ encode cs, b < 256
  | [], _, b, hb => by cases hb
  | c :: cs, h, b, hb => by
    rw [encode, List.mem_append] at hb
    rcases hb with hb | hb
    · exact row_lt _ (row_encCp c (h c (by simp))) b hb
    · exact encode_lt cs (fun x hx => h x (List.mem_cons_of_mem _ hx)) b hb

end RtenVerif.Utf8
