import RtenVerif.Lemmas.BpeRefine
import RtenVerif.Model.BpeEncode

/-! Lemmas about the byte-level part of the BPE model: the vocabulary `build_vocab` generates without an
end-of-word suffix is injective and contains every byte token, so the per-byte lookups of `encode_piece` all
succeed. -/
namespace RtenVerif.Bpe

theorem vocabGet_mem {vc : Vocab} {s : String} {id : Nat} (h : vocabGet vc s = some id) :
    (s, id) ∈ vc := by
  induction vc with
  | nil => cases h
  | cons e rest ih =>
    obtain ⟨k, i⟩ := e
    rw [vocabGet] at h
    split at h
    · cases h; subst ‹k = s›; exact List.mem_cons_self
    · exact List.mem_cons_of_mem _ (ih h)

theorem vocabGet_isSome_of_mem {vc : Vocab} {s : String} {id : Nat} (h : (s, id) ∈ vc) :
    (vocabGet vc s).isSome = true := by
  induction vc with
  | nil => cases h
  | cons e rest ih =>
    obtain ⟨k, i⟩ := e
    rw [vocabGet]
    split
    · rfl
    · rename_i hk
      rcases List.mem_cons.mp h with h | h
      · cases h; exact absurd rfl hk
      · exact ih h

/-- No id is shared by two different keys (as list entries; implies injectivity of `get`). -/
def InjEntries (vc : Vocab) : Prop := ∀ s t id, (s, id) ∈ vc → (t, id) ∈ vc → s = t

theorem InjEntries.inj {vc : Vocab} (h : InjEntries vc) :
    ∀ x y, vDom vc x = true → vDom vc y = true → vId vc x = vId vc y → x = y := by
  intro x y hx hy hxy
  simp only [vDom, Option.isSome_iff_exists] at hx hy
  obtain ⟨i, hi⟩ := hx
  obtain ⟨j, hj⟩ := hy
  simp only [vId, hi, hj, Option.getD_some] at hxy
  subst hxy
  exact h x y i (vocabGet_mem hi) (vocabGet_mem hj)

/-- The numbering loop of `byte_to_rank`: flagged positions get `a, a+1, …`, the others
`np+b, np+b+1, …`; the two ranges stay apart as long as the first stays below `np`. -/
theorem rankFold_nodup (np : Nat) : ∀ (flags : List Bool) (a b : Nat) (acc : List Nat),
    a + (flags.filter id).length ≤ np → acc.Nodup → (∀ x ∈ acc, x < a ∨ np ≤ x ∧ x < np + b) →
    ∀ r, r = flags.foldl (fun (st : Nat × Nat × List Nat) f =>
      if f then (st.1 + 1, st.2.1, st.1 :: st.2.2)
      else (st.1, st.2.1 + 1, (np + st.2.1) :: st.2.2)) (a, b, acc) →
    r.2.2.Nodup ∧ ∀ x ∈ r.2.2, x + (flags.filter id).length < np + b + flags.length := by
  intro flags
  induction flags with
  | nil =>
    intro a b acc ha hnd hacc r hr
    subst hr
    exact ⟨hnd, fun x hx => by have := hacc x hx; simp at ha ⊢; omega⟩
  | cons f fs ih =>
    intro a b acc ha hnd hacc r hr
    rw [List.foldl_cons] at hr
    cases f with
    | true =>
      simp only [List.filter_cons, id, if_true, List.length_cons] at ha ⊢
      have := ih (a + 1) b (a :: acc) (by omega)
        (List.nodup_cons.mpr ⟨fun h => by have := hacc a h; omega, hnd⟩)
        (fun x hx => by
          rcases List.mem_cons.mp hx with rfl | hx
          · omega
          · have := hacc x hx; omega) r hr
      exact ⟨this.1, fun x hx => by have := this.2 x hx; omega⟩
    | false =>
      simp only [List.filter_cons, id, Bool.false_eq_true, if_false, List.length_cons] at ha ⊢
      have := ih a (b + 1) ((np + b) :: acc) ha
        (List.nodup_cons.mpr ⟨fun h => by have := hacc _ h; omega, hnd⟩)
        (fun x hx => by
          rcases List.mem_cons.mp hx with rfl | hx
          · omega
          · have := hacc x hx; omega) r hr
      exact ⟨this.1, fun x hx => by have := this.2 x hx; omega⟩

theorem byteRankTable_spec : byteRankTable.Nodup ∧ ∀ r ∈ byteRankTable, r < 256 := by
  have := rankFold_nodup _ (Generated.BpeByteTable.byteToChar.map fun p => p.2 == p.1) 0 0 []
    (Nat.le_of_eq (Nat.zero_add _)) List.nodup_nil (fun _ h => nomatch h) _ rfl
  have hlen : Generated.BpeByteTable.byteToChar.length = 256 := by decide +kernel
  refine ⟨(List.reverse_perm _).nodup_iff.mpr this.1, fun r hr => ?_⟩
  have := this.2 r (List.mem_reverse.mp hr)
  rw [List.length_map, hlen] at this
  omega

theorem byteRankTable_length : byteRankTable.length = 256 := by decide +kernel

theorem byteRank_inj {a b : Nat} (ha : a < 256) (hb : b < 256) (h : byteRank a = byteRank b) :
    a = b :=
  (List.getD_inj (byteRankTable_length ▸ ha) (byteRankTable_length ▸ hb) byteRankTable_spec.1).mp h

theorem byteRank_lt {b : Nat} (hb : b < 256) : byteRank b < 256 := by
  have hl : b < byteRankTable.length := byteRankTable_length ▸ hb
  rw [byteRank, List.getD_eq_getElem?_getD, List.getElem?_eq_getElem hl, Option.getD_some]
  exact byteRankTable_spec.2 _ (List.getElem_mem hl)

theorem mem_go (start : Nat) : ∀ (ms : List (String × String)) (i : Nat) (acc : Vocab) (p : String × Nat),
    p ∈ buildVocabFull.go start i ms acc ↔
      p ∈ acc ∨ ∃ k a b, ms[k]? = some (a, b) ∧ p = (a ++ b, start + (i + k)) := by
  intro ms
  induction ms with
  | nil => intro i acc p; simp [buildVocabFull.go]
  | cons e rest ih =>
    intro i acc p
    obtain ⟨a, b⟩ := e
    simp only [buildVocabFull.go]
    rw [ih]
    constructor
    · rintro (h | ⟨k, a', b', hk, hp⟩)
      · simp only [List.mem_cons] at h
        rcases h with h | h
        · exact Or.inr ⟨0, a, b, by simp, by simpa using h⟩
        · exact Or.inl h
      · exact Or.inr ⟨k + 1, a', b', by simpa using hk, by rw [hp]; congr 2; omega⟩
    · rintro (h | ⟨k, a', b', hk, hp⟩)
      · exact Or.inl (List.mem_cons_of_mem _ h)
      · cases k with
        | zero =>
          simp only [List.getElem?_cons_zero, Option.some.injEq, Prod.mk.injEq] at hk
          obtain ⟨rfl, rfl⟩ := hk
          exact Or.inl (by rw [hp]; simp)
        | succ k =>
          exact Or.inr ⟨k, a', b', by simpa using hk, by rw [hp]; congr 2; omega⟩

theorem mem_buildVocabFull_none (ms : List (String × String)) (p : String × Nat) :
    p ∈ buildVocabFull ms none ↔
      (∃ b, b < 256 ∧ p = (byteStr b, byteRank b)) ∨
      ∃ k a b, ms[k]? = some (a, b) ∧ p = (a ++ b, 256 + k) := by
  unfold buildVocabFull
  simp only
  rw [mem_go]
  simp only [List.mem_reverse, List.mem_map, List.mem_range, Nat.zero_add, eq_comm (a := p)]

/-- **`build_vocab` is injective** (no suffix): distinct token strings get distinct ids — for every
merge list, including duplicated entries, out-of-order tables and empty operands. -/
theorem buildVocabFull_inj (ms : List (String × String)) : InjEntries (buildVocabFull ms none) := by
  intro s t id hs ht
  rw [mem_buildVocabFull_none] at hs ht
  rcases hs with ⟨b, hb, h1⟩ | ⟨k, a, c, hk, h1⟩ <;> rcases ht with ⟨b', hb', h2⟩ | ⟨k', a', c', hk', h2⟩
  · simp only [Prod.mk.injEq] at h1 h2
    have : b = b' := byteRank_inj hb hb' (by rw [← h1.2, ← h2.2])
    rw [h1.1, h2.1, this]
  · simp only [Prod.mk.injEq] at h1 h2
    have := byteRank_lt hb
    omega
  · simp only [Prod.mk.injEq] at h1 h2
    have := byteRank_lt hb'
    omega
  · simp only [Prod.mk.injEq] at h1 h2
    have : k = k' := by omega
    subst this
    rw [hk] at hk'
    simp only [Option.some.injEq, Prod.mk.injEq] at hk'
    rw [h1.1, h2.1, hk'.1, hk'.2]

theorem byte_in_buildVocabFull (ms : List (String × String)) {b : Nat} (hb : b < 256) :
    vDom (buildVocabFull ms none) (byteStr b) = true :=
  vocabGet_isSome_of_mem ((mem_buildVocabFull_none ms _).mpr (Or.inl ⟨b, hb, rfl⟩))

/-- `Bpe::new`'s `MissingVocabEntry` check cannot fail on the vocabulary `build_vocab` generates (no suffix). -/
theorem missingByteEntry_buildVocabFull (ms : List (String × String)) :
    missingByteEntry (buildVocabFull ms none) = false := by
  simp only [missingByteEntry, List.any_eq_false, List.mem_range, Bool.not_eq_true, Bool.not_eq_false']
  intro b hb
  simpa using byte_in_buildVocabFull ms hb

theorem mapM_vocabGet {vc : Vocab} {f : Nat → String} :
    ∀ (bs : List Nat), (∀ b ∈ bs, vDom vc (f b) = true) →
      bs.mapM (fun b => vocabGet vc (f b)) = some (bs.map (fun b => vId vc (f b))) := by
  intro bs
  induction bs with
  | nil => intro _; rfl
  | cons b rest ih =>
    intro h
    have hb := h b (by simp)
    simp only [vDom, Option.isSome_iff_exists] at hb
    obtain ⟨i, hi⟩ := hb
    rw [List.mapM_cons, ih (fun x hx => h x (List.mem_cons_of_mem _ hx)), hi]
    simp [vId, hi]

end RtenVerif.Bpe
