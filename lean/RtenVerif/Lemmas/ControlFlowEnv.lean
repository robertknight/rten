import RtenVerif.Lemmas.ControlFlowStore

/-!
# What a subgraph sees through its `CaptureEnv` (C24.T1, frame level)

By-value extraction never hides a local value of the parent graph from the child: the value stays
in `temp_values` (captured by reference) or moves to the by-value map (`extractByVal_split`), so
`CaptureEnv::get_input` on the environment `run_plan` builds returns what the parent itself would
have read before the extraction (`child_sees_parent_locals`).
-/
namespace RtenVerif.ControlFlow

variable {P V : Type}

/-- Every by-value capture of the innermost environment is stored under a node its graph defines
and is not also captured by reference (so `get_input` returns it). -/
def headOK : List (Frame V) → Prop
  | [] => True
  | f :: _ => ∀ n, look f.byVal n ≠ none → f.locals.contains n = true ∧ look f.tempRef n = none

def headByVal : List (Frame V) → Env V
  | [] => []
  | f :: _ => f.byVal

theorem takeInput_absent {env : List (Frame V)} {n : Nat} (h : look (headByVal env) n = none) :
    takeInput env n = (none, env) := by
  cases env with
  | nil => rfl
  | cons f ps =>
    simp only [takeInput]
    split
    · change look f.byVal n = none at h
      rw [h, erase_eq_self _ _ h]
    · rfl

theorem headByVal_takeInput (env : List (Frame V)) (n m : Nat)
    (h : look (headByVal env) m = none) : look (headByVal (takeInput env n).2) m = none := by
  cases env with
  | nil => exact h
  | cons f ps =>
    simp only [takeInput]
    split
    · exact look_erase_none _ h
    · exact h

theorem headOK_takeInput (env : List (Frame V)) (n : Nat) (h : headOK env) :
    headOK (takeInput env n).2 := by
  cases env with
  | nil => exact h
  | cons f ps =>
    simp only [takeInput]
    split
    · exact fun k hk => h k fun hn => hk (look_erase_none _ hn)
    · exact h

theorem takeInput_value (env : List (Frame V)) (n : Nat) (h : headOK env)
    (hc : canTake env n = true) :
    ∃ v, (takeInput env n).1 = some v ∧ getInput env n = some v := by
  obtain ⟨f, ps, rfl, hc1, hc2⟩ := (canTake_iff env n).mp hc
  obtain ⟨v, hb⟩ := Option.isSome_iff_exists.mp hc2
  obtain ⟨hloc, htr⟩ := h n (hb ▸ Option.some_ne_none v)
  exact ⟨v, by simp only [takeInput, hc1, if_true, hb], by simp only [getInput, hloc, if_true, htr, hb]⟩

theorem takeValue_of_no_env_take (gc : List Nat) (st : St V) (n : Nat)
    (h : gc.contains n = false ∨ look (headByVal st.env) n = none) :
    takeValue gc st n = (none, st) ∨
    (st.rc n = 1 ∧ ∃ v, look st.temp n = some v ∧
      takeValue gc st n = (some v, { st with temp := erase st.temp n })) := by
  rcases takeValue_cases gc st n with ht | ht | ⟨_, _, hg, ht⟩
  · exact Or.inl ht
  · exact Or.inr ht
  · rcases h with h | h
    · rw [hg] at h; cases h
    · rw [takeInput_absent h] at ht; exact Or.inl ht

theorem headByVal_takeValue (gc : List Nat) (st : St V) (n m : Nat)
    (h : look (headByVal st.env) m = none) : look (headByVal (takeValue gc st n).2.env) m = none := by
  rcases takeValue_cases gc st n with ht | ⟨_, _, _, ht⟩ | ⟨_, _, _, ht⟩ <;> rw [ht]
  · exact h
  · exact h
  · exact headByVal_takeInput _ _ _ h

/-- Hypothesis under which extraction cannot take anything out of the enclosing environment. -/
def NoEnvTake (gc ins : List Nat) (env : List (Frame V)) (ds : List Nat) : Prop :=
  ∀ n, n ∈ ds → ins.contains n = false → gc.contains n = false ∨ look (headByVal env) n = none

theorem extractByVal_env_of_noEnvTake (gc ins : List Nat) (ds : List Nat) (st : St V)
    (h : NoEnvTake gc ins st.env ds) : (extractByVal gc ins st ds).1.env = st.env :=
  extractByVal_induct gc ins (fun s => s.env = st.env) ds st rfl fun s n hs hn hin => by
    rcases takeValue_of_no_env_take gc s n (hs ▸ h n hn hin) with ht | ⟨_, _, _, ht⟩ <;> rw [ht] <;>
      exact hs

theorem extractByVal_env (gc ins : List Nat) : ∀ (ds : List Nat) (st : St V),
    (∀ n ∈ ds, ins.contains n = false → gc.contains n = false) →
    (extractByVal gc ins st ds).1.env = st.env :=
  fun ds st h => extractByVal_env_of_noEnvTake gc ins ds st fun n hn hin => Or.inl (h n hn hin)

theorem extractByVal_split (gc ins : List Nat) : ∀ (ds : List Nat) (st : St V) (n : Nat),
    (n ∈ ds → ins.contains n = false → gc.contains n = false ∨ look (headByVal st.env) n = none) →
    (look (extractByVal gc ins st ds).1.temp n = look st.temp n ∧
      look (extractByVal gc ins st ds).2 n = none) ∨
    (look (extractByVal gc ins st ds).1.temp n = none ∧
      look (extractByVal gc ins st ds).2 n = look st.temp n ∧ look st.temp n ≠ none)
  | [], _, _, _ => Or.inl ⟨rfl, rfl⟩
  | m :: ms, st, n, hn => by
    have hn' := fun h => hn (List.mem_cons_of_mem m h)
    by_cases hin : ins.contains m = true
    · rw [extractByVal_cons_of_input gc ins st m ms hin]
      exact extractByVal_split gc ins ms st n hn'
    have hin : ins.contains m = false := by simpa using hin
    rw [extractByVal_cons gc ins st m ms hin]
    by_cases hmn : m = n
    · subst hmn
      rcases takeValue_of_no_env_take gc st m (hn List.mem_cons_self hin) with ht | ⟨_, v, hv, ht⟩
      · rw [ht]
        simpa using extractByVal_split gc ins ms st m hn'
      · -- `m` leaves `temp_values` here, so the rest of the extraction does not find it
        rw [ht]
        have hgone : look (erase st.temp m) m = none := look_erase_self _ _
        have hrest : look (extractByVal gc ins { st with temp := erase st.temp m } ms).1.temp m = none ∧
            look (extractByVal gc ins { st with temp := erase st.temp m } ms).2 m = none := by
          rcases extractByVal_split gc ins ms { st with temp := erase st.temp m } m hn' with
            ⟨h1, h2⟩ | ⟨_, _, h3⟩
          · exact ⟨h1.trans hgone, h2⟩
          · exact absurd hgone h3
        refine Or.inr ⟨hrest.1, ?_, hv ▸ Option.some_ne_none v⟩
        rw [look_append_right _ hrest.2, hv]
        exact if_pos rfl
    · have htemp : look (takeValue gc st m).2.temp n = look st.temp n :=
        (takeValue_temp_effect gc st m n).resolve_right fun h => hmn h.1.symm
      have ih := extractByVal_split gc ins ms (takeValue gc st m).2 n fun h1 h2 =>
        (hn' h1 h2).imp_right (headByVal_takeValue gc st m n)
      rw [htemp] at ih
      have hkey : ∀ a : Env V,
          look (a ++ (takeValue gc st m).1.toList.map (fun v => (m, v))) n = look a n := by
        intro a
        rw [look_append]
        cases look a n with
        | some w => rfl
        | none => cases (takeValue gc st m).1 <;> simp [look, hmn]
      rw [hkey]
      exact ih

theorem caps_not_def {g : Graph P V} {n : Nat} (h : n ∈ g.defs) : g.caps.contains n = false := by
  rw [Bool.eq_false_iff]
  intro hc
  have hmem := List.mem_eraseDups.mp (List.contains_iff_mem.mp hc)
  simpa [h] using (List.mem_filter.mp hmem).2

/-- `CaptureEnv::get_input` on the environment `run_plan` builds for a subgraph operator, for a
name defined by the parent graph: owned values (by reference or just moved by value), then
constants / borrowed inputs. -/
theorem getInput_frame_local (g : Graph P V) (views tempRef byVal : Env V) (env : List (Frame V))
    (n : Nat) (h : n ∈ g.defs) :
    getInput ({ locals := g.defs, caps := g.caps, views := views, tempRef := tempRef,
                byVal := byVal } :: env) n =
      match look tempRef n with
      | some v => some v
      | none => match look byVal n with
        | some v => some v
        | none => look views n := by
  simp only [getInput, List.contains_iff_mem.mpr h, if_true]
  cases look tempRef n <;> cases look byVal n <;> rfl

/-- …and for a name the parent graph does not define the lookup continues in the parent's own
environment (this includes the parent's capture nodes). -/
theorem getInput_frame_outer (g : Graph P V) (views tempRef byVal : Env V) (env : List (Frame V))
    (n : Nat) (h : n ∉ g.defs) :
    getInput ({ locals := g.defs, caps := g.caps, views := views, tempRef := tempRef,
                byVal := byVal } :: env) n = getInput env n := by
  simp [getInput, h]

/-- What a subgraph reads for a node of its parent graph `g`, through the environment `run_plan`
builds *after* by-value extraction: exactly the parent's owned value if it has one (whether it was
left in `temp_values` or moved by value), else the parent's constant / borrowed input. -/
theorem child_sees_parent_locals (g : Graph P V) (views : Env V) (st : St V) (ins ds : List Nat)
    (n : Nat) (hn : n ∈ g.defs) :
    getInput ({ locals := g.defs, caps := g.caps, views := views,
                tempRef := (extractByVal g.caps ins st ds).1.temp,
                byVal := (extractByVal g.caps ins st ds).2 } ::
              (extractByVal g.caps ins st ds).1.env) n =
      match look st.temp n with
      | some v => some v
      | none => look views n := by
  rw [getInput_frame_local g views _ _ _ n hn]
  rcases extractByVal_split g.caps ins ds st n (fun _ _ => Or.inl (caps_not_def hn)) with
    ⟨h1, h2⟩ | ⟨h1, h2, _⟩ <;> rw [h1, h2]

end RtenVerif.ControlFlow
