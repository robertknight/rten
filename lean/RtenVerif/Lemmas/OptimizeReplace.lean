import RtenVerif.Lemmas.OptimizeRewrite

/-!
# C01 — soundness of `replace_value` rewrites (`Fusion::Identity`, `Fusion::Constant`)

`G = pre ++ L :: post`, `L` produces the single value `b`; the rewrite removes `L` and substitutes `a`
for `b` in the *inputs* of all later operators (`substIns`; captures are by name and are not
rewritten) and in the graph outputs (`substOuts`). If, whenever `L` succeeds, its result is the value
of `a` (semantic hypothesis: `x+0 = x`, a Cast to the own type, the folded constant …) and no later
operator captures `b` (the captured-by-subgraph guard with `preserved = []`), every value that was
defined before is defined to the same value afterwards — a *refinement*: a failing operator may
start to succeed ("optimization may turn a failing run into a successful one").
-/
namespace RtenVerif.Optimize

variable {K V : Type} (sem : Sem K V)

/-- `E2` refines `E1` with `a` standing for `b`. -/
def Refines (b a : Id) (E1 E2 : Env V) : Prop :=
  (∀ i v, i ≠ b → E1 i = some v → E2 i = some v) ∧ (∀ v, E1 b = some v → E2 a = some v)

theorem Refines.subst {b a : Id} {E1 E2 : Env V} (hr : Refines b a E1 E2) (i : Id) (v : V) (h : E1 i = some v) :
    E2 (if i = b then a else i) = some v := by
  split
  · next hib => exact hr.2 v (hib ▸ h)
  · next hib => exact hr.1 i v hib h

theorem readAll_map {E1 E2 : Env V} (f : Id → Id) {is : List Id} {vs : List V} (h : readAll E1 is = some vs)
    (hf : ∀ i ∈ is, ∀ v, E1 i = some v → E2 (f i) = some v) : readAll E2 (is.map f) = some vs := by
  induction is generalizing vs with
  | nil => exact h
  | cons i is ih =>
    rw [readAll_cons] at h
    cases hi : E1 i with
    | none => rw [hi] at h; cases h
    | some v =>
      cases hrest : readAll E1 is with
      | none => rw [hi, hrest] at h; cases h
      | some rest =>
        rw [List.map_cons, readAll_cons, hf i List.mem_cons_self v hi,
          ih hrest fun k hk => hf k (List.mem_cons_of_mem _ hk)]
        rwa [hi, hrest] at h

/-- `replace_value` rewrites the inputs; a capture of `b` would be left behind. -/
theorem substIns_reads {b : Id} (a : Id) {o : Op K} (hcap : b ∉ o.caps) :
    (substIns b a o).reads = o.reads.map fun i => if i = b then a else i := by
  show _ ++ o.caps = (o.ins ++ o.caps).map _
  rw [List.map_append]
  congr 1
  exact (List.map_id'' (fun _ => rfl) _).symm.trans
    (List.map_congr_left fun i hi => (if_neg fun (h : i = b) => hcap (h ▸ hi)).symm)

theorem result_refines (b a : Id) (E1 E2 : Env V) (hr : Refines b a E1 E2) (o : Op K) (hcap : b ∉ o.caps)
    (rs : List V) (h : result sem E1 o = some rs) : result sem E2 (substIns b a o) = some rs := by
  unfold result at h ⊢
  cases hread : readAll E1 o.reads with
  | none => rw [hread] at h; cases h
  | some vs =>
    rw [substIns_reads a hcap, readAll_map _ hread fun i _ => hr.subst i]
    rwa [hread] at h

theorem bind_some_mono {E1 E2 : Env V} {i : Id} (h : ∀ w, E1 i = some w → E2 i = some w) (outs : List Id)
    (rs : List V) (v : V) (hv : bind E1 outs rs i = some v) : bind E2 outs rs i = some v := by
  induction outs generalizing rs with
  | nil => exact h v hv
  | cons o os ih =>
    cases rs with
    | nil => exact h v hv
    | cons r rs =>
      change (if i = o then some r else _) = _ at hv
      show (if i = o then some r else _) = _
      split
      · next hio => rwa [if_pos hio] at hv
      · next hio => exact ih rs (by rwa [if_neg hio] at hv)

theorem bind_refines (b a : Id) (E1 E2 : Env V) (hr : Refines b a E1 E2) (outs : List Id) (rs : List V)
    (hb : b ∉ outs) (ha : a ∉ outs) : Refines b a (bind E1 outs rs) (bind E2 outs rs) :=
  ⟨fun i v hib => bind_some_mono (fun w => hr.1 i w hib) outs rs v,
    fun v h => (bind_off E2 outs rs a ha).trans (hr.2 v ((bind_off E1 outs rs b hb).symm.trans h))⟩

/-- One step: refinement is preserved when `o` runs on the left and its rewritten form on the right. -/
theorem step_refines (b a : Id) (E1 E2 : Env V) (hr : Refines b a E1 E2) (o : Op K) (hcap : b ∉ o.caps)
    (hb : b ∉ o.outs) (ha : a ∉ o.outs) (hfresh : ∀ i ∈ o.outs, E1 i = none) :
    Refines b a (step sem E1 o) (step sem E2 (substIns b a o)) := by
  unfold step
  cases h1 : result sem E1 o with
  | some rs =>
    rw [result_refines sem b a E1 E2 hr o hcap rs h1]
    exact bind_refines b a E1 E2 hr o.outs rs hb ha
  | none =>
    -- the left operator fails: its outputs stay undefined on the left, anything is fine on the right
    cases h2 : result sem E2 (substIns b a o) with
    | none => exact hr
    | some rs =>
      refine ⟨fun i v hib h => ?_, fun v h => (bind_off E2 o.outs rs a ha).trans (hr.2 v h)⟩
      by_cases hio : i ∈ o.outs
      · cases (hfresh i hio).symm.trans (h : E1 i = some v)
      · exact (bind_off E2 o.outs rs i hio).trans (hr.1 i v hib h)

theorem run_refines (b a : Id) : ∀ (post : List (Op K)) (E1 E2 : Env V), Refines b a E1 E2 →
    WF post → (∀ o ∈ post, b ∉ o.caps) → b ∉ outsAll post → a ∉ outsAll post →
    (∀ i ∈ outsAll post, E1 i = none) →
    Refines b a (run sem post E1) (run sem (post.map (substIns b a)) E2) := by
  intro post
  induction post with
  | nil => intro E1 E2 hr _ _ _ _ _; exact hr
  | cons o os ih =>
    intro E1 E2 hr ⟨_, hw2, hw3⟩ hcap hb ha hfresh
    rw [mem_outsAll_cons, not_or] at hb ha
    refine ih _ _ ?_ hw3 (fun o' ho' => hcap o' (List.mem_cons_of_mem _ ho')) hb.2 ha.2 fun i hi => ?_
    · exact step_refines sem b a E1 E2 hr o (hcap o List.mem_cons_self) hb.1 ha.1
        fun i hi => hfresh i (mem_outsAll_cons.mpr (.inl hi))
    · rw [step_off sem E1 o i fun h => hw2 i h hi]
      exact hfresh i (mem_outsAll_cons.mpr (.inr hi))

/-- **`replace_sound`** (`Fusion::Identity` / `Fusion::Constant` through `replace_value`). -/
theorem replace_sound (pre post : List (Op K)) (L : Op K) (b a : Id) (env : Env V)
    (hwf : WF (pre ++ L :: post))
    (hfresh : ∀ i ∈ outsAll (pre ++ L :: post), env i = none)
    (hL : L.outs = [b])
    (ha : a ∉ outsAll (L :: post))
    (hcap : ∀ o ∈ post, b ∉ o.caps)
    (hsem : ∀ E : Env V, (∀ i, i ∉ outsAll (pre ++ L :: post) → E i = env i) → E b = none →
        ∀ v, step sem E L b = some v → E a = some v) :
    ∀ i v, run sem (pre ++ L :: post) env i = some v →
      run sem (pre ++ post.map (substIns b a)) env (if i = b then a else i) = some v := by
  intro i v h
  rw [run_append] at h ⊢
  have hwfLpost : WF (L :: post) := WF_sublist (List.sublist_append_right ..) hwf
  have hbL : b ∈ L.outs := hL ▸ List.mem_cons_self
  rw [mem_outsAll_cons, not_or] at ha
  let E := run sem pre env
  have hEnone : ∀ k ∈ outsAll (L :: post), E k = none := run_prefix_fresh sem hwf hfresh
  have hr0 : Refines b a (step sem E L) E := by
    refine ⟨fun k w hkb hk => ?_, fun w hw => ?_⟩
    · rwa [step_off sem E L k (by rw [hL]; exact fun hh => hkb (List.mem_singleton.mp hh))] at hk
    · exact hsem E (fun k hk => run_off sem pre env k fun hh => hk (mem_outsAll_append.mpr (.inl hh)))
        (hEnone b (mem_outsAll_cons.mpr (.inl hbL))) w hw
  have hfreshPost : ∀ k ∈ outsAll post, step sem E L k = none := fun k hk =>
    (step_off sem E L k fun hh => hwfLpost.2.1 k hh hk).trans (hEnone k (mem_outsAll_cons.mpr (.inr hk)))
  exact (run_refines sem b a post (step sem E L) E hr0 hwfLpost.2.2 hcap (hwfLpost.2.1 b hbL) ha.2
    hfreshPost).subst i v h

end RtenVerif.Optimize
