import RtenVerif.Lemmas.PolyHull

import Mathlib.Tactic.LinearCombination
import Mathlib.Tactic.Ring

/-!
Order-theoretic lemmas for the angular sort of `convex_hull` (C35): on the half-plane of points
that `min_by` ranks after the pivot, the comparator `exactLe` is a total, transitive and
antisymmetric order (exact integer arithmetic).  The code's key order `keyLe` agrees with
`exactLe` on that half-plane.

Then the planar facts behind the Graham scan.  Every step of the scan is a sign reading of the
Grassmann–Plücker relation `(a×b)(c×d) − (a×c)(b×d) + (a×d)(b×c) = 0` among the cross products of
four points seen from a fifth (`left_below`, `cone_left`); points on one ray from the pivot are
handled by `seg_left` and `seg_bbox`.
-/

namespace RtenVerif.Poly

/-- Vectors of the half-plane in which all points other than the `min_by` point lie, relative
to it: `y < 0`, or `y = 0` and `x > 0`. -/
def HPv (a b : Int) : Prop := b < 0 ∨ (b = 0 ∧ a > 0)

/-- Collinear, same half-plane, same length ⇒ equal. -/
theorem hp_antisymm (a b c d : Int) (hu : HPv a b) (hv : HPv c d)
    (hx : a * d - b * c = 0) (hs : a * a + b * b = c * c + d * d) : a = c ∧ b = d := by
  rcases hu with hb | ⟨rfl, ha⟩
  · rcases hv with hd | ⟨rfl, hc⟩
    · -- both below the pivot: `|u|²·(d² − b²) = 0`, so `d = b`, and then `(a − c)·d = 0`
      have h1 : (a * a + b * b) * ((d - b) * (d + b)) = 0 := by
        linear_combination (a * d + b * c) * hx - b * b * hs
      have hpos := Int.mul_pos_of_neg_of_neg hb hb
      have : 0 ≤ a * a := (Int.le_total 0 a).elim (fun h => Int.mul_nonneg h h)
        (fun h => Int.mul_nonneg_of_nonpos_of_nonpos h h)
      rcases Int.mul_eq_zero.mp h1 with h | h
      · omega
      · have hbd : d = b := by rcases Int.mul_eq_zero.mp h with h | h <;> omega
        subst hbd
        have : (a - c) * d = 0 := by linear_combination hx
        rcases Int.mul_eq_zero.mp this with h | h
        · exact ⟨by omega, rfl⟩
        · omega
    · have := Int.mul_neg_of_neg_of_pos hb hc
      rw [Int.mul_zero, Int.zero_sub] at hx
      omega
  · rw [Int.zero_mul, Int.sub_zero] at hx
    have hd : d = 0 := by rcases Int.mul_eq_zero.mp hx with h | h <;> omega
    subst hd
    have hc : c > 0 := by unfold HPv at hv; omega
    have : (a - c) * (a + c) = 0 := by linear_combination hs
    rcases Int.mul_eq_zero.mp this with h | h
    · exact ⟨by omega, rfl⟩
    · omega

/-- `p` is the pivot `m` or lies in the half-plane of points that `min_by` ranks after `m`. -/
def InS (m p : Pt) : Prop := p = m ∨ HPv (p.1 - m.1) (p.2 - m.2)

theorem inS_of_minLt {m q : Pt} (h : minLt q m = false) : InS m q := by
  rw [← Bool.not_eq_true, minLt_iff] at h
  by_cases hq : q = m
  · exact .inl hq
  · have hne : ¬ (q.1 = m.1 ∧ q.2 = m.2) := fun hh => hq (Prod.ext hh.1 hh.2)
    refine .inr ?_
    unfold HPv
    omega

/-- Angular transitivity in the half-plane: `u×v ≥ 0` and `v×w ≥ 0` give `u×w ≥ 0`, by the
vector identity `d·(u×w) = f·(u×v) + b·(v×w)` in which `b, d, f ≤ 0`. -/
theorem cross_nonneg_trans {m p q r : Pt} (hu : HPv (p.1 - m.1) (p.2 - m.2))
    (hv : HPv (q.1 - m.1) (q.2 - m.2)) (hw : HPv (r.1 - m.1) (r.2 - m.2))
    (h1 : 0 ≤ cross m p q) (h2 : 0 ≤ cross m q r) : 0 ≤ cross m p r := by
  unfold cross at h1 h2 ⊢
  -- `u = (a, b)`, `v = (c, d)`, `w = (e, f)`
  generalize p.1 - m.1 = a, p.2 - m.2 = b, q.1 - m.1 = c, q.2 - m.2 = d, r.1 - m.1 = e,
    r.2 - m.2 = f at hu hv hw h1 h2 ⊢
  have hb : b ≤ 0 := by unfold HPv at hu; omega
  have hf : f ≤ 0 := by unfold HPv at hw; omega
  rcases hv with hd | ⟨rfl, hc⟩
  · have hid : d * (a * f - b * e) = f * (a * d - b * c) + b * (c * f - d * e) := by ring
    have r1 := Int.mul_nonpos_of_nonpos_of_nonneg hf h1
    have r2 := Int.mul_nonpos_of_nonpos_of_nonneg hb h2
    exact Int.nonneg_of_mul_nonpos_right (by omega : d * (a * f - b * e) ≤ 0) hd
  · -- `v` is level with the pivot, so `w` is too, and `u×w = -b·e` with `e > 0`
    rw [Int.zero_mul, Int.sub_zero] at h2
    have hf0 : f = 0 := Int.le_antisymm hf (Int.nonneg_of_mul_nonneg_right h2 hc)
    subst hf0
    have he : 0 < e := by unfold HPv at hw; omega
    have := Int.mul_nonpos_of_nonpos_of_nonneg hb (Int.le_of_lt he)
    omega

theorem ne_of_exactLe {m p q : Pt} (hp : p ≠ m) (h : exactLe m p q = true) : q ≠ m := by
  rintro rfl
  rw [exactLe, if_neg hp, if_pos rfl] at h
  cases h

theorem exactLe_trans {m p q r : Pt} (hp : InS m p) (hq : InS m q) (hr : InS m r)
    (h1 : exactLe m p q = true) (h2 : exactLe m q r = true) : exactLe m p r = true := by
  by_cases ep : p = m
  · rw [exactLe, if_pos ep]
  · have eq := ne_of_exactLe ep h1
    have er := ne_of_exactLe eq h2
    have hp' := hp.resolve_left ep
    have hq' := hq.resolve_left eq
    have hr' := hr.resolve_left er
    rw [exactLe_iff ep eq] at h1
    rw [exactLe_iff eq er] at h2
    rw [exactLe_iff ep er]
    -- `0 ≤ cross m · ·` is a total transitive relation, so its strict part composes with it
    have t1 := cross_nonneg_trans hp' hq' hr' (by omega) (by omega)
    have t2 : 0 ≤ cross m r p → 0 ≤ cross m q p := cross_nonneg_trans hq' hr' hp' (by omega)
    have t3 : 0 ≤ cross m r p → 0 ≤ cross m r q := fun h =>
      cross_nonneg_trans hr' hp' hq' h (by omega)
    rw [cross_neg m p r, cross_neg m p q] at t2
    rw [cross_neg m p r, cross_neg m q r] at t3
    omega

theorem exactLe_antisymm {m p q : Pt} (hp : InS m p) (hq : InS m q)
    (h1 : exactLe m p q = true) (h2 : exactLe m q p = true) : p = q := by
  by_cases ep : p = m
  · by_cases eq : q = m
    · rw [ep, eq]
    · exact absurd ep (ne_of_exactLe eq h2)
  · have eq := ne_of_exactLe ep h1
    rw [exactLe_iff ep eq] at h1
    rw [exactLe_iff eq ep, cross_neg m p q] at h2
    have hs : sqDist m p = sqDist m q := by omega
    obtain ⟨e1, e2⟩ := hp_antisymm _ _ _ _ (hp.resolve_left ep) (hq.resolve_left eq)
      (by show cross m p q = 0; omega) hs
    exact Prod.ext (by omega) (by omega)

/-- On the half-plane, the strict comparison of the slope keys `a / (−b)` and `c / (−d)`
(by cross-multiplication, `b = 0 ↦ +∞`) is the sign test `0 < u×v`. -/
theorem slopeKey_lt {a b c d : Int} (hu : HPv a b) (hv : HPv c d) :
    (if b = 0 then false else if d = 0 then true else decide (a * -d < c * -b)) =
      decide (0 < a * d - b * c) := by
  unfold HPv at hu hv
  by_cases hb : b = 0
  · subst hb
    have := Int.mul_nonpos_of_nonneg_of_nonpos (a := a) (b := d) (by omega) (by omega)
    rw [if_pos rfl, Int.zero_mul, Int.sub_zero]
    exact (decide_eq_false (by omega)).symm
  · rw [if_neg hb]
    by_cases hd : d = 0
    · subst hd
      have := Int.mul_neg_of_neg_of_pos (a := b) (b := c) (by omega) (by omega)
      rw [if_pos rfl, Int.mul_zero, Int.zero_sub]
      exact (decide_eq_true (by omega)).symm
    · rw [if_neg hd, Int.mul_neg, Int.mul_neg, Int.mul_comm c b]
      exact decide_eq_decide.mpr (by omega)

theorem slopeKey_eq {a b c d : Int} (hu : HPv a b) (hv : HPv c d) :
    (if b = 0 then decide (d = 0) else if d = 0 then false else decide (a * -d = c * -b)) =
      decide (a * d - b * c = 0) := by
  unfold HPv at hu hv
  by_cases hb : b = 0
  · subst hb
    rw [if_pos rfl, Int.zero_mul, Int.sub_zero]
    exact decide_eq_decide.mpr ⟨fun h => by rw [h, Int.mul_zero],
      fun h => (Int.mul_eq_zero.mp h).resolve_left (by omega)⟩
  · rw [if_neg hb]
    by_cases hd : d = 0
    · subst hd
      have := Int.mul_neg_of_neg_of_pos (a := b) (b := c) (by omega) (by omega)
      rw [if_pos rfl, Int.mul_zero, Int.zero_sub]
      exact (decide_eq_false (by omega)).symm
    · rw [if_neg hd, Int.mul_neg, Int.mul_neg, Int.mul_comm c b]
      exact decide_eq_decide.mpr (by omega)

/-- On the half-plane of points after the pivot, comparing the slope keys
`dx / (−dy)` (by cross-multiplication, `dy = 0 ↦ +∞`) is the same as the sign of the
orientation. -/
theorem keyLe_eq_exactLe {m p q : Pt} (hp : InS m p) (hq : InS m q) :
    keyLe m p q = exactLe m p q := by
  by_cases ep : p = m
  · rw [keyLe, exactLe, if_pos ep, if_pos ep]
  by_cases eq : q = m
  · rw [keyLe, exactLe, if_neg ep, if_neg ep, if_pos eq, if_pos eq]
  simp only [keyLe, exactLe, if_neg ep, if_neg eq,
    slopeKey_lt (hp.resolve_left ep) (hq.resolve_left eq),
    slopeKey_eq (hp.resolve_left ep) (hq.resolve_left eq), decide_eq_true_eq]
  rw [show (p.1 - m.1) * (q.2 - m.2) - (p.2 - m.2) * (q.1 - m.1) = cross m p q from rfl]
  by_cases h1 : 0 < cross m p q
  · rw [if_pos h1, if_pos h1]
  · rw [if_neg h1, if_neg h1]
    by_cases h2 : cross m p q = 0
    · rw [if_pos h2, if_neg (by omega)]
    · rw [if_neg h2, if_pos (by omega)]

theorem cross_rot (a b c : Pt) : cross b c a = cross a b c := by unfold cross; ring

theorem cross_swap (a b c : Pt) : cross b a c = -cross a b c := by unfold cross; ring

theorem cross_self_left (a b : Pt) : cross a a b = 0 := by unfold cross; ring

theorem cross_self_right (a b : Pt) : cross a b b = 0 := by unfold cross; ring

theorem cross_self_mid (a b : Pt) : cross a b a = 0 := by unfold cross; ring

/-- **Going down the stack.**  `h, o, j` consecutive hull vertices (left turn at `o`), all seen
in angular order from the pivot `m` (`h ≤ o < j`), and `p` not before `o`: if `p` is left of the
upper edge `o → j`, it is left of the lower edge `h → o`. -/
theorem left_below {m h o j p : Pt} (turn : 0 < cross h o j) (fan : 0 < cross m o j)
    (hho : 0 ≤ cross m h o) (hop : 0 ≤ cross m o p) (up : 0 ≤ cross o j p) : 0 ≤ cross h o p := by
  have id : cross m o j * cross h o p = cross o j p * cross m h o + cross h o j * cross m o p := by
    unfold cross; ring
  have := Int.add_nonneg (Int.mul_nonneg up hho) (Int.mul_nonneg (Int.le_of_lt turn) hop)
  rw [← id] at this
  exact Int.nonneg_of_mul_nonneg_right this fan

/-- **The new edge supports the old polygon.**  At the vertex `a` with lower neighbour `b` and
upper neighbour `c` (left turn at `a`): if `q` is left of both edges at `a`, the new point `p` is
strictly left of `b → a` (the scan stops popping) and not strictly left of `a → c` (`c` was
popped, or `c` is the pivot and closes the polygon), then `q` is left of the new edge `a → p`. -/
theorem cone_left {a b c p q : Pt} (turn : 0 < cross b a c) (qb : 0 ≤ cross b a q)
    (qc : 0 ≤ cross a c q) (stop : 0 < cross b a p) (pop : cross a c p ≤ 0) : 0 ≤ cross a p q := by
  have id : cross b a c * cross a p q = (-cross a c p) * cross b a q + cross a c q * cross b a p := by
    unfold cross; ring
  have := Int.add_nonneg (Int.mul_nonneg (Int.neg_nonneg_of_nonpos pop) qb) (Int.mul_nonneg qc (Int.le_of_lt stop))
  rw [← id] at this
  exact Int.nonneg_of_mul_nonneg_right this turn

theorem cross_pos_trans {m p q r : Pt} (hp : HPv (p.1 - m.1) (p.2 - m.2))
    (hq : HPv (q.1 - m.1) (q.2 - m.2)) (hr : HPv (r.1 - m.1) (r.2 - m.2))
    (h1 : 0 ≤ cross m p q) (h2 : 0 < cross m q r) : 0 < cross m p r := by
  refine Int.lt_of_not_ge fun h => ?_
  have := cross_nonneg_trans hr hp hq (by rw [cross_neg]; omega) h1
  rw [cross_neg] at this; omega

section
variable {m : Pt}

theorem cross_nonneg_of_exactLe {p q : Pt} (h : exactLe m p q = true) : 0 ≤ cross m p q := by
  by_cases hp : p = m
  · rw [hp, cross_self_left]
  · rw [exactLe_iff hp (ne_of_exactLe hp h)] at h; omega

theorem ne_of_hp {a : Pt} (h : HPv (a.1 - m.1) (a.2 - m.2)) : a ≠ m := by
  rintro rfl; unfold HPv at h; omega

theorem eq_of_exactLe_pivot {q : Pt} (h : exactLe m q m = true) : q = m :=
  Classical.byContradiction fun hq => by rw [exactLe, if_neg hq, if_pos rfl] at h; cases h

end

/-- Two vectors of the half-plane on one ray, the first not longer: it is `k/n` of the second with
`0 ≤ k ≤ n`. -/
theorem ray_scale {a b c d : Int} (hu : HPv a b) (hv : HPv c d) (hx : a * d - b * c = 0)
    (hs : a * a + b * b ≤ c * c + d * d) :
    ∃ k n : Int, 0 < n ∧ 0 ≤ k ∧ k ≤ n ∧ n * a = k * c ∧ n * b = k * d := by
  rcases hv with hd | ⟨rfl, hc⟩
  · have hb : b < 0 := by
      rcases hu with hb | ⟨rfl, ha⟩
      · exact hb
      · have := Int.mul_neg_of_pos_of_neg ha hd
        omega
    refine ⟨-b, -d, by omega, by omega, ?_, by linear_combination (-1 : Int) * hx, by ring⟩
    -- `(d² − b²)·|v|² = d²·(|v|² − |u|²) ≥ 0`
    have key : 0 ≤ (d * d - b * b) * (c * c + d * d) := by
      have : (d * d - b * b) * (c * c + d * d) = d * d * ((c * c + d * d) - (a * a + b * b)) := by
        linear_combination (a * d + b * c) * hx
      rw [this]; exact Int.mul_nonneg (Int.le_of_lt (Int.mul_pos_of_neg_of_neg hd hd)) (by omega)
    have hn : 0 < c * c + d * d := by
      have := Int.mul_pos_of_neg_of_neg hd hd
      have := mul_self_nonneg c
      omega
    have h2 : 0 ≤ d * d - b * b := Int.nonneg_of_mul_nonneg_left key hn
    refine Int.le_of_not_gt fun h => ?_
    have := Int.mul_neg_of_pos_of_neg (show 0 < d - b by omega) (show d + b < 0 by omega)
    have e : (d - b) * (d + b) = d * d - b * b := by ring
    omega
  · have hb : b = 0 := by
      rw [Int.mul_zero, Int.zero_sub, Int.neg_eq_zero] at hx
      exact (Int.mul_eq_zero.mp hx).resolve_right (by omega)
    subst hb
    have ha : 0 < a := by unfold HPv at hu; omega
    refine ⟨a, c, hc, by omega, ?_, by ring, by ring⟩
    refine Int.le_of_not_gt fun h => ?_
    have := Int.mul_lt_mul h (Int.le_of_lt h) hc (by omega)
    omega

/-- A point `a` of the segment from the pivot `m` to `b` (same ray from `m`, not farther than `b`)
is left of every line that `m` and `b` are left of: the orientation test is affine in the point. -/
theorem seg_left {m a b x y : Pt} (ha : HPv (a.1 - m.1) (a.2 - m.2)) (hb : HPv (b.1 - m.1) (b.2 - m.2))
    (col : cross m a b = 0) (near : sqDist m a ≤ sqDist m b)
    (hm : 0 ≤ cross x y m) (hbb : 0 ≤ cross x y b) : 0 ≤ cross x y a := by
  obtain ⟨k, n, hn, hk, hkn, e1, e2⟩ := ray_scale ha hb col near
  have id : n * cross x y a = (n - k) * cross x y m + k * cross x y b := by
    unfold cross
    linear_combination (y.1 - x.1) * e2 - (y.2 - x.2) * e1
  have := Int.add_nonneg (Int.mul_nonneg (by omega : 0 ≤ n - k) hm) (Int.mul_nonneg hk hbb)
  rw [← id] at this
  exact Int.nonneg_of_mul_nonneg_right this hn

theorem between_of_scale {k n u v : Int} (hn : 0 < n) (hk : 0 ≤ k) (hkn : k ≤ n) (e : n * u = k * v) :
    min 0 v ≤ u ∧ u ≤ max 0 v := by
  rcases Int.le_total 0 v with hv | hv
  · have h1 : 0 ≤ u := Int.nonneg_of_mul_nonneg_right (e ▸ Int.mul_nonneg hk hv) hn
    have h2 : 0 ≤ v - u := Int.nonneg_of_mul_nonneg_right (by
      have := Int.mul_le_mul_of_nonneg_right hkn hv
      rw [Int.mul_sub]; omega) hn
    omega
  · have h1 : 0 ≤ -u := Int.nonneg_of_mul_nonneg_right (by
      have := Int.mul_nonpos_of_nonneg_of_nonpos hk hv
      rw [Int.mul_neg]; omega) hn
    have h2 : 0 ≤ u - v := Int.nonneg_of_mul_nonneg_right (by
      have := Int.mul_le_mul_of_nonpos_right hkn hv
      rw [Int.mul_sub]; omega) hn
    omega

theorem seg_bbox {m a b : Pt} (ha : HPv (a.1 - m.1) (a.2 - m.2)) (hb : HPv (b.1 - m.1) (b.2 - m.2))
    (col : cross m a b = 0) (near : sqDist m a ≤ sqDist m b) :
    min m.1 b.1 ≤ a.1 ∧ a.1 ≤ max m.1 b.1 ∧ min m.2 b.2 ≤ a.2 ∧ a.2 ≤ max m.2 b.2 := by
  obtain ⟨k, n, hn, hk, hkn, e1, e2⟩ := ray_scale ha hb col near
  have h1 := between_of_scale hn hk hkn e1
  have h2 := between_of_scale hn hk hkn e2
  omega

end RtenVerif.Poly
