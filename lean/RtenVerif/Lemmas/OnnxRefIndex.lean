import RtenVerif.Model.OnnxRef
import RtenVerif.Lemmas.IndexSpace
import RtenVerif.Lemmas.ListBasics
/-! Foundation of the index-form operators. Indices and shapes are read through `getN`, so validity of an
index is a pointwise bound; `allIdx` enumerates exactly the valid indices in row-major order, so
`build`/`get` are inverse to each other. -/
namespace RtenVerif.OnnxRef
open RtenVerif.Overlap (offset)
open RtenVerif.Layout (contigDims)

/-! `prod`, `allIdx`, `validIdx`, `ravel` are the index space of `Lemmas/IndexSpace.lean`. -/

theorem prod_eq_numel : prod = Arr.numel := by
  funext s; induction s with
  | nil => rfl
  | cons d ds ih => rw [prod, ih]; rfl

theorem allIdx_eq_idxs : allIdx = Arr.idxs := by
  funext s; induction s with
  | nil => rfl
  | cons d ds ih => rw [allIdx, Arr.idxs, ih]

theorem validIdx_eq : validIdx = Arr.validIdx := by
  funext s; induction s with
  | nil => funext idx; cases idx <;> rfl
  | cons d ds ih => funext idx; cases idx with
    | nil => rfl
    | cons i is => rw [validIdx, Arr.validIdx, ih]

theorem ravel_eq_offset : ∀ s idx : List Nat, ravel s idx = offset (contigDims s) idx
  | [], _ => by cases ‹List Nat› <;> rfl
  | _ :: _, [] => rfl
  | d :: ds, i :: is => by rw [ravel, contigDims, offset, ravel_eq_offset ds is, prod_eq_numel]

@[simp] theorem getN_cons_zero (x : Nat) (xs : List Nat) : getN (x :: xs) 0 = x := rfl
@[simp] theorem getN_cons_succ (x : Nat) (xs : List Nat) (k : Nat) : getN (x :: xs) (k + 1) = getN xs k := rfl
@[simp] theorem getN_nil (k : Nat) : getN [] k = 0 := by simp [getN]

theorem getN_eq_getElem (l : List Nat) (k : Nat) (h : k < l.length) : getN l k = l[k] := by
  simp [getN, List.getD_eq_getElem?_getD, h]

theorem getN_mem (l : List Nat) (k : Nat) (h : k < l.length) : getN l k ∈ l := by
  rw [getN_eq_getElem l k h]; exact List.getElem_mem h

theorem list_ext_getN (a b : List Nat) (hl : a.length = b.length)
    (h : ∀ k, k < a.length → getN a k = getN b k) : a = b := by
  apply List.ext_getElem hl
  intro k h1 h2
  rw [← getN_eq_getElem a k h1, ← getN_eq_getElem b k h2]
  exact h k h1

theorem getN_map (l : List Nat) (f : Nat → Nat) (c : Nat) (h : c < l.length) :
    getN (l.map f) c = f (getN l c) := by
  simp [getN, List.getD_eq_getElem?_getD, h]

theorem map_getN_map (q p : List Nat) (f : Nat → Nat) (h : ∀ c ∈ q, c < p.length) :
    q.map (getN (p.map f)) = (q.map (getN p)).map f := by
  rw [List.map_map]
  exact List.map_congr_left fun c hc => getN_map p f c (h c hc)

theorem getN_map_range (n : Nat) (f : Nat → Nat) (k : Nat) (h : k < n) :
    getN ((List.range n).map f) k = f k := (getD_map_range n f k 0).trans (if_pos h)

theorem getI_map_range (n : Nat) (f : Nat → Int) (k : Nat) (h : k < n) :
    getI ((List.range n).map f) k = f k := (getD_map_range n f k 0).trans (if_pos h)

theorem map_range_getN (s : List Nat) : (List.range s.length).map (getN s) = s := map_getD_range s 0

theorem getN_replicate (n v a : Nat) (h : a < n) : getN (List.replicate n v) a = v := by
  simp [getN, List.getD_eq_getElem?_getD, h]

theorem getI_replicate (n : Nat) (v : Int) (k : Nat) (h : k < n) : getI (List.replicate n v) k = v := by
  simp [getI, List.getD_eq_getElem?_getD, h]

theorem getN_drop (l : List Nat) (k a : Nat) : getN (l.drop k) a = getN l (k + a) := by
  simp [getN, List.getD_eq_getElem?_getD, List.getElem?_drop]

theorem getN_zipWith (f : Nat → Nat → Nat) (a b : List Nat) (j : Nat) (ha : j < a.length) (hb : j < b.length) :
    getN (List.zipWith f a b) j = f (getN a j) (getN b j) := by
  simp [getN, List.getD_eq_getElem?_getD, List.getElem?_zipWith, ha, hb]

theorem getN_set (l : List Nat) (k v j : Nat) :
    getN (l.set k v) j = if k = j ∧ k < l.length then v else getN l j := getD_set l k j v 0

theorem getN_withAt (l : List Nat) (k v j : Nat) :
    getN (withAt l k v) j = if k = j ∧ k < l.length then v else getN l j := getN_set l k v j

theorem getN_withAt_same (l : List Nat) (k v : Nat) (h : k < l.length) : getN (withAt l k v) k = v := by
  rw [getN_withAt, if_pos ⟨rfl, h⟩]

theorem getN_withAt_ne (l : List Nat) (k v j : Nat) (h : k ≠ j) : getN (withAt l k v) j = getN l j := by
  rw [getN_withAt, if_neg (fun c => h c.1)]

@[simp] theorem length_withAt (l : List Nat) (k v : Nat) : (withAt l k v).length = l.length :=
  List.length_set

theorem withAt_withAt (l : List Nat) (k a b : Nat) : withAt (withAt l k a) k b = withAt l k b :=
  List.set_set ..

theorem withAt_self (l : List Nat) (k : Nat) : withAt l k (getN l k) = l := by
  apply list_ext_getN _ _ (length_withAt ..)
  intro j _
  rw [getN_withAt]
  split
  · next h => rw [h.1]
  · rfl

theorem validIdx_iff (s idx : List Nat) :
    validIdx s idx = true ↔ idx.length = s.length ∧ ∀ k, k < s.length → getN idx k < getN s k :=
  validIdx_eq ▸ Arr.validIdx_iff s idx

theorem validIdx_length {s idx : List Nat} (hv : validIdx s idx = true) : idx.length = s.length :=
  ((validIdx_iff s idx).mp hv).1

theorem validIdx_lt {s idx : List Nat} (hv : validIdx s idx = true) {k : Nat} (hk : k < s.length) :
    getN idx k < getN s k :=
  ((validIdx_iff s idx).mp hv).2 k hk

/-- Moving along axis `ax`; `withAt_self` gives the forms that keep the shape or the index. -/
theorem validIdx_withAt (s idx : List Nat) (ax n m v : Nat) (hax : ax < s.length)
    (hv : validIdx (withAt s ax n) idx = true) (hlt : v < m) :
    validIdx (withAt s ax m) (withAt idx ax v) = true := by
  simp only [validIdx_iff, length_withAt] at hv ⊢
  refine ⟨hv.1, fun k hk => ?_⟩
  by_cases h : ax = k
  · subst h
    rwa [getN_withAt_same _ _ _ (by rw [hv.1]; exact hax), getN_withAt_same _ _ _ hax]
  · have := hv.2 k hk
    rw [getN_withAt_ne _ _ _ _ h] at this
    rwa [getN_withAt_ne _ _ _ _ h, getN_withAt_ne _ _ _ _ h]

theorem validIdx_withAt_self (s idx : List Nat) (ax v : Nat) (hax : ax < s.length)
    (hv : validIdx s idx = true) (hlt : v < getN s ax) : validIdx s (withAt idx ax v) = true := by
  have := validIdx_withAt s idx ax (getN s ax) (getN s ax) v hax (by rwa [withAt_self]) hlt
  rwa [withAt_self] at this

theorem map_ravel_allIdx (s : List Nat) : (allIdx s).map (ravel s) = List.range (prod s) := by
  rw [allIdx_eq_idxs, prod_eq_numel, ← Arr.map_offset_idxs]
  exact List.map_congr_left fun idx _ => ravel_eq_offset s idx

theorem length_allIdx (s : List Nat) : (allIdx s).length = prod s := by
  rw [allIdx_eq_idxs, prod_eq_numel, Arr.length_idxs]

theorem mem_allIdx (s idx : List Nat) : idx ∈ allIdx s ↔ validIdx s idx = true := by
  rw [allIdx_eq_idxs, validIdx_eq, Arr.mem_idxs]

theorem allIdx_getElem?_ravel (s idx : List Nat) (h : validIdx s idx = true) :
    (allIdx s)[ravel s idx]? = some idx := by
  rw [validIdx_eq] at h
  rw [allIdx_eq_idxs, ravel_eq_offset, Arr.idxs_getElem?_offset h]

theorem get_build (s : List Nat) (f : List Nat → Int) (idx : List Nat) (h : validIdx s idx = true) :
    (build s f).get idx = f idx := by
  simp only [Tensor.get, build, List.getD_eq_getElem?_getD, List.getElem?_map,
    allIdx_getElem?_ravel s idx h]
  rfl

theorem get_build_map_range (s : List Nat) (g : List Nat → Int) (n : Nat) (f : Nat → Nat) (hn : s.length = n)
    (h : ∀ k, k < n → f k < getN s k) : (build s g).get ((List.range n).map f) = g ((List.range n).map f) := by
  apply get_build
  rw [validIdx_iff, List.length_map, List.length_range, hn]
  exact ⟨rfl, fun k hk => by rw [getN_map_range _ _ _ hk]; exact h k hk⟩

theorem build_congr (s : List Nat) (f g : List Nat → Int)
    (h : ∀ idx, validIdx s idx = true → f idx = g idx) : build s f = build s g := by
  simp only [build]
  congr 1
  exact List.map_congr_left fun idx hm => h idx ((mem_allIdx s idx).mp hm)

theorem build_get (t : Tensor) (h : t.data.length = prod t.shape) : build t.shape t.get = t := by
  cases t with
  | mk s d =>
    -- `get` is `d.getD · 0` after `ravel`, and the offsets enumerate `0 … d.length - 1`
    have hd : (allIdx s).map (Tensor.get ⟨s, d⟩) = d := by
      rw [show Tensor.get ⟨s, d⟩ = (fun k => d.getD k 0) ∘ ravel s from rfl, ← List.map_map, map_ravel_allIdx,
        ← show d.length = prod s from h]
      exact List.ext_getElem (by simp) fun i h1 h2 => by simp [List.getD_eq_getElem?_getD, h2]
    exact congrArg (Tensor.mk s) hd

/-- The form in which round-trip laws are proved. -/
theorem build_eq_self (x : Tensor) (hwf : x.data.length = prod x.shape) (f : List Nat → Int)
    (h : ∀ idx, validIdx x.shape idx = true → f idx = x.get idx) : build x.shape f = x :=
  (build_congr x.shape f x.get h).trans (build_get x hwf)

theorem build_wf (s : List Nat) (f : List Nat → Int) : (build s f).data.length = prod (build s f).shape := by
  simp [build, length_allIdx]

end RtenVerif.OnnxRef
