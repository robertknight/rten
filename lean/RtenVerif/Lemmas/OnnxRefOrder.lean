import RtenVerif.Model.OnnxRef
import RtenVerif.Lemmas.InsertionSort
/-! Order laws: the scan behind ArgMax (`argStep` with `>` and `select_last_index = 0`) keeps the first maximum,
and the insertion sort behind TopK (`sortBy`, which is `Overlap.isort`) returns a sorted permutation. -/
namespace RtenVerif.OnnxRef

/-- Scan invariant for "first maximum" over the processed prefix `pre`; `st` is `argStep`'s
(best index, best value, next index). -/
def ArgInv (pre : List Int) (st : Nat × Int × Nat) : Prop :=
  st.2.2 = pre.length ∧ st.1 < pre.length ∧ getI pre st.1 = st.2.1 ∧
  (∀ j, j < pre.length → getI pre j ≤ st.2.1) ∧ (∀ j, j < st.1 → getI pre j < st.2.1)

theorem getI_append_left (a b : List Int) (j : Nat) (h : j < a.length) : getI (a ++ b) j = getI a j := by
  simp [getI, List.getD_eq_getElem?_getD, List.getElem?_append_left h]

theorem getI_append_len (a : List Int) (v : Int) : getI (a ++ [v]) a.length = v := by
  simp [getI, List.getD_eq_getElem?_getD]

theorem argInv_step (pre : List Int) (st : Nat × Int × Nat) (v : Int) (h : ArgInv pre st) :
    ArgInv (pre ++ [v]) (argStep (fun a b => decide (a > b)) false st v) := by
  obtain ⟨h1, h2, h3, h4, h5⟩ := h
  have hlen : (pre ++ [v]).length = pre.length + 1 := List.length_append
  unfold argStep
  by_cases hv : v > st.2.1
  · -- a new strict maximum: it becomes the best, everything before it is smaller
    simp only [hv, decide_true, Bool.true_or, if_true, h1]
    refine ⟨hlen.symm, by rw [hlen]; exact Nat.lt_succ_self _, getI_append_len pre v, fun j hj => ?_, fun j hj => ?_⟩
    · rcases Nat.lt_succ_iff_lt_or_eq.mp (hlen ▸ hj) with hj' | rfl
      · rw [getI_append_left _ _ _ hj']; exact Int.le_of_lt (Int.lt_of_le_of_lt (h4 j hj') hv)
      · rw [getI_append_len]; exact Int.le_refl v
    · rw [getI_append_left _ _ _ hj]; exact Int.lt_of_le_of_lt (h4 j hj) hv
  · -- not larger: the best stays, and `v` is bounded by it
    simp only [hv, decide_false, Bool.false_and, Bool.or_false, Bool.false_eq_true, if_false, h1]
    refine ⟨hlen.symm, by rw [hlen]; exact Nat.lt_succ_of_lt h2, ?_, fun j hj => ?_, fun j hj => ?_⟩
    · rw [getI_append_left _ _ _ h2]; exact h3
    · rcases Nat.lt_succ_iff_lt_or_eq.mp (hlen ▸ hj) with hj' | rfl
      · rw [getI_append_left _ _ _ hj']; exact h4 j hj'
      · rw [getI_append_len]; exact Int.not_lt.mp hv
    · rw [getI_append_left _ _ _ (Nat.lt_trans hj h2)]; exact h5 j hj

theorem argInv_foldl : ∀ (xs pre : List Int) (st : Nat × Int × Nat), ArgInv pre st →
    ArgInv (pre ++ xs) (xs.foldl (argStep (fun a b => decide (a > b)) false) st)
  | [], pre, st, h => by simpa using h
  | v :: xs, pre, st, h => by
    have := argInv_foldl xs (pre ++ [v]) _ (argInv_step pre st v h)
    simpa using this

theorem insertBy_eq (before : (Int × Nat) → (Int × Nat) → Bool) (e : Int × Nat)
    (l : List (Int × Nat)) : insertBy before e l = Overlap.insertBy before e l := by
  induction l with
  | nil => rfl
  | cons y ys ih => rw [insertBy, Overlap.insertBy, ih]

theorem sortBy_eq (before : (Int × Nat) → (Int × Nat) → Bool) (l : List (Int × Nat)) :
    sortBy before l = Overlap.isort before l := by
  induction l with
  | nil => rfl
  | cons x xs ih =>
    show insertBy before x (sortBy before xs) = _
    rw [ih, insertBy_eq, Overlap.isort]

theorem sortBy_perm (before : (Int × Nat) → (Int × Nat) → Bool) (l : List (Int × Nat)) :
    (sortBy before l).Perm l :=
  sortBy_eq before l ▸ Overlap.isort_perm before l

/-- `a` may stand before `b`. -/
def topkLe (largest : Bool) (a b : Int × Nat) : Prop := topkBefore largest b a = false

theorem better_trans (l : Bool) {u v w : Int} (h1 : if l then u > v else u < v)
    (h2 : if l then v > w else v < w) : if l then u > w else u < w := by
  cases l
  · exact Int.lt_trans h1 h2
  · exact Int.lt_trans h2 h1

theorem better_ne (l : Bool) {u v : Int} (h : if l then u > v else u < v) : u ≠ v := by
  cases l
  · exact Int.ne_of_lt h
  · exact Int.ne_of_gt h

theorem better_of_ne (l : Bool) {u v : Int} (h : u ≠ v) (hn : ¬ if l then v > u else v < u) :
    if l then u > v else u < v := by
  cases l
  · exact Int.lt_iff_le_and_ne.mpr ⟨Int.not_lt.mp hn, h⟩
  · exact Int.lt_iff_le_and_ne.mpr ⟨Int.not_lt.mp hn, Ne.symm h⟩

theorem topkBefore_of_ne (l : Bool) (a b : Int × Nat) (h : a.1 ≠ b.1) :
    topkBefore l a b = decide (if l then a.1 > b.1 else a.1 < b.1) := by
  unfold topkBefore
  rw [if_neg (mt beq_iff_eq.mp h)]
  cases l <;> rfl

theorem topkLe_iff (largest : Bool) (a b : Int × Nat) :
    topkLe largest a b ↔
      (if largest then a.1 > b.1 else a.1 < b.1) ∨ (a.1 = b.1 ∧ a.2 ≤ b.2) := by
  unfold topkLe
  by_cases h : b.1 = a.1
  · rw [topkBefore, if_pos (beq_iff_eq.mpr h), decide_eq_false_iff_not, Nat.not_lt]
    exact ⟨fun hle => Or.inr ⟨h.symm, hle⟩,
      fun hr => hr.elim (fun hb => absurd h.symm (better_ne largest hb)) (·.2)⟩
  · rw [topkBefore_of_ne largest b a h, decide_eq_false_iff_not]
    exact ⟨fun hn => Or.inl (better_of_ne largest (Ne.symm h) hn),
      fun hr => hr.elim (fun hb hba => better_ne largest (better_trans largest hb hba) rfl)
        (fun e => absurd e.1.symm h)⟩

theorem topkLe_trans (largest : Bool) (a b c : Int × Nat) (h1 : topkLe largest a b) (h2 : topkLe largest b c) :
    topkLe largest a c := by
  rw [topkLe_iff] at *
  rcases h1 with h1 | ⟨e1, l1⟩ <;> rcases h2 with h2 | ⟨e2, l2⟩
  · exact Or.inl (better_trans largest h1 h2)
  · exact Or.inl (e2 ▸ h1)
  · exact Or.inl (e1 ▸ h2)
  · exact Or.inr ⟨e1.trans e2, Nat.le_trans l1 l2⟩

theorem topkLe_of_before (largest : Bool) (a b : Int × Nat) (h : topkBefore largest a b = true) :
    topkLe largest a b := by
  rw [topkLe_iff]
  by_cases h1 : a.1 = b.1
  · rw [topkBefore, if_pos (beq_iff_eq.mpr h1)] at h
    exact Or.inr ⟨h1, Nat.le_of_lt (of_decide_eq_true h)⟩
  · rw [topkBefore_of_ne largest a b h1] at h
    exact Or.inl (of_decide_eq_true h)

theorem sortBy_sorted (largest : Bool) (l : List (Int × Nat)) :
    (sortBy (topkBefore largest) l).Pairwise (topkLe largest) :=
  sortBy_eq _ l ▸ Overlap.isort_pairwise _ _ (fun _ => True) (topkLe_of_before largest)
    (fun _ _ h => h) (fun a b c _ _ _ => topkLe_trans largest a b c) l fun _ _ => trivial

end RtenVerif.OnnxRef
