import RtenVerif.Lemmas.OnnxRefIndex
import RtenVerif.Model.OnnxRefRun
/-! Reductions whose axes cover every axis (one output cell holding the fold of the row-major data), and the
pooling window of a 1×…×1 kernel. -/
namespace RtenVerif.OnnxRef

theorem allIdx_ones : ∀ r : Nat, allIdx (List.replicate r 1) = [List.replicate r 0]
  | 0 => rfl
  | r + 1 => by
    simp [List.replicate_succ, allIdx, allIdx_ones r, List.range_succ]

theorem zipWith_add_zeros : ∀ (idx : List Nat), List.zipWith (· + ·) (List.replicate idx.length 0) idx = idx
  | [] => rfl
  | i :: is => by simp [List.replicate_succ, zipWith_add_zeros is]

theorem map_range_all (r : Nat) (ax : List Nat) (A B : Nat → Nat) (hall : ∀ k, k < r → ax.contains k = true) :
    (List.range r).map (fun k => if ax.contains k then A k else B k) = (List.range r).map A := by
  apply List.map_congr_left
  intro k hk
  rw [if_pos (hall k (List.mem_range.mp hk))]

theorem removeAxes_cover (s ax : List Nat) (hall : ∀ k, k < s.length → ax.contains k = true) :
    removeAxes s ax = [] := by
  unfold removeAxes
  have : (List.range s.length).filter (fun k => !ax.contains k) = [] := by
    rw [List.filter_eq_nil_iff]
    intro k hk
    simp only [hall k (List.mem_range.mp hk), Bool.not_true, Bool.false_eq_true, not_false_eq_true]
  rw [this]; rfl

theorem reduceVals_cover (x : Tensor) (ax : List Nat) (hwf : x.data.length = prod x.shape)
    (hall : ∀ k, k < x.rank → ax.contains k = true) :
    reduceVals x ax (List.replicate x.rank 0) = x.data := by
  unfold reduceVals
  rw [map_range_all _ _ _ _ hall]
  unfold Tensor.rank
  rw [map_range_getN]
  have h : (allIdx x.shape).map (fun r => x.get (List.zipWith (· + ·) (List.replicate x.shape.length 0) r))
      = (allIdx x.shape).map x.get := by
    apply List.map_congr_left
    intro idx hm
    rw [← validIdx_length ((mem_allIdx _ _).mp hm), zipWith_add_zeros]
  rw [h]
  exact congrArg Tensor.data (build_get x hwf)

theorem reduce_cover (f : List Int → Option Int) (x : Tensor) (axes : Option (List Int)) (axN : List Nat)
    (v : Int) (keepdims noop : Bool) (hwf : x.data.length = prod x.shape) (hf : f x.data = some v)
    (hN : (match axes with | some a => normAxes x.rank a | none => pure []) = .ok axN)
    (hnoop : (axN.isEmpty && noop) = false)
    (hall : ∀ k, k < x.rank → (if axN.isEmpty then List.range x.rank else axN).contains k = true) :
    reduce f x axes keepdims noop = .ok ⟨if keepdims then List.replicate x.rank 1 else [], [v]⟩ := by
  unfold reduce
  cases axes <;> dsimp only at hN <;>
  simp only [hN, bind, Except.bind, hnoop, Bool.false_eq_true, if_false, map_range_all _ _ _ _ hall,
    List.map_const', List.length_range, allIdx_ones, List.map_cons, List.map_nil, reduceVals_cover x _ hwf hall,
    hf, List.any_cons, List.any_nil, Option.isNone_some, Bool.or_false, Option.getD_some,
    removeAxes_cover _ _ hall] <;> rfl

theorem poolAxis_one (d : Nat) (ceil : Bool) (hd : d ≥ 1) :
    poolAxis d 1 1 1 0 0 ceil "NOTSET" = .ok (d, 0, 0) := by
  have hd1 : d - 1 + 1 = d := Nat.sub_add_cancel hd
  have hd2 : ¬ d ≤ d - 1 := by omega
  have hd0 : ¬ d = 0 := by omega
  cases ceil <;>
    simp [poolAxis, guardR, bind, Except.bind, pure, Except.pure, hd0, hd1, hd2]

theorem poolWindow_one (x : Tensor) (n : Nat) (idx : List Nat) (hr : x.shape.length = n + 2)
    (hv : validIdx x.shape idx = true) :
    poolWindow x (idx.take 2) (idx.drop 2) (List.replicate n 1) (List.replicate n 1) (List.replicate n 1)
      ((List.range n).map (fun _ => 0)) ((List.range n).map (fun _ => 0)) = [(some (x.get idx), true)] := by
  obtain ⟨hil, hib⟩ := (validIdx_iff _ _).mp hv
  have hin : ∀ a, a < n → (getN idx (2 + a) : Int) < (getN x.shape (2 + a) : Int) :=
    fun a ha => Int.ofNat_lt.mpr (hib _ (by omega))
  unfold poolWindow
  simp only [List.length_replicate, allIdx_ones, List.map_cons, List.map_nil]
  -- the window position along spatial axis `a` is `idx[2 + a]`, inside the input
  rw [List.map_congr_left (g := fun a => (getN idx (2 + a) : Int)) fun a ha => by
    have ha' : a < n := List.mem_range.mp ha
    rw [getN_replicate _ _ _ ha', getN_replicate _ _ _ ha', getN_map_range _ _ _ ha', getN_drop]
    simp]
  rw [all_range n _ fun a ha => by
      rw [getI_map_range _ _ _ ha, getN_drop]
      simp only [Int.natCast_nonneg, decide_true, Bool.true_and, decide_eq_true_eq]; exact hin a ha,
    all_range n _ fun a ha => by
      rw [getI_map_range _ _ _ ha, getN_drop, getN_map_range _ _ _ ha, Nat.add_zero, decide_eq_true_eq]
      exact hin a ha]
  rw [if_pos rfl, List.map_map]
  congr 4
  refine Eq.trans ?_ (List.take_append_drop 2 idx)
  congr 1
  apply list_ext_getN _ _ (by simp [hil, hr])
  intro a ha
  rw [getN_map_range _ _ _ (by simpa using ha), getN_drop]
  exact Int.toNat_natCast _

end RtenVerif.OnnxRef
