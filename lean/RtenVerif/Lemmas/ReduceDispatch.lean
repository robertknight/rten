/-
Lemmas for the reduce-dispatch model (C14 D4): row-major offsets of concatenated dims, chunking a
concatenation of equal blocks.
-/
import RtenVerif.Lemmas.BinaryDispatch
import RtenVerif.Lemmas.IterLayout
import RtenVerif.Model.ReduceDispatch

namespace RtenVerif.Layout
open RtenVerif.Overlap RtenVerif.Layout.Seq
open RtenVerif.Iter (rowMajor rowMajor_cons rowMajor_nil rowMajor_length)

theorem map_rowMajor_append {α : Type} (A B : Dims) (g : Nat → α) :
    (rowMajor (A ++ B)).map g = (rowMajor A).flatMap fun o => (rowMajor B).map fun i => g (o + i) := by
  rw [RtenVerif.Iter.rowMajor_append, List.map_flatMap]
  apply RtenVerif.flatMap_congr'
  intro o _
  rw [List.map_map]
  exact List.map_congr_left fun i _ => congrArg g (Nat.add_comm i o)

theorem chunks_blocks {β γ : Type} (L : Nat) (hL : 0 < L) (B : γ → List β) :
    ∀ (l : List γ) (fuel : Nat), (∀ x ∈ l, (B x).length = L) → l.length * L ≤ fuel →
    chunks L fuel (l.flatMap B) = l.map B
  | [], fuel, _, _ => by cases fuel <;> simp [chunks]
  | a :: l, fuel, hB, hf => by
    have hB0 := hB a (by simp)
    rw [List.flatMap_cons, List.map_cons]
    simp only [List.length_cons, Nat.succ_mul] at hf
    cases fuel with
    | zero => omega
    | succ fuel =>
      cases hb : B a with
      | nil => rw [hb] at hB0; simp at hB0; omega
      | cons x xs =>
        have hx : (x :: xs).length = L := by rw [← hb]; exact hB0
        simp only [List.cons_append, chunks]
        rw [← List.cons_append, List.take_left' hx, List.drop_left' hx,
          chunks_blocks L hL B l fuel (fun y hy => hB y (by simp [hy])) (by omega)]

theorem numel_sizes_append (A B : Dims) :
    RtenVerif.Arr.numel (sizes (A ++ B)) = RtenVerif.Arr.numel (sizes A) * RtenVerif.Arr.numel (sizes B) := by
  rw [sizes, List.map_append]; exact Arr.numel_append _ _

end RtenVerif.Layout
