import RtenVerif.Lemmas.ExecutorStep
import RtenVerif.Lemmas.PlannerBasic
import RtenVerif.Lemmas.ListBasics
/-!
# C02 — the simulation invariant between the executor and the naive evaluation

`Sim`: counters are exact (T1), everything in `temp_values` is a value node that is not a
borrowed input and holds the value the naive evaluation assigns to that id, and every id that
still has a use and has a naive value is still in `temp_values` (T2).  From it: the executor's
input lookup is the naive one (`lookupInput_eq`).  Then what the take phase of a step does to
`temp_values` when no capture can be taken by value (`TakeFacts`).
-/
namespace RtenVerif.Executor
open RtenVerif.Graph

def nocap {V : Type} : Nat → Option (V × Bool) := fun _ => none

/-- The value the naive evaluation assigns to an id (top-level run). -/
def val {V : Type} (r : Run V) (E : Nat → Option V) (v : Nat) : Option V := naiveLook r nocap E v

/-- Well-formedness of a run request (what `create_plan`'s argument checks and the graph
builders guarantee), for the code as it stands. -/
structure WF {V : Type} (r : Run V) : Prop where
  fixed : r.fixed = true
  /-- an id is not supplied twice (`Inputs are not unique`) -/
  disjoint : ∀ v, r.owned v ≠ none → r.borrowed v = none
  ownedKind : ∀ v, r.owned v ≠ none → isValueOrConstant r.g v = true
  /-- operator outputs are value nodes -/
  outsValue : ∀ i op, getOp r.g i = some op → ∀ o ∈ opOutputs op, isValue r.g o = true

/-- `p` of every operator node, as a `Bool` over the node table so that closed graphs evaluate it. -/
def allOps (g : Graph) (p : Nat → OpNode → Bool) : Bool :=
  (List.range g.nodes.length).all fun i =>
    match getOp g i with
    | some op => p i op
    | none => true

theorem allOps_spec {g : Graph} {p : Nat → OpNode → Bool} (h : allOps g p = true) {i : Nat}
    {op : OpNode} (hop : getOp g i = some op) : p i op = true :=
  Planner.forall_ops_of_check h hop

theorem outsValue_of_allOps {g : Graph}
    (h : allOps g (fun _ op => (opOutputs op).all (isValue g)) = true) :
    ∀ i op, getOp g i = some op → ∀ o ∈ opOutputs op, isValue g o = true :=
  fun _ _ hop => List.all_eq_true.mp (allOps_spec h hop)

/-- The value the naive evaluation assigns to an id when names not found in this graph's own
scope are read from the capture environment `caps0`. -/
def valC {V : Type} (r : Run V) (caps0 : Nat → Option (V × Bool)) (E : Nat → Option V) (v : Nat) :
    Option V := naiveLook r caps0 E v

/-- Well-formedness of a capture environment: it only defines ids listed in `Graph::captures()`;
those are value nodes without a producer in this graph that are not supplied as inputs
(capture placeholders); and nothing can be taken by value. -/
structure CapsWF {V : Type} (r : Run V) (caps0 : Nat → Option (V × Bool)) : Prop where
  dom : ∀ v, caps0 v ≠ none → r.g.captures.contains v = true
  kind : ∀ v, r.g.captures.contains v = true → isValue r.g v = true ∧ r.isInput v = false ∧
    ∀ i op, getOp r.g i = some op → v ∉ opOutputs op
  notake : ∀ v x b, caps0 v = some (x, b) → b = false

theorem capsWF_nocap {V : Type} (r : Run V) (h : r.g.captures = []) : CapsWF r (nocap : Nat → Option (V × Bool)) :=
  ⟨fun v hv => absurd rfl hv, fun v hv => by rw [h] at hv; simp at hv, fun v x b hv => by cases hv⟩

structure Sim {V : Type} (r : Run V) (caps0 : Nat → Option (V × Bool)) (total : Nat → Nat)
    (rest outs : List Nat) (st : St V) (E : Nat → Option V) : Prop where
  rcb : RcBounded st.rc
  rc : RcInv r.g total rest outs st.rc
  caps : st.caps = caps0
  capE : ∀ v, r.g.captures.contains v = true → E v = none
  agree : ∀ v x, st.temps v = some x →
    isValue r.g v = true ∧ r.borrowed v = none ∧ val r E v = some x
  live : ∀ v, isValue r.g v = true → r.borrowed v = none → 0 < uses r.g rest outs v →
    val r E v ≠ none → st.temps v ≠ none

theorem Sim.noTake {V : Type} {r : Run V} {caps0 : Nat → Option (V × Bool)} {total : Nat → Nat}
    {rest outs : List Nat} {st : St V} {E : Nat → Option V} (hs : Sim r caps0 total rest outs st E)
    (hcw : CapsWF r caps0) : NoTake st := by
  intro v x b h; rw [hs.caps] at h; exact hcw.notake v x b h

theorem isValue_getNode {g : Graph} {v : Nat} (h : isValue g v = true) : getNode g v = some .value := by
  unfold isValue at h
  split at h
  · assumption
  · simp at h

theorem isValue_not_const {g : Graph} {v : Nat} (h : isValue g v = true) : isConstant g v = false := by
  simp [isConstant, isValue_getNode h]

theorem isValue_of_voc {g : Graph} {v : Nat} (h1 : isValueOrConstant g v = true)
    (h2 : isConstant g v = false) : isValue g v = true := by
  rcases Planner.isValueOrConstant_iff.mp h1 with hn | hn
  · rw [isValue, hn]
  · rw [isConstant, hn] at h2; cases h2

theorem initTemps_some {V : Type} {r : Run V} (hwf : WF r) {v : Nat} {x : V}
    (hx : initTemps r v = some x) : r.owned v = some x ∧ isValue r.g v = true ∧
      isConstant r.g v = false ∧ r.borrowed v = none := by
  simp only [initTemps, hwf.fixed, Bool.true_and] at hx
  split at hx
  · cases hx
  · rename_i hnc
    have hnc' : isConstant r.g v = false := by simpa using hnc
    have hne : r.owned v ≠ none := by rw [hx]; simp
    exact ⟨hx, isValue_of_voc (hwf.ownedKind v hne) hnc', hnc', hwf.disjoint v hne⟩

theorem naiveLook_eq {V : Type} (r : Run V) (c : Nat → Option (V × Bool)) (E : Nat → Option V)
    (v : Nat) :
    naiveLook r c E v =
      if isConstant r.g v = true then some (r.consts v)
      else if isValue r.g v = true then
        match r.borrowed v with
        | some x => some x
        | none =>
          match r.owned v with
          | some x => some x
          | none =>
            match E v with
            | some x => some x
            | none => (c v).map (fun p => p.1)
      else none := by
  unfold naiveLook isConstant isValue
  cases getNode r.g v with
  | none => rfl
  | some n => cases n <;> rfl

theorem constOrInput_eq {V : Type} (r : Run V) (v : Nat) :
    constOrInput r v =
      if isConstant r.g v = true then .found (r.consts v)
      else if isValue r.g v = true then
        match r.borrowed v with
        | some x => .found x
        | none => .missing
      else .bad := by
  unfold constOrInput isConstant isValue
  cases getNode r.g v with
  | none => rfl
  | some n => cases n <;> rfl

theorem val_value {V : Type} {r : Run V} {E : Nat → Option V} {v : Nat}
    (hv : isValue r.g v = true) (hb : r.borrowed v = none) :
    val r E v = match r.owned v with
      | some x => some x
      | none => E v := by
  simp only [val, naiveLook, isValue_getNode hv, hb, nocap]
  cases r.owned v with
  | some x => rfl
  | none => cases E v <;> rfl

theorem valC_eq {V : Type} (r : Run V) (caps0 : Nat → Option (V × Bool)) (E : Nat → Option V) (v : Nat) :
    valC r caps0 E v = match val r E v with
      | some x => some x
      | none => if isValue r.g v = true then (caps0 v).map (fun p => p.1) else none := by
  rw [valC, val, naiveLook_eq, naiveLook_eq]
  split
  · rfl
  · split
    · cases r.borrowed v with
      | some b => rfl
      | none =>
        cases r.owned v with
        | some o => rfl
        | none => cases E v <;> rfl
    · rfl

theorem valC_of_val {V : Type} {r : Run V} {caps0 : Nat → Option (V × Bool)} {E : Nat → Option V}
    {v : Nat} {x : V} (h : val r E v = some x) : valC r caps0 E v = some x := by
  rw [valC_eq, h]

theorem Sim.temps_eq_val {V : Type} {r : Run V} {caps0 : Nat → Option (V × Bool)} {total : Nat → Nat}
    {rest outs : List Nat} {st : St V} {E : Nat → Option V} (hs : Sim r caps0 total rest outs st E)
    {d : Nat} (hv : isValue r.g d = true) (hb : r.borrowed d = none)
    (hu : 0 < uses r.g rest outs d) : st.temps d = val r E d := by
  cases ht : st.temps d with
  | some x => exact (hs.agree d x ht).2.2.symm
  | none =>
    cases hval : val r E d with
    | none => rfl
    | some y => exact absurd ht (hs.live d hv hb hu (by rw [hval]; exact Option.some_ne_none y))

theorem lookupInput_eq {V : Type} {r : Run V} {caps0 : Nat → Option (V × Bool)} {total : Nat → Nat}
    {rest outs : List Nat} {st : St V} {E : Nat → Option V} (hs : Sim r caps0 total rest outs st E)
    (d : Nat) (hu : isValue r.g d = true → 0 < uses r.g rest outs d) :
    lookupInput r st d = valC r caps0 E d := by
  rw [valC_eq, lookupInput, constOrInput_eq, val, naiveLook_eq]
  by_cases hc : isConstant r.g d = true
  · simp only [hc, if_true]
  · by_cases hv : isValue r.g d = true
    · cases hb : r.borrowed d with
      | some b => simp [hc, hv]
      | none =>
        have := hs.temps_eq_val hv hb (hu hv)
        rw [val, naiveLook_eq, if_neg hc, if_pos hv, hb] at this
        simp only [hc, hv, this, hs.caps, if_true, if_false, Bool.false_eq_true]
        cases r.owned d with
        | some o => rfl
        | none => cases E d <;> cases caps0 d <;> rfl
    · simp [hc, hv]

theorem enumSome_mem {l : List (Option Nat)} {k p id : Nat} (h : (p, id) ∈ enumSome l k) :
    k ≤ p ∧ l[p - k]? = some (some id) := by
  induction l generalizing k with
  | nil => cases h
  | cons x xs ih =>
    have tail : (p, id) ∈ enumSome xs (k + 1) → k ≤ p ∧ (x :: xs)[p - k]? = some (some id) := by
      intro h'
      obtain ⟨h1, h2⟩ := ih h'
      rw [show p - k = (p - (k + 1)) + 1 by omega]
      exact ⟨Nat.le_of_succ_le h1, h2⟩
    cases x with
    | none => exact tail h
    | some y =>
      rcases List.mem_cons.mp h with heq | h'
      · cases heq; exact ⟨Nat.le_refl _, by rw [Nat.sub_self]; rfl⟩
      · exact tail h'

theorem maxByKeyLast_mem {α : Type} (key : α → Nat) (xs : List α) (c : α)
    (h : maxByKeyLast key xs = some c) : c ∈ xs := by
  unfold maxByKeyLast at h
  rcases foldl_max_mem key xs none c h with h' | h'
  · exact h'
  · simp at h'

theorem candidates_spec {V : Type} {ops : Ops V} {i : Nat} {op : OpNode} {temps : Nat → Option V}
    {c : Nat × Nat} (h : c ∈ candidates ops i op temps) :
    op.inputs[c.1]? = some (some c.2) ∧ (c.1 ∈ ops.inPlaceIdx i ∨ op.commutative = true) := by
  unfold candidates at h
  split at h
  · simp at h
  · split at h
    · rename_i hcomm
      split at h
      · rename_i c' hc'
        simp only [List.mem_singleton] at h
        subst h
        have := enumSome_mem (maxByKeyLast_mem _ _ _ hc')
        exact ⟨by simpa using this.2, Or.inr hcomm⟩
      · simp at h
    · simp only [List.mem_filterMap] at h
      obtain ⟨pos, hpos, hf⟩ := h
      split at hf
      · rename_i id hid
        simp only [Option.some.injEq] at hf
        subst hf
        exact ⟨hid, Or.inl hpos⟩
      · simp at hf

theorem mem_opInputs {op : OpNode} {p id : Nat} (h : op.inputs[p]? = some (some id)) :
    id ∈ opInputs op := by
  unfold opInputs
  rw [List.mem_filterMap]
  exact ⟨some id, List.mem_of_getElem? h, rfl⟩

theorem mem_opDeps_input (g : Graph) {op : OpNode} {p id : Nat} (h : op.inputs[p]? = some (some id)) :
    id ∈ opDeps g op := List.mem_append_left _ (mem_opInputs h)

theorem mem_opDeps_cap {g : Graph} {op : OpNode} {x : Nat} (h : x ∈ capDeps g op) : x ∈ opDeps g op :=
  List.mem_append_right _ h

theorem count_two {l : List (Option Nat)} {p q id : Nat} (hp : l[p]? = some (some id))
    (hq : l[q]? = some (some id)) (hne : p ≠ q) : 2 ≤ (l.filterMap _root_.id).count id := by
  suffices ∀ {p q}, l[p]? = some (some id) → l[q]? = some (some id) → p < q →
      2 ≤ (l.filterMap _root_.id).count id by
    rcases Nat.lt_or_gt_of_ne hne with h | h
    · exact this hp hq h
    · exact this hq hp h
  clear hp hq hne
  intro p q hp hq hpq
  induction l generalizing p q with
  | nil => cases hp
  | cons x xs ih =>
    cases q with
    | zero => cases hpq
    | succ q =>
    rw [List.getElem?_cons_succ] at hq
    cases p with
    | zero =>
      cases hp
      have : id ∈ xs.filterMap _root_.id := List.mem_filterMap.mpr ⟨some id, List.mem_of_getElem? hq, rfl⟩
      have := List.count_pos_iff.mpr this
      show 2 ≤ (id :: xs.filterMap _root_.id).count id
      rw [List.count_cons_self]; exact Nat.succ_le_succ this
    | succ p =>
      have := ih hp hq (Nat.lt_of_succ_lt_succ hpq)
      cases x with
      | none => exact this
      | some y => exact Nat.le_trans this (List.count_le_count_cons (b := y))

theorem count_two_deps (g : Graph) {op : OpNode} {p q id : Nat} (hp : op.inputs[p]? = some (some id))
    (hq : op.inputs[q]? = some (some id)) (hne : p ≠ q) : 2 ≤ (opDeps g op).count id := by
  rw [opDeps_eq, List.count_append]
  exact Nat.le_trans (count_two hp hq hne) (Nat.le_add_right _ _)

/-- What the take phase of a step (in-place candidates, then by-value captures) does to
`temp_values` when no capture can be taken by value. -/
structure TakeFacts {V : Type} (ops : Ops V) (r : Run V) (st : St V) (i : Nat) (op : OpNode)
    (taken : List (Nat × V)) (st2 : St V) (byVal : List (Nat × V)) : Prop where
  rc : st2.rc = st.rc
  caps : st2.caps = st.caps
  htaken : ∀ p v, (p, v) ∈ taken → ∃ id, op.inputs[p]? = some (some id) ∧
    (p ∈ ops.inPlaceIdx i ∨ op.commutative = true) ∧ st.rc id = 1 ∧ st.temps id = some v
  htemps : ∀ x, st2.temps x = st.temps x ∨
    (st2.temps x = none ∧ st.rc x = 1 ∧ x ∈ opDeps r.g op ∧ st.temps x ≠ none)
  /-- an input that is not at a taken position is untouched, given counts are exact -/
  untouched : ∀ p d, p ∉ taken.map (fun t => t.1) → op.inputs[p]? = some (some d) →
    (st.rc d = 1 → st.temps d ≠ none → (opDeps r.g op).count d ≤ 1) → st2.temps d = st.temps d
  hbyVal : ∀ x v, (x, v) ∈ byVal → x ∈ capDeps r.g op ∧ st.temps x = some v ∧ st2.temps x = none
  capd : ∀ x, x ∈ capDeps r.g op → st2.temps x = st.temps x ∨
    (st2.temps x = none ∧ ∃ v, st.temps x = some v ∧ (x, v) ∈ byVal)
  notaken : taken = [] → ∀ x, x ∉ capDeps r.g op → st2.temps x = st.temps x
  nonempty : taken ≠ [] → ops.inPlaceIdx i ≠ []
  hpos : taken = [] ∨ taken.map (fun t => t.1) = (candidates ops i op st.temps).map (fun c => c.1)

theorem capDeps_not_input {g : Graph} {op : OpNode} {x : Nat} (h : x ∈ capDeps g op) :
    x ∉ opInputs op := by
  unfold capDeps at h
  rw [List.mem_filter] at h
  intro hx
  unfold opInputs at hx
  rw [List.mem_filterMap] at hx
  obtain ⟨a, ha, hid⟩ := hx
  simp only [id] at hid
  subst hid
  have := h.2
  simp only [Bool.and_eq_true, Bool.not_eq_true', decide_eq_true_eq] at this
  have h2 := this.2
  rw [List.contains_eq_mem] at h2
  simp [ha] at h2

theorem takeFacts_of_phases {V : Type} {ops : Ops V} {r : Run V} {st : St V} {i : Nat} {op : OpNode}
    {st1 : St V} {taken : List (Nat × V)} {st2 : St V} {byVal : List (Nat × V)}
    (htake : (if (!(candidates ops i op st.temps).isEmpty &&
      (candidates ops i op st.temps).all (fun c => canTake r st c.2) && !r.neverInPlace) = true
      then takeAll r st (candidates ops i op st.temps) else some (st, [])) = some (st1, taken))
    (hbv : (if ops.isSubgraph i = true then takeByValue r st1 (capDeps r.g op) else (st1, []))
      = (st2, byVal)) (hc : NoTake st) :
    TakeFacts ops r st i op taken st2 byVal := by
  -- both phases are runs of their loop over a sublist: all of it, or nothing
  obtain ⟨tc, htcd, htake'⟩ : ∃ tc, (tc = candidates ops i op st.temps ∨ tc = []) ∧
      takeAll r st tc = some (st1, taken) := by
    split at htake
    · exact ⟨_, Or.inl rfl, htake⟩
    · exact ⟨[], Or.inr rfl, htake⟩
  obtain ⟨ds, hds, hbv'⟩ : ∃ ds, (∀ x ∈ ds, x ∈ capDeps r.g op) ∧
      takeByValue r st1 ds = (st2, byVal) := by
    split at hbv
    · exact ⟨_, fun x h => h, hbv⟩
    · exact ⟨[], fun x h => (nomatch h), hbv⟩
  have htc : ∀ c ∈ tc, c ∈ candidates ops i op st.temps := by
    rcases htcd with rfl | rfl
    · exact fun c h => h
    · exact fun c h => nomatch h
  -- together they move `got ++ byVal` out of `temp_values`
  obtain ⟨got, M1, hk, hp, hm⟩ := takeAll_moved hc htake'
  have M2 := takeByValue_moved r ds (M1.noTake hc)
  rw [hbv'] at M2
  have M := M1.append M2.1
  have hkeys : ∀ {x}, x ∈ (got ++ byVal).map (fun p => p.1) →
      x ∈ got.map (fun p => p.1) ∨ x ∈ byVal.map (fun p => p.1) := fun h => by
    rwa [List.map_append, List.mem_append] at h
  -- the first phase moved inputs at taken positions, the second captured dependencies
  have hgot : ∀ {x}, x ∈ got.map (fun p => p.1) →
      ∃ q, q ∈ taken.map (fun t => t.1) ∧ op.inputs[q]? = some (some x) := by
    intro x hx
    rw [hk] at hx
    obtain ⟨c, hcm, rfl⟩ := List.mem_map.mp hx
    exact ⟨c.1, hp ▸ List.mem_map_of_mem hcm, (candidates_spec (htc c hcm)).1⟩
  have hbvk : ∀ {x}, x ∈ byVal.map (fun p => p.1) → x ∈ capDeps r.g op := by
    intro x hx
    obtain ⟨⟨y, v⟩, hm, rfl⟩ := List.mem_map.mp hx
    exact hds _ (M2.2 y v hm)
  refine ⟨M.rc, M.caps, ?_, ?_, ?_, ?_, ?_, ?_, ?_, ?_⟩
  · intro p v hpv
    obtain ⟨id, hcm, hg⟩ := hm p v hpv
    have hs := candidates_spec (htc _ hcm)
    exact ⟨id, hs.1, hs.2, M1.had id v hg⟩
  · intro x
    rw [M.temps x]
    split
    · rename_i hx
      obtain ⟨⟨y, v⟩, hmem, rfl⟩ := List.mem_map.mp hx
      obtain ⟨hr, ht⟩ := M.had y v hmem
      refine Or.inr ⟨rfl, hr, ?_, by rw [ht]; simp⟩
      rcases hkeys hx with h | h
      · obtain ⟨q, _, hq⟩ := hgot h
        exact mem_opDeps_input r.g hq
      · exact mem_opDeps_cap (hbvk h)
    · exact Or.inl rfl
  · intro p d hp' hd hcount
    rw [M.temps d, if_neg]
    intro hx
    rcases hkeys hx with h | h
    · -- `d` also sits at a taken position `q ≠ p`: it occurs twice
      obtain ⟨q, hq, hqd⟩ := hgot h
      obtain ⟨⟨y, v⟩, hmem, rfl⟩ := List.mem_map.mp hx
      obtain ⟨hr, ht⟩ := M.had y v hmem
      have := count_two_deps r.g hd hqd (by rintro rfl; exact hp' hq)
      have := hcount hr (by rw [ht]; simp)
      omega
    · exact capDeps_not_input (hbvk h) (mem_opInputs hd)
  · intro x v hxv
    refine ⟨hds x (M2.2 x v hxv), (M.had x v (List.mem_append_right _ hxv)).2, ?_⟩
    rw [M.temps x, if_pos]
    exact List.mem_map_of_mem (List.mem_append_right _ hxv)
  · intro x hx
    rw [M.temps x]
    split
    · rename_i hk'
      rcases hkeys hk' with h | h
      · obtain ⟨q, _, hq⟩ := hgot h
        exact absurd (mem_opInputs hq) (capDeps_not_input hx)
      · obtain ⟨⟨y, v⟩, hmem, rfl⟩ := List.mem_map.mp h
        exact Or.inr ⟨rfl, v, (M.had y v (List.mem_append_right _ hmem)).2, hmem⟩
    · exact Or.inl rfl
  · intro ht x hx
    rw [M.temps x, if_neg]
    intro hk'
    rcases hkeys hk' with h | h
    · obtain ⟨q, hq, _⟩ := hgot h
      rw [ht] at hq; cases hq
    · exact hx (hbvk h)
  · intro hne hidx
    cases htk : taken with
    | nil => exact hne htk
    | cons t ts =>
      obtain ⟨id, hcm, _⟩ := hm t.1 t.2 (by rw [htk]; exact List.mem_cons_self)
      have := htc _ hcm
      unfold candidates at this
      simp [hidx] at this
  · rcases htcd with h | h
    · exact Or.inr (h ▸ hp)
    · subst h
      exact Or.inl (List.map_eq_nil_iff.mp hp)

theorem takeFacts {V : Type} {ops : Ops V} {r : Run V} {st st' : St V} {i : Nat} {tr : StepTrace}
    (P : StepParts ops r st st' i tr) (hc : NoTake st) :
    TakeFacts ops r st i P.op P.taken P.st2 P.byVal := takeFacts_of_phases P.htake P.hbyval hc

end RtenVerif.Executor
