import RtenVerif.Model.ConstNarrow

/-! Lemmas for C20.  The notion everything turns on is `IsRne x u n`: `n * u` is the multiple of `u`
nearest to `x`, the even one of two equally near.  `rneShift` computes it for `u = 2^sh`; the
relation survives scaling `x` and `u` alike, so `f32OfScaled M E` yields a significand `k` at
quantum `q` with `IsRne (M * 2^E) (2^q) k` whether or not a shift takes place, and
nearest / ties-to-even / the overflow threshold are read off that relation. -/
namespace RtenVerif.ConstNarrow

theorem absDiff_self (a : Nat) : absDiff a a = 0 := by unfold absDiff; omega

theorem absDiff_mul (a b c : Nat) : absDiff (a * c) (b * c) = absDiff a b * c := by
  unfold absDiff
  rw [Nat.add_mul, Nat.sub_mul, Nat.sub_mul]

theorem absDiff_eq_zero {a b : Nat} (h : absDiff a b = 0) : a = b := by
  unfold absDiff at h; omega

theorem mul_step_le {j k : Nat} (u : Nat) (h : j + 1 ≤ k) : j * u + u ≤ k * u :=
  Nat.succ_mul j u ▸ Nat.mul_le_mul_right u h

/-- `n * u` is `x` rounded to the nearest multiple of `u`, a tie going to the even multiple
(`|x - n * u| ≤ u / 2`, doubled to stay in `Nat`). -/
def IsRne (x u n : Nat) : Prop :=
  2 * (n * u) ≤ 2 * x + u ∧ 2 * x ≤ 2 * (n * u) + u ∧
    (2 * (n * u) = 2 * x + u ∨ 2 * x = 2 * (n * u) + u → n % 2 = 0)

theorem rneShift_isRne (x sh : Nat) : IsRne x (2 ^ sh) (rneShift x sh) := by
  have hr := Nat.mod_lt x (Nat.two_pow_pos sh)
  have hx := Nat.div_add_mod' x (2 ^ sh)
  unfold rneShift IsRne
  generalize x / 2 ^ sh = k at *
  generalize x % 2 ^ sh = r at *
  generalize 2 ^ sh = u at *
  simp only
  split
  · rw [Nat.add_one_mul k u]; omega
  · omega

theorem IsRne.of_eq {x u n : Nat} (hu : 0 < u) (h : x = n * u) : IsRne x u n := by
  unfold IsRne; omega

theorem IsRne.mul_right {x u n : Nat} (h : IsRne x u n) {w : Nat} (hw : 0 < w) :
    IsRne (x * w) (u * w) n := by
  obtain ⟨h1, h2, h3⟩ := h
  have e1 : 2 * (n * (u * w)) = 2 * (n * u) * w := by simp only [Nat.mul_assoc]
  have e2 : 2 * (x * w) + u * w = (2 * x + u) * w := by rw [Nat.add_mul, Nat.mul_assoc]
  have e3 : 2 * (n * u) * w + u * w = (2 * (n * u) + u) * w := (Nat.add_mul ..).symm
  have e4 : 2 * (x * w) = 2 * x * w := (Nat.mul_assoc ..).symm
  unfold IsRne
  rw [e1, e2, e3, e4]
  exact ⟨Nat.mul_le_mul_right w h1, Nat.mul_le_mul_right w h2,
    fun h => h3 (h.imp (Nat.eq_of_mul_eq_mul_right hw) (Nat.eq_of_mul_eq_mul_right hw))⟩

theorem IsRne.nearest {x u n : Nat} (h : IsRne x u n) (j : Nat) :
    absDiff x (n * u) ≤ absDiff x (j * u) ∧
    (j ≠ n → absDiff x (n * u) = absDiff x (j * u) → n % 2 = 0) := by
  obtain ⟨h1, h2, h3⟩ := h
  unfold absDiff
  rcases Nat.lt_trichotomy j n with hj | hj | hj
  · have := mul_step_le u hj; omega
  · subst hj; exact ⟨Nat.le_refl _, fun h => absurd rfl h⟩
  · have := mul_step_le u hj; omega

theorem rneShift_nearest (x sh j : Nat) :
    absDiff x (rneShift x sh * 2 ^ sh) ≤ absDiff x (j * 2 ^ sh) :=
  ((rneShift_isRne x sh).nearest j).1

theorem rneShift_tie_even (x sh j : Nat) (hne : j ≠ rneShift x sh)
    (heq : absDiff x (rneShift x sh * 2 ^ sh) = absDiff x (j * 2 ^ sh)) :
    rneShift x sh % 2 = 0 :=
  ((rneShift_isRne x sh).nearest j).2 hne heq

theorem IsRne.le_of_le {x u n : Nat} (h : IsRne x u n) {a : Nat} (hx : a * u ≤ x) (hu : 0 < u) :
    a ≤ n := by
  apply Nat.le_of_not_lt; intro hlt
  have := mul_step_le u hlt
  have := h.2.1; omega

theorem IsRne.le_of_lt {x u n : Nat} (h : IsRne x u n) {a : Nat} (hx : x < a * u) : n ≤ a := by
  apply Nat.le_of_not_lt; intro hlt
  have := mul_step_le u hlt
  have := h.1; omega

theorem IsRne.succ_le_iff {x u n : Nat} (h : IsRne x u n) (hu : 0 < u) {t : Nat} (ht : t % 2 = 1) :
    t + 1 ≤ n ↔ (2 * t + 1) * u ≤ 2 * x := by
  obtain ⟨h1, h2, h3⟩ := h
  rw [show (2 * t + 1) * u = 2 * (t * u) + u by rw [Nat.add_mul, Nat.one_mul, Nat.mul_assoc]]
  rcases Nat.lt_trichotomy n t with hj | hj | hj
  · have := mul_step_le u hj; omega
  · subst hj; omega
  · have := mul_step_le u hj; omega

theorem bitLen_spec (M : Nat) (h : M ≠ 0) : 2 ^ (bitLen M - 1) ≤ M ∧ M < 2 ^ bitLen M ∧ 1 ≤ bitLen M := by
  simp only [bitLen, h, if_false, Nat.add_sub_cancel]
  exact ⟨Nat.log2_self_le h, Nat.lt_log2_self, Nat.le_add_left 1 _⟩

/-- Decoding of the bit pattern the model builds from a significand `k ≤ 2^24` (carry included)
at quantum exponent `q`: its value is `k * 2^q`. -/
theorem f32MagValue_encode (q k : Nat) (hq : 925 ≤ q) (hk : k ≤ 2 ^ 24) (hn : 2 ^ 23 ≤ k ∨ q = 925) :
    f32MagValue ((q - 925) * 2 ^ 23 + k) = k * 2 ^ q := by
  unfold f32MagValue
  simp only
  by_cases h1 : k < 2 ^ 23
  · -- subnormal: `q = 925`, exponent field 0
    obtain rfl : q = 925 := by omega
    rw [show ((925 - 925) * 2 ^ 23 + k) / 2 ^ 23 = 0 by omega,
      show ((925 - 925) * 2 ^ 23 + k) % 2 ^ 23 = k by omega, if_pos rfl]
  · by_cases h2 : k < 2 ^ 24
    · rw [show ((q - 925) * 2 ^ 23 + k) / 2 ^ 23 = q - 925 + 1 by omega,
        show ((q - 925) * 2 ^ 23 + k) % 2 ^ 23 = k - 2 ^ 23 by omega, if_neg (by omega),
        show q - 925 + 1 - 1 + 925 = q by omega, show 2 ^ 23 + (k - 2 ^ 23) = k by omega]
    · -- the carry `k = 2^24` moves into the exponent field
      obtain rfl : k = 2 ^ 24 := by omega
      rw [show ((q - 925) * 2 ^ 23 + 2 ^ 24) / 2 ^ 23 = q - 925 + 2 by omega,
        show ((q - 925) * 2 ^ 23 + 2 ^ 24) % 2 ^ 23 = 0 by omega, if_neg (by omega),
        show q - 925 + 2 - 1 + 925 = q + 1 by omega, Nat.pow_succ]
      omega

/-- Every finite f32 magnitude is `n * 2^c` with a 24-bit `n` and a quantum `c ≥ 925`
(i.e. `≥ 2^-149` unscaled). -/
theorem f32_finite_form (y : Nat) : ∃ n c, f32MagValue y = n * 2 ^ c ∧ n < 2 ^ 24 ∧ 925 ≤ c := by
  have := Nat.mod_lt y (Nat.two_pow_pos 23)
  unfold f32MagValue
  by_cases h : y / 2 ^ 23 = 0
  · exact ⟨y % 2 ^ 23, 925, by simp only [h, if_true], by omega, by omega⟩
  · exact ⟨2 ^ 23 + y % 2 ^ 23, y / 2 ^ 23 - 1 + 925, by simp only [h, if_false], by omega, by omega⟩

theorem f64MagValue_eq (b : Nat) : f64MagValue b = f64Sig b * 2 ^ f64Exp b := by
  unfold f64MagValue f64Sig f64Exp
  by_cases h : b / 2 ^ 52 = 0 <;> simp [h]

theorem f32OfScaled_parts (M E : Nat) :
    ∃ q k, 925 ≤ q ∧ k ≤ 2 ^ 24 ∧ (2 ^ 23 ≤ k ∨ q = 925) ∧
      f32OfScaled M E = (if (q - 925) * 2 ^ 23 + k ≥ f32Inf then f32Inf else (q - 925) * 2 ^ 23 + k) ∧
      IsRne (M * 2 ^ E) (2 ^ q) k ∧ (2 ^ 23 * 2 ^ q ≤ M * 2 ^ E ∨ q = 925) ∧
      M * 2 ^ E < 2 ^ 24 * 2 ^ q := by
  by_cases hM : M = 0
  · subst hM
    have hR : IsRne 0 (2 ^ 925) 0 := by unfold IsRne; omega
    rw [Nat.zero_mul]
    exact ⟨925, 0, Nat.le_refl _, Nat.zero_le _, .inr rfl, by simp [f32OfScaled, f32Inf], hR,
      .inr rfl, by omega⟩
  obtain ⟨hlo, hhi, hL1⟩ := bitLen_spec M hM
  have hdef : f32OfScaled M E = _ := if_neg hM
  simp only at hdef
  generalize bitLen M = L at *
  generalize hq : max (E + L - 24) 925 = q at hdef
  have hw := Nat.two_pow_pos E
  have hQ := Nat.two_pow_pos q
  -- `M * 2^E < 2^(L+E) ≤ 2^(24+q)`
  have hX : M * 2 ^ E < 2 ^ 24 * 2 ^ q :=
    calc M * 2 ^ E < 2 ^ L * 2 ^ E := Nat.mul_lt_mul_of_pos_right hhi hw
      _ = 2 ^ (L + E) := (Nat.pow_add ..).symm
      _ ≤ 2 ^ (24 + q) := Nat.pow_le_pow_right (by omega) (by omega)
      _ = 2 ^ 24 * 2 ^ q := Nat.pow_add ..
  -- unless clamped to the subnormal quantum, `q + 23 = E + (L - 1)`
  have hN : 2 ^ 23 * 2 ^ q ≤ M * 2 ^ E ∨ q = 925 := by
    by_cases h : q = 925
    · exact .inr h
    · refine .inl ?_
      rw [← Nat.pow_add, show 23 + q = L - 1 + E by omega, Nat.pow_add]
      exact Nat.mul_le_mul_right _ hlo
  generalize hk : (if q ≤ E then M * 2 ^ (E - q) else rneShift M (q - E)) = k at hdef
  have hR : IsRne (M * 2 ^ E) (2 ^ q) k := by
    split at hk
    · rename_i hle
      refine .of_eq hQ ?_
      rw [← hk, ← Nat.pow_sub_mul_pow 2 hle, Nat.mul_assoc]
    · rw [← hk, ← Nat.pow_sub_mul_pow 2 (show E ≤ q by omega)]
      exact (rneShift_isRne M (q - E)).mul_right hw
  exact ⟨q, k, by omega, hR.le_of_lt hX, hN.imp_left (hR.le_of_le · hQ), hdef, hR, hN, hX⟩

theorem f32OfScaled_le_inf (M E : Nat) : f32OfScaled M E ≤ f32Inf := by
  obtain ⟨q, k, _, _, _, hdef, _⟩ := f32OfScaled_parts M E
  rw [hdef]
  split <;> omega

/-- **Core.** For every value `M * 2^E` whose rounding is finite, the result is at least as close
as any f32-representable magnitude `n * 2^c` (`n < 2^24`, quantum `c ≥ 925`), and if a
*different* representable value is exactly as close, the result's bit pattern is even. -/
theorem f32OfScaled_nearest (M E n c : Nat) (hc : 925 ≤ c) (hn : n < 2 ^ 24)
    (hfin : f32OfScaled M E < f32Inf) :
    absDiff (M * 2 ^ E) (f32MagValue (f32OfScaled M E)) ≤ absDiff (M * 2 ^ E) (n * 2 ^ c) ∧
    (f32MagValue (f32OfScaled M E) ≠ n * 2 ^ c →
      absDiff (M * 2 ^ E) (f32MagValue (f32OfScaled M E)) = absDiff (M * 2 ^ E) (n * 2 ^ c) →
      f32OfScaled M E % 2 = 0) := by
  obtain ⟨q, k, hq, hk, hnorm, hdef, hR, hN, hX⟩ := f32OfScaled_parts M E
  have hr : f32OfScaled M E = (q - 925) * 2 ^ 23 + k := by
    rw [hdef] at hfin ⊢
    split at hfin
    · exact absurd hfin (Nat.lt_irrefl _)
    · rw [if_neg ‹_›]
  rw [hr, f32MagValue_encode q k hq hk hnorm]
  by_cases hcq : q ≤ c
  · -- `n * 2^c` lies on the grid of multiples of `2^q`
    have hY : n * 2 ^ c = n * 2 ^ (c - q) * 2 ^ q := by rw [Nat.mul_assoc, Nat.pow_sub_mul_pow 2 hcq]
    obtain ⟨h1, h2⟩ := hR.nearest (n * 2 ^ (c - q))
    rw [hY]
    refine ⟨h1, fun hne heq => ?_⟩
    have := h2 (fun h => hne (by rw [h])) heq
    omega
  · -- `n * 2^c` is finer than the result's quantum, hence below the grid point
    -- `2^23 * 2^q ≤ M * 2^E`, which is itself no closer than the result
    have hA := hN.resolve_right (by omega)
    have hY : n * 2 ^ c < 2 ^ 23 * 2 ^ q :=
      calc n * 2 ^ c < 2 ^ 24 * 2 ^ c := Nat.mul_lt_mul_of_pos_right hn (Nat.two_pow_pos c)
        _ = 2 ^ (24 + c) := (Nat.pow_add ..).symm
        _ ≤ 2 ^ (23 + q) := Nat.pow_le_pow_right (by omega) (by omega)
        _ = 2 ^ 23 * 2 ^ q := Nat.pow_add ..
    have h1 := (hR.nearest (2 ^ 23)).1
    unfold absDiff at h1 ⊢
    omega

/-- **Overflow rule.** The result is infinity exactly from `2^128 - 2^103` on (scaled:
`(2^25 - 1) * 2^1177`), the midpoint between `f32::MAX` and `2^128`. -/
theorem f32OfScaled_overflow (M E : Nat) :
    f32OfScaled M E = f32Inf ↔ (2 ^ 25 - 1) * 2 ^ 1177 ≤ M * 2 ^ E := by
  obtain ⟨q, k, hq, hk, hnorm, hdef, hR, hN, hX⟩ := f32OfScaled_parts M E
  have hiff : f32OfScaled M E = f32Inf ↔ 255 * 2 ^ 23 ≤ (q - 925) * 2 ^ 23 + k := by
    rw [hdef]; unfold f32Inf; split <;> omega
  rw [hiff]
  rcases Nat.lt_trichotomy q 1178 with h | h | h
  · -- finite, and `M * 2^E < 2^24 * 2^q ≤ 2^24 * 2^1177`
    have := Nat.pow_le_pow_right (n := 2) (by omega) (show q ≤ 1177 by omega)
    generalize 2 ^ q = Q at *
    generalize 2 ^ 1177 = T at *
    omega
  · -- infinity iff the significand carries to `2^24`: from the midpoint above the odd `2^24 - 1` on
    have hge := hR.succ_le_iff (Nat.two_pow_pos _) (t := 2 ^ 24 - 1) (by omega)
    have := Nat.pow_sub_mul_pow 2 (show 1177 ≤ q by omega)
    rw [show q - 1177 = 1 by omega] at this
    generalize 2 ^ q = Q at *
    generalize 2 ^ 1177 = T at *
    omega
  · -- always infinity, and `M * 2^E ≥ 2^23 * 2^q ≥ 2^25 * 2^1177`
    have hA := hN.resolve_right (by omega)
    have hk23 := hnorm.resolve_right (by omega)
    have := Nat.mul_le_mul_right (2 ^ 1177)
      (Nat.pow_le_pow_right (n := 2) (by omega) (show 2 ≤ q - 1177 by omega))
    rw [Nat.pow_sub_mul_pow 2 (show 1177 ≤ q by omega)] at this
    generalize 2 ^ q = Q at *
    generalize 2 ^ 1177 = T at *
    omega

end RtenVerif.ConstNarrow
