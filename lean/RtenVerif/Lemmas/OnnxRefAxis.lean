import RtenVerif.Lemmas.OnnxRefIndex
/-! Operators that act along one axis and read their input at `withAt idx ax _`:
Concat / Split (`concat2`, `narrow`), Tile, CumSum. -/
namespace RtenVerif.OnnxRef

theorem get_narrow (x : Tensor) (ax off n : Nat) (idx : List Nat)
    (hv : validIdx (withAt x.shape ax n) idx = true) :
    (narrow x ax off n).get idx = x.get (withAt idx ax (getN idx ax + off)) :=
  get_build _ _ _ hv

theorem concat2_narrow_adj (x : Tensor) (ax off a b : Nat) (hax : ax < x.shape.length) :
    concat2 ax (narrow x ax off a) (narrow x ax (off + a) b) = narrow x ax off (a + b) := by
  have hs : ∀ o n, (narrow x ax o n).shape = withAt x.shape ax n := fun _ _ => rfl
  unfold concat2
  rw [hs, hs, getN_withAt_same _ _ _ hax, getN_withAt_same _ _ _ hax]
  simp only [withAt_withAt]
  apply build_congr
  intro idx hv
  have hi : getN idx ax < a + b := by
    have := validIdx_lt hv (k := ax) (by simpa using hax)
    rwa [getN_withAt_same _ _ _ hax] at this
  have haxi : ax < idx.length := by
    rw [validIdx_length hv, length_withAt]; exact hax
  by_cases hlt : getN idx ax < a
  · have hv' := validIdx_withAt x.shape idx ax (a + b) a (getN idx ax) hax hv hlt
    rw [withAt_self] at hv'
    rw [if_pos hlt, get_narrow x ax off a idx hv']
  · have hv' := validIdx_withAt x.shape idx ax (a + b) b (getN idx ax - a) hax hv (by omega)
    rw [if_neg hlt, get_narrow x ax (off + a) b _ hv', getN_withAt_same _ _ _ haxi, withAt_withAt]
    congr 2; omega

theorem narrow_full (x : Tensor) (ax : Nat) (hwf : x.data.length = prod x.shape) :
    narrow x ax 0 (getN x.shape ax) = x := by
  unfold narrow
  rw [withAt_self]
  apply build_eq_self x hwf
  intro idx _
  rw [Nat.add_zero, withAt_self]

theorem sumN_def (l : List Nat) : l.foldl (· + ·) 0 = l.foldr (· + ·) 0 :=
  List.foldr_eq_foldl.symm

theorem foldl_concat_split (x : Tensor) (ax : Nat) (hax : ax < x.shape.length) :
    ∀ (ns : List Nat) (off : Nat),
      (splitSizes x ax ns off).foldl (concat2 ax) (narrow x ax 0 off) = narrow x ax 0 (off + ns.foldr (· + ·) 0)
  | [], off => rfl
  | n :: ns, off => by
    simp only [splitSizes, List.foldl_cons, List.foldr_cons]
    have := concat2_narrow_adj x ax 0 off n hax
    rw [Nat.zero_add] at this
    rw [this, foldl_concat_split x ax hax ns (off + n), Nat.add_assoc]

theorem tileCore_shape_length (x : Tensor) (reps : List Nat) (hl : reps.length = x.shape.length) :
    (tileCore x reps).shape.length = x.shape.length := by
  show (List.zipWith _ x.shape reps).length = _
  rw [List.length_zipWith, hl, Nat.min_self]

theorem tileCore_shape_get (x : Tensor) (reps : List Nat) (ax k j : Nat) (hl : reps.length = x.shape.length)
    (hj : j < x.shape.length) :
    getN (tileCore x (reps.set ax k)).shape j = getN x.shape j * (if ax = j then k else getN reps j) := by
  show getN (List.zipWith _ x.shape (reps.set ax k)) j = _
  rw [getN_zipWith _ _ _ _ hj (by simp [hl, hj]), getN_set]
  by_cases h : ax = j
  · subst h; simp [hl, hj]
  · simp [h]

theorem tileCore_shape_ax (x : Tensor) (reps : List Nat) (ax k : Nat) (hl : reps.length = x.shape.length)
    (hax : ax < x.shape.length) : getN (tileCore x (reps.set ax k)).shape ax = getN x.shape ax * k := by
  rw [tileCore_shape_get _ _ _ _ _ hl hax, if_pos rfl]

theorem tileCore_shape_succ (x : Tensor) (reps : List Nat) (ax k : Nat) (hl : reps.length = x.shape.length)
    (hax : ax < x.shape.length) :
    withAt (tileCore x (reps.set ax k)).shape ax
      (getN (tileCore x (reps.set ax k)).shape ax + getN x.shape ax) = (tileCore x (reps.set ax (k + 1))).shape := by
  have hlen : ∀ m, (tileCore x (reps.set ax m)).shape.length = x.shape.length :=
    fun m => tileCore_shape_length x _ (by rw [List.length_set]; exact hl)
  apply list_ext_getN _ _ (by rw [length_withAt, hlen, hlen])
  intro j hj
  have hj' : j < x.shape.length := by rwa [length_withAt, hlen] at hj
  by_cases h : ax = j
  · subst h
    rw [getN_withAt_same _ _ _ (by rw [hlen]; exact hax), tileCore_shape_ax _ _ _ _ hl hax,
      tileCore_shape_ax _ _ _ _ hl hax, Nat.mul_succ]
  · rw [getN_withAt_ne _ _ _ _ h, tileCore_shape_get _ _ _ _ _ hl hj', tileCore_shape_get _ _ _ _ _ hl hj',
      if_neg h, if_neg h]

theorem get_tileCore (x : Tensor) (reps idx : List Nat) (hv : validIdx (tileCore x reps).shape idx = true) :
    (tileCore x reps).get idx = x.get (List.zipWith (fun i d => i % d) idx x.shape) :=
  get_build _ _ _ hv

/-- Reverse a tensor along axis `ax` (ONNX `Slice` with step −1 over the whole axis). -/
def flipAx (x : Tensor) (ax : Nat) : Tensor :=
  build x.shape (fun idx => x.get (withAt idx ax (getN x.shape ax - 1 - getN idx ax)))

theorem sumI_eq_sum (l : List Int) : sumI l = l.sum := List.sum_eq_foldl.symm

theorem range_mirror (d : Nat) : (List.range d).map (fun j => d - 1 - j) = (List.range d).reverse := by
  apply List.ext_getElem (by simp)
  intro k h1 h2
  simp only [List.length_map, List.length_range] at h1
  simp [List.getElem_reverse]

theorem mirror_le (d m i : Nat) (hi : i < d) : d - 1 - m ≤ d - 1 - i ↔ i ≤ m :=
  Nat.sub_le_sub_iff_left (Nat.le_sub_one_of_lt hi)

theorem mirror_lt (d m i : Nat) (hm : m < d) : d - 1 - m < d - 1 - i ↔ i < m := by
  rw [← Nat.not_le, mirror_le d i m hm, Nat.not_le]

theorem sum_mirror (d : Nat) (Q : Nat → Bool) (g : Nat → Int) :
    sumI (((List.range d).filter Q).map (fun j => g (d - 1 - j))) =
      sumI (((List.range d).filter (fun m => Q (d - 1 - m))).map g) := by
  have h1 : ((List.range d).filter Q).map (fun j => g (d - 1 - j))
      = ((((List.range d).map (fun j => d - 1 - j)).filter (fun m => Q (d - 1 - m))).map g) := by
    rw [List.filter_map, List.map_map]
    congr 1
    apply List.filter_congr
    intro j hj
    have : j < d := List.mem_range.mp hj
    simp only [Function.comp]
    congr 1; omega
  rw [h1, range_mirror, List.filter_reverse, List.map_reverse, sumI_eq_sum, List.sum_reverse_int,
    ← sumI_eq_sum]

theorem get_flipAx_withAt (x : Tensor) (ax j : Nat) (idx : List Nat) (hax : ax < x.shape.length)
    (hv : validIdx x.shape idx = true) (hj : j < getN x.shape ax) :
    (flipAx x ax).get (withAt idx ax j) = x.get (withAt idx ax (getN x.shape ax - 1 - j)) := by
  have haxi : ax < idx.length := by rw [validIdx_length hv]; exact hax
  unfold flipAx
  rw [get_build _ _ _ (validIdx_withAt_self _ _ _ _ hax hv hj), getN_withAt_same _ _ _ haxi, withAt_withAt]

end RtenVerif.OnnxRef
