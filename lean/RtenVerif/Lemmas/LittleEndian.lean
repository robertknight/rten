import RtenVerif.Model.Npy

/-! `uN::to_le_bytes` / `from_le_bytes` on byte lists (`Npy.toLE`, `Npy.fromLE`) are inverse to each
other between values below `256 ^ w` and lists of `w` bytes.  `Lemmas/RtenHeader.lean` carries the
same facts over to the header model's copy of the two functions. -/
namespace RtenVerif.Npy

theorem toLE_length (w x : Nat) : (toLE w x).length = w := by
  induction w generalizing x with
  | zero => rfl
  | succ w ih => simp [toLE, ih]

theorem toLE_lt (w x : Nat) : ∀ b ∈ toLE w x, b < 256 := by
  induction w generalizing x with
  | zero => simp [toLE]
  | succ w ih =>
    intro b hb
    simp only [toLE, List.mem_cons] at hb
    rcases hb with rfl | hb
    · omega
    · exact ih _ b hb

theorem fromLE_toLE (w x : Nat) (h : x < 256 ^ w) : fromLE (toLE w x) = x := by
  induction w generalizing x with
  | zero => simp [toLE, fromLE] at *; omega
  | succ w ih =>
    have hx : x / 256 < 256 ^ w := by
      apply Nat.div_lt_of_lt_mul
      rw [Nat.pow_succ, Nat.mul_comm] at h; exact h
    simp only [toLE, fromLE, ih _ hx]; omega

theorem fromLE_lt (bs : List Nat) (h : ∀ b ∈ bs, b < 256) : fromLE bs < 256 ^ bs.length := by
  induction bs with
  | nil => simp [fromLE]
  | cons b bs ih =>
    have hb : b < 256 := h b (by simp)
    have := ih (fun x hx => h x (by simp [hx]))
    simp only [fromLE, List.length_cons, Nat.pow_succ]; omega

theorem toLE_fromLE (bs : List Nat) (h : ∀ b ∈ bs, b < 256) : toLE bs.length (fromLE bs) = bs := by
  induction bs with
  | nil => rfl
  | cons b bs ih =>
    have hb : b < 256 := h b (by simp)
    have := ih (fun x hx => h x (by simp [hx]))
    simp only [List.length_cons, toLE, fromLE]
    have h1 : (b + 256 * fromLE bs) % 256 = b := by omega
    have h2 : (b + 256 * fromLE bs) / 256 = fromLE bs := by omega
    rw [h1, h2, this]

end RtenVerif.Npy
