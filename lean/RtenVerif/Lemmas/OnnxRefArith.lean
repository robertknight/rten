import RtenVerif.Model.OnnxRef
/-! Scalar coordinate arithmetic of the reference: ceiling division (Slice / Range lengths), the branches of
`sliceAxis`, index and axis normalisation, `padSrc` on in-range coordinates. -/
namespace RtenVerif.OnnxRef

/-- The lengths of Slice with a positive step and of Range with a positive delta. -/
theorem count_up (s e t : Int) (ht : 0 < t) :
    (∀ k : Nat, k < ((e - s + t - 1) / t).toNat → s ≤ s + k * t ∧ s + k * t < e) ∧
    e ≤ s + (((e - s + t - 1) / t).toNat : Int) * t := by
  have h2 : e - s + t - 1 < ((e - s + t - 1) / t + 1) * t := Int.lt_ediv_add_one_mul_self _ ht
  rw [Int.add_mul] at h2
  constructor
  · intro k hk
    have hq : ((k : Int) + 1) * t ≤ e - s + t - 1 := (Int.le_ediv_iff_mul_le ht).mp (by omega)
    have hk0 : 0 ≤ (k : Int) * t := Int.mul_nonneg (Int.natCast_nonneg k) (Int.le_of_lt ht)
    rw [Int.add_mul] at hq
    omega
  · by_cases hq : 0 ≤ (e - s + t - 1) / t
    · rw [Int.toNat_of_nonneg hq]; omega
    · have := Int.mul_le_mul_of_nonneg_right (show (e - s + t - 1) / t + 1 ≤ 0 by omega) (Int.le_of_lt ht)
      rw [Int.add_mul] at this
      rw [Int.toNat_eq_zero.mpr (by omega)]; omega

/-- The descending progression `s + k·t`, `t < 0`, is the ascending one from `e` with step `-t`, read backwards. -/
theorem count_down (s e t : Int) (ht : t < 0) :
    (∀ k : Nat, k < ((s - e + -t - 1) / -t).toNat → e < s + k * t ∧ s + k * t ≤ s) ∧
    s + (((s - e + -t - 1) / -t).toNat : Int) * t ≤ e := by
  obtain ⟨c1, c2⟩ := count_up e s (-t) (Int.neg_pos_of_neg ht)
  rw [Int.mul_neg] at c2
  refine ⟨fun k hk => ?_, by omega⟩
  have := c1 k hk
  rw [Int.mul_neg] at this
  omega

theorem clampI_bounds (lo hi x : Int) (h : lo ≤ hi) : lo ≤ clampI lo hi x ∧ clampI lo hi x ≤ hi := by
  unfold clampI; omega

theorem clampI_of_mem (lo hi x : Int) (h1 : lo ≤ x) (h2 : x ≤ hi) : clampI lo hi x = x := by
  rw [clampI, Int.min_eq_right h2, Int.max_eq_right h1]

theorem clampI_of_ge (lo hi x : Int) (h : lo ≤ hi) (hx : hi ≤ x) : clampI lo hi x = hi := by
  rw [clampI, Int.min_eq_left hx, Int.max_eq_right h]

theorem clampI_of_le (lo hi x : Int) (h : lo ≤ hi) (hx : x ≤ lo) : clampI lo hi x = lo := by
  rw [clampI, Int.min_eq_right (Int.le_trans hx h), Int.max_eq_left hx]

theorem sliceStart_of_pos (dim : Nat) (start step : Int) (hs : step > 0) :
    sliceStart dim start step = clampI 0 dim (if start < 0 then start + dim else start) := by
  simp only [sliceStart, if_pos hs]

theorem sliceStart_of_not_pos (dim : Nat) (start step : Int) (hs : ¬ step > 0) :
    sliceStart dim start step = clampI 0 (dim - 1) (if start < 0 then start + dim else start) := by
  simp only [sliceStart, if_neg hs]

theorem sliceStop_of_pos (dim : Nat) (stop step : Int) (hs : step > 0) :
    sliceStop dim stop step = clampI 0 dim (if stop < 0 then stop + dim else stop) := by
  simp only [sliceStop, if_pos hs]

theorem sliceStop_of_not_pos (dim : Nat) (stop step : Int) (hs : ¬ step > 0) :
    sliceStop dim stop step = clampI (-1) (dim - 1) (if stop < 0 then stop + dim else stop) := by
  simp only [sliceStop, if_neg hs]

theorem sliceAxis_of_pos (dim : Nat) (start stop step : Int) (hd : dim ≠ 0) (hs : step > 0) :
    sliceAxis dim start stop step = (sliceStart dim start step,
      ((sliceStop dim stop step - sliceStart dim start step + step - 1) / step).toNat) := by
  simp only [sliceAxis, if_neg hd, if_pos hs]

theorem sliceAxis_of_not_pos (dim : Nat) (start stop step : Int) (hd : dim ≠ 0) (hs : ¬ step > 0) :
    sliceAxis dim start stop step = (sliceStart dim start step,
      ((sliceStart dim start step - sliceStop dim stop step + (-step) - 1) / (-step)).toNat) := by
  simp only [sliceAxis, if_neg hd, if_neg hs]

theorem normIndex_spec (dim : Nat) (i : Int) (k : Nat) :
    normIndex dim i = some k ↔
      (-(dim : Int) ≤ i ∧ i < dim ∧ (k : Int) = if i < 0 then i + dim else i) := by
  unfold normIndex
  by_cases h0 : i < 0
  · rw [if_pos h0, if_pos h0]
    by_cases h1 : -i ≤ (dim : Int)
    · have hc : ((i + dim).toNat : Int) = i + dim := Int.toNat_of_nonneg (by omega)
      rw [if_pos h1, Option.some.injEq]
      exact ⟨fun h => ⟨Int.neg_le_of_neg_le h1, Int.lt_of_lt_of_le h0 (Int.natCast_nonneg _), h ▸ hc⟩,
        fun h => Int.ofNat_inj.mp (hc.trans h.2.2.symm)⟩
    · rw [if_neg h1]
      exact ⟨fun h => (nomatch h), fun h => absurd (Int.neg_le_of_neg_le h.1) h1⟩
  · rw [if_neg h0, if_neg h0]
    have h0' : 0 ≤ i := Int.not_lt.mp h0
    by_cases h1 : i < (dim : Int)
    · have hc : (i.toNat : Int) = i := Int.toNat_of_nonneg h0'
      rw [if_pos h1, Option.some.injEq]
      exact ⟨fun h => ⟨Int.le_trans (Int.neg_nonpos_of_nonneg (Int.natCast_nonneg _)) h0', h1, h ▸ hc⟩,
        fun h => Int.ofNat_inj.mp (hc.trans h.2.2.symm)⟩
    · rw [if_neg h1]
      exact ⟨fun h => (nomatch h), fun h => absurd h.2.1 h1⟩

theorem normIndex_lt (dim : Nat) (i : Int) (k : Nat) (h : normIndex dim i = some k) : k < dim := by
  have := (normIndex_spec dim i k).mp h
  split at this <;> omega

theorem normAxis_eq_ok_iff (rank : Nat) (a : Int) (k : Nat) :
    normAxis rank a = .ok k ↔ normIndex rank a = some k := by
  unfold normAxis normIndex
  split <;> split <;> simp [pure, Except.pure, fail]

theorem normIndex_ofNat (d a : Nat) (h : a < d) : normIndex d (Int.ofNat a) = some a := by
  show normIndex d (a : Int) = some a
  unfold normIndex
  rw [if_neg (Int.not_lt.mpr (Int.natCast_nonneg a)), if_pos (Int.ofNat_lt.mpr h), Int.toNat_natCast]

theorem padSrc_inRange (mode : String) (dim i : Nat) (h : i < dim) : padSrc mode dim (i : Int) = some i := by
  unfold padSrc
  rw [if_pos ⟨Int.natCast_nonneg i, Int.ofNat_lt.mpr h⟩, Int.toNat_natCast]

end RtenVerif.OnnxRef
