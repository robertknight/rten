import RtenVerif.Lemmas.TensorBoundsSplit

/-! C06: the embedding of a sub-block along one axis (`split`, `slice_axis`, `clip_dim`), bounds of
`broadcast` layouts, the last element of a layout. -/
namespace RtenVerif.TensorBounds
open RtenVerif.Overlap

theorem strideAt_setSize : ∀ (dims : List (Nat × Nat)) (axis n : Nat),
    strideAt (setSize dims axis n) axis = strideAt dims axis
  | [], _, _ => rfl
  | (_, _) :: _, 0, _ => rfl
  | _ :: ds, a + 1, n => strideAt_setSize ds a n

def addAt : List Nat → Nat → Nat → List Nat
  | [], _, _ => []
  | i :: is, 0, k => (i + k) :: is
  | i :: is, a + 1, k => i :: addAt is a k

theorem embedShift : ∀ (dims : List (Nat × Nat)) (axis start n : Nat) (j : List Nat),
    axis < dims.length → start + n ≤ sizeAt dims axis →
    ValidIdx (setSize dims axis n) j →
    ValidIdx dims (addAt j axis start) ∧
    offset dims (addAt j axis start) =
      start * strideAt dims axis + offset (setSize dims axis n) j ∧
    (addAt j axis start).getD axis 0 = j.getD axis 0 + start ∧ j.getD axis 0 < n
  | [], _, _, _, _, h, _, _ => by simp at h
  | (size, stride) :: ds, 0, start, n, _, _, hle, .cons (i := j0) (is := js) h1 h2 =>
    have hle : start + n ≤ size := hle
    ⟨.cons (by omega) h2, by
      show (j0 + start) * stride + offset ds js = start * stride + (j0 * stride + offset ds js)
      rw [Nat.add_mul]; omega, rfl, h1⟩
  | (size, stride) :: ds, a + 1, start, n, _, hlt, hle, .cons (i := j0) (is := js) h1 h2 =>
    have ⟨v, o, g, g'⟩ := embedShift ds a start n js (Nat.lt_of_succ_lt_succ hlt) hle h2
    ⟨.cons h1 v, by
      show j0 * stride + offset ds (addAt js a start) =
        start * strideAt ds a + (j0 * stride + offset (setSize ds a n) js)
      rw [o]; omega, g, g'⟩

theorem addAt_inj : ∀ (j j' : List Nat) (a k : Nat), addAt j a k = addAt j' a k → j = j'
  | [], [], _, _, _ => rfl
  | [], _ :: _, a, _, h => by cases a <;> simp [addAt] at h
  | _ :: _, [], a, _, h => by cases a <;> simp [addAt] at h
  | i :: is, x :: xs, 0, k, h => by
    simp only [addAt, List.cons.injEq] at h
    rw [show i = x by omega, h.2]
  | i :: is, x :: xs, a + 1, k, h => by
    simp only [addAt, List.cons.injEq] at h
    rw [h.1, addAt_inj is xs a k h.2]

theorem setSize_embeds {dims : List (Nat × Nat)} {axis start n : Nat} (hax : axis < dims.length)
    (hle : start + n ≤ sizeAt dims axis) :
    Embeds dims (setSize dims axis n) (start * strideAt dims axis) := fun j j' hj hj' =>
  have e := embedShift dims axis start n j hax hle hj
  have e' := embedShift dims axis start n j' hax hle hj'
  ⟨_, _, e.1, e'.1, e.2.1, e'.2.1, addAt_inj _ _ _ _⟩

theorem setSize_disjoint {dims : List (Nat × Nat)} {axis s n s' n' : Nat} (hax : axis < dims.length)
    (h1 : s + n ≤ s') (h2 : s' + n' ≤ sizeAt dims axis)
    (hinj : ∀ i j, ValidIdx dims i → ValidIdx dims j → offset dims i = offset dims j → i = j)
    {i j : List Nat} (hi : ValidIdx (setSize dims axis n) i) (hj : ValidIdx (setSize dims axis n') j) :
    s * strideAt dims axis + offset (setSize dims axis n) i ≠
      s' * strideAt dims axis + offset (setSize dims axis n') j := by
  intro heq
  obtain ⟨vi, oi, gi, gi'⟩ := embedShift dims axis s n i hax (by omega) hi
  obtain ⟨vj, oj, gj, _⟩ := embedShift dims axis s' n' j hax h2 hj
  rw [hinj _ _ vi vj (by omega)] at gi
  omega

/-- The stride choice of `broadcast_strides` on dimensions satisfying `can_broadcast_to`. -/
def bcDim (p : (Nat × Nat) × Nat) : Nat × Nat :=
  (p.2, if p.1.1 == 1 && decide (p.2 > 1) then 0 else p.1.2)

theorem covers_bcDim {size stride t : Nat} (h : size = t ∨ size = 1) :
    Covers [(size, stride)] [bcDim ((size, stride), t)] := by
  intro j hj
  cases hj with
  | @cons _ _ i _ _ hi h2 =>
    cases h2
    by_cases hc : (size == 1 && decide (t > 1)) = true
    · have hc' := hc
      simp only [Bool.and_eq_true, beq_iff_eq, decide_eq_true_eq] at hc'
      exact ⟨[0], .cons (by omega) .nil, by simp [offset, bcDim, hc]⟩
    · refine ⟨[i], .cons ?_ .nil, by simp [offset, bcDim, hc]⟩
      simp only [Bool.and_eq_true, beq_iff_eq, decide_eq_true_eq, not_and] at hc
      rcases h with rfl | rfl
      · exact hi
      · have := hc rfl; omega

theorem covers_bcZip : ∀ (zl : List ((Nat × Nat) × Nat)),
    zl.all (fun p => p.1.1 == p.2 || p.1.1 == 1) = true → Covers (zl.map Prod.fst) (zl.map bcDim)
  | [], _ => .refl []
  | ((size, stride), t) :: xs, hok => by
    simp only [List.all_cons, Bool.and_eq_true, Bool.or_eq_true, beq_iff_eq] at hok
    exact (covers_bcDim hok.1).append (covers_bcZip xs hok.2)

theorem covers_pad : ∀ p : List Nat, Covers [] (p.map (fun s => (s, 0)))
  | [] => .refl []
  | s :: p => (Covers.pad s).append (covers_pad p)

theorem broadcast_spec {dims b : List (Nat × Nat)} {target : List Nat}
    (h : broadcast dims target = some b) :
    Covers dims b ∧ shapeOf b = target ∧ prodNZ target ≤ isizeMax := by
  unfold broadcast at h
  dsimp only at h
  split at h
  · next hlen =>
    split at h
    · next hok =>
      simp only [Bool.and_eq_true] at hok
      cases h
      have hl : (target.drop (target.length - dims.length)).length = dims.length := by
        rw [List.length_drop]; omega
      have hz := covers_bcZip (dims.zip (target.drop (target.length - dims.length))) hok.1
      rw [List.map_fst_zip (Nat.le_of_eq hl.symm)] at hz
      refine ⟨(covers_pad _).append hz, ?_, prodNZ_le_of_isSome hok.2⟩
      change shapeOf (_ ++ List.map bcDim _) = _
      simp only [shapeOf, List.map_append, List.map_map, Function.comp_def, bcDim, List.map_id']
      rw [List.map_snd_zip (Nat.le_of_eq hl), List.take_append_drop]
    · cases h
  · cases h

theorem embeds_origin : ∀ d : List (Nat × Nat), hasZero d = false → Embeds d [] 0
  | [], _ => .refl []
  | (size, stride) :: ds, hz => by
    have hz := hasZero_cons_false.mp hz
    simpa using (Embeds.dim_pick (k := 0) stride (Nat.pos_of_ne_zero hz.1)).append
      (embeds_origin ds hz.2)

/-- Entries 0 and 1 of dimension `k`, at the origin of all other dimensions. -/
theorem embeds_first_two : ∀ (dims : List (Nat × Nat)) (k : Nat), hasZero dims = false →
    k < dims.length → 1 < sizeAt dims k → Embeds dims [(2, strideAt dims k)] 0
  | [], _, _, hk, _ => by simp at hk
  | (size, stride) :: ds, k, hz, hk, hs => by
    obtain ⟨hz, hz'⟩ := hasZero_cons_false.mp hz
    cases k with
    | zero =>
      have hs : 0 + 2 ≤ size := hs
      simpa [strideAt] using (Embeds.dim_block stride hs).append (embeds_origin ds hz')
    | succ k =>
      simpa [strideAt] using (Embeds.dim_pick (k := 0) stride (Nat.pos_of_ne_zero hz)).append
        (embeds_first_two ds k hz' (by simpa using hk) hs)

theorem valid_last : ∀ (dims : List (Nat × Nat)), hasZero dims = false →
    ValidIdx dims (dims.map (fun d => d.1 - 1)) ∧
    offset dims (dims.map (fun d => d.1 - 1)) = maxOffset dims := by
  intro dims
  induction dims with
  | nil => intro _; exact ⟨.nil, rfl⟩
  | cons d ds ih =>
    obtain ⟨size, stride⟩ := d
    intro hz
    have hz := hasZero_cons_false.mp hz
    obtain ⟨v, o⟩ := ih hz.2
    refine ⟨?_, by simp only [List.map_cons, offset, maxOffset, o]⟩
    show ValidIdx ((size, stride) :: ds) ((size - 1) :: ds.map (fun d => d.1 - 1))
    exact .cons (by omega) v

theorem end_le_of_bounded {dims : List (Nat × Nat)} {s B : Nat}
    (h : ∀ j, ValidIdx dims j → s + offset dims j < B) (hz : hasZero dims = false) :
    s + minDataLen dims ≤ B := by
  obtain ⟨v, o⟩ := valid_last dims hz
  have := h _ v
  rw [minDataLen_of_noZero hz]
  omega

theorem minDataLen_le_of_bounded {dims : List (Nat × Nat)} {n : Nat}
    (h : ∀ j, ValidIdx dims j → offset dims j < n) : minDataLen dims ≤ n := by
  cases hz : hasZero dims
  · simpa using end_le_of_bounded (s := 0) (fun j hj => by simpa using h j hj) hz
  · rw [minDataLen_of_hasZero hz]; exact Nat.zero_le _

/-- The last element of a non-empty embedded layout is an element of the parent. -/
theorem Embeds.maxOffset_le {p c : List (Nat × Nat)} {s : Nat} (h : Embeds p c s)
    (hz : hasZero c = false) : s + maxOffset c ≤ maxOffset p := by
  obtain ⟨v, o⟩ := valid_last c hz
  obtain ⟨i, hi, oi⟩ := h.exists_parent v
  have := valid_offset_le hi
  omega

theorem Embeds.end_le {p c : List (Nat × Nat)} {s : Nat} (h : Embeds p c s)
    (hz : hasZero c = false) : s + minDataLen c ≤ minDataLen p :=
  end_le_of_bounded (fun _ hj => h.lt_minDataLen hj) hz

theorem prodNZ_setSize_le : ∀ (dims : List (Nat × Nat)) (axis n : Nat),
    n ≤ sizeAt dims axis → prodNZ (shapeOf (setSize dims axis n)) ≤ prodNZ (shapeOf dims)
  | [], _, _, _ => Nat.le_refl _
  | (size, stride) :: ds, 0, n, hn => by
    have hn : n ≤ size := hn
    have hp := prodNZ_pos (shapeOf ds)
    show prodNZ (n :: shapeOf ds) ≤ prodNZ (size :: shapeOf ds)
    simp only [prodNZ]
    split
    · exact Nat.le_trans (Nat.le_refl _) (prodNZ_tail_le size _)
    · rw [if_neg (by omega)]; exact Nat.mul_le_mul_right _ hn
  | (size, _) :: ds, a + 1, n, hn => by
    have := prodNZ_setSize_le ds a n hn
    show prodNZ (size :: shapeOf (setSize ds a n)) ≤ prodNZ (size :: shapeOf ds)
    simp only [prodNZ]
    split
    · exact this
    · exact Nat.mul_le_mul_left _ this

theorem maxOffset_setSize_le : ∀ (dims : List (Nat × Nat)) (axis n : Nat),
    n ≤ sizeAt dims axis → maxOffset (setSize dims axis n) ≤ maxOffset dims
  | [], _, _, _ => Nat.le_refl _
  | (_, _) :: _, 0, _, hn =>
    Nat.add_le_add_right (Nat.mul_le_mul_right _ (Nat.sub_le_sub_right hn 1)) _
  | (_, _) :: ds, a + 1, n, hn => Nat.add_le_add_left (maxOffset_setSize_le ds a n hn) _

end RtenVerif.TensorBounds
