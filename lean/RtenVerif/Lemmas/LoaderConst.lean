import RtenVerif.Model.LoaderConst
import RtenVerif.Props.C06

/-!
C05: the machine arithmetic of the loaders (`checked_mul` folds, `checked_add`, `/` on `UInt64`)
related to `Nat`, what an accepted `try_from_data` means (`WellFormed`, through C06), and the
`i64 → usize` conversion of ONNX dims.
-/
namespace RtenVerif.LoaderConst
open RtenVerif.TensorBounds RtenVerif.Overlap

/-- What the property asks of a constant a loader accepted: its ideal (unbounded) element count
equals the number of elements of the storage it is paired with, that count fits `isize`, and the
layout/storage pair satisfies C06's `Accepted` invariant (hence every valid index is in bounds). -/
structure WellFormed (shape : List Nat) (len : Nat) : Prop where
  len_eq : prod shape = len
  fits : len ≤ isizeMax
  accepted : Accepted (contigDims shape) len true

theorem WellFormed.in_bounds {shape : List Nat} {len : Nat} (w : WellFormed shape len)
    {idx : List Nat} (h : ValidIdx (contigDims shape) idx) : offset (contigDims shape) idx < len :=
  c06_T2_in_bounds w.accepted h

theorem M_tryFromData_ok {shape : List U} {len : U} {l : List (U × U)}
    (h : M.tryFromData shape len = .ok l) : WellFormed (M.toNs shape) len.toNat := by
  have h3 := c06_T3_tryFromData shape len
  rw [h] at h3
  have h2 := c06_T2_tryFromData (shape := M.toNs shape) (n := len.toNat) (l := M.toN l) h3.symm
  obtain ⟨hl, hacc, hlen, _⟩ := h2
  rw [hl] at hacc hlen
  rw [len_contig] at hlen
  refine ⟨hlen, ?_, hacc⟩
  have := (c06_T3_accepted_fits hacc).1
  rw [len_contig, hlen] at this
  exact this

theorem tryFromData_ok {shape : List U} {len : U} {s : List Nat} {n : Nat}
    (h : tryFromData shape len = .ok s n) :
    s = M.toNs shape ∧ n = len.toNat ∧ WellFormed s n := by
  unfold tryFromData at h
  split at h
  · next l hl =>
    cases h
    exact ⟨rfl, rfl, M_tryFromData_ok hl⟩
  · cases h

theorem tryFromData_eq_fromData {shape : List U} {len : U} (h : fromData shape len ≠ .panic) :
    tryFromData shape len = fromData shape len := by
  unfold fromData at h ⊢
  unfold tryFromData
  cases hm : M.tryFromData shape len with
  | ok l => rfl
  | error e => rw [hm] at h; exact absurd rfl h

theorem fromData_ok {shape : List U} {len : U} {s : List Nat} {n : Nat}
    (h : fromData shape len = .ok s n) :
    s = M.toNs shape ∧ n = len.toNat ∧ WellFormed s n :=
  tryFromData_ok ((tryFromData_eq_fromData (by rw [h]; nofun)).trans h)

theorem tryFromData_ne_panic (shape : List U) (len : U) : tryFromData shape len ≠ .panic := by
  unfold tryFromData
  split <;> simp

theorem checkedMul_some {a b r : U} (h : checkedMul a b = some r) :
    r.toNat = a.toNat * b.toNat := by
  unfold checkedMul at h
  split at h
  · next hlt =>
    cases h
    exact M.mul_toNat_of_lt hlt
  · cases h

theorem checkedAdd_some {a b r : U} (h : checkedAdd a b = some r) :
    r.toNat = a.toNat + b.toNat := by
  unfold checkedAdd at h
  split at h
  · next hlt =>
    cases h
    exact M.add_toNat_of_lt hlt
  · cases h

theorem checkedMul_of_lt {a b : U} (h : a.toNat * b.toNat < wordSize) :
    checkedMul a b = some (a * b) := if_pos h

theorem checkedAdd_of_lt {a b : U} (h : a.toNat + b.toNat < wordSize) :
    checkedAdd a b = some (a + b) := if_pos h

theorem mulMode_of_lt (ovf : Bool) {a b : U} (h : a.toNat * b.toNat < wordSize) :
    mulMode ovf a b = some (a * b) := if_neg fun h' => Nat.not_le.mpr h h'.2

theorem addMode_of_lt (ovf : Bool) {a b : U} (h : a.toNat + b.toNat < wordSize) :
    addMode ovf a b = some (a + b) := if_neg fun h' => Nat.not_le.mpr h h'.2

theorem checkedProd_some {ds : List U} {acc r : U} (h : checkedProd ds acc = some r) :
    r.toNat = acc.toNat * prod (M.toNs ds) := by
  induction ds generalizing acc with
  | nil =>
    simp only [checkedProd] at h
    cases h
    simp [M.toNs, prod]
  | cons d ds ih =>
    simp only [checkedProd] at h
    split at h
    · cases h
    · next a ha =>
      rw [ih h, checkedMul_some ha, M.toNs_cons]
      simp only [prod]
      rw [Nat.mul_assoc]

theorem prodMode_false (ds : List U) (acc : U) :
    prodMode false ds acc = some (acc * M.prod ds) := by
  induction ds generalizing acc with
  | nil => simp [prodMode, M.prod]
  | cons d ds ih =>
    simp only [prodMode, mulMode]
    simp only [Bool.false_eq_true, false_and, if_false]
    rw [ih]
    simp only [M.prod]
    congr 1
    exact UInt64.mul_assoc acc d (M.prod ds)

theorem checkedProd_of_prodNZ (ds : List U) (acc : U)
    (h : acc.toNat * prodNZ (M.toNs ds) < wordSize) :
    ∃ r, checkedProd ds acc = some r := by
  induction ds generalizing acc with
  | nil => exact ⟨acc, rfl⟩
  | cons d ds ih =>
    simp only [checkedProd]
    rw [M.toNs_cons] at h
    unfold prodNZ at h
    have hpos := prodNZ_pos (M.toNs ds)
    by_cases hd : d.toNat = 0
    · have h0 : acc.toNat * d.toNat < wordSize := by rw [hd, Nat.mul_zero]; decide
      rw [checkedMul_of_lt h0]
      apply ih
      rw [M.mul_toNat_of_lt h0, hd]
      simp
      decide
    · simp only [hd, if_false] at h
      have h1 : acc.toNat * d.toNat < wordSize := by
        calc acc.toNat * d.toNat ≤ acc.toNat * (d.toNat * prodNZ (M.toNs ds)) :=
              Nat.mul_le_mul_left _ (Nat.le_mul_of_pos_right _ hpos)
          _ < wordSize := h
      rw [checkedMul_of_lt h1]
      apply ih
      rw [M.mul_toNat_of_lt h1, Nat.mul_assoc]
      exact h

theorem checkedProd_one_eq {shape : List U} {n : U} (h : checkedProd shape 1 = some n) :
    n = M.prod shape ∧ n.toNat = prod (M.toNs shape) := by
  have p := checkedProd_some h
  have one : (1 : U).toNat = 1 := rfl
  rw [one, Nat.one_mul] at p
  refine ⟨?_, p⟩
  apply UInt64.toNat_inj.mp
  rw [p, M.prod_toNat, Nat.mod_eq_of_lt]
  rw [← p]; exact M.toNat_lt_W n

theorem div_mul_le_toNat (b s : U) : (b / s).toNat * s.toNat ≤ b.toNat := by
  rw [UInt64.toNat_div]
  exact Nat.div_mul_le_self _ _

theorem mul_div_cancel_of_lt {n size : U} (h : n.toNat * size.toNat < wordSize)
    (hpos : 0 < size.toNat) : n * size / size = n := by
  apply UInt64.toNat_inj.mp
  rw [UInt64.toNat_div, M.mul_toNat_of_lt h, Nat.mul_div_cancel _ hpos]

theorem onnxShape_none_iff_neg {dims : List Int} : onnxShape dims = none ↔ ∃ d ∈ dims, d < 0 := by
  fun_induction onnxShape dims
  case case1 => simp
  case case2 d ds hd => simp; exact Or.inl hd
  case case3 d ds hd hn ih =>
    simp only [true_iff]
    obtain ⟨x, hx, hneg⟩ := ih.mp hn
    exact ⟨x, List.mem_cons_of_mem _ hx, hneg⟩
  case case4 d ds hd s hs ih =>
    simp only [false_iff, reduceCtorEq]
    rintro ⟨x, hx, hneg⟩
    rcases List.mem_cons.mp hx with rfl | hx
    · exact hd hneg
    · have := ih.mpr ⟨x, hx, hneg⟩
      rw [hs] at this
      cases this

theorem onnxShape_some {dims : List Int} {s : List U} (h : onnxShape dims = some s)
    (hi : ∀ d ∈ dims, d < 2 ^ 63) :
    (∀ d ∈ dims, 0 ≤ d) ∧ M.toNs s = dims.map Int.toNat := by
  refine ⟨fun d hd => Int.not_lt.mp fun hneg =>
    (nomatch (onnxShape_none_iff_neg.mpr ⟨d, hd, hneg⟩).symm.trans h), ?_⟩
  revert s
  fun_induction onnxShape dims
  case case1 => rintro _ ⟨⟩; rfl
  case case4 d ds hd s' hs' ih =>
    rintro _ ⟨⟩
    have hd63 : d < 2 ^ 63 := hi d (List.mem_cons_self ..)
    rw [M.toNs_cons, ih (fun x hx => hi x (List.mem_cons_of_mem _ hx)) hs', List.map_cons]
    congr 1
    apply UInt64.toNat_ofNat_of_lt'
    show d.toNat < 2 ^ 64
    omega
  all_goals exact nofun

end RtenVerif.LoaderConst
