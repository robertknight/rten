import RtenVerif.Model.SimdLoop

/-! The fold skeletons of C18 against the scalar reference `sFold`: one masked vector step is
the scalar fold of one chunk (`sFold_chunk`), and the main loop is a sequence of such steps
(`mainLoop_spec`).  Core Lean only. -/
namespace RtenVerif.SimdLoop
section
variable {α β : Type}

theorem nextLane_lt (v p : Nat) (hp : p < v) : nextLane v p < v := by
  unfold nextLane
  split
  · exact Nat.zero_lt_of_lt hp
  · exact Nat.lt_of_le_of_ne hp ‹_›

theorem advance_eq (v : Nat) : ∀ (k p : Nat), p < v → p + k ≤ v →
    advance v p k = if p + k = v then 0 else p + k
  | 0, p, hp, _ => by rw [advance, Nat.add_zero, if_neg (Nat.ne_of_lt hp)]
  | k + 1, p, hp, hk => by
    rw [advance, nextLane]
    by_cases h : p + 1 = v
    · obtain rfl : k = 0 := by omega
      rw [if_pos h, advance]
    · rw [Nat.add_comm k, ← Nat.add_assoc] at hk
      rw [if_neg h, advance_eq v k (p + 1) (Nat.lt_of_le_of_ne hp h) hk, Nat.add_assoc,
        Nat.add_comm 1]

theorem advance_add (v : Nat) : ∀ (a p b : Nat), advance v p (a + b) = advance v (advance v p a) b
  | 0, p, b => by rw [Nat.zero_add]; rfl
  | a + 1, p, b => by rw [Nat.add_right_comm, advance, advance, advance_add v a]

theorem sFold_append (v : Nat) (f : β → α → β) (c : List α) (p : Nat) (r : List α) (acc : Nat → β) :
    sFold v f p (c ++ r) acc = sFold v f (advance v p c.length) r (sFold v f p c acc) := by
  induction c generalizing p acc with
  | nil => rfl
  | cons x c ih => exact ih _ _

theorem sFold_congr (v : Nat) (f : β → α → β) (c : List α) (p : Nat) (a b : Nat → β)
    (hp : p < v) (h : ∀ j, j < v → a j = b j) (j : Nat) (hj : j < v) :
    sFold v f p c a j = sFold v f p c b j := by
  induction c generalizing p a b with
  | nil => exact h j hj
  | cons x c ih =>
    refine ih _ _ _ (nextLane_lt v p hp) fun i hi => ?_
    unfold updLane
    rw [h i hi]

theorem sFold_run (v : Nat) (f : β → α → β) (pad : α) (c : List α) (p : Nat) (acc : Nat → β)
    (hk : p + c.length ≤ v) (j : Nat) :
    sFold v f p c acc j =
      if p ≤ j ∧ j < p + c.length then f (acc j) (c.getD (j - p) pad) else acc j := by
  induction c generalizing p acc with
  | nil => rw [if_neg (by simp)]; rfl
  | cons x c ih =>
    rw [List.length_cons] at hk ⊢
    -- the lane pointer only wraps after the last element, where it is no longer looked at
    have hq : sFold v f (nextLane v p) c (updLane f acc p x)
        = sFold v f (p + 1) c (updLane f acc p x) := by
      cases c with
      | nil => rfl
      | cons y c => rw [nextLane, if_neg (by rw [List.length_cons] at hk; omega)]
    rw [sFold, hq, ih (p + 1) _ (by omega), updLane]
    clear ih hq hk
    by_cases e : j = p
    · subst e; simp [Nat.not_succ_le_self]
    · have h : (p + 1 ≤ j ∧ j < p + 1 + c.length) ↔ (p ≤ j ∧ j < p + (c.length + 1)) := by omega
      simp only [h, if_neg e]
      split
      · rw [show j - p = j - (p + 1) + 1 by omega, List.getD_cons_succ]
      · rfl

theorem sFold_chunk (v : Nat) (f : β → α → β) (pad : α) (c : List α) (acc : Nat → β)
    (hc : c.length ≤ v) :
    sFold v f 0 c acc =
      vselect (fun j => decide (j < c.length)) (vfold f acc (loadVec pad c)) acc := by
  funext j
  rw [sFold_run v f pad c 0 acc (by omega) j]
  simp [vselect, vfold, loadVec]

theorem foldTail_true (f : β → α → β) (pad : α) (v : Nat) (rest : List α) (acc : Nat → β)
    (h : rest.length ≤ v) :
    foldTail true f pad v rest acc =
      vselect (fun j => decide (j < rest.length)) (vfold f acc (loadVec pad rest)) acc := by
  unfold foldTail
  split
  · rw [if_pos rfl, Nat.min_eq_left h]
  · funext j
    simp [vselect, show rest.length = 0 by omega]

/-- The main loop consumes whole `W`-chunks only; its accumulator is the scalar lane fold of the
consumed prefix, and fewer than `W` elements are left. -/
theorem mainLoop_spec (f : β → α → β) (pad : α) (W : Nat) (hW : 0 < W) :
    ∀ (fuel : Nat) (rest : List α) (acc : Nat → β), rest.length ≤ fuel →
    ∃ consumed, rest = consumed ++ (mainLoop f pad W fuel rest acc).1 ∧
      (mainLoop f pad W fuel rest acc).1.length < W ∧
      advance W 0 consumed.length = 0 ∧
      ∀ j, j < W → (mainLoop f pad W fuel rest acc).2 j = sFold W f 0 consumed acc j := by
  intro fuel
  induction fuel with
  | zero =>
    intro rest acc h
    obtain rfl : rest = [] := List.length_eq_zero_iff.mp (by omega)
    exact ⟨[], rfl, hW, rfl, fun _ _ => rfl⟩
  | succ fuel ih =>
    intro rest acc h
    rw [mainLoop]
    split
    · next hge =>
      have htl : (rest.take W).length = W := List.length_take_of_le hge
      have hadv : advance W 0 (rest.take W).length = 0 := by
        rw [htl, advance_eq W W 0 hW (Nat.le_of_eq (Nat.zero_add W)), Nat.zero_add, if_pos rfl]
      obtain ⟨c', e1, e2, e3, e4⟩ :=
        ih (rest.drop W) (vfold f acc (loadVec pad (rest.take W))) (by rw [List.length_drop]; omega)
      refine ⟨rest.take W ++ c', ?_, e2, ?_, fun j hj => ?_⟩
      · rw [List.append_assoc, ← e1, List.take_append_drop]
      · rw [List.length_append, advance_add, hadv, e3]
      · rw [e4 j hj, sFold_append, hadv]
        refine sFold_congr W f c' 0 _ _ hW (fun i hi => ?_) j hj
        rw [sFold_chunk W f pad _ acc (Nat.le_of_eq htl), vselect, htl, decide_eq_true hi, if_pos rfl]
    · next hge => exact ⟨[], rfl, Nat.lt_of_not_le hge, rfl, fun _ _ => rfl⟩

end
end RtenVerif.SimdLoop
