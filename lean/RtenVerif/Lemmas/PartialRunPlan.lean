import RtenVerif.Lemmas.PartialRunPrune
import RtenVerif.Lemmas.PartialRunEval
import RtenVerif.Lemmas.PlannerComplete
import RtenVerif.Props.C03
import RtenVerif.Lemmas.PlanCache
/-!
# `create_plan` for `run` and `partial_run`

* What `create_plan` + `prune_plan` guarantee together: a value demanded by the part of the
  plan that is cut away is supplied, a constant, returned, or produced by a pruned operator.
* If every requested output has a naive value, planning cannot fail: `c03_error_cause` says
  every traversal error has a genuine cause in the graph (a needed operator on a dependency
  cycle, a needed value nobody produces), and a naive evaluation of the requested outputs that
  terminates with a value excludes each of these causes (`ranked_of_den`).
-/
namespace RtenVerif.PartialRun
open RtenVerif.Graph RtenVerif.Planner

theorem partialPlan_ok {g : Graph} {ins outs kept leaves : List Nat}
    (h : partialPlan g ins outs = .ok (kept, leaves)) :
    ∃ plan, createPlan g ins outs partialOpts = .ok plan ∧
      kept = (pruneFold g plan ins).kept ∧ leaves = newOutputs (pruneFold g plan ins) outs := by
  unfold partialPlan at h
  split at h
  · cases h
  · next plan hc =>
    cases Except.ok.inj h
    exact ⟨plan, hc, rfl, rfl⟩

/-- `partial_run` plans with values nobody produces counted as available. -/
theorem planOK_of_partial {g : Graph} {ins outs plan : List Nat}
    (hc : createPlan g ins outs partialOpts = .ok plan) : PlanOK g true ins outs plan := by
  have := c03_plan_ok (PlanCache.argsOK_of_createPlan_ok hc) hc
  rwa [partialOpts, resolvedNew, if_neg (by decide), List.append_nil] at this

/-- `create_plan` checks that the supplied ids are distinct. -/
theorem newOutputs_nodup {g : Graph} {ins outs plan : List Nat}
    (hc : createPlan g ins outs partialOpts = .ok plan) :
    (newOutputs (pruneFold g plan ins) outs).Nodup :=
  ((pruneFold_inv g plan ins).nodup (PlanCache.argsOK_of_createPlan_ok hc).2.2.1).sublist
    List.filter_sublist

theorem source_mem_of_avail {g : Graph} (hu : UniqueProducer g) {ins pre : List Nat} {v p : Nat}
    {op : OpNode} (hsrc : getSource g v = some (p, op))
    (hav : Avail g true (availAfter g ins pre) v) : rContains g ins v = true ∨ p ∈ pre := by
  cases hr : rContains g ins v with
  | true => exact Or.inl rfl
  | false =>
    rcases avail_source hu hav hr with ⟨i, hi, hs⟩ | ⟨_, hs⟩
    · exact Or.inr (Option.some.inj (hs.symm.trans (getSource_spec hsrc).1) ▸ hi)
    · rw [hsrc] at hs; cases hs

theorem computable_resolved_at {g : Graph} {plan ins outs : List Nat} (hu : UniqueProducer g)
    (hok : PlanOK g true ins outs plan) {pre post : List Nat} {b d : Nat} {op : OpNode}
    (hsplit : plan = pre ++ b :: post) (hop : getOp g b = some op) (hd : d ∈ opDeps g op)
    (hc : Computable g ins d) : rContains g (pruneFold g pre ins).resolved d = true := by
  induction hc generalizing pre post b op with
  | supplied h => exact rContains_of_mem ((ins_sub_resolved g pre ins).1 _ h)
  | const h => exact rContains_iff.mpr (Or.inr h)
  | @op v p pop hpop hdet hcap _ hv ih =>
    obtain ⟨op', hop', hav⟩ := validIds_split hok.valid hsplit
    cases hop.symm.trans hop'
    rcases source_mem_of_avail hu (getSource_of_output hu hpop hv) (hav v hd) with h | hq
    · exact rContains_mono (ins_sub_resolved g pre ins).1 h
    · -- `v` is produced by `p` earlier in the plan; `p` is kept there
      obtain ⟨pre1, mid, rfl⟩ := List.append_of_mem hq
      have hres : depsResolved g (pruneFold g pre1 ins).resolved pop = true :=
        depsResolved_iff.mpr fun d' hd' =>
          ih d' hd' (hsplit.trans (List.append_assoc ..)) hpop hd'
      have hpr : prunedAt g (pruneFold g pre1 ins).resolved pop = false := by
        simp [prunedAt, hdet, hres, hcap]
      exact rContains_of_mem ((kept_at_step hpop hpr).2 v hv)

/-- A value is *demanded* by the part of the plan that `prune_plan` cuts away: it is a requested
output, or a dependency of an operator that is pruned when the loop reaches it. -/
def Demanded (g : Graph) (plan ins outs : List Nat) (id : Nat) : Prop :=
  id ∈ outs ∨ ∃ pre b post op, plan = pre ++ b :: post ∧ getOp g b = some op ∧
    prunedAt g (pruneFold g pre ins).resolved op = true ∧ id ∈ opDeps g op

theorem demanded_supplied_returned {g : Graph} {plan ins outs : List Nat} {id : Nat}
    (hd : Demanded g plan ins outs id) (hin : id ∈ ins) (hc : isConstant g id = false) :
    id ∈ newOutputs (pruneFold g plan ins) outs := by
  rcases hd with ho | ⟨pre, b, post, op, rfl, hop, hp, hdep⟩
  · exact mem_newOutputs.mpr ⟨(ins_sub_resolved g plan ins).2 id hin, Or.inl ho⟩
  · exact pruned_input_returned hop hp hdep
      (rContains_of_mem ((ins_sub_resolved g pre ins).1 id hin)) hc

/-- **Separation step**: a demanded value that is neither supplied, nor a constant, nor returned,
is produced by an operator of the plan that is pruned when the loop reaches it — so that
operator's dependencies are demanded in turn. -/
theorem demanded_source_pruned {g : Graph} {plan ins outs : List Nat} {id p : Nat} {op : OpNode}
    (hu : UniqueProducer g) (hok : PlanOK g true ins outs plan)
    (hd : Demanded g plan ins outs id) (hin : id ∉ ins) (hc : isConstant g id = false)
    (hsrc : getSource g id = some (p, op))
    (hnot : id ∉ newOutputs (pruneFold g plan ins) outs) :
    ∃ pre post, plan = pre ++ p :: post ∧ getOp g p = some op ∧
      prunedAt g (pruneFold g pre ins).resolved op = true := by
  obtain ⟨-, hpop, hout⟩ := getSource_spec hsrc
  -- `id` can only be available as an output of `p`
  have avail_cases : ∀ (pre : List Nat), Avail g true (availAfter g ins pre) id → p ∈ pre :=
    fun pre hav => (source_mem_of_avail hu hsrc hav).resolve_left (by simp [rContains_iff, hc, hin])
  -- if `p` were kept, `id` would be resolved from then on, and so returned
  rcases hd with ho | ⟨preb, b, postb, bop, rfl, hbop, hbp, hdep⟩
  · obtain ⟨pre, post, rfl⟩ := List.append_of_mem (avail_cases plan (hok.outputs id ho))
    refine ⟨pre, post, rfl, hpop, eq_true_of_ne_false fun hpr => hnot ?_⟩
    exact mem_newOutputs.mpr
      ⟨((pruneFold_inv g _ ins).cand id).mpr ((kept_at_step hpop hpr).2 id hout), Or.inl ho⟩
  · obtain ⟨bop', hbop', hav⟩ := validIds_split hok.valid rfl
    cases hbop.symm.trans hbop'
    obtain ⟨pre, mid, rfl⟩ := List.append_of_mem (avail_cases preb (hav id hdep))
    refine ⟨pre, mid ++ b :: postb, List.append_assoc .., hpop,
      eq_true_of_ne_false fun hpr => hnot ?_⟩
    exact pruned_input_returned hbop hbp hdep
      (rContains_of_mem ((kept_at_step hpop hpr).2 id hout)) hc

/-! The naive evaluation ranks the request by its budget: a value that is read with budget `f + 1`
and is not an input was produced by an operator evaluated with budget `f`.  Stated for planning
from any resolved set `r0` that, on ids some operator produces, resolves no more than the
evaluation's inputs `W` (`partial_run` plans from a part of them). -/

section
variable {Ω V : Type}
variable {g : Graph} {sem : Sem Ω V} {ω : Ω} {cv : Nat → V} {W : List (Nat × V)} {r0 : List Nat}

theorem ranked_of_den {opts : PlanOptions} {outs : List Nat}
    (hsrc : ∀ d x, rContains g r0 d = false → getSource g d = some x →
      rContains g (W.map (fun p => p.1)) d = false)
    (hnone : ∀ d, rContains g r0 d = false → getSource g d = none →
      opts.allowMissing = true ∨ rContains g (W.map (fun p => p.1)) d = false)
    (hden : ∀ o ∈ outs, ∃ v, Den g sem ω cv W o v) :
    Ranked g opts r0 outs (OpEval g sem ω cv W) := by
  have key : ∀ {f d w} {Q : Nat → Prop}, evalAt g sem ω cv W f d = some w →
      (∀ f' p, f = f' + 1 → OpEval g sem ω cv W f' p → Q p) → rContains g r0 d = false →
      SourceIs g opts Q d := by
    intro f d w Q h hQ hr
    unfold SourceIs
    cases hs : getSource g d with
    | none =>
      refine (hnone d hr hs).resolve_right fun hw => ?_
      obtain ⟨_, _, _, _, hs', _⟩ := evalAt_unresolved h hw
      rw [hs] at hs'; cases hs'
    | some pp =>
      obtain ⟨f', p', pop', hf, hs', he⟩ := evalAt_unresolved h (hsrc d _ hr hs)
      rw [hs] at hs'
      obtain rfl := Option.some.inj hs'
      exact hQ f' _ hf he
  refine ⟨fun o ho hr => ?_, fun f x xop d hx hxop hd hr => ?_⟩
  · obtain ⟨v, f, hf⟩ := hden o ho
    exact key hf (fun f' p _ he => ⟨f', he⟩) hr
  · obtain ⟨w, hw⟩ := hx.dep hxop hd
    exact key hw (fun f' p hf he => ⟨f', hf ▸ Nat.lt_succ_self _, he⟩) hr

theorem needed_opEval {outs : List Nat}
    (hr0 : ∀ d x, rContains g r0 d = false → getSource g d = some x →
      rContains g (W.map (fun p => p.1)) d = false)
    (hden : ∀ o ∈ outs, ∃ v, Den g sem ω cv W o v) {p : Nat}
    (hn : Needed g r0 outs p) : ∃ f, OpEval g sem ω cv W f p :=
  (ranked_of_den (opts := { allowMissing := true }) hr0 (fun _ _ _ => Or.inl rfl) hden).needed hn

end

end RtenVerif.PartialRun
