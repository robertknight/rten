import RtenVerif.Model.Protobuf

/-! For C38: the reader arithmetic on `UInt64` read in `Nat`, and one specification per reader operation
(`StepSpec`, `ValueSpec`, the `nextField_*` lemmas): where the position ends up, that it stays within the limit
and never wraps, that a failure is an error a real decoder run can produce, and how many reads were counted. -/
namespace RtenVerif.Protobuf

/-- An error outcome that a real decoder run can produce (not a model pseudo-outcome). -/
def Err.real (e : Err) : Prop := e ≠ .wrap ∧ e ≠ .fuel

theorem size_eq : UInt64.size = 18446744073709551616 := rfl

theorem toNat_add_of_lt {a b : UInt64} (h : a.toNat + b.toNat < UInt64.size) :
    (a + b).toNat = a.toNat + b.toNat := by
  rw [UInt64.toNat_add]; exact Nat.mod_eq_of_lt h

theorem addU_ok {a b c : UInt64} (h : addU a b = .ok c) :
    c.toNat = a.toNat + b.toNat := by
  unfold addU at h
  split at h
  · rename_i hlt
    cases h
    exact toNat_add_of_lt hlt
  · cases h

theorem addU_of_lt {a b : UInt64} (h : a.toNat + b.toNat < UInt64.size) :
    addU a b = .ok (a + b) := by
  unfold addU; rw [if_pos h]

theorem addU_error {a b : UInt64} {e : Err} (h : addU a b = .error e) :
    UInt64.size ≤ a.toNat + b.toNat ∧ e = .wrap := by
  unfold addU at h
  split at h
  · cases h
  · rename_i hn; cases h; exact ⟨by omega, rfl⟩

theorem satSub_toNat (a b : UInt64) : (satSub a b).toNat = a.toNat - b.toNat := by
  unfold satSub; split
  · rename_i h; rw [UInt64.toNat_sub_of_le _ _ h]
  · rename_i h; simp [UInt64.le_iff_toNat_le] at h; simp; omega

theorem sizeU_toNat {d : Bytes} (h : d.size < UInt64.size) : (sizeU d).toNat = d.size := by
  unfold sizeU; exact UInt64.toNat_ofNat_of_lt' h

theorem lrCheck_iff (pos end_ len : UInt64) :
    lrCheck pos end_ len = true ↔ len.toNat ≤ end_.toNat - pos.toNat := by
  unfold lrCheck lrRemaining
  rw [decide_eq_true_iff, UInt64.le_iff_toNat_le, satSub_toNat]

theorem vrRem_toNat {d : Bytes} (h : d.size < UInt64.size) (pos : UInt64) :
    (vrRemaining d pos).toNat = d.size - pos.toNat := by
  unfold vrRemaining; rw [satSub_toNat, sizeU_toNat h]

/-- On success the position advances by exactly `len` and stays within `end_`; failures are real
errors (never the `wrap` / `fuel` pseudo-outcomes). -/
structure StepSpec (r : Except Err UInt64) (pos end_ len : UInt64) : Prop where
  ok : ∀ p, r = .ok p → p.toNat = pos.toNat + len.toNat ∧ p.toNat ≤ end_.toNat
  err : ∀ e, r = .error e → e.real

theorem real_eof : Err.real .eof := ⟨by decide, by decide⟩
theorem real_io : Err.real .io := ⟨by decide, by decide⟩
theorem real_invalidVarint : Err.real .invalidVarint := ⟨by decide, by decide⟩
theorem real_typeMismatch : Err.real .typeMismatch := ⟨by decide, by decide⟩
theorem real_invalidWireType : Err.real .invalidWireType := ⟨by decide, by decide⟩
theorem real_invalidUtf8 : Err.real .invalidUtf8 := ⟨by decide, by decide⟩
theorem real_tooDeep : Err.real .tooDeep := ⟨by decide, by decide⟩

section
variable {d : Bytes} (hsz : d.size < UInt64.size) {pos end_ : UInt64}
  (hpe : pos.toNat ≤ end_.toNat) (hes : end_.toNat ≤ d.size)
include hsz hpe hes

theorem StepSpec.of_add {len : UInt64} (hc : len.toNat ≤ end_.toNat - pos.toNat) :
    StepSpec (.ok (pos + len)) pos end_ len := by
  have := size_eq
  refine ⟨fun p hp => ?_, nofun⟩
  cases hp
  rw [toNat_add_of_lt (by omega)]; omega

omit hsz hpe hes in
theorem StepSpec.of_error {len : UInt64} {e : Err} (he : e.real) :
    StepSpec (.error e) pos end_ len :=
  ⟨nofun, fun _ h => by cases h; exact he⟩

theorem checked_room {len : UInt64} (hc : len.toNat ≤ end_.toNat - pos.toNat) :
    len ≤ vrRemaining d pos ∧ addU pos len = .ok (pos + len) := by
  have := size_eq
  exact ⟨by rw [UInt64.le_iff_toNat_le, vrRem_toNat hsz]; omega, addU_of_lt (by omega)⟩

theorem lrSub_spec (len : UInt64) : StepSpec (lrSub pos end_ len) pos end_ len := by
  unfold lrSub
  by_cases hc : lrCheck pos end_ len = true
  · rw [if_pos hc]
    rw [lrCheck_iff] at hc
    rw [(checked_room hsz hpe hes hc).2]
    exact .of_add hsz hpe hes hc
  · rw [if_neg hc]; exact .of_error real_eof

theorem vrReadExact_eq {n : UInt64} (hn : n.toNat ≤ end_.toNat - pos.toNat) :
    vrReadExact d pos n = .ok (pos + n) := by
  have ⟨h1, h2⟩ := checked_room hsz hpe hes hn
  unfold vrReadExact
  rw [if_pos h1, h2]

theorem lrReadFixed_spec (n : UInt64) : StepSpec (lrReadFixed d pos end_ n) pos end_ n := by
  unfold lrReadFixed
  by_cases hc : lrCheck pos end_ n = true
  · rw [if_pos hc]
    rw [lrCheck_iff] at hc
    rw [vrReadExact_eq hsz hpe hes hc]
    exact .of_add hsz hpe hes hc
  · rw [if_neg hc]; exact .of_error real_eof

theorem lrReadBytes_spec (len : UInt64) : StepSpec (lrReadBytes d pos end_ len) pos end_ len := by
  unfold lrReadBytes
  by_cases hc : lrCheck pos end_ len = true
  · rw [if_pos hc]
    rw [lrCheck_iff] at hc
    unfold vrReadBytes
    rw [if_pos (checked_room hsz hpe hes hc).1, vrReadExact_eq hsz hpe hes hc]
    exact .of_add hsz hpe hes hc
  · rw [if_neg hc]; exact .of_error real_eof

theorem lrSkip_spec (len : UInt64) : StepSpec (lrSkip d pos end_ len) pos end_ len := by
  unfold lrSkip
  by_cases hc : lrCheck pos end_ len = true
  · rw [if_pos hc]
    rw [lrCheck_iff] at hc
    have ⟨h1, h2⟩ := checked_room hsz hpe hes hc
    unfold vrSkip
    rw [if_pos h1]
    -- `i64::try_from(len)` fails only for lengths no input can have
    by_cases h63 : len.toNat < 2 ^ 63
    · rw [if_pos h63, h2]; exact .of_add hsz hpe hes hc
    · rw [if_neg h63]; exact .of_error real_eof
  · rw [if_neg hc]; exact .of_error real_eof

end

theorem readVarintAux_spec {d : Bytes} (hsz : d.size < UInt64.size) :
    ∀ (k idx : Nat) (v pos : UInt64),
      (∀ x p, readVarintAux d k idx v pos = .ok x p →
          pos.toNat < p.toNat ∧ p.toNat ≤ pos.toNat + k ∧ p.toNat ≤ d.size) ∧
      (∀ p, readVarintAux d k idx v pos = .eof p →
          pos.toNat ≤ p.toNat ∧ d.size ≤ p.toNat ∧ (p.toNat ≤ d.size ∨ p = pos)) := by
  have := size_eq
  intro k idx v pos
  -- a byte was read at `pos`, so `pos + 1` does not wrap
  have h1 {pos : UInt64} {b : UInt8} (hb : d[pos.toNat]? = some b) :
      pos.toNat < d.size ∧ (pos + 1).toNat = pos.toNat + 1 := by
    have hlt : pos.toNat < d.size := (Array.getElem?_eq_some_iff.mp hb).1
    exact ⟨hlt, toNat_add_of_lt (show pos.toNat + 1 < UInt64.size by omega)⟩
  fun_induction readVarintAux d k idx v pos
  -- case1 (budget used up), case3 (tenth byte too large): `.invalid`; case4: the last byte;
  -- case5: a continuation byte
  case case1 | case3 => exact ⟨nofun, nofun⟩
  case case2 pos hb =>
    -- end of input: the reader stays where it is
    refine ⟨nofun, fun p h => ?_⟩
    cases h
    exact ⟨Nat.le_refl _, Array.getElem?_eq_none_iff.mp hb, .inr rfl⟩
  case case4 hb _ _ _ =>
    refine ⟨fun x p h => ?_, nofun⟩
    cases h
    have := h1 hb
    omega
  case case5 hb _ _ ih =>
    have := h1 hb
    refine ⟨fun x p h => ?_, fun p h => ?_⟩
    · have := ih.1 x p h
      omega
    · obtain ⟨a1, a2, a3⟩ := ih.2 p h
      refine ⟨by omega, a2, .inl ?_⟩
      rcases a3 with a3 | a3
      · exact a3
      · rw [a3]; omega

section
variable {d : Bytes} (hsz : d.size < UInt64.size) {pos end_ : UInt64}
  (hpe : pos.toNat ≤ end_.toNat) (hes : end_.toNat ≤ d.size)
include hsz hpe hes

omit hpe hes in
theorem lrReadVarint_ok {v p : UInt64} (h : lrReadVarint d pos end_ = .ok v p) :
    pos.toNat < p.toNat ∧ p.toNat ≤ end_.toNat ∧ p.toNat ≤ pos.toNat + 10 := by
  revert h
  fun_cases lrReadVarint d pos end_ <;> intro h <;> cases h
  -- the one accepting leaf: the inner reader succeeded and did not pass `end_`
  case case2 hgt hq =>
    have := (readVarintAux_spec hsz 10 0 0 pos).1 _ _ hq
    simp [UInt64.lt_iff_toNat_lt] at hgt
    omega

theorem lrReadVarint_eof {p : UInt64} (h : lrReadVarint d pos end_ = .eof p) :
    p.toNat = end_.toNat ∧ pos.toNat ≤ p.toNat := by
  revert h
  fun_cases lrReadVarint d pos end_ <;> intro h <;> cases h
  -- the input ended inside the limit, or no byte was left before `end_`
  case case4 hq hgt =>
    have := (readVarintAux_spec hsz 10 0 0 pos).2 _ hq
    simp [UInt64.lt_iff_toNat_lt] at hgt
    omega
  case case6 hc =>
    have hc' : ¬ ((1 : UInt64).toNat ≤ end_.toNat - pos.toNat) := by
      rw [← lrCheck_iff]; exact hc
    have : (1 : UInt64).toNat = 1 := rfl
    omega
end

theorem readValueN_le_one (wt : UInt64) : readValueN wt ≤ 1 := by
  unfold readValueN; split <;> omega

section
variable {d : Bytes} (hsz : d.size < UInt64.size) {pos end_ : UInt64}
  (hpe : pos.toNat ≤ end_.toNat) (hes : end_.toNat ≤ d.size)
include hsz hpe hes

/-- What `readValue` promises: on success the position moves forward within the limit, by at
least `n` bytes (`n` = the reads counted by `readValueN`), and only a length-delimited value
carries a length; failures are real errors. -/
structure ValueSpec (r : Except Err (FieldValue × UInt64 × UInt64)) (n : Nat) (pos end_ : UInt64) :
    Prop where
  ok : ∀ fv p2 len, r = .ok (fv, p2, len) →
    pos.toNat ≤ p2.toNat ∧ p2.toNat ≤ end_.toNat ∧ n ≤ p2.toNat - pos.toNat ∧
      (fv = .len len ∨ (len = 0 ∧ ∀ l, fv ≠ .len l))
  err : ∀ e, r = .error e → e.real

omit hsz hpe hes in
theorem ValueSpec.of_ok {fv : FieldValue} {p len : UInt64} {n : Nat} (h1 : pos.toNat ≤ p.toNat)
    (h2 : p.toNat ≤ end_.toNat) (h3 : n ≤ p.toNat - pos.toNat)
    (h4 : fv = .len len ∨ (len = 0 ∧ ∀ l, fv ≠ .len l)) : ValueSpec (.ok (fv, p, len)) n pos end_ :=
  ⟨fun _ _ _ h => by cases h; exact ⟨h1, h2, h3, h4⟩, nofun⟩

omit hsz hpe hes in
theorem ValueSpec.of_error {e : Err} {n : Nat} (he : e.real) : ValueSpec (.error e) n pos end_ :=
  ⟨nofun, fun _ h => by cases h; exact he⟩

theorem readValue_spec (wt : UInt64) :
    ValueSpec (readValue d wt pos end_) (readValueN wt) pos end_ := by
  have hN := readValueN_le_one wt
  have hf (n : UInt64) := lrReadFixed_spec hsz hpe hes n
  have h4 : (4 : UInt64).toNat = 4 := rfl
  have h8 : (8 : UInt64).toNat = 8 := rfl
  fun_cases readValue d wt pos end_
  -- wire types 0 and 2: a varint (for 2 it is the length)
  case case1 hv =>
    have := lrReadVarint_ok hsz hv
    exact .of_ok (by omega) (by omega) (by omega) (.inr ⟨rfl, nofun⟩)
  case case6 hv =>
    have := lrReadVarint_ok hsz hv
    exact .of_ok (by omega) (by omega) (by omega) (.inl rfl)
  case case2 | case7 => exact .of_error real_eof
  case case3 | case8 => exact .of_error real_invalidVarint
  -- wire types 1 and 5: eight or four bytes
  case case4 p hv =>
    have := (hf 8).ok p hv
    exact .of_ok (by omega) (by omega) (by omega) (.inr ⟨rfl, nofun⟩)
  case case11 p hv =>
    have := (hf 4).ok p hv
    exact .of_ok (by omega) (by omega) (by omega) (.inr ⟨rfl, nofun⟩)
  case case5 e hv => exact .of_error ((hf 8).err e hv)
  case case12 e hv => exact .of_error ((hf 4).err e hv)
  -- group markers read nothing
  case case9 | case10 =>
    exact .of_ok (Nat.le_refl _) hpe (by subst wt; exact Nat.zero_le _) (.inr ⟨rfl, nofun⟩)
  case case13 => exact .of_error real_invalidWireType

omit hpe in
theorem nextField_field {num : UInt64} {fv : FieldValue} {p fend : UInt64}
    (h : nextField d pos end_ = .field num fv p fend) :
    pos.toNat < p.toNat ∧ p.toNat ≤ fend.toNat ∧ fend.toNat ≤ end_.toNat ∧
      (∀ l, fv = .len l → fend.toNat = p.toNat + l.toNat) := by
  unfold nextField at h
  split at h
  · cases h
  · cases h
  · rename_i tag p1 htag
    have ht := lrReadVarint_ok hsz htag
    split at h
    · cases h
    · rename_i fv' p2 len hval
      have hv := (readValue_spec hsz (pos := p1) (by omega) hes _).ok _ _ _ hval
      split at h
      · rename_i fend' hsub
        cases h
        have hs := (lrSub_spec hsz (pos := p) (end_ := end_) (by omega) hes len).ok _ hsub
        refine ⟨by omega, by omega, by omega, ?_⟩
        intro l hl
        rcases hv.2.2.2 with h1 | ⟨_, h2⟩
        · rw [hl] at h1; cases h1; omega
        · exact absurd hl (h2 l)
      · cases h

theorem nextField_done {p : UInt64} (h : nextField d pos end_ = .done p) :
    p.toNat = end_.toNat ∧ pos.toNat ≤ p.toNat := by
  unfold nextField at h
  split at h
  · rename_i q hq
    cases h
    exact lrReadVarint_eof hsz hpe hes hq
  · cases h
  · split at h
    · cases h
    · split at h <;> cases h

omit hpe in
theorem nextField_err {e : Err} (h : nextField d pos end_ = .err e) : e.real := by
  unfold nextField at h
  split at h
  · cases h
  · cases h; exact real_invalidVarint
  · rename_i tag p1 htag
    have ht := lrReadVarint_ok hsz htag
    split at h
    · rename_i e' hval
      cases h
      exact (readValue_spec hsz (pos := p1) (by omega) hes _).err _ hval
    · rename_i fv' p2 len hval
      have hv := (readValue_spec hsz (pos := p1) (by omega) hes _).ok _ _ _ hval
      split at h
      · cases h
      · rename_i e' hsub
        cases h
        exact (lrSub_spec hsz (pos := p2) (end_ := end_) (by omega) hes len).err _ hsub

omit hsz hpe hes in
theorem nextFieldN_le_two (d : Bytes) (pos end_ : UInt64) : nextFieldN d pos end_ ≤ 2 := by
  unfold nextFieldN
  split
  · rename_i tag p1 htag
    have := readValueN_le_one (tag &&& 7); omega
  · omega

omit hpe in
/-- Reads made by a successful `Fields::next` never exceed the header bytes it consumed. -/
theorem nextFieldN_field {num : UInt64} {fv : FieldValue} {p fend : UInt64}
    (h : nextField d pos end_ = .field num fv p fend) :
    nextFieldN d pos end_ ≤ p.toNat - pos.toNat := by
  unfold nextField at h
  unfold nextFieldN
  split at h
  · cases h
  · cases h
  · rename_i tag p1 htag
    have ht := lrReadVarint_ok hsz htag
    rw [htag]
    simp only []
    split at h
    · cases h
    · rename_i fv' p2 len hval
      have hv := (readValue_spec hsz (pos := p1) (by omega) hes _).ok _ _ _ hval
      split at h
      · cases h; omega
      · cases h

omit hes in
theorem nextFieldN_le_len : nextFieldN d pos end_ ≤ (end_.toNat - pos.toNat) + 1 := by
  unfold nextFieldN
  split
  · rename_i tag p1 htag
    have ht := lrReadVarint_ok hsz htag
    have := readValueN_le_one (tag &&& 7)
    omega
  · omega

end

end RtenVerif.Protobuf
