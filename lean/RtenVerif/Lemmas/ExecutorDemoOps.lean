import RtenVerif.Lemmas.ExecutorOrder
import RtenVerif.Lemmas.PlannerComplete
/-!
# C02 — fixtures: a value-dependent operator table satisfying `Contract`, two independent operators

`sumOps`: every operator returns one value, the sum of its present inputs, of the values its
subgraphs capture, and of its own node id (an `Add`-like commutative operator that *reads*
all of its operands).  `run_in_place` adds the taken values to the remaining inputs.  The
contract `run_in_place = run on the re-assembled list` holds for it because the taken
positions are distinct placeholders of the input list.
-/
namespace RtenVerif.Executor
open RtenVerif.Graph RtenVerif.Planner

def sumO : List (Option Nat) → Nat
  | [] => 0
  | none :: xs => sumO xs
  | some a :: xs => a + sumO xs

def sumT : List (Nat × Nat) → Nat
  | [] => 0
  | t :: ts => t.2 + sumT ts

def sumOps (ip : Nat → List Nat) (sub : Nat → Bool := fun _ => false) : Ops Nat :=
  { len := fun v => v
    inPlaceIdx := ip
    isSubgraph := sub
    run := fun i ins cs => some [sumO ins + sumO cs + i]
    runInPlace := fun i taken ins => some [sumO ins + sumT taken + i] }

def takenFrom (taken : List (Nat × Nat)) (pos : Nat) : List (Nat × Nat) :=
  taken.filter (fun t => decide (pos ≤ t.1))

theorem sumT_takenFrom_split (taken : List (Nat × Nat)) (pos : Nat) :
    sumT (takenFrom taken pos) =
      sumT (taken.filter (fun t => decide (t.1 = pos))) + sumT (takenFrom taken (pos + 1)) := by
  induction taken with
  | nil => rfl
  | cons t ts ih =>
    unfold takenFrom at ih ⊢
    simp only [List.filter_cons, decide_eq_true_eq]
    by_cases h1 : pos ≤ t.1
    · by_cases h2 : t.1 = pos
      · have h3 : ¬ (pos + 1 ≤ t.1) := by omega
        rw [if_pos h1, if_pos h2, if_neg h3]
        simp only [sumT]; omega
      · have h3 : pos + 1 ≤ t.1 := by omega
        rw [if_pos h1, if_neg h2, if_pos h3]
        simp only [sumT]; omega
    · have h2 : ¬ t.1 = pos := by omega
      have h3 : ¬ (pos + 1 ≤ t.1) := by omega
      rw [if_neg h1, if_neg h2, if_neg h3]
      exact ih

theorem sumT_at_none (taken : List (Nat × Nat)) (pos : Nat) (h : ∀ v, (pos, v) ∉ taken) :
    sumT (taken.filter (fun t => decide (t.1 = pos))) = 0 := by
  induction taken with
  | nil => rfl
  | cons t ts ih =>
    simp only [List.filter_cons, decide_eq_true_eq]
    have hne : ¬ t.1 = pos := by
      intro he
      exact h t.2 (by rw [← he]; exact List.mem_cons_self)
    rw [if_neg hne]
    exact ih (fun v hv => h v (List.mem_cons_of_mem _ hv))

theorem sumT_at_one (taken : List (Nat × Nat)) (pos v : Nat) (hm : (pos, v) ∈ taken)
    (hnd : (taken.map (fun t => t.1)).Nodup) :
    sumT (taken.filter (fun t => decide (t.1 = pos))) = v := by
  induction taken with
  | nil => simp at hm
  | cons t ts ih =>
    simp only [List.map_cons, List.nodup_cons] at hnd
    simp only [List.filter_cons, decide_eq_true_eq]
    rcases List.mem_cons.mp hm with heq | hm'
    · subst heq
      simp only [if_true, sumT]
      have : sumT (ts.filter (fun t => decide (t.1 = pos))) = 0 := by
        apply sumT_at_none
        intro w hw
        exact hnd.1 (List.mem_map.mpr ⟨(pos, w), hw, rfl⟩)
      omega
    · have hne : ¬ t.1 = pos := by
        intro he
        exact hnd.1 (List.mem_map.mpr ⟨(pos, v), hm', he.symm⟩)
      rw [if_neg hne]
      exact ih hm' hnd.2

theorem sumO_fill {taken : List (Nat × Nat)} {pos : Nat} {ins full : List (Option Nat)}
    (h : FillsFrom taken pos ins full) (hnd : (taken.map (fun t => t.1)).Nodup)
    (hr : ∀ t ∈ taken, pos ≤ t.1 → t.1 < pos + ins.length) :
    sumO full = sumO ins + sumT (takenFrom taken pos) := by
  induction h with
  | nil p0 =>
    have : takenFrom taken p0 = [] := by
      unfold takenFrom
      rw [List.filter_eq_nil_iff]
      intro t ht
      have := hr t ht
      simp only [List.length_nil, Nat.add_zero] at this
      simp only [decide_eq_true_eq]
      omega
    rw [this]; rfl
  | @keep p0 x xs ys hkeep _ ih =>
    have ih' := ih (by
      intro t ht hp
      have := hr t ht (by omega)
      simp only [List.length_cons] at this
      omega)
    rw [sumT_takenFrom_split, sumT_at_none taken p0 hkeep]
    cases x with
    | none => simp only [sumO]; omega
    | some a => simp only [sumO]; omega
  | @put p0 v xs ys hm _ ih =>
    have ih' := ih (by
      intro t ht hp
      have := hr t ht (by omega)
      simp only [List.length_cons] at this
      omega)
    rw [sumT_takenFrom_split, sumT_at_one taken p0 v hm hnd]
    simp only [sumO]; omega

/-- **`sumOps` satisfies the contract** (for any graph, given in-place positions without
repetition and no in-place subgraph operator), although every operator depends on the value of
each of its operands. -/
theorem sumOps_contract (ip : Nat → List Nat) (sub : Nat → Bool) (g : Graph)
    (hip : ∀ i, (ip i).Nodup) (hsub : ∀ i, ip i ≠ [] → sub i = false) :
    Contract (sumOps ip sub) g := by
  refine ⟨hip, hsub, ?_⟩
  intro i op _ taken ins full _ hnd hplace _ _ hfill
  simp only [sumOps]
  have := sumO_fill hfill hnd (by
    intro t ht _
    have := hplace t.1 t.2 ht
    have := (List.getElem?_eq_some_iff.mp this).1
    omega)
  rw [show takenFrom taken 0 = taken from List.filter_eq_self.mpr (fun t _ => by simp)] at this
  rw [this]
  simp [sumO]

/-- The contract is not vacuous for `sumOps`: the result depends on the operand. -/
example : (sumOps (fun _ => [0])).run 7 [some 1] [] ≠ (sumOps (fun _ => [0])).run 7 [some 2] [] := by
  decide

/-! ## Two independent operators on one input

The fixtures of the plan-order theorems of `Props/C02.lean`: both orders `[3, 4]` and `[4, 3]`
are `PlanOK` plans of one request on a graph with unique producers. -/

/-- `0:x 1:a 2:b  3: a = F(x)  4: b = G(x)`.  Both operators fail in `c02_error_depends_on_order`
(`Props/C02.lean`); the other fixtures run the graph with operators that succeed. -/
def twoFailing : Graph :=
  { nodes := [.value, .value, .value,
      .operator { inputs := [some 0], outputs := [some 1] },
      .operator { inputs := [some 0], outputs := [some 2] }] }

theorem twoFailing_valid {p : List Nat} (hp : p = [3, 4] ∨ p = [4, 3]) :
    ValidIds twoFailing false [0] p := by
  rcases hp with rfl | rfl <;> refine ⟨⟨_, rfl, ?_⟩, ⟨_, rfl, ?_⟩, trivial⟩ <;>
  · intro d hd
    have : d = 0 := by simpa [opDeps, opInputs] using hd
    subst this
    exact Or.inl (by decide)

theorem twoFailing_unique : UniqueProducer twoFailing :=
  uniqueProducer_of_upCheck (by decide)

theorem twoFailing_disj : Disj twoFailing [3, 4] :=
  disj_of_uniqueProducer twoFailing_unique _

/-- Operators that succeed on the graph `twoFailing` (two independent operators). -/
def okOps : Ops Nat := sumOps (fun _ => [])

theorem okOps_contract : Contract okOps twoFailing :=
  sumOps_contract _ _ _ (fun _ => List.nodup_nil) (fun _ h => absurd rfl h)

def twoRun : Run Nat :=
  { g := twoFailing, consts := fun _ => 0
    borrowed := fun v => if v = 0 then some 10 else none, owned := fun _ => none }

theorem twoRun_wf : WF twoRun :=
  ⟨rfl, fun v hv => absurd rfl hv, fun v hv => absurd rfl hv,
    outsValue_of_allOps (g := twoFailing) (by decide)⟩

theorem twoFailing_planOK {p : List Nat} (hp : p = [3, 4] ∨ p = [4, 3]) :
    PlanOK twoFailing false (resolvedNew twoFailing [0] false) [1, 2] p := by
  refine ⟨by rcases hp with rfl | rfl <;> decide, twoFailing_valid hp, ?_, ?_⟩
  · intro o ho
    simp only [List.mem_cons, List.not_mem_nil, or_false] at ho
    rcases hp with rfl | rfl <;> rcases ho with rfl | rfl <;> exact Or.inl (by decide)
  · intro i hi
    have : i = 3 ∨ i = 4 := by rcases hp with rfl | rfl <;> simpa [or_comm] using hi
    rcases this with rfl | rfl
    · exact .root (o := 1) (by simp) (by decide) (by rfl)
    · exact .root (o := 2) (by simp) (by decide) (by rfl)

theorem twoFailing_planOK34 :
    PlanOK twoFailing false (resolvedNew twoFailing [0] false) [1, 2] [3, 4] :=
  twoFailing_planOK (Or.inl rfl)

theorem twoFailing_planOK43 :
    PlanOK twoFailing false (resolvedNew twoFailing [0] false) [1, 2] [4, 3] :=
  twoFailing_planOK (Or.inr rfl)

def ipOps : Ops Nat := sumOps (fun i => if i = 3 ∨ i = 4 then [0] else [])

theorem ipOps_contract : Contract ipOps twoFailing :=
  sumOps_contract _ _ _ (fun i => by split <;> simp) (fun _ _ => rfl)

def twoRunOwned : Run Nat :=
  { g := twoFailing, consts := fun _ => 0
    borrowed := fun _ => none, owned := fun v => if v = 0 then some 10 else none }

theorem twoRunOwned_wf : WF twoRunOwned := by
  refine ⟨rfl, fun v _ => rfl, ?_, twoRun_wf.outsValue⟩
  intro v hv
  by_cases h : v = 0
  · subst h; rfl
  · simp [twoRunOwned, h] at hv

end RtenVerif.Executor
