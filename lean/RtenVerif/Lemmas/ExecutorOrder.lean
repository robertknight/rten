import RtenVerif.Lemmas.ExecutorRun
import RtenVerif.Lemmas.PlannerSpec
/-!
# C02 — the naive evaluation does not depend on the order of the plan

For plans whose operators write pairwise disjoint ids (single assignment; true of every graph
with unique producers) and in which every operator runs after its dependencies are available
(C03's `ValidIds`): any valid plan `Q` over the same operators reaches the same final
environment as `P`, provided `P` runs without error (`evalNaive_order` in
`Lemmas/ExecutorOrderMain.lean`).  Here: a successful naive step carries over to any environment
that agrees on the operator's dependencies (`naiveStep_transport`), and what the run of `P` tells
about each of its entries (`plan_at`).
-/
namespace RtenVerif.Executor
open RtenVerif.Graph RtenVerif.Planner

def Disj (g : Graph) (plan : List Nat) : Prop :=
  ∀ i ∈ plan, ∀ j ∈ plan, i ≠ j → ∀ v, v ∈ outsOf g i → v ∉ outsOf g j

theorem disj_of_uniqueProducer {g : Graph} (h : UniqueProducer g) (plan : List Nat) : Disj g plan := by
  intro i _ j _ hne v hvi hvj
  obtain ⟨opi, hi, hvi⟩ := mem_outsOf.mp hvi
  obtain ⟨opj, hj, hvj⟩ := mem_outsOf.mp hvj
  exact hne (Option.some.inj ((h i opi v hi hvi).symm.trans (h j opj v hj hvj)))

theorem avail_cases {g : Graph} {r0 w : List Nat} {d : Nat} (h : Avail g false (r0 ++ w) d) :
    d ∈ r0 ∨ d ∈ w ∨ isConstant g d = true := by
  rcases h with h | h
  · rw [rContains_iff, List.mem_append] at h
    rcases h with (h | h) | h
    · exact Or.inl h
    · exact Or.inr (Or.inl h)
    · exact Or.inr (Or.inr h)
  · cases h.1

theorem val_of_avail {V : Type} (r : Run V) {r0 w : List Nat} {E E' : Nat → Option V} {d : Nat}
    (hin : ∀ d ∈ r0, r.isInput d = true) (hav : Avail r.g false (r0 ++ w) d)
    (hag : ∀ v ∈ w, E v = E' v) : val r E d = val r E' d := by
  rcases avail_cases hav with h | h | h
  · exact val_indep_input r E E' (hin d h)
  · exact val_congr r (hag d h)
  · exact val_indep_const r E E' h

theorem naiveInputs_congr_mem {V : Type} {f g : Nat → Option V} (l : List (Option Nat))
    (h : ∀ id, some id ∈ l → f id = g id) : naiveInputs f l = naiveInputs g l := by
  induction l with
  | nil => rfl
  | cons x xs ih =>
    have ih' := ih (fun id hid => h id (List.mem_cons_of_mem _ hid))
    cases x with
    | none => simp only [naiveInputs, ih']
    | some id => simp only [naiveInputs, h id List.mem_cons_self, ih']

theorem naiveStep_transport {V : Type} {ops : Ops V} {r : Run V} {E1 E1' : Nat → Option V} {i : Nat}
    (h : naiveStep ops r nocap E1 i = .ok E1') :
    ∃ op vs, getOp r.g i = some op ∧ op.outputs.length ≤ vs.length ∧
      E1' = naiveStore E1 op.outputs vs ∧
      (∀ E2 : Nat → Option V, (∀ d ∈ opDeps r.g op, val r E1 d = val r E2 d) →
        naiveStep ops r nocap E2 i = .ok (naiveStore E2 op.outputs vs)) := by
  revert h
  fun_cases naiveStep ops r nocap E1 i
  case case5 op hop ins hi cs vs hr hlen =>
    intro h
    cases h
    simp only [cs] at hr
    refine ⟨op, vs, hop, by omega, rfl, ?_⟩
    intro E2 hdeps
    have e1 : naiveInputs (naiveLook r nocap E2) op.inputs = some ins := by
      rw [← hi]
      apply naiveInputs_congr_mem
      intro id hid
      exact (hdeps id (List.mem_append_left _ (List.mem_filterMap.mpr ⟨some id, hid, rfl⟩))).symm
    have e2 : (capDeps r.g op).map (naiveLook r nocap E2) =
        (capDeps r.g op).map (naiveLook r nocap E1) := by
      apply List.map_congr_left
      intro d hd
      exact (hdeps d (mem_opDeps_cap hd)).symm
    simp only [naiveStep, hop, e1, e2, hr, hlen, if_false]
  all_goals exact fun h => nomatch h

theorem naiveStep_other {V : Type} {ops : Ops V} {r : Run V} {E E' : Nat → Option V} {i v : Nat}
    (h : naiveStep ops r nocap E i = .ok E') (hv : v ∉ outsOf r.g i) : E' v = E v := by
  obtain ⟨op, vs, hop, _, rfl, _⟩ := naiveStep_transport h
  rw [outsOf_eq hop] at hv
  exact naiveStore_other E op.outputs vs hv

theorem naiveSteps_other {V : Type} {ops : Ops V} {r : Run V} (l : List Nat) :
    ∀ {E E' : Nat → Option V} {v : Nat}, naiveSteps ops r nocap E l = .ok E' →
      v ∉ l.flatMap (outsOf r.g) → E' v = E v := by
  induction l with
  | nil => intro E E' v h _; simp only [naiveSteps, Except.ok.injEq] at h; rw [h]
  | cons i is ih =>
    intro E E' v h hv
    simp only [naiveSteps] at h
    cases hs : naiveStep ops r nocap E i with
    | error e => simp [hs] at h
    | ok E1 =>
      simp only [hs] at h
      simp only [List.flatMap_cons, List.mem_append, not_or] at hv
      rw [ih h hv.2, naiveStep_other hs hv.1]

theorem naiveSteps_append {V : Type} {ops : Ops V} {r : Run V} (a b : List Nat) :
    ∀ {E E' : Nat → Option V}, naiveSteps ops r nocap E (a ++ b) = .ok E' →
      ∃ E1, naiveSteps ops r nocap E a = .ok E1 ∧ naiveSteps ops r nocap E1 b = .ok E' := by
  induction a with
  | nil => intro E E' h; exact ⟨E, rfl, h⟩
  | cons i is ih =>
    intro E E' h
    simp only [List.cons_append, naiveSteps] at h ⊢
    cases hs : naiveStep ops r nocap E i with
    | error e => simp [hs] at h
    | ok E1 =>
      simp only [hs] at h ⊢
      exact ih h

/-- `Ei`: the environment in which the run of `P` reaches entry `i`; `vs`: what the operator returns
there. -/
theorem plan_at {V : Type} {ops : Ops V} {r : Run V} {P r0 : List Nat} {EP : Nat → Option V}
    (hP : naiveSteps ops r nocap (fun _ => none) P = .ok EP) (hnd : P.Nodup) (hdisj : Disj r.g P)
    (hvP : ValidIds r.g false r0 P) (hin : ∀ d ∈ r0, r.isInput d = true) {i : Nat} (hi : i ∈ P) :
    ∃ (Ei : Nat → Option V) (op : OpNode) (vs : List V),
      getOp r.g i = some op ∧ op.outputs.length ≤ vs.length ∧
      (∀ E2 : Nat → Option V, (∀ d ∈ opDeps r.g op, val r EP d = val r E2 d) →
        naiveStep ops r nocap E2 i = .ok (naiveStore E2 op.outputs vs)) ∧
      (∀ v ∈ outsOf r.g i, EP v = naiveStore Ei op.outputs vs v) := by
  obtain ⟨pre, post, hsplit⟩ := List.append_of_mem hi
  subst hsplit
  obtain ⟨Ei, hpre, hrest⟩ := naiveSteps_append pre (i :: post) hP
  simp only [naiveSteps] at hrest
  cases hs : naiveStep ops r nocap Ei i with
  | error e => simp [hs] at hrest
  | ok E' =>
    simp only [hs] at hrest
    obtain ⟨op, vs, hop, hlen, hE', htr⟩ := naiveStep_transport hs
    obtain ⟨op', hop', hav⟩ := validIds_split hvP rfl
    rw [hop] at hop'
    cases hop'
    have hnd' := List.nodup_append.mp hnd
    have hnd2 := List.nodup_cons.mp hnd'.2.1
    -- ids written before `i` are not written again by `i` or later entries
    have stable_dep : ∀ d ∈ opDeps r.g op, val r Ei d = val r EP d := by
      intro d hd
      apply val_of_avail r hin (hav d hd)
      intro v hv
      rw [List.mem_flatMap] at hv
      obtain ⟨j, hj, hvj⟩ := hv
      symm
      have hEP : naiveSteps ops r nocap Ei (i :: post) = .ok EP := by
        simp only [naiveSteps, hs]; exact hrest
      apply naiveSteps_other (i :: post) hEP
      intro hmem
      rw [List.mem_flatMap] at hmem
      obtain ⟨k, hk, hvk⟩ := hmem
      have hjk : j ≠ k := by
        rintro rfl
        exact hnd'.2.2 j hj j hk rfl
      exact hdisj j (List.mem_append_left _ hj) k (List.mem_append_right _ hk) hjk v hvj hvk
    refine ⟨Ei, op, vs, hop, hlen, ?_, ?_⟩
    · intro E2 h2
      exact htr E2 (fun d hd => (stable_dep d hd).trans (h2 d hd))
    · intro v hv
      have hnot : v ∉ post.flatMap (outsOf r.g) := by
        intro hmem
        rw [List.mem_flatMap] at hmem
        obtain ⟨k, hk, hvk⟩ := hmem
        have hik : i ≠ k := by rintro rfl; exact hnd2.1 hk
        exact hdisj i hi k (List.mem_append_right _ (List.mem_cons_of_mem _ hk)) hik v hv hvk
      rw [naiveSteps_other post hrest hnot, hE']

end RtenVerif.Executor
