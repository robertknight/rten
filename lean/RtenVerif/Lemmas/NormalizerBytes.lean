import RtenVerif.Lemmas.Normalizer
import RtenVerif.Lemmas.Utf8

/-!
C30, byte level: the char-list notions of `Model/Normalizer.lean` (`blen`, `isBoundary`) coincide
with the byte-level ones on the UTF-8 encoding (`Utf8.encode`, `Utf8.isBoundary`), and `Replace`
is total for every ordered, non-overlapping list of char-boundary ranges.
-/
namespace RtenVerif.Normalizer
open RtenVerif

def utf8 (t : List Char) : List Nat := Utf8.encode (t.map Char.toNat)

theorem encCp_length (c : Char) : (Utf8.encCp c.toNat).length = usize c := by
  unfold Utf8.encCp usize
  split
  · rfl
  split
  · rfl
  split <;> rfl

theorem utf8_cons (c : Char) (cs : List Char) : utf8 (c :: cs) = Utf8.encCp c.toNat ++ utf8 cs := rfl

theorem utf8_length (t : List Char) : (utf8 t).length = blen t := by
  induction t with
  | nil => rfl
  | cons c cs ih => rw [utf8_cons, List.length_append, encCp_length, ih]; rfl

/-- `normalized`/`text` are valid UTF-8 (a `String` in the Rust code). -/
theorem utf8_valid (t : List Char) : Utf8.valid (utf8 t) = true := by
  apply Utf8.valid_encode
  intro c hc
  rw [List.mem_map] at hc
  obtain ⟨ch, _, rfl⟩ := hc
  exact Utf8.char_isScalar ch

theorem utf8_head_not_cont (t : List Char) (b : Nat) (h : (utf8 t)[0]? = some b) :
    Utf8.isCont b = false := by
  cases t with
  | nil => cases h
  | cons c cs =>
    obtain ⟨b0, tl, he, hb0, _⟩ := Utf8.row_shape _ (Utf8.row_encCp _ (Utf8.char_isScalar c))
    rw [utf8_cons, he] at h
    cases h; exact hb0

/-- Char by char: inside the encoding of the first char both sides see no boundary, past it both
look at the rest. -/
theorem isBoundary_bytes : ∀ (t : List Char) (p : Nat),
    Utf8.isBoundary (utf8 t) p = isBoundary t p
  | [], p => by cases p <;> rfl
  | c :: cs, p => by
    obtain ⟨b0, tl, he, _, _, htl⟩ := Utf8.row_shape _ (Utf8.row_encCp _ (Utf8.char_isScalar c))
    have hlen := encCp_length c
    rw [utf8_cons]
    rcases Nat.lt_or_ge p (usize c) with hlt | hge
    · cases p with
      | zero => rfl
      | succ q =>
        rw [isBoundary_cons_lt c cs _ (Nat.succ_pos q) hlt, he]
        rw [he, List.length_cons] at hlen
        exact Utf8.isBoundary_cons_append_lt b0 htl (by omega)
    · obtain ⟨q, rfl⟩ : ∃ q, p = usize c + q := ⟨p - usize c, by omega⟩
      rw [isBoundary_cons_add, ← isBoundary_bytes cs q, ← hlen]
      exact Utf8.isBoundary_append_add (by rw [he]; exact List.cons_ne_nil _ _)
        (utf8_head_not_cont cs) q

/-- The regex contract `Replace` relies on: matches in order, non-overlapping, `start ≤ end`,
all on char boundaries of the text (`last` = end of the previous match). -/
def matchesOk (src : List Char) : List (Nat × Nat) → Nat → Bool
  | [], last => isBoundary src last
  | (s, e) :: ms, last =>
    decide (last ≤ s) && decide (s ≤ e) && isBoundary src last && isBoundary src s && matchesOk src ms e

theorem slice_isSome (t : List Char) (a b : Nat) (hab : a ≤ b) (ha : isBoundary t a = true)
    (hb : isBoundary t b = true) : ∃ seg, slice t a b = some seg := by
  obtain ⟨pre, r, rfl, rfl, hd, _⟩ := (split_spec t a).1 ha
  rw [← Nat.add_sub_of_le hab, isBoundary_append_add] at hb
  obtain ⟨seg, _, _, _, _, ht⟩ := (split_spec r _).1 hb
  exact ⟨seg, by simp [slice, hab, hd, ht]⟩

theorem replaceFrom_isSome (src content : List Char) : ∀ (ms : List (Nat × Nat)) (last : Nat),
    matchesOk src ms last = true → ∃ r, replaceFrom src content ms last = some r := by
  intro ms
  induction ms with
  | nil =>
    intro last h
    simp only [matchesOk] at h
    obtain ⟨seg, hseg⟩ := slice_isSome src last (blen src) (isBoundary_le _ _ h) h (isBoundary_blen src)
    exact ⟨(seg, List.range' last (blen src - last)), by simp [replaceFrom, hseg]⟩
  | cons m ms ih =>
    intro last h
    obtain ⟨s, e⟩ := m
    simp only [matchesOk, Bool.and_eq_true, decide_eq_true_eq] at h
    obtain ⟨⟨⟨⟨h1, h2⟩, h3⟩, h4⟩, h5⟩ := h
    obtain ⟨seg, hseg⟩ := slice_isSome src last s h1 h3 h4
    obtain ⟨r, hr⟩ := ih e h5
    refine ⟨(seg ++ content ++ r.1, List.range' last (s - last) ++ List.replicate (blen content) s ++ r.2), ?_⟩
    simp [replaceFrom, h2, hseg, hr]

end RtenVerif.Normalizer
