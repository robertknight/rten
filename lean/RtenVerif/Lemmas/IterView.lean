import RtenVerif.Lemmas.IterLayout
import RtenVerif.Lemmas.IterFold

/-!
C07 lemmas: views (`set size`, `index_axis`, `split_at`) and the refinement of
`AxisIter`/`AxisIterMut` (current, fixed `split_at`).
-/
namespace RtenVerif.Iter

theorem setSize_length (dims : List (Nat × Nat)) (a n : Nat) :
    (View.setSize dims a n).length = dims.length := List.length_modify ..

theorem setSize_setSize (dims : List (Nat × Nat)) (a m n : Nat) :
    View.setSize (View.setSize dims a m) a n = View.setSize dims a n :=
  List.modify_modify_eq ..

theorem setSize_getD (dims : List (Nat × Nat)) (a n : Nat) (h : a < dims.length) :
    (View.setSize dims a n).getD a (0, 0) = (n, (dims.getD a (0, 0)).2) := by
  simp [View.setSize, List.getD_eq_getElem?_getD, List.getElem?_eq_getElem h]

theorem setSize_eraseIdx (dims : List (Nat × Nat)) (a n : Nat) :
    (View.setSize dims a n).eraseIdx a = dims.eraseIdx a := List.eraseIdx_modify_of_eq ..

theorem total_setSize : ∀ (dims : List (Nat × Nat)) (a n : Nat), a < dims.length →
    total (View.setSize dims a n) = n * total (dims.eraseIdx a)
  | [], _, _, h => by simp at h
  | d :: ds, 0, n, _ => by simp [View.setSize, total]
  | d :: ds, a + 1, n, h => by
    have := total_setSize ds a n (by simpa using h)
    simp only [View.setSize, List.modify_succ_cons, List.eraseIdx_cons_succ, total] at this ⊢
    rw [this]; ac_rfl

/-- A view's item does not depend on its base when it has no elements. -/
theorem item_congr (b1 b2 : Nat) (dims : List (Nat × Nat)) (h : total dims ≠ 0 → b1 = b2) :
    View.item ⟨b1, dims⟩ = View.item ⟨b2, dims⟩ := by
  by_cases hz : total dims = 0
  · have : rowMajor dims = [] := List.length_eq_zero_iff.mp (by rw [rowMajor_length, hz])
    simp [View.item, this]
  · rw [h hz]

/-- The `i`-th logical item of `axis_iter(axis)` on `v`. -/
def axisItem (v : View) (axis i : Nat) : Item := (v.indexAxis axis i).item

def axisSpec (v : View) (axis : Nat) : List Item :=
  (List.range (v.size axis)).map (axisItem v axis)

structure AxisInv (s : AxisIter) : Prop where
  axis : s.axis < s.view.dims.length
  le : s.index ≤ s.stop
  stop : s.stop ≤ s.view.size s.axis

def absA (s : AxisIter) : List Item := window (axisItem s.view s.axis) s.index s.stop

/-- The two halves of `split_at(axis, mid)`.  An empty right half starts at the end of the data
(`end_offset..end_offset` in `MutLayout::split`), not at `mid * stride`. -/
def leftView (v : View) (axis mid : Nat) : View := ⟨v.base, View.setSize v.dims axis mid⟩
def rightView (v : View) (axis mid : Nat) : View :=
  ⟨if total (View.setSize v.dims axis (v.size axis - mid)) = 0 then v.base + minDataLen v.dims
    else v.base + mid * v.stride axis, View.setSize v.dims axis (v.size axis - mid)⟩

theorem axisItem_left (v : View) (axis mid i : Nat) :
    axisItem (leftView v axis mid) axis i = axisItem v axis i := by
  unfold leftView
  by_cases ha : axis < v.dims.length
  · simp only [axisItem, View.indexAxis, View.stride, setSize_eraseIdx, setSize_getD _ _ _ ha]
  · have : View.setSize v.dims axis mid = v.dims := by
      simp only [View.setSize]
      exact List.modify_eq_self (by omega)
    rw [this]

theorem axisItem_right (v : View) (axis mid j : Nat) (ha : axis < v.dims.length)
    (hj : j < v.size axis - mid) :
    axisItem (rightView v axis mid) axis j = axisItem v axis (j + mid) := by
  simp only [rightView, axisItem, View.indexAxis, View.stride, setSize_eraseIdx, setSize_getD _ _ _ ha]
  by_cases hE : total (v.dims.eraseIdx axis) = 0
  · simp only [hE, if_true]
    exact item_congr _ _ _ (fun h => absurd hE h)
  · simp only [hE, if_false]
    have : total (View.setSize v.dims axis (v.size axis - mid)) ≠ 0 := by
      rw [total_setSize _ _ _ ha]
      intro h0
      rcases Nat.mul_eq_zero.mp h0 with h | h
      · omega
      · exact hE h
    apply item_congr
    intro _
    rw [if_neg this, Nat.mul_add, Nat.mul_comm mid]
    omega

theorem axis_nextOk : NextOk AxisIter.next AxisInv absA := by
  intro s hs
  unfold AxisIter.next absA
  rw [window_head?, window_tail]
  split
  · next h =>
    have h' : s.stop ≤ s.index := h
    rw [if_neg (Nat.not_lt_of_le h')]
    exact ⟨rfl, (window_of_le _ _ _ h').trans (window_of_le _ _ _ (by omega)).symm, hs⟩
  · next h =>
    have h' : s.index < s.stop := Nat.lt_of_not_le h
    rw [if_pos h']
    exact ⟨rfl, rfl, hs.axis, h', hs.stop⟩

theorem axis_backOk : BackOk AxisIter.nextBack AxisInv absA := by
  intro s hs
  unfold AxisIter.nextBack absA
  rw [window_getLast?, window_dropLast]
  split
  · next h =>
    have h' : s.stop ≤ s.index := h
    rw [if_neg (Nat.not_lt_of_le h')]
    exact ⟨rfl, (window_of_le _ _ _ h').trans (window_of_le _ _ _ (by omega)).symm, hs⟩
  · next h =>
    have h' : s.index < s.stop := Nat.lt_of_not_le h
    rw [if_pos h']
    exact ⟨rfl, rfl, hs.axis, Nat.le_sub_one_of_lt h', Nat.le_trans (Nat.sub_le _ _) hs.stop⟩

theorem axis_len (s : AxisIter) : AxisIter.len s = (absA s).length := (window_length ..).symm

theorem view_splitAt_some (v : View) (axis mid : Nat) (ha : axis < v.dims.length)
    (hm : mid ≤ v.size axis) :
    v.splitAt axis mid = some (leftView v axis mid, rightView v axis mid) := by
  simp [View.splitAt, ha, hm, leftView, rightView]

theorem view_size_setSize (b : Nat) (dims : List (Nat × Nat)) (axis n : Nat) (ha : axis < dims.length) :
    View.size ⟨b, View.setSize dims axis n⟩ axis = n := by
  simp only [View.size]
  rw [setSize_getD _ _ _ ha]

theorem view_stride_setSize (b : Nat) (dims : List (Nat × Nat)) (axis n : Nat) (ha : axis < dims.length) :
    View.stride ⟨b, View.setSize dims axis n⟩ axis = (dims.getD axis (0, 0)).2 := by
  simp only [View.stride]
  rw [setSize_getD _ _ _ ha]

theorem leftView_len (v : View) (axis mid : Nat) : (leftView v axis mid).dims.length = v.dims.length :=
  setSize_length _ _ _
theorem rightView_len (v : View) (axis mid : Nat) : (rightView v axis mid).dims.length = v.dims.length :=
  setSize_length _ _ _

theorem axis_split (s : AxisIter) (k : Nat) (hs : AxisInv s) (hk : k ≤ (absA s).length) :
    ∃ a b, AxisIter.splitAt s k = some (a, b) ∧ absA a = (absA s).take k ∧
      absA b = (absA s).drop k ∧ AxisInv a ∧ AxisInv b := by
  obtain ⟨hax, hle, hstop⟩ := hs
  rw [← axis_len] at hk
  have hk' : k ≤ s.stop - s.index := hk
  have hmid : s.index + k ≤ s.view.size s.axis := by omega
  have hsp : AxisIter.splitAt s k = some
      ({ view := leftView s.view s.axis (s.index + k), axis := s.axis, index := s.index,
         stop := s.index + k },
       { view := rightView s.view s.axis (s.index + k), axis := s.axis, index := 0,
         stop := s.stop - (s.index + k) }) := by
    simp only [AxisIter.splitAt, hk, if_true, view_splitAt_some _ _ _ hax hmid, Option.map_some,
      AxisIter.new, leftView, view_size_setSize _ _ _ _ hax]
  refine ⟨_, _, hsp, ?_, ?_, ?_, ?_⟩
  · show window _ s.index (s.index + k) = (window _ s.index s.stop).take k
    rw [window_take _ _ _ hk']
    exact window_congr _ _ _ fun i _ _ => axisItem_left _ _ _ _
  · -- right half: item `j` of the right view is item `j + mid` of the whole
    show window _ 0 (s.stop - (s.index + k)) = (window _ s.index s.stop).drop k
    rw [window_drop]
    refine (window_congr _ _ _ fun j _ hj => ?_).trans
      ((window_shift (axisItem s.view s.axis) 0 _ (s.index + k)).trans ?_)
    · exact axisItem_right _ _ _ _ hax (by omega)
    · rw [Nat.zero_add, Nat.sub_add_cancel (by omega)]
  · exact ⟨(leftView_len ..).symm ▸ hax, by simp only; omega,
      by simp only [leftView, view_size_setSize _ _ _ _ hax]; omega⟩
  · exact ⟨(rightView_len ..).symm ▸ hax, by simp only; omega,
      by simp only [rightView, view_size_setSize _ _ _ _ hax]; omega⟩

theorem axis_refines : Refines AxisIter.ops AxisInv absA where
  next := axis_nextOk
  nextBack := axis_backOk
  nth := fun s n hs => defaultNth_spec axis_nextOk n s hs
  len := fun s _ => axis_len s
  fold := fun s hs => drainFront_spec axis_nextOk _ s hs (by rw [axis_len]; exact Nat.le_refl _)
  rev := fun s hs => drainBack_spec axis_backOk _ s hs (by rw [axis_len]; exact Nat.le_refl _)
  splitOk := axis_split
  splitPanic := fun s k _ hk => by
    rw [← axis_len] at hk
    exact if_neg (Nat.not_le_of_lt hk)

/-- `AxisInv` holds of every state the operations reach (`axis_refines`): a partly consumed iterator and
either half of a `split_at` behave as the deque over what they have left. -/
theorem axis_history (h : Hist) (s : AxisIter) (hs : AxisInv s) :
    run AxisIter.ops h s = run (listOps Item) h (absA s) :=
  run_refines axis_refines h s hs

theorem axis_new (v : View) (axis : Nat) (ha : axis < v.dims.length) :
    AxisInv (AxisIter.new v axis) ∧ absA (AxisIter.new v axis) = axisSpec v axis :=
  ⟨⟨ha, Nat.zero_le _, Nat.le_refl _⟩, window_zero ..⟩

end RtenVerif.Iter
