import RtenVerif.Model.Executor
/-!
# C02 — reference counts (`NodeRefCount`) of the executor model

`rc v` after the counting phase is `min 255 (uses of v)`; the post-step loop decrements once
per dependency occurrence unless the counter is stuck at 255, which keeps `rc v` equal to the
number of remaining uses (`RcInv`).
-/
namespace RtenVerif.Executor
open RtenVerif.Graph

@[simp] theorem upd_same {β : Type} (f : Nat → β) (k : Nat) (b : β) : upd f k b k = b := if_pos rfl

theorem upd_ne {β : Type} (f : Nat → β) {k x : Nat} (b : β) (h : x ≠ k) : upd f k b x = f x := if_neg h

theorem upd_apply {β : Type} (f : Nat → β) (k x : Nat) (b : β) :
    upd f k b x = if x = k then b else f x := rfl

def depsOf (g : Graph) (ids : List Nat) : List Nat :=
  ids.flatMap (fun i => match getOp g i with
    | some op => opDeps g op
    | none => [])

/-- Number of remaining uses of `v`: occurrences among the dependencies of the plan
entries still to run (counted only for value nodes, as `run_plan` does) plus occurrences
among the requested outputs. -/
def uses (g : Graph) (rest outs : List Nat) (v : Nat) : Nat :=
  (if isValue g v then (depsOf g rest).count v else 0) + outs.count v

theorem rcInc_eq (c : Nat) : rcInc c = min (c + 1) 255 := by
  unfold rcInc; split <;> omega

theorem sat_add (a b c : Nat) : min (min (a + b) 255 + c) 255 = min (a + (b + c)) 255 := by
  rw [Nat.min_def (n := a + b)]
  split
  · rw [Nat.add_assoc]
  · rw [Nat.min_eq_right (Nat.le_add_right _ _), Nat.min_eq_right (by omega)]

theorem rcInc_sat (c n : Nat) : min (rcInc c + n) 255 = min (c + (n + 1)) 255 := by
  rw [rcInc_eq, sat_add, Nat.add_comm 1 n]

theorem incDeps_eq (g : Graph) (rc : Nat → Nat) (ds : List Nat) (v : Nat) (h : rc v ≤ 255) :
    incDeps g rc ds v = min (rc v + (if isValue g v then ds.count v else 0)) 255 := by
  induction ds generalizing rc with
  | nil => simp only [incDeps, List.count_nil, ite_self, Nat.add_zero]; exact (Nat.min_eq_left ‹_›).symm
  | cons d ds ih =>
    rw [incDeps]
    by_cases hd : d = v
    · subst hd
      cases hv : isValue g d with
      | false => simpa [hv] using ih rc h
      | true =>
        have hb : upd rc d (rcInc (rc d)) d ≤ 255 := by rw [upd_same, rcInc_eq]; exact Nat.min_le_right _ _
        simp only [if_true, ih _ hb, hv, upd_same, List.count_cons_self, rcInc_sat]
    · have e : (if isValue g d = true then upd rc d (rcInc (rc d)) else rc) v = rc v := by
        split
        · exact upd_ne _ _ (Ne.symm hd)
        · rfl
      rw [ih _ (e ▸ h), e, List.count_cons_of_ne hd]

theorem incOuts_eq (rc : Nat → Nat) (outs : List Nat) (v : Nat) (hv : rc v ≤ 255) :
    incOuts rc outs v = min (rc v + outs.count v) 255 := by
  induction outs generalizing rc with
  | nil => simp only [incOuts, List.count_nil, Nat.add_zero]; exact (Nat.min_eq_left ‹_›).symm
  | cons o os ih =>
    rw [incOuts]
    by_cases ho : o = v
    · subst ho
      have hb : upd rc o (rcInc (rc o)) o ≤ 255 := by rw [upd_same, rcInc_eq]; exact Nat.min_le_right _ _
      rw [ih _ hb, upd_same, List.count_cons_self, rcInc_sat]
    · have e := upd_ne rc (rcInc (rc o)) (Ne.symm ho)
      rw [ih _ (e ▸ hv), e, List.count_cons_of_ne ho]

theorem depsOf_cons {g : Graph} {i : Nat} {op : OpNode} (hop : getOp g i = some op) (is : List Nat) :
    depsOf g (i :: is) = opDeps g op ++ depsOf g is := by
  simp only [depsOf, List.flatMap_cons, hop]

theorem incPlan_eq (g : Graph) (rc rc' : Nat → Nat) (plan : List Nat)
    (h : incPlan g rc plan = some rc') (v : Nat) (hv : rc v ≤ 255) :
    rc' v = min (rc v + (if isValue g v then (depsOf g plan).count v else 0)) 255 := by
  induction plan generalizing rc with
  | nil =>
    cases h
    simp only [depsOf, List.flatMap_nil, List.count_nil, ite_self, Nat.add_zero]; exact (Nat.min_eq_left ‹_›).symm
  | cons i is ih =>
    rw [incPlan] at h
    cases hop : getOp g i with
    | none => rw [hop] at h; cases h
    | some op =>
      rw [hop] at h
      have h1 := incDeps_eq g rc (opDeps g op) v hv
      rw [ih _ h (h1 ▸ Nat.min_le_right _ _), h1, depsOf_cons hop, List.count_append, sat_add]
      split <;> rfl

theorem incPlan_isSome (g : Graph) (rc : Nat → Nat) (plan : List Nat) :
    (incPlan g rc plan).isSome = true ↔ ∀ i ∈ plan, (getOp g i).isSome = true := by
  induction plan generalizing rc with
  | nil => simp [incPlan]
  | cons i is ih =>
    rw [incPlan, List.forall_mem_cons]
    cases getOp g i with
    | none => simp
    | some op => simpa using ih _

theorem incDepsB_f (g : Graph) (b : RcBox) (ds : List Nat) :
    (incDepsB g b ds).f = incDeps g b.f ds := by
  induction ds generalizing b with
  | nil => rfl
  | cons d ds ih => rw [incDepsB, incDeps, ih]; split <;> rfl

theorem incPlanB_f (g : Graph) (b : RcBox) (plan : List Nat) :
    (incPlanB g b plan).map (fun x => x.f) = incPlan g b.f plan := by
  induction plan generalizing b with
  | nil => rfl
  | cons i is ih =>
    rw [incPlanB, incPlan]
    cases getOp g i with
    | none => rfl
    | some op => simp only [ih, incDepsB_f]

theorem incOutsB_f (b : RcBox) (outs : List Nat) : (incOutsB b outs).f = incOuts b.f outs := by
  induction outs generalizing b with
  | nil => rfl
  | cons o os ih => rw [incOutsB, incOuts, ih]

theorem initRc_spec (g : Graph) (plan outs : List Nat) :
    initRc g plan outs = initRcSpec g plan outs := by
  unfold initRc initRcSpec
  rw [← incPlanB_f g ⟨fun _ => 0⟩ plan]
  cases incPlanB g ⟨fun _ => 0⟩ plan with
  | none => rfl
  | some b => simp only [Option.map_some, incOutsB_f]

theorem initRc_eq_some {g : Graph} {plan outs : List Nat} {rc : Nat → Nat}
    (h : initRc g plan outs = some rc) :
    ∃ rc1, incPlan g (fun _ => 0) plan = some rc1 ∧ rc = incOuts rc1 outs := by
  rw [initRc_spec, initRcSpec] at h
  cases hp : incPlan g (fun _ => 0) plan with
  | none => rw [hp] at h; cases h
  | some rc1 => rw [hp] at h; cases h; exact ⟨rc1, rfl, rfl⟩

theorem initRc_eq {g : Graph} {plan outs : List Nat} {rc : Nat → Nat}
    (h : initRc g plan outs = some rc) (v : Nat) : rc v = min (uses g plan outs v) 255 := by
  obtain ⟨rc1, hp, rfl⟩ := initRc_eq_some h
  have h1 := incPlan_eq g _ rc1 plan hp v (Nat.zero_le _)
  rw [incOuts_eq _ _ _ (h1 ▸ Nat.min_le_right _ _), h1, sat_add, Nat.zero_add, uses]

theorem initRc_bounded {g : Graph} {plan outs : List Nat} {rc : Nat → Nat}
    (h : initRc g plan outs = some rc) : ∀ v, rc v ≤ 255 :=
  fun v => initRc_eq h v ▸ Nat.min_le_right _ _

theorem initRc_isSome (g : Graph) (plan outs : List Nat) :
    (initRc g plan outs).isSome = true ↔ ∀ i ∈ plan, (getOp g i).isSome = true := by
  rw [← incPlan_isSome g (fun _ => 0), initRc_spec, initRcSpec]
  cases incPlan g (fun _ => 0) plan <;> rfl

theorem initRc_ops {g : Graph} {plan outs : List Nat} {rc : Nat → Nat}
    (h : initRc g plan outs = some rc) : ∀ i ∈ plan, ∃ op, getOp g i = some op := fun i hi =>
  Option.isSome_iff_exists.mp ((initRc_isSome g plan outs).mp (h ▸ rfl) i hi)

/-- `k` decrements of a counter: stuck at 255, floored at 0. -/
def decN (k c : Nat) : Nat := if c = 255 then 255 else c - k

theorem rcDecCount_eq (c : Nat) : rcDecCount c = decN 1 c := rfl

theorem decN_decN (a b c : Nat) (h : c ≤ 255) : decN a (decN b c) = decN (a + b) c := by
  unfold decN
  split
  · rfl
  · rw [if_neg (by omega), Nat.sub_sub, Nat.add_comm]

theorem rcDecRet_eq_zero {c : Nat} (h : rcDecRet c = some 0) : c = 1 := by
  unfold rcDecRet at h
  split at h
  · cases h
  · split at h
    · cases h
    · injection h; omega

/-- Counters as `u8`. -/
def RcBounded (rc : Nat → Nat) : Prop := ∀ v, rc v ≤ 255

theorem decN_le {k c : Nat} (h : c ≤ 255) : decN k c ≤ 255 := by
  unfold decN; split <;> omega

theorem RcBounded.dec {rc : Nat → Nat} (hb : RcBounded rc) (d : Nat) :
    RcBounded (upd rc d (rcDecCount (rc d))) := by
  intro v
  rw [upd_apply]
  split
  · exact decN_le (hb d)
  · exact hb v

theorem releaseLoop_cons {V : Type} (r : Run V) (st : St V) (d : Nat) (ds : List Nat) :
    ∃ t, (t = st.temps ∨ (t = upd st.temps d none ∧ rcDecRet (st.rc d) = some 0)) ∧
      (releaseLoop r st (d :: ds)).1 =
        (releaseLoop r { st with rc := upd st.rc d (rcDecCount (st.rc d)), temps := t } ds).1 := by
  rw [releaseLoop]
  split
  · rename_i h
    split
    · refine ⟨_, Or.inr ⟨rfl, ?_⟩, rfl⟩
      exact of_decide_eq_true (Bool.and_eq_true _ _ ▸ h).1
    · exact ⟨_, Or.inl rfl, rfl⟩
  · exact ⟨_, Or.inl rfl, rfl⟩

theorem releaseLoop_rc {V : Type} (r : Run V) (st : St V) (ds : List Nat) (v : Nat)
    (hb : st.rc v ≤ 255) : (releaseLoop r st ds).1.rc v = decN (ds.count v) (st.rc v) := by
  induction ds generalizing st with
  | nil => simp [releaseLoop, decN]
  | cons d ds ih =>
    obtain ⟨t, _, e⟩ := releaseLoop_cons r st d ds
    rw [e]
    by_cases hd : d = v
    · subst hd
      refine (ih _ (show upd st.rc d _ d ≤ 255 from ?_)).trans
        (show decN _ (upd st.rc d _ d) = _ from ?_)
      · rw [upd_same]; exact decN_le hb
      · rw [upd_same, rcDecCount_eq, decN_decN _ _ _ hb, List.count_cons_self]
    · have e' := upd_ne st.rc (rcDecCount (st.rc d)) (Ne.symm hd)
      refine (ih _ (show upd st.rc d _ v ≤ 255 from e' ▸ hb)).trans
        (show decN _ (upd st.rc d _ v) = _ from ?_)
      rw [e', List.count_cons_of_ne hd]

/-- `rc v` = remaining uses of `v`, unless the total number of uses reached 255, in which
case the counter is stuck at 255 for the whole run. -/
def RcInv (g : Graph) (total : Nat → Nat) (rest outs : List Nat) (rc : Nat → Nat) : Prop :=
  ∀ v, isValue g v = true →
    (rc v = if 255 ≤ total v then 255 else uses g rest outs v) ∧ uses g rest outs v ≤ total v

theorem uses_cons {g : Graph} {i : Nat} {op : OpNode} (hop : getOp g i = some op)
    (rest outs : List Nat) (v : Nat) (hv : isValue g v = true) :
    uses g (i :: rest) outs v = (opDeps g op).count v + uses g rest outs v := by
  simp only [uses, hv, if_true, depsOf_cons hop, List.count_append, Nat.add_assoc]

theorem RcInv.init {g : Graph} {plan outs : List Nat} {rc : Nat → Nat}
    (h : initRc g plan outs = some rc) : RcInv g (uses g plan outs) plan outs rc := by
  intro v _
  refine ⟨?_, Nat.le_refl _⟩
  rw [initRc_eq h v]
  split <;> omega

theorem RcInv.dec {g : Graph} {total : Nat → Nat} {i : Nat} {op : OpNode} {rest outs : List Nat}
    {rc rc' : Nat → Nat} (hop : getOp g i = some op)
    (hrc : ∀ v, rc' v = decN ((opDeps g op).count v) (rc v))
    (hinv : RcInv g total (i :: rest) outs rc) : RcInv g total rest outs rc' := by
  intro v hv
  obtain ⟨h1, h2⟩ := hinv v hv
  rw [uses_cons hop rest outs v hv] at h1 h2
  refine ⟨?_, by omega⟩
  rw [hrc v, h1]
  by_cases ht : 255 ≤ total v
  · rw [if_pos ht, if_pos ht]; rfl
  · rw [if_neg ht, if_neg ht, decN, if_neg (by omega), Nat.add_sub_cancel_left]

theorem RcInv.one {g : Graph} {total : Nat → Nat} {i : Nat} {op : OpNode} {rest outs : List Nat}
    {rc : Nat → Nat} (hinv : RcInv g total (i :: rest) outs rc) (hop : getOp g i = some op)
    {x : Nat} (hx : isValue g x = true) (h1 : rc x = 1) :
    (opDeps g op).count x + uses g rest outs x = 1 := by
  have := (hinv x hx).1
  rw [h1, uses_cons hop rest outs x hx] at this
  split at this <;> omega

theorem RcInv.zero {g : Graph} {total : Nat → Nat} {rest outs : List Nat} {rc : Nat → Nat}
    (hinv : RcInv g total rest outs rc) {x : Nat} (hx : isValue g x = true) (h0 : rc x = 0) :
    uses g rest outs x = 0 := by
  have := (hinv x hx).1
  rw [h0] at this
  split at this <;> omega

theorem RcInv.last_use {g : Graph} {total : Nat → Nat} {i : Nat} {op : OpNode} {rest outs : List Nat}
    {rc : Nat → Nat} (hinv : RcInv g total (i :: rest) outs rc) (hop : getOp g i = some op)
    {x : Nat} (hx : isValue g x = true) (h1 : rc x = 1) (hmem : x ∈ opDeps g op) :
    (opDeps g op).count x = 1 ∧ uses g rest outs x = 0 := by
  have := hinv.one hop hx h1
  have := List.count_pos_iff.mpr hmem
  omega
end RtenVerif.Executor
