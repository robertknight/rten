import RtenVerif.Lemmas.SymSimp

/-! `WF` on the original expression implies `Guards` (`guards_of_wf`), so `simplify_canonical` and `simplify` keep
the value and `WF` (`simpC_full`, `simplify_full`). -/
namespace RtenVerif.Sym

/-- The divisors of a simplified dividend are positive because `simplify_canonical` keeps `WF`. -/
theorem guards_of_wf {A : Arith} (hA : Exact A) (σ : Env) :
    ∀ (e : SymExpr) (v : Int), WF σ e → ev σ e = .ok v → Guards A σ e := by
  intro e
  induction e with
  | value x => exact fun _ _ _ => trivial
  | var n p => exact fun _ _ _ => trivial
  | neg a ih =>
    intro v hw hv
    obtain ⟨x, hx, -⟩ := ev_neg_ok.mp hv
    exact ih x hw hx
  | bin o a b iha ihb =>
    intro v hw hv
    obtain ⟨x, y, hx, hy, -, -⟩ := ev_bin_ok.mp hv
    have hga := iha x hw.1 hx
    have hgb := ihb y hw.2.1 hy
    refine ⟨hga, hgb, hw.2.2.2, fun ho l' c1 r hl hr v1 v2 hv1 hv2 => ?_⟩
    have hlw := (simpC_spec hA σ True a _ x hga hl ⟨hx, fun _ => hw.1⟩).2 trivial
    have hr' := simpC_sound hA σ b _ y hgb hr hy
    exact ⟨hlw.2.2.1 rfl v1 hv1, ev_inj hr' hv2 ▸ hw.2.2.1 ho _ hy⟩

theorem simpC_full {A : Arith} (hA : Exact A) (σ : Env) (e e' : SymExpr) (v : Int)
    (hw : WF σ e) (h : simpC A e = some e') (hv : ev σ e = .ok v) : ev σ e' = .ok v ∧ WF σ e' :=
  (simpC_spec hA σ True e e' v (guards_of_wf hA σ e v hw hv) h ⟨hv, fun _ => hw⟩).imp_right fun k => k trivial

theorem simplify_full {A : Arith} (hA : Exact A) (σ : Env) (e e' : SymExpr) (v : Int)
    (hw : WF σ e) (hs : simplify A e = some e') (hv : ev σ e = .ok v) :
    ev σ e' = .ok v ∧ WF σ e' :=
  simpC_full hA σ _ e' v ((canonicalize_full σ e v hv).2 hw) hs (canonicalize_full σ e v hv).1

def wfB (σ : Env) : SymExpr → Bool
  | .bin o a b =>
    wfB σ a && wfB σ b &&
      (o != .divCeil ||
        match ev σ b with
        | .ok y => decide (0 < y)
        | _ => true) &&
      (o != .broadcast ||
        match ev σ a, ev σ b with
        | .ok x, .ok y => (x == y || x == 1 || y == 1)
        | _, _ => true)
  | .neg a => wfB σ a
  | _ => true

theorem wfB_sound (σ : Env) : ∀ e : SymExpr, wfB σ e = true → WF σ e := by
  intro e
  induction e with
  | value x => exact fun _ => trivial
  | var n p => exact fun _ => trivial
  | neg a ih => exact ih
  | bin o a b iha ihb =>
    intro h
    simp only [wfB, Bool.and_eq_true, Bool.or_eq_true, bne_iff_ne, ne_eq] at h
    obtain ⟨⟨⟨ha, hb⟩, hC⟩, hB⟩ := h
    refine ⟨iha ha, ihb hb, fun ho y hy => ?_, fun ho x y hx hy => ?_⟩
    · simpa [ho, hy] using hC
    · simpa [ho, hx, hy, or_assoc] using hB

end RtenVerif.Sym
