import RtenVerif.Lemmas.LoaderConst

/-!
C05.T3: the unchecked `*`, `+`, `-` that `TensorBase::try_from_data` runs after
`checked_shape_len` succeeded (`DynLayout::contiguous_shape_and_strides`, `Layout::min_data_len`)
never overflow — in a build with overflow checks they cannot panic, and in every build they
compute what C06's machine model `M.tryFromData` computes.  Last, `Tensor::from_data` on a scalar
and on a vector with its own length as shape (the `Constant` operator's attributes) succeeds.
-/
namespace RtenVerif.LoaderConst
open RtenVerif.TensorBounds RtenVerif.Overlap

theorem checkedShapeLen_isNone (s : List U) :
    (M.checkedShapeLen s).isNone = false ↔ prodNZ (M.toNs s) ≤ isizeMax := by
  have e := M.checkedShapeLen_eq s
  rw [TensorBounds.checkedShapeLen_eq] at e
  cases hc : M.checkedShapeLen s <;> rw [hc] at e <;> split at e <;> simp_all

theorem M_prod_toNat_of_fits (s : List U) (h : prodNZ (M.toNs s) ≤ isizeMax) :
    (M.prod s).toNat = prod (M.toNs s) := by
  rw [M.prod_toNat, Nat.mod_eq_of_lt]
  have := prod_le_prodNZ (M.toNs s)
  have := M.isizeMax_lt_W
  omega

theorem stridesMode_eq (ovf : Bool) (s : List U) (h : prodNZ (M.toNs s) ≤ isizeMax) :
    stridesMode ovf s = some (M.contigStrides s, M.prod s) := by
  induction s with
  | nil => rfl
  | cons x xs ih =>
    have htail : prodNZ (M.toNs xs) ≤ isizeMax :=
      Nat.le_trans (prodNZ_tail_le x.toNat (M.toNs xs)) (by rw [← M.toNs_cons]; exact h)
    simp only [stridesMode, ih htail]
    have hp := M_prod_toNat_of_fits xs htail
    have hle : prod (M.toNs (x :: xs)) ≤ prodNZ (M.toNs (x :: xs)) := prod_le_prodNZ _
    rw [M.toNs_cons] at hle
    simp only [prod] at hle
    have hW := M.isizeMax_lt_W
    rw [mulMode_of_lt ovf (by rw [hp, Nat.mul_comm]; rw [M.toNs_cons] at h; omega)]
    simp only [M.contigStrides, M.prod]
    rw [UInt64.mul_comm]

theorem maxOffsetMode_eq (ovf : Bool) (d : List (U × U)) (acc : U) (hz : M.hasZero d = false)
    (hb : acc.toNat + TensorBounds.maxOffset (M.toN d) < wordSize) :
    maxOffsetMode ovf d acc = some (acc + M.maxOffset d) := by
  induction d generalizing acc with
  | nil => simp [maxOffsetMode, M.maxOffset]
  | cons x xs ih =>
    obtain ⟨size, stride⟩ := x
    obtain ⟨hne, hz'⟩ := M.hasZero_cons_false.mp hz
    rw [M.toN_cons] at hb
    simp only [TensorBounds.maxOffset] at hb
    have hpred : (size - 1).toNat = size.toNat - 1 := M.pred_toNat hne
    have hmul : (size - 1).toNat * stride.toNat < wordSize := by rw [hpred]; omega
    have ht : ((size - 1) * stride).toNat = (size.toNat - 1) * stride.toNat := by
      rw [M.mul_toNat_of_lt hmul, hpred]
    have hadd : acc.toNat + ((size - 1) * stride).toNat < wordSize := by rw [ht]; omega
    simp only [maxOffsetMode, predMode, hne, and_false, if_false, mulMode_of_lt ovf hmul,
      addMode_of_lt ovf hadd]
    rw [ih (acc + (size - 1) * stride) hz' (by rw [M.add_toNat_of_lt hadd, ht]; omega)]
    simp only [M.maxOffset]
    rw [UInt64.add_assoc]

theorem minDataLenMode_eq (ovf : Bool) (s : List U) (h : prodNZ (M.toNs s) ≤ isizeMax) :
    minDataLenMode ovf (M.contigDims s) = some (M.minDataLen (M.contigDims s)) := by
  unfold minDataLenMode M.minDataLen
  cases hz : M.hasZero (M.contigDims s)
  · simp only [Bool.false_eq_true, if_false]
    have hmo := maxOffset_contig_lt (M.toNs s)
    have hW := M.isizeMax_lt_W
    have htoN := M.contigDims_toN s h
    have hb : (0 : U).toNat + TensorBounds.maxOffset (M.toN (M.contigDims s)) < wordSize := by
      rw [htoN]
      have : (0 : U).toNat = 0 := rfl
      omega
    rw [maxOffsetMode_eq ovf _ 0 hz hb]
    simp only [UInt64.zero_add]
    have hm : (M.maxOffset (M.contigDims s)).toNat = TensorBounds.maxOffset (contigDims (M.toNs s)) := by
      rw [M.maxOffset_toNat _ hz, htoN, Nat.mod_eq_of_lt (by omega)]
    exact addMode_of_lt ovf (by rw [hm, show (1 : U).toNat = 1 from rfl]; omega)
  · simp

/-- C05.T3 (no panic): `try_from_data`, including its unchecked arithmetic in overflow-checking
builds, never panics and equals C06's machine model. -/
theorem tryFromDataMode_eq (ovf : Bool) (shape : List U) (len : U) :
    tryFromDataMode ovf shape len = some (M.tryFromData shape len) := by
  unfold tryFromDataMode M.tryFromData
  split
  · rfl
  · next hsome =>
    have hfit := (checkedShapeLen_isNone shape).mp (Bool.eq_false_iff.mpr hsome)
    rw [stridesMode_eq ovf shape hfit]
    show (match minDataLenMode ovf (M.contigDims shape) with
      | none => none
      | some m => some (if m ≠ len then Except.error Err.mismatch else Except.ok (M.contigDims shape))) = _
    rw [minDataLenMode_eq ovf shape hfit]

theorem tryFromDataG_eq (ovf : Bool) (shape : List U) (len : U) :
    tryFromDataG ovf shape len = tryFromData shape len := by
  unfold tryFromDataG tryFromData
  rw [tryFromDataMode_eq]
  cases M.tryFromData shape len <;> rfl

theorem fromDataG_eq (ovf : Bool) (shape : List U) (len : U) :
    fromDataG ovf shape len = fromData shape len := by
  unfold fromDataG fromData
  rw [tryFromDataMode_eq]
  cases M.tryFromData shape len <;> rfl

/-! ### The infallible constructor on a scalar and on a vector -/

/-- `Tensor::from_data(&[n], vec)` for a vector of `n` elements (`n ≤ isize::MAX`: every `Vec`). -/
theorem M_tryFromData_vec (n : U) (h : n.toNat ≤ isizeMax) :
    M.tryFromData [n] n = .ok (M.contigDims [n]) := by
  have hW := M.isizeMax_lt_W
  have hI1 : 1 ≤ isizeMax := by decide
  have hfit : prodNZ (M.toNs [n]) ≤ isizeMax := by
    simp only [M.toNs, List.map, prodNZ]
    split <;> omega
  have hsome := (checkedShapeLen_isNone [n]).mpr hfit
  have hmin : M.minDataLen (M.contigDims [n]) = n := by
    apply UInt64.toNat_inj.mp
    have hmo := maxOffset_contig_lt (M.toNs [n])
    rw [M.minDataLen_toNat (M.contigDims [n]) (by rw [M.contigDims_toN _ hfit]; omega),
      M.contigDims_toN _ hfit,
      minDataLen_contig]
    simp [M.toNs, prod]
  unfold M.tryFromData
  simp [hsome, hmin]

theorem M_tryFromData_scalar : M.tryFromData [] 1 = .ok [] := by decide

theorem wf_scalar : WellFormed [] 1 :=
  M_tryFromData_ok (shape := []) (len := 1) M_tryFromData_scalar

theorem wf_vec (k : U) (h : k.toNat ≤ isizeMax) : WellFormed [k.toNat] k.toNat :=
  M_tryFromData_ok (shape := [k]) (len := k) (M_tryFromData_vec k h)

theorem fromDataG_scalar (ovf : Bool) : fromDataG ovf [] 1 = .ok [] 1 := by
  rw [fromDataG_eq]; simp only [fromData, M_tryFromData_scalar]; rfl

theorem fromDataG_vec (ovf : Bool) (k : U) (h : k.toNat ≤ isizeMax) :
    fromDataG ovf [k] k = .ok [k.toNat] k.toNat := by
  rw [fromDataG_eq]; simp only [fromData, M_tryFromData_vec k h]; rfl

end RtenVerif.LoaderConst
