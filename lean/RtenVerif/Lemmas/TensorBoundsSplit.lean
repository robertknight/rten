import RtenVerif.Lemmas.TensorBounds

/-! C06: embedding the index space of one layout into that of another.  Every view operation and
every layout edit is an instance of `Embeds`; slices, layout edits and the five abstract view
steps of C08 are built from a few one-dimensional facts by concatenation, exchange and
composition (the block along one axis, `setSize_embeds`, has its own recursion in
`TensorBoundsViews`).  Staying inside the storage and alias freedom are inherited along it.
`Covers` is the same without injectivity, for `broadcast`. -/
namespace RtenVerif.TensorBounds
open RtenVerif.Overlap

theorem valid_append {a b : List (Nat × Nat)} {x y : List Nat} (hx : ValidIdx a x)
    (hy : ValidIdx b y) :
    ValidIdx (a ++ b) (x ++ y) ∧ offset (a ++ b) (x ++ y) = offset a x + offset b y := by
  induction hx with
  | nil => exact ⟨hy, (Nat.zero_add _).symm⟩
  | cons hlt _ ih => exact ⟨.cons hlt ih.1, by simp only [List.cons_append, offset, ih.2]; omega⟩

theorem valid_append_inv {a b : List (Nat × Nat)} {j : List Nat} (h : ValidIdx (a ++ b) j) :
    ∃ x y, j = x ++ y ∧ ValidIdx a x ∧ ValidIdx b y := by
  induction a generalizing j with
  | nil => exact ⟨[], j, rfl, .nil, h⟩
  | cons d ds ih =>
    cases h with
    | @cons _ _ i _ is h1 h2 =>
      obtain ⟨x, y, rfl, hx, hy⟩ := ih h2
      exact ⟨i :: x, y, rfl, .cons h1 hx, hy⟩

/-- `c`, laid over the storage of `p` from element `s` on, reaches only elements that `p`
reaches, and different ones through different indices. -/
def Embeds (p c : List (Nat × Nat)) (s : Nat) : Prop :=
  ∀ j j', ValidIdx c j → ValidIdx c j' → ∃ i i', ValidIdx p i ∧ ValidIdx p i' ∧
    offset p i = s + offset c j ∧ offset p i' = s + offset c j' ∧ (i = i' → j = j')

namespace Embeds
variable {a a' b b' p c : List (Nat × Nat)} {s t : Nat}

theorem exists_parent (h : Embeds p c s) {j : List Nat} (hj : ValidIdx c j) :
    ∃ i, ValidIdx p i ∧ offset p i = s + offset c j :=
  let ⟨i, _, hi, _, o, _, _⟩ := h j j hj hj
  ⟨i, hi, o⟩

theorem lt_minDataLen (h : Embeds p c s) {j : List Nat} (hj : ValidIdx c j) :
    s + offset c j < minDataLen p := by
  obtain ⟨i, hi, o⟩ := h.exists_parent hj
  exact o ▸ offset_lt_minDataLen hi

theorem injective (h : Embeds p c s)
    (hp : ∀ i i', ValidIdx p i → ValidIdx p i' → offset p i = offset p i' → i = i') :
    ∀ j j', ValidIdx c j → ValidIdx c j' → offset c j = offset c j' → j = j' := by
  intro j j' hj hj' heq
  obtain ⟨i, i', hi, hi', o, o', e⟩ := h j j' hj hj'
  exact e (hp i i' hi hi' (by omega))

protected theorem refl (d : List (Nat × Nat)) : Embeds d d 0 :=
  fun j j' hj hj' => ⟨j, j', hj, hj', (Nat.zero_add _).symm, (Nat.zero_add _).symm, id⟩

protected theorem trans (h1 : Embeds a b s) (h2 : Embeds b c t) : Embeds a c (s + t) := by
  intro j j' hj hj'
  obtain ⟨i, i', hi, hi', o, o', e⟩ := h2 j j' hj hj'
  obtain ⟨k, k', hk, hk', q, q', f⟩ := h1 i i' hi hi'
  exact ⟨k, k', hk, hk', by omega, by omega, fun h => e (f h)⟩

protected theorem append (h1 : Embeds a a' s) (h2 : Embeds b b' t) :
    Embeds (a ++ b) (a' ++ b') (s + t) := by
  intro j j' hj hj'
  obtain ⟨x, y, rfl, hx, hy⟩ := valid_append_inv hj
  obtain ⟨x', y', rfl, hx', hy'⟩ := valid_append_inv hj'
  obtain ⟨i, i', hi, hi', o, o', e⟩ := h1 x x' hx hx'
  obtain ⟨k, k', hk, hk', q, q', f⟩ := h2 y y' hy hy'
  refine ⟨i ++ k, i' ++ k', (valid_append hi hk).1, (valid_append hi' hk').1, ?_, ?_, fun h => ?_⟩
  · rw [(valid_append hi hk).2, (valid_append hx hy).2]; omega
  · rw [(valid_append hi' hk').2, (valid_append hx' hy').2]; omega
  · obtain ⟨h1, h2⟩ := List.append_inj h (by rw [valid_length hi, valid_length hi'])
    rw [e h1, f h2]

protected theorem comm (a b : List (Nat × Nat)) : Embeds (a ++ b) (b ++ a) 0 := by
  intro j j' hj hj'
  obtain ⟨y, x, rfl, hy, hx⟩ := valid_append_inv hj
  obtain ⟨y', x', rfl, hy', hx'⟩ := valid_append_inv hj'
  refine ⟨x ++ y, x' ++ y', (valid_append hx hy).1, (valid_append hx' hy').1, ?_, ?_, fun h => ?_⟩
  · rw [(valid_append hx hy).2, (valid_append hy hx).2]; omega
  · rw [(valid_append hx' hy').2, (valid_append hy' hx').2]; omega
  · obtain ⟨h1, h2⟩ := List.append_inj h (by rw [valid_length hx, valid_length hx'])
    rw [h1, h2]

theorem of_perm (h : p.Perm c) : Embeds p c 0 := by
  induction h with
  | nil => exact .refl _
  | cons x _ ih => exact (Embeds.refl [x]).append ih
  | swap x y l => exact (Embeds.comm [y] [x]).append (.refl l)
  | trans _ _ ih1 ih2 => exact ih1.trans ih2

/-- Entries `k, k + step, …` of one dimension (`n` of them): a range, with or without a step. -/
theorem dim_range {size n k step : Nat} (st : Nat)
    (h : n = 0 ∨ (1 ≤ step ∧ k + (n - 1) * step < size)) :
    Embeds [(size, st)] [(n, st * step)] (k * st) := by
  intro j j' hj hj'
  cases hj with
  | @cons _ _ i _ _ hi h2 =>
    cases h2
    cases hj' with
    | @cons _ _ i' _ _ hi' h2' =>
      cases h2'
      obtain ⟨hstep, hfit⟩ : 1 ≤ step ∧ k + (n - 1) * step < size := h.resolve_left (by omega)
      have hb : ∀ a, a < n → k + a * step < size := fun a ha =>
        Nat.lt_of_le_of_lt (Nat.add_le_add_left (Nat.mul_le_mul_right _ (by omega)) _) hfit
      refine ⟨[k + i * step], [k + i' * step], .cons (hb i hi) .nil, .cons (hb i' hi') .nil, ?_, ?_,
        fun h => ?_⟩
      · simp only [offset, Nat.add_mul, Nat.mul_assoc, Nat.mul_comm step]; omega
      · simp only [offset, Nat.add_mul, Nat.mul_assoc, Nat.mul_comm step]; omega
      · rw [show i = i' from Nat.eq_of_mul_eq_mul_right hstep (by simpa using h)]

/-- The step-1 case as `slice_layout`'s fast path and `split` use it. -/
theorem dim_block {size n k : Nat} (st : Nat) (h : k + n ≤ size) :
    Embeds [(size, st)] [(n, st)] (k * st) := by
  simpa using dim_range (step := 1) st (by omega)

theorem dim_pick {size k : Nat} (st : Nat) (h : k < size) : Embeds [(size, st)] [] (k * st) := by
  intro j j' hj hj'
  cases hj
  cases hj'
  exact ⟨[k], [k], .cons h .nil, .cons h .nil, by simp [offset], by simp [offset], fun _ => rfl⟩

theorem unit_insert (st : Nat) : Embeds [] [(1, st)] 0 := by
  intro j j' hj hj'
  cases hj with
  | @cons _ _ i _ _ hi h2 =>
    cases h2
    cases hj' with
    | @cons _ _ i' _ _ hi' h2' =>
      cases h2'
      have h0 : i = 0 := by omega
      have h0' : i' = 0 := by omega
      subst h0 h0'
      exact ⟨[], [], .nil, .nil, by simp [offset], by simp [offset], fun _ => rfl⟩

theorem merge_index {osz ost isz ist J : Nat} (hc : osz = 1 ∨ ost = ist * isz)
    (h1 : J < isz * osz) :
    ValidIdx [(osz, ost), (isz, ist)] [J / isz, J % isz] ∧
    offset [(osz, ost), (isz, ist)] [J / isz, J % isz] = J * ist := by
  have hisz : 0 < isz := by
    rcases Nat.eq_zero_or_pos isz with h | h
    · subst h; simp at h1
    · exact h
  refine ⟨.cons (Nat.div_lt_of_lt_mul h1) (.cons (Nat.mod_lt _ hisz) .nil), ?_⟩
  simp only [offset]
  have hJ := Nat.div_add_mod J isz
  rcases hc with h | h
  · subst h
    have hlt : J < isz := by omega
    rw [Nat.div_eq_of_lt hlt, Nat.mod_eq_of_lt hlt]
    omega
  · subst h
    have : J / isz * (ist * isz) + (J % isz * ist + 0) = (isz * (J / isz) + J % isz) * ist := by
      rw [Nat.add_mul, Nat.mul_comm ist isz, ← Nat.mul_assoc, Nat.mul_comm (J / isz) isz]
      omega
    rw [this, hJ]

/-- One `merge_axes` step: `(osz, ost), (isz, ist)` → `(isz·osz, ist)`; the merged index `J`
stands for the pair `(J / isz, J % isz)`. -/
theorem dim_merge {osz ost isz ist : Nat} (hc : osz = 1 ∨ ost = ist * isz) :
    Embeds [(osz, ost), (isz, ist)] [(isz * osz, ist)] 0 := by
  intro j j' hj hj'
  cases hj with
  | @cons _ _ J _ _ h1 h2 =>
    cases h2
    cases hj' with
    | @cons _ _ J' _ _ h1' h2' =>
      cases h2'
      obtain ⟨v, o⟩ := merge_index hc h1
      obtain ⟨v', o'⟩ := merge_index hc h1'
      refine ⟨_, _, v, v', by rw [o]; simp [offset], by rw [o']; simp [offset], fun h => ?_⟩
      simp only [List.cons.injEq, and_true] at h
      rw [← Nat.div_add_mod J isz, ← Nat.div_add_mod J' isz, h.1, h.2]

end Embeds

/-- The non-injective counterpart of `Embeds`, for `broadcast`. -/
def Covers (p c : List (Nat × Nat)) : Prop :=
  ∀ j, ValidIdx c j → ∃ i, ValidIdx p i ∧ offset p i = offset c j

theorem Covers.refl (d : List (Nat × Nat)) : Covers d d := fun j hj => ⟨j, hj, rfl⟩

theorem Covers.append {a a' b b' : List (Nat × Nat)} (h1 : Covers a a') (h2 : Covers b b') :
    Covers (a ++ b) (a' ++ b') := by
  intro j hj
  obtain ⟨x, y, rfl, hx, hy⟩ := valid_append_inv hj
  obtain ⟨i, hi, o⟩ := h1 x hx
  obtain ⟨k, hk, q⟩ := h2 y hy
  exact ⟨i ++ k, (valid_append hi hk).1, by rw [(valid_append hi hk).2, (valid_append hx hy).2, o, q]⟩

theorem Covers.pad (s : Nat) : Covers [] [(s, 0)] := by
  intro j hj
  cases hj with
  | cons _ h2 => cases h2; exact ⟨[], .nil, by simp [offset]⟩

end RtenVerif.TensorBounds
