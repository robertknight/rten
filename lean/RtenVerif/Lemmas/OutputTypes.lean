import RtenVerif.Model.OutputTypes

/-! # C12 — one propagation step (`stepOp`) keeps the labels sound (`Sound`) when the static
metadata is right and the operator's rule is sound for the execution (`RuleSound`, hypothesis `H_o`) -/
namespace RtenVerif.OutputTypes

/-- Run-time typing of one execution: the value type each value node carries (`none` = the
value is never produced in this execution). -/
abbrev RtTyping := NodeId → Option VType

def Sound (rt : RtTyping) (types : TypeMap) : Prop :=
  ∀ id t, types.get id = some t → rt id = some t

/-- The static metadata (declared value types, constant element types) is right about this execution. -/
def StaticSound (rt : RtTyping) (static : NodeId → Option VType) : Prop :=
  ∀ id t, static id = some t → rt id = some t

def rtInput (rt : RtTyping) (op : OpNode) (i : Nat) : Option VType :=
  match op.inputs[i]? with
  | some (some id) => rt id
  | _ => none

/-- `H_o` for a list of outputs and the rules zipped with them. -/
def OutsSound (rt : RtTyping) (op : OpNode) (outs : List (Option NodeId)) (rs : List Rule) : Prop :=
  ∀ (j : Nat) (id : NodeId) (r : Rule), outs[j]? = some (some id) → rs[j]? = some r →
    ∀ t, r.eval (rtInput rt op) = some t → rt id = some t

/-- **Hypothesis `H_o`**: the operator's declared rules, evaluated on the run-time types of its
inputs, give the run-time type of each produced output. -/
def RuleSound (rt : RtTyping) (op : OpNode) : Prop :=
  ∀ rs, op.rules = some rs → OutsSound rt op op.outputs rs

theorem eval_mono (r : Rule) (g g' : Nat → Option VType)
    (h : ∀ i t, g i = some t → g' i = some t) (t : VType) (hr : r.eval g = some t) :
    r.eval g' = some t := by
  cases r with
  | fixed t' => simpa [Rule.eval] using hr
  | copyFromInput i => exact h i t (by simpa [Rule.eval] using hr)
  | elementTypeOfInputSequence i =>
    simp only [Rule.eval, Option.map_eq_some_iff] at hr ⊢
    obtain ⟨a, ha, rfl⟩ := hr
    exact ⟨a, h i a ha, rfl⟩
  | sequenceWithElementTypeOfInput i =>
    simp only [Rule.eval, Option.map_eq_some_iff] at hr ⊢
    obtain ⟨a, ha, rfl⟩ := hr
    exact ⟨a, h i a ha, rfl⟩
  | fixedAttr n s => simp [Rule.eval] at hr
  | attrOr n s f => simp [Rule.eval] at hr

theorem sound_nil (rt : RtTyping) : Sound rt [] := fun _ _ h => nomatch h

theorem label_sound {rt : RtTyping} {static} {types : TypeMap} (hs : StaticSound rt static)
    (ht : Sound rt types) {id : NodeId} {t : VType} (h : label static types id = some t) :
    rt id = some t := by
  unfold label at h
  split at h
  · cases h; exact ht id _ ‹_›
  · exact hs id t h

theorem getInputType_sound (rt : RtTyping) (static) (types : TypeMap) (op : OpNode)
    (hs : StaticSound rt static) (ht : Sound rt types) (i : Nat) (t : VType)
    (h : getInputType static types op i = some t) : rtInput rt op i = some t := by
  unfold getInputType at h
  unfold rtInput
  split at h
  · rename_i hin; rw [hin]; exact label_sound hs ht h
  · cases h

theorem sound_cons (rt : RtTyping) (types : TypeMap) (id : NodeId) (t : VType)
    (ht : Sound rt types) (h : rt id = some t) : Sound rt ((id, t) :: types) := by
  intro id' t' hget
  unfold TypeMap.get at hget
  simp only [List.lookup_cons] at hget
  split at hget
  · rename_i heq
    have : id' = id := by simpa using heq
    cases hget
    rw [this]; exact h
  · exact ht id' t' hget

theorem stepOutputs_sound (rt : RtTyping) (strict : Bool) (static) (op : OpNode)
    (hs : StaticSound rt static) (outs : List (Option NodeId)) (rs : List Rule) (types types' : TypeMap)
    (ht : Sound rt types) (ho : OutsSound rt op outs rs)
    (h : stepOutputs strict static op outs rs types = some types') : Sound rt types' := by
  have htail : ∀ {o outs r rs}, OutsSound rt op (o :: outs) (r :: rs) → OutsSound rt op outs rs :=
    fun ho j id r' h1 h2 => ho (j + 1) id r' h1 h2
  fun_induction stepOutputs strict static op outs rs types with
  | case1 id outs r rs types t hev ih =>
    -- the rule read labels that are sound, so it evaluates the same on the run-time types
    have hrt : rt id = some t := ho 0 id r rfl rfl t
      (eval_mono r _ _ (fun i t' => getInputType_sound rt static types op hs ht i t') t hev)
    exact ih (sound_cons rt types id t ht hrt) (htail ho) h
  | case2 => cases h
  | case3 _ _ _ _ _ _ _ ih | case4 _ _ _ _ ih => exact ih ht (htail ho) h
  | case5 => cases h; exact ht

theorem stepOp_sound (rt : RtTyping) (strict : Bool) (static) (op : OpNode) (types types' : TypeMap)
    (hs : StaticSound rt static) (ht : Sound rt types) (ho : RuleSound rt op)
    (h : stepOp strict static types op = some types') : Sound rt types' := by
  unfold stepOp at h
  split at h
  · rename_i rs hr
    exact stepOutputs_sound rt strict static op hs op.outputs rs types types' ht (ho rs hr) h
  · cases strict
    · simp only [Bool.false_eq_true, if_false] at h
      cases h; exact ht
    · simp at h

end RtenVerif.OutputTypes
