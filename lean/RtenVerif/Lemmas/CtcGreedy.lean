import RtenVerif.Model.Ctc

/-! C39 (T1), for every carrier: the greedy loop yields the run starts of the non-blank labels of
the arg-max path, whose labels are the CTC collapse; over `natOps` the arg-max is the first index
of a maximum. -/
namespace RtenVerif.Ctc

theorem greedyLoop_eq_filter (ls : List Nat) : ∀ (pos last : Nat),
    greedyLoop pos last ls = (runStarts pos (some last) ls).filter (·.label ≠ 0) := by
  induction ls with
  | nil => intro pos last; rfl
  | cons l ls ih =>
    intro pos last
    rw [greedyLoop, runStarts]
    by_cases hl : l = last
    · rw [if_pos hl, if_pos (congrArg some hl.symm), ih, hl]
    · rw [if_neg hl, if_neg fun h => hl (Option.some.inj h).symm, List.filter_cons, ih]
      by_cases h0 : 0 < l
      · rw [if_pos h0, if_pos (by simpa using Nat.ne_of_gt h0)]
      · rw [if_neg h0, if_neg (by simpa using h0)]

/-- The loop starts with `last = 0`: a leading blank is dropped like a repeated one. -/
theorem greedyLoop_eq_collapsePos (path : List Nat) : greedyLoop 0 0 path = collapsePos path := by
  rw [greedyLoop_eq_filter, collapsePos]
  cases path with
  | nil => rfl
  | cons l ls =>
    rw [runStarts, runStarts, if_neg (Option.some_ne_none l).symm, List.filter_cons]
    by_cases hl : l = 0
    · rw [if_pos (congrArg some hl.symm), if_neg (by simp [hl]), hl]
    · rw [if_neg fun h => hl (Option.some.inj h).symm, List.filter_cons]

theorem dedupAdj_cons_eq (ls : List Nat) : ∀ (x pos : Nat),
    dedupAdj (x :: ls) = x :: labels (runStarts pos (some x) ls) := by
  induction ls with
  | nil => intro x pos; simp [dedupAdj, runStarts, labels]
  | cons y r ih =>
    intro x pos
    by_cases hxy : x = y
    · subst hxy
      simp only [dedupAdj, if_true, runStarts]
      exact ih _ _
    · have : ¬ (some x = some y) := by intro h; exact hxy (Option.some.inj h)
      simp only [dedupAdj, if_neg hxy, runStarts, if_neg this, labels, List.map_cons]
      rw [ih y (pos + 1)]
      rfl

theorem labels_runStarts (path : List Nat) : labels (runStarts 0 none path) = dedupAdj path := by
  cases path with
  | nil => simp [runStarts, labels, dedupAdj]
  | cons x ls =>
    rw [dedupAdj_cons_eq ls x 1]
    simp [runStarts, labels]

theorem labels_collapsePos (path : List Nat) : labels (collapsePos path) = collapse path := by
  unfold collapsePos collapse
  rw [← labels_runStarts]
  unfold labels
  rw [List.filter_map]
  rfl

theorem mem_runStarts (l q : Nat) (ls : List Nat) : ∀ (pos : Nat) (prev : Option Nat),
    (⟨l, q⟩ : Step) ∈ runStarts pos prev ls ↔ ∃ d, q = pos + d ∧ ls[d]? = some l ∧
      (match d with | 0 => prev ≠ some l | d' + 1 => ls[d']? ≠ some l) := by
  induction ls with
  | nil => intro pos prev; simp [runStarts]
  | cons x xs ih =>
    intro pos prev
    have hrest : (⟨l, q⟩ : Step) ∈ runStarts (pos + 1) (some x) xs ↔
        ∃ d, q = pos + (d + 1) ∧ (x :: xs)[d + 1]? = some l ∧ (x :: xs)[d]? ≠ some l := by
      rw [ih]
      refine exists_congr fun d => ?_
      rw [Nat.succ_add_eq_add_succ]
      cases d <;> rfl
    have hsplit : (∃ d, q = pos + d ∧ (x :: xs)[d]? = some l ∧
        (match d with | 0 => prev ≠ some l | d' + 1 => (x :: xs)[d']? ≠ some l)) ↔
        (q = pos ∧ x = l ∧ prev ≠ some l) ∨ (⟨l, q⟩ : Step) ∈ runStarts (pos + 1) (some x) xs := by
      rw [hrest]
      constructor
      · rintro ⟨d, hd⟩
        cases d with
        | zero => exact Or.inl ⟨hd.1, Option.some.inj hd.2.1, hd.2.2⟩
        | succ d => exact Or.inr ⟨d, hd⟩
      · rintro (⟨hq, rfl, hp⟩ | ⟨d, hd⟩)
        · exact ⟨0, hq, rfl, hp⟩
        · exact ⟨d + 1, hd⟩
    rw [hsplit, runStarts]
    split
    · next hp =>
      exact ⟨Or.inr, fun h => h.resolve_left fun ⟨_, hx, hne⟩ => hne (hx ▸ hp)⟩
    · next hp =>
      rw [List.mem_cons, Step.mk.injEq]
      exact or_congr_left ⟨fun ⟨hl, hq⟩ => ⟨hq, hl.symm, hl ▸ hp⟩, fun ⟨hq, hx, _⟩ => ⟨hx.symm, hq⟩⟩

/-- `v` is the maximum of `bv :: ys`; the result is the first index that holds it, `bi` standing for
the incumbent `bv` and `k + d` for `ys[d]`. -/
theorem argmaxGo_nat (ys : List Nat) : ∀ (bi bv k : Nat), bi < k →
    ∃ v, (argmaxGo natOps bi bv k ys = bi ∧ v = bv ∨
        ∃ d, argmaxGo natOps bi bv k ys = k + d ∧ ys[d]? = some v) ∧
      bv ≤ v ∧ (v = bv → argmaxGo natOps bi bv k ys = bi) ∧
      ∀ j w, ys[j]? = some w → w ≤ v ∧ (w = v → argmaxGo natOps bi bv k ys ≤ k + j) := by
  induction ys with
  | nil => intro bi bv k _; exact ⟨bv, Or.inl ⟨rfl, rfl⟩, Nat.le_refl _, fun _ => rfl, by simp⟩
  | cons y ys ih =>
    intro bi bv k hk
    have hshift : ∀ d, k + 1 + d = k + (d + 1) := fun d => Nat.succ_add_eq_add_succ k d
    by_cases hgt : bv < y
    · rw [argmaxGo, if_pos (by simpa [natOps] using hgt)]
      obtain ⟨v, hr, hv, hfirst, hall⟩ := ih k y (k + 1) (Nat.lt_succ_self k)
      generalize argmaxGo natOps k y (k + 1) ys = r at hr hfirst hall
      refine ⟨v, Or.inr ?_, Nat.le_of_lt (Nat.lt_of_lt_of_le hgt hv),
        fun h => absurd (h ▸ hv) (Nat.not_le_of_lt hgt), fun j w hj => ?_⟩
      · rcases hr with ⟨rfl, rfl⟩ | ⟨d, h1, h2⟩
        · exact ⟨0, rfl, rfl⟩
        · exact ⟨d + 1, h1.trans (hshift d), h2⟩
      · cases j with
        | zero =>
          obtain rfl : y = w := Option.some.inj hj
          exact ⟨hv, fun h => Nat.le_of_eq (hfirst h.symm)⟩
        | succ j => exact hshift j ▸ hall j w hj
    · rw [argmaxGo, if_neg (by simpa [natOps] using hgt)]
      obtain ⟨v, hr, hv, hfirst, hall⟩ := ih bi bv (k + 1) (Nat.lt_succ_of_lt hk)
      generalize argmaxGo natOps bi bv (k + 1) ys = r at hr hfirst hall
      refine ⟨v, hr.imp_right fun ⟨d, h1, h2⟩ => ⟨d + 1, h1.trans (hshift d), h2⟩, hv, hfirst,
        fun j w hj => ?_⟩
      cases j with
      | zero =>
        obtain rfl : y = w := Option.some.inj hj
        have hyv := Nat.le_trans (Nat.le_of_not_lt hgt) hv
        exact ⟨hyv, fun h => hfirst (Nat.le_antisymm (h ▸ Nat.le_of_not_lt hgt) hv) ▸
          Nat.le_of_lt hk⟩
      | succ j => exact hshift j ▸ hall j w hj

end RtenVerif.Ctc
