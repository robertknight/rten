import RtenVerif.Model.Contours

/-!
Lemmas for C36.T2: the error-term invariant of `BreshamPoints` —
`error = 2·minor·(i+1) − major − 2·major·k` after `i` major and `k` minor steps — which bounds
the minor steps by the minor extent.  It is proved for lines that step in x every time (x-major
and horizontal); the lines that step in y every time are these with the coordinates exchanged.
First the values of `sgn` and `iabs`, which give the steps and extents of a line.
-/
namespace RtenVerif.Contours

theorem iabs_nonneg (v : Int) : 0 ≤ iabs v := by
  unfold iabs; omega

theorem sgn_iabs_cases (v : Int) :
    (v < 0 ∧ sgn v = -1 ∧ iabs v = -v) ∨ (v = 0 ∧ sgn v = 0 ∧ iabs v = 0) ∨
      (0 < v ∧ sgn v = 1 ∧ iabs v = v) := by
  unfold sgn iabs
  rcases Int.lt_trichotomy v 0 with h | h | h
  · rw [if_neg (Int.lt_asymm h), if_pos h, if_pos h]; exact .inl ⟨h, rfl, rfl⟩
  · subst h; exact .inr (.inl ⟨rfl, rfl, rfl⟩)
  · rw [if_pos h, if_neg (Int.lt_asymm h)]; exact .inr (.inr ⟨h, rfl, rfl⟩)

theorem iabs_eq_zero_of_sgn {v : Int} (h : sgn v = 0) : iabs v = 0 := by
  rcases sgn_iabs_cases v with ⟨_, h1, _⟩ | ⟨_, _, h2⟩ | ⟨_, h1, _⟩
  · omega
  · exact h2
  · omega

theorem sgn_ne_zero {v : Int} (h : 0 < iabs v) : sgn v ≠ 0 :=
  fun h0 => by have := iabs_eq_zero_of_sgn h0; omega

theorem axis_bound (a b k : Int) (h0 : 0 ≤ k) (h1 : k ≤ iabs (b - a)) :
    min a b ≤ a + k * sgn (b - a) ∧ a + k * sgn (b - a) ≤ max a b := by
  rcases sgn_iabs_cases (b - a) with ⟨h, e1, e2⟩ | ⟨h, e1, e2⟩ | ⟨h, e1, e2⟩ <;>
    (rw [e1]; rw [e2] at h1; omega)

/-- `p` is reached from `s` by `kx` steps in x and `ky` steps in y, within the totals. -/
def Pos (s : Pt) (xs ys dx0 dy0 : Int) (p : Pt) : Prop :=
  ∃ kx ky, p = (s.1 + ky * ys, s.2 + kx * xs) ∧ 0 ≤ kx ∧ kx ≤ dx0 ∧ 0 ≤ ky ∧ ky ≤ dy0

theorem Pos.swap {s : Pt} {xs ys dx0 dy0 : Int} {p : Pt} (h : Pos s.swap ys xs dy0 dx0 p.swap) :
    Pos s xs ys dx0 dy0 p := by
  obtain ⟨ky, kx, hp, hy0, hy1, hx0, hx1⟩ := h
  exact ⟨kx, ky, Prod.swap_inj.mp hp, hx0, hx1, hy0, hy1⟩

theorem minor_lt {mj mn i k : Int} (hmn : 0 ≤ mn) (hi0 : 0 ≤ i) (hi : i < mj)
    (herr : 0 ≤ 2 * (mn * (i + 1)) - mj - 2 * (mj * k)) : k < mn := by
  apply Int.lt_of_not_ge
  intro hk
  have h1 : mn * (i + 1) ≤ mn * mj := Int.mul_le_mul_of_nonneg_left (by omega) hmn
  have h2 : mj * mn ≤ mj * k := Int.mul_le_mul_of_nonneg_left hk (by omega)
  rw [Int.mul_comm mj mn] at h2
  omega

/-- The horizontal branch (`y_step = 0`) takes the same step as the x-major one, because there
`dy = 0` and the error term stays negative (`h0`). -/
theorem step_xmajor (b : Bres) (hx : ¬ b.xStep = 0) (hm : b.dx ≥ b.dy)
    (h0 : b.yStep = 0 → b.error < 0 ∧ b.dy = 0) :
    b.step =
      { b with remaining := b.remaining - 1,
               cur := (if b.error ≥ 0 then b.cur.1 + b.yStep else b.cur.1, b.cur.2 + b.xStep),
               error := (if b.error ≥ 0 then b.error - b.dx else b.error) + b.dy } := by
  unfold Bres.step
  by_cases hy : b.yStep = 0
  · obtain ⟨he, hd⟩ := h0 hy
    simp only [hx, hy, if_true, if_false, if_neg (Int.not_le.mpr he), hd, Int.add_zero]
  · simp only [hx, hy, hm, if_true, if_false]
    split <;> rfl

/-- The state of a line from `s` that steps in x every time, after `i` steps in x and `k` steps
in y. -/
structure XMajor (s : Pt) (xs ys dx0 dy0 : Int) (b : Bres) (i k : Int) : Prop where
  xStep : b.xStep = xs
  yStep : b.yStep = ys
  dx : b.dx = 2 * dx0
  dy : b.dy = 2 * dy0
  cur : b.cur = (s.1 + k * ys, s.2 + i * xs)
  error : b.error = 2 * (dy0 * (i + 1)) - dx0 - 2 * (dx0 * k)

theorem XMajor.step {s : Pt} {xs ys dx0 dy0 : Int} {b : Bres} {i k : Int}
    (h : XMajor s xs ys dx0 dy0 b i k) (hx : xs ≠ 0) (hy : ys = 0 → dy0 = 0) (hmaj : dy0 ≤ dx0)
    (hdx : 0 < dx0) (hk : 0 ≤ k) :
    XMajor s xs ys dx0 dy0 b.step (i + 1) (if b.error ≥ 0 then k + 1 else k) := by
  have hst := step_xmajor b (h.xStep ▸ hx) (by rw [h.dx, h.dy]; omega) (fun hy0 => by
    have hd := hy (h.yStep ▸ hy0)
    have := Int.mul_nonneg (Int.le_of_lt hdx) hk
    rw [h.error, h.dy, hd, Int.zero_mul]
    omega)
  rw [hst]
  refine ⟨h.xStep, h.yStep, h.dx, h.dy, ?_, ?_⟩
  · show (if b.error ≥ 0 then b.cur.1 + b.yStep else b.cur.1, b.cur.2 + b.xStep) = _
    split <;> simp only [h.cur, h.xStep, h.yStep, Int.add_mul, Int.one_mul, Int.add_assoc]
  · show (if b.error ≥ 0 then b.error - b.dx else b.error) + b.dy = _
    rw [h.error, h.dx, h.dy, Int.mul_add dy0 (i + 1), Int.mul_one]
    split
    · rw [Int.mul_add dx0 k, Int.mul_one]; omega
    · omega

theorem run_xmajor {s : Pt} {xs ys dx0 dy0 : Int} (hx : xs ≠ 0) (hy : ys = 0 → dy0 = 0)
    (hmaj : dy0 ≤ dx0) (hdy : 0 ≤ dy0) :
    ∀ (n : Nat) (b : Bres) (i k : Int), XMajor s xs ys dx0 dy0 b i k →
      0 ≤ i → i + n ≤ dx0 → 0 ≤ k → k ≤ dy0 → ∀ p ∈ Bres.run n b, Pos s xs ys dx0 dy0 p := by
  intro n
  induction n with
  | zero => intro _ _ _ _ _ _ _ _ p hp; cases hp
  | succ n ih =>
    intro b i k hb hi hin hk hkd p hp
    rw [Int.natCast_succ] at hin
    rcases List.mem_cons.mp hp with rfl | hp
    · exact ⟨i, k, hb.cur, hi, by omega, hk, hkd⟩
    · have hk' : 0 ≤ (if b.error ≥ 0 then k + 1 else k) ∧ (if b.error ≥ 0 then k + 1 else k) ≤ dy0 := by
        split
        · rename_i herr
          have := minor_lt hdy hi (by omega) (hb.error ▸ herr)
          omega
        · omega
      exact ih _ _ _ (hb.step hx hy hmaj (by omega) hk) (by omega) (by omega) hk'.1 hk'.2 p hp

def Bres.transpose (b : Bres) : Bres :=
  { b with cur := b.cur.swap, dx := b.dy, dy := b.dx, xStep := b.yStep, yStep := b.xStep }

theorem step_transpose (b : Bres) (hy : ¬ b.yStep = 0) (hm : ¬ b.dx ≥ b.dy) :
    b.transpose.step = b.step.transpose := by
  have hm' : b.dy ≥ b.dx := by omega
  unfold Bres.step Bres.transpose
  by_cases hx : b.xStep = 0
  · simp only [hx, hy, if_true, if_false, Prod.swap]
  · simp only [hx, hy, hm, hm', if_true, if_false, Prod.swap]

theorem step_fields (b : Bres) :
    b.step.dx = b.dx ∧ b.step.dy = b.dy ∧ b.step.xStep = b.xStep ∧ b.step.yStep = b.yStep := by
  fun_cases Bres.step b <;> exact ⟨rfl, rfl, rfl, rfl⟩

theorem run_transpose (n : Nat) (b : Bres) (hy : ¬ b.yStep = 0) (hm : ¬ b.dx ≥ b.dy) :
    Bres.run n b.transpose = (Bres.run n b).map Prod.swap := by
  induction n generalizing b with
  | zero => rfl
  | succ n ih =>
    obtain ⟨h1, h2, _, h3⟩ := step_fields b
    rw [Bres.run, Bres.run, step_transpose b hy hm, ih b.step (h3 ▸ hy) (h1 ▸ h2 ▸ hm)]
    rfl

end RtenVerif.Contours
