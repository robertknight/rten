import RtenVerif.Lemmas.TensorBoundsViews

/-! C06: reordering the dimensions of a layout, or adding / dropping one of size 1, gives a layout
that addresses only elements the source addresses, different ones through different indices, and
leaves the quantities the size guards bound as they are (`SameElems`).  `insert_axis`, `remove_axis`
and `move_axis` are such edits.  Last, for `reshape` / `make_contiguous`: a contiguous layout needs
exactly `len` elements. -/
namespace RtenVerif.TensorBounds
open RtenVerif.Overlap

theorem prodNZ_shape_perm {l l' : List (Nat × Nat)} (h : l.Perm l') :
    prodNZ (shapeOf l) = prodNZ (shapeOf l') := by
  induction h with
  | nil => rfl
  | cons x _ ih => simp only [shapeOf, List.map_cons, prodNZ] at *; rw [ih]
  | swap x y l =>
    simp only [shapeOf, List.map_cons, prodNZ]
    split <;> split <;> simp [Nat.mul_left_comm]
  | trans _ _ ih1 ih2 => rw [ih1, ih2]

theorem maxOffset_perm {l l' : List (Nat × Nat)} (h : l.Perm l') : maxOffset l = maxOffset l' := by
  induction h with
  | nil => rfl
  | cons x _ ih => obtain ⟨a, b⟩ := x; simp only [maxOffset, ih]
  | swap x y l => obtain ⟨a, b⟩ := x; obtain ⟨c, d⟩ := y; simp only [maxOffset]; omega
  | trans _ _ ih1 ih2 => rw [ih1, ih2]

/-- `b` addresses only elements that `a` addresses, different ones through different indices (the
converse inclusion is not part of it), and the two quantities the size guards bound agree. -/
structure SameElems (a b : List (Nat × Nat)) : Prop where
  embeds : Embeds a b 0
  prodNZ_eq : prodNZ (shapeOf b) = prodNZ (shapeOf a)
  maxOffset_eq : maxOffset b = maxOffset a

namespace SameElems

theorem of_perm {a b : List (Nat × Nat)} (h : a.Perm b) : SameElems a b :=
  ⟨.of_perm h, (prodNZ_shape_perm h).symm, (maxOffset_perm h).symm⟩

protected theorem trans {a b c : List (Nat × Nat)} (h1 : SameElems a b) (h2 : SameElems b c) :
    SameElems a c :=
  ⟨h1.embeds.trans h2.embeds, h2.prodNZ_eq.trans h1.prodNZ_eq,
    h2.maxOffset_eq.trans h1.maxOffset_eq⟩

theorem cons_unit (st : Nat) (d : List (Nat × Nat)) : SameElems d ((1, st) :: d) :=
  ⟨(Embeds.unit_insert st).append (.refl d), by simp [shapeOf, prodNZ], by simp [maxOffset]⟩

theorem uncons_unit (st : Nat) (d : List (Nat × Nat)) : SameElems ((1, st) :: d) d :=
  ⟨by simpa using (Embeds.dim_pick (k := 0) st Nat.one_pos).append (.refl d),
    by simp [shapeOf, prodNZ], by simp [maxOffset]⟩

end SameElems

theorem insertAt_zero {α : Type} (l : List α) (a : α) : insertAt l 0 a = a :: l := by
  cases l <;> rfl

theorem insertAt_perm {α : Type} : ∀ (l : List α) (i : Nat) (a : α), (insertAt l i a).Perm (a :: l)
  | l, 0, a => by rw [insertAt_zero]
  | [], _ + 1, _ => .refl _
  | x :: xs, n + 1, a => ((insertAt_perm xs n a).cons x).trans (.swap a x xs)

theorem insertAt_eraseIdx {α : Type} : ∀ (ds : List α) (i : Nat) (d0 : α), i < ds.length →
    insertAt (ds.eraseIdx i) i (ds.getD i d0) = ds := by
  intro ds
  induction ds with
  | nil => intro i d0 h; simp at h
  | cons x xs ih =>
    intro i d0 h
    cases i with
    | zero => simp [insertAt]
    | succ a =>
      simp only [List.length_cons, Nat.add_lt_add_iff_right] at h
      simp only [List.eraseIdx_cons_succ, List.getD_cons_succ, insertAt, ih a d0 h]

theorem perm_getD_eraseIdx {α : Type} {ds : List α} {i : Nat} (d0 : α) (h : i < ds.length) :
    ds.Perm (ds.getD i d0 :: ds.eraseIdx i) := by
  have := insertAt_perm (ds.eraseIdx i) i (ds.getD i d0)
  rwa [insertAt_eraseIdx ds i d0 h] at this

theorem removeAxis_same {dims d' : List (Nat × Nat)} {i : Nat} (h : removeAxis dims i = some d') :
    SameElems dims d' := by
  unfold removeAxis at h
  split at h
  · next hc =>
    cases h
    have hp := perm_getD_eraseIdx (0, 0) hc.1
    rw [show dims.getD i (0, 0) = (1, strideAt dims i) from Prod.ext hc.2 rfl] at hp
    exact (SameElems.of_perm hp).trans (.uncons_unit _ _)
  · cases h

theorem insertAxis_same {dims d' : List (Nat × Nat)} {i : Nat} (h : insertAxis dims i = some d') :
    SameElems dims d' := by
  unfold insertAxis at h
  split at h
  · cases h
    exact (SameElems.cons_unit _ dims).trans (.of_perm (insertAt_perm _ _ _).symm)
  · cases h

theorem moveAxis_same {dims d' : List (Nat × Nat)} {src dst : Nat}
    (h : moveAxis dims src dst = some d') : SameElems dims d' := by
  unfold moveAxis at h
  split at h
  · next hc =>
    cases h
    exact .of_perm ((perm_getD_eraseIdx (0, 0) hc.1).trans (insertAt_perm _ _ _).symm)
  · cases h

theorem minDataLen_of_contiguous {dims : List (Nat × Nat)} (hc : isContiguous dims = true) :
    minDataLen dims = len dims := by
  cases hz : hasZero dims
  · rw [isContiguous_eq] at hc
    obtain ⟨p, hp⟩ := Option.isSome_iff_exists.mp hc
    rw [minDataLen_of_noZero hz, contigR_maxOffset dims p hp hz]
    exact contigR_some_eq hp
  · rw [minDataLen_of_hasZero hz, (len_eq_zero_iff dims).mpr hz]

end RtenVerif.TensorBounds
