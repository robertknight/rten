import RtenVerif.Lemmas.Gemm
import Mathlib.Tactic.Ring

/-! C16: semantics of a run of kernel calls over a commutative semiring.  One output element sees
one kernel call per depth block; the calls after the first run with effective beta one and no
bias, so the fold over the depth blocks telescopes into one kernel application over `[0, K)`
(`runCalls_of_cover`, for any list of calls that covers each element so).  Then which calls of one
`gemm_block` touch a given output element. -/
namespace RtenVerif.Gemm

section
variable {α : Type} [CommSemiring α]

theorem sumFrom_add (f : Nat → α) (a m n : Nat) :
    sumFrom f a (m + n) = sumFrom f a m + sumFrom f (a + m) n := by
  induction n with
  | zero => simp [sumFrom]
  | succ n ih =>
    rw [← Nat.add_assoc]
    simp only [sumFrom]
    rw [ih, Nat.add_assoc a m n]
    ring

theorem dot_split (A B : Nat → Nat → α) (r c s e : Nat) (h : s ≤ e) :
    dot A B r c 0 e = dot A B r c 0 s + dot A B r c s (e - s) := by
  unfold dot
  rw [show e = s + (e - s) by omega, sumFrom_add, Nat.zero_add, Nat.add_sub_cancel_left]

variable [DecidableEq α]

theorem runCalls_elem (mr nr : Nat) (alpha beta : α) (bias : Bias α) (A B : Nat → Nat → α)
    (r c : Nat) (calls : List Call) (C : OutMat α) :
    runCalls mr nr alpha beta bias A B C calls r c =
      (calls.filter (fun cl => cl.covers mr nr r c)).foldl
        (elemStep alpha beta bias A B r c) (C r c) :=
  foldl_at _ r c _ _ (fun _ _ => rfl) calls C

theorem kernelElem_accum (h1 : (1 : α) ≠ 0) (alpha beta : α) (A B : Nat → Nat → α)
    (r c s e : Nat) (hse : s ≤ e) (v0 : Option α) :
    kernelElem alpha (dot A B r c s (e - s)) 1 (kernelElem alpha (dot A B r c 0 s) beta v0) =
      kernelElem alpha (dot A B r c 0 e) beta v0 := by
  simp only [kernelElem, h1, if_false]
  rw [dot_split A B r c s e hse]
  by_cases hb : beta = 0
  · rw [if_pos hb, if_pos hb, Option.map_some]
    congr 1; ring
  · rw [if_neg hb, if_neg hb]
    cases v0 with
    | none => rfl
    | some x =>
      rw [Option.map_some, Option.map_some, Option.map_some]
      congr 1; ring

theorem kernelElem_one_addBias (h1 : (1 : α) ≠ 0) (alpha x : α) (bias : Bias α) (r c : Nat)
    (v : Option α) :
    kernelElem alpha x 1 (addBias bias r c v) = addBias bias r c (kernelElem alpha x 1 v) := by
  cases v with
  | none => cases bias <;> simp [kernelElem, addBias, h1]
  | some y => cases bias <;> simp [kernelElem, addBias, h1] <;> ring

theorem elemStep_first (alpha beta : α) (bias : Bias α) (A B : Nat → Nat → α)
    (M N mr nr r c rt ct e : Nat) (v0 : Option α) :
    elemStep alpha beta bias A B r c v0 (mkCall M N mr nr (0, e) rt ct) =
      addBias bias r c (kernelElem alpha (dot A B r c 0 e) beta v0) := by
  simp only [elemStep, mkCall, beq_self_eq_true, if_true, Nat.sub_zero]

theorem elemStep_next (h1 : (1 : α) ≠ 0) (alpha beta : α) (bias : Bias α) (A B : Nat → Nat → α)
    (M N mr nr r c rt ct s e : Nat) (hs : 0 < s) (hse : s ≤ e) (v0 : Option α) :
    elemStep alpha beta bias A B r c
        (addBias bias r c (kernelElem alpha (dot A B r c 0 s) beta v0))
        (mkCall M N mr nr (s, e) rt ct) =
      addBias bias r c (kernelElem alpha (dot A B r c 0 e) beta v0) := by
  have hs0 : (s == 0) = false := beq_false_of_ne (by omega)
  simp only [elemStep, mkCall, hs0, Bool.false_eq_true, if_false]
  rw [kernelElem_one_addBias h1, kernelElem_accum h1 _ _ _ _ _ _ _ _ hse]

theorem depth_fold (h1 : (1 : α) ≠ 0) (alpha beta : α) (bias : Bias α) (A B : Nat → Nat → α)
    (M N mr nr r c rt ct K kc : Nat) (hK : 0 < K) (hkc : 0 < kc) (v0 : Option α) :
    ((depthBlocks K kc).map (fun d => mkCall M N mr nr d rt ct)).foldl
        (elemStep alpha beta bias A B r c) v0 =
      addBias bias r c (kernelElem alpha (dot A B r c 0 K) beta v0) := by
  rw [depthBlocks_pos kc hK, List.map_cons, List.foldl_cons, elemStep_first, List.foldl_map]
  exact foldl_rangeChunks _ (fun s => addBias bias r c (kernelElem alpha (dot A B r c 0 s) beta v0))
    hkc (lo := 1) (fun s e hs hse => elemStep_next h1 _ _ _ _ _ _ _ _ _ _ _ _ _ _ _ hs (by omega) v0)
    _ _ _ (by omega) (by omega) (by omega)

/-- Any list of kernel calls, in any order (the sequential loop nest, or an interleaving of the
column blocks and row blocks that `gemm_impl` runs in parallel), computes the un-blocked result,
provided the calls covering an element of the output are its tile once per depth block in depth
order, and no call covers anything outside `M × N`. -/
theorem runCalls_of_cover (h1 : (1 : α) ≠ 0) {M N K mr nr kc : Nat} (hkc : 0 < kc) (hK : 0 < K)
    {calls : List Call}
    (hin : ∀ {r c}, r < M → c < N → calls.filter (fun cl => cl.covers mr nr r c) =
      (depthBlocks K kc).map fun d => mkCall M N mr nr d (r / mr) (c / nr))
    (hout : ∀ cl ∈ calls, ∀ r c, cl.covers mr nr r c = true → r < M ∧ c < N)
    (alpha beta : α) (bias : Bias α) (A B : Nat → Nat → α) (C : OutMat α) (r c : Nat) :
    runCalls mr nr alpha beta bias A B C calls r c =
      if r < M ∧ c < N then
        addBias bias r c (kernelElem alpha (dot A B r c 0 K) beta (C r c))
      else C r c := by
  rw [runCalls_elem]
  split
  · next h => rw [hin h.1 h.2, depth_fold h1 _ _ _ _ _ _ _ _ _ _ _ _ _ _ _ hK hkc]
  · next h =>
    rw [List.filter_eq_nil_iff.mpr fun cl hcl hcv => h (hout cl hcl r c hcv)]
    rfl

theorem zeroDepth_eq (M N : Nat) (alpha beta : α) (bias : Bias α) (A B : Nat → Nat → α)
    (C : OutMat α) (r c : Nat) :
    zeroDepth M N beta bias C r c =
      if r < M ∧ c < N then addBias bias r c (kernelElem alpha (dot A B r c 0 0) beta (C r c))
      else C r c := by
  have : kernelElem alpha (dot A B r c 0 0) beta (C r c) =
      if beta = 0 then some 0 else (C r c).map (· * beta) := by
    simp [kernelElem, dot, sumFrom, mul_comm]
  rw [this]
  rfl

end

theorem mem_gemmBlock {M N mr nr : Nat} {colR rowR d : Nat × Nat} {cl : Call}
    (h : cl ∈ gemmBlock M N mr nr colR rowR d) :
    ∃ rt ct, ct ∈ tileRange colR.1 colR.2 nr ∧ rt ∈ tileRange rowR.1 rowR.2 mr ∧
      cl = mkCall M N mr nr d rt ct := by
  unfold gemmBlock at h
  rw [List.mem_flatMap] at h
  obtain ⟨ct, hct, h⟩ := h
  rw [List.mem_map] at h
  obtain ⟨rt, hrt, h⟩ := h
  exact ⟨rt, ct, hct, hrt, h.symm⟩

theorem gemmBlock_filter_hit {M N mr nr : Nat} (hmr : 0 < mr) (hnr : 0 < nr) {r c : Nat}
    (hr : r < M) (hc : c < N) (colR rowR d : Nat × Nat)
    (hcol : c / nr ∈ tileRange colR.1 colR.2 nr) (hrow : r / mr ∈ tileRange rowR.1 rowR.2 mr) :
    (gemmBlock M N mr nr colR rowR d).filter (fun cl => cl.covers mr nr r c) =
      [mkCall M N mr nr d (r / mr) (c / nr)] := by
  have hiff := fun rt ct => covers_mkCall_iff hmr hnr hr hc d rt ct
  unfold gemmBlock
  rw [filter_flatMap_unique _ _ _ (c / nr) (nodup_tileRange ..) hcol, List.map_eq_flatMap,
    filter_flatMap_unique _ _ _ (r / mr) (nodup_tileRange ..) hrow]
  · exact List.filter_cons_of_pos (p := fun cl : Call => cl.covers mr nr r c) ((hiff _ _).mpr ⟨rfl, rfl⟩)
  · intro i _ hne
    exact List.filter_cons_of_neg (p := fun cl : Call => cl.covers mr nr r c)
      (fun hcv => hne ((hiff _ _).mp hcv).1)
  · intro i _ hne
    rw [List.filter_eq_nil_iff]
    intro cl hcl hcv
    obtain ⟨rt, _, rfl⟩ := List.mem_map.mp hcl
    exact hne ((hiff _ _).mp hcv).2

theorem gemmBlock_filter_miss {M N mr nr : Nat} (hmr : 0 < mr) (hnr : 0 < nr) {r c : Nat}
    (hr : r < M) (hc : c < N) (colR rowR d : Nat × Nat)
    (hmiss : c / nr ∉ tileRange colR.1 colR.2 nr ∨ r / mr ∉ tileRange rowR.1 rowR.2 mr) :
    (gemmBlock M N mr nr colR rowR d).filter (fun cl => cl.covers mr nr r c) = [] := by
  rw [List.filter_eq_nil_iff]
  intro cl hcl hcv
  obtain ⟨rt, ct, hct, hrt, rfl⟩ := mem_gemmBlock hcl
  obtain ⟨h1, h2⟩ := (covers_mkCall_iff hmr hnr hr hc d _ _).mp hcv
  subst h1 h2
  rcases hmiss with h | h
  · exact h hct
  · exact h hrt

end RtenVerif.Gemm
