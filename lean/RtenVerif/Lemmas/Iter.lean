import RtenVerif.Model.Iter

/-!
C07 lemmas: the `OffsetsBase` state machine is a mixed-radix counter.
Positions are listed innermost first (`OffsetsBase.allPos`).
-/
namespace RtenVerif.Iter
open OffsetsBase

def WF (p : IterPos) : Prop := p.remaining ≤ p.maxRemaining ∧ p.offset = p.index * p.stride

/-- Linear index encoded by the positions (mixed radix, least significant first). -/
def enc : List IterPos → Nat
  | [] => 0
  | p :: ps => p.index + p.size * enc ps

def tot : List IterPos → Nat
  | [] => 1
  | p :: ps => p.size * tot ps

def dimsR (ps : List IterPos) : List (Nat × Nat) := ps.map (fun p => (p.size, p.stride))

/-- Offset of the element with linear index `j` (mixed-radix decoding, innermost first). -/
def offR : List (Nat × Nat) → Nat → Nat
  | [], _ => 0
  | d :: ds, j => (j % d.1) * d.2 + offR ds (j / d.1)

theorem index_lt (p : IterPos) : p.index < p.size := by
  unfold IterPos.index IterPos.size; omega

theorem size_pos (p : IterPos) : 0 < p.size := by unfold IterPos.size; omega

theorem tot_pos : ∀ ps : List IterPos, 0 < tot ps
  | [] => by simp [tot]
  | p :: ps => by simp only [tot]; exact Nat.mul_pos (size_pos p) (tot_pos ps)

theorem digit_add_mul_lt {i s e t : Nat} (hi : i < s) (he : e < t) : i + s * e < s * t :=
  calc i + s * e < s + s * e := Nat.add_lt_add_right hi _
    _ = s * (e + 1) := by rw [Nat.mul_succ, Nat.add_comm]
    _ ≤ s * t := Nat.mul_le_mul_left _ he

theorem enc_lt : ∀ ps : List IterPos, enc ps < tot ps
  | [] => Nat.zero_lt_one
  | p :: ps => digit_add_mul_lt (index_lt p) (enc_lt ps)

theorem tot_eq_total : ∀ ps : List IterPos, tot ps = total (dimsR ps)
  | [] => rfl
  | p :: ps => congrArg (p.size * ·) (tot_eq_total ps)

theorem offR_add_mul (d : Nat × Nat) (ds : List (Nat × Nat)) {i : Nat} (q : Nat) (hi : i < d.1) :
    offR (d :: ds) (i + d.1 * q) = i * d.2 + offR ds q := by
  simp only [offR]
  rw [Nat.add_mul_mod_self_left, Nat.mod_eq_of_lt hi, Nat.add_mul_div_left _ _ (by omega),
    Nat.div_eq_of_lt hi, Nat.zero_add]

theorem offLin_eq : ∀ (ps : List IterPos) (index sp : Nat),
    offLin ps index sp = offR (dimsR ps) (index / sp)
  | [], _, _ => rfl
  | p :: ps, index, sp => by
    simp only [offLin, dimsR, List.map_cons, offR]
    rw [offLin_eq ps index (sp * p.size), Nat.div_div_eq_div_mul]
    rfl

theorem offR_enc : ∀ ps : List IterPos, (∀ p ∈ ps, WF p) → offR (dimsR ps) (enc ps) = sumOff ps
  | [], _ => rfl
  | p :: ps, h => by
    show offR ((p.size, p.stride) :: dimsR ps) (p.index + p.size * enc ps) = p.offset + sumOff ps
    rw [offR_add_mul _ _ _ (index_lt p), offR_enc ps (fun q hq => h q (List.mem_cons_of_mem _ hq)),
      (h p (List.mem_cons_self ..)).2]

theorem foldr_enc : ∀ ps : List IterPos,
    ps.foldr (fun p acc => acc * p.size + p.index) 0 = enc ps
  | [] => rfl
  | p :: ps => by
    simp only [List.foldr, enc, foldr_enc ps]
    rw [Nat.mul_comm, Nat.add_comm]

theorem linearIndex_eq (s : OffsetsBase) : s.linearIndex = enc s.allPos := by
  unfold linearIndex
  rw [List.foldl_reverse]
  exact foldr_enc _

theorem setIndex_index {p : IterPos} {i : Nat} (h : i < p.size) : (p.setIndex i).index = i := by
  unfold IterPos.size at h
  simp only [IterPos.setIndex, IterPos.index]; omega

@[simp] theorem setIndex_size (p : IterPos) (i : Nat) : (p.setIndex i).size = p.size := rfl
@[simp] theorem setIndex_stride (p : IterPos) (i : Nat) : (p.setIndex i).stride = p.stride := rfl

theorem setIndex_wf {p : IterPos} {i : Nat} (h : i < p.size) : WF (p.setIndex i) := by
  refine ⟨?_, ?_⟩
  · simp only [IterPos.setIndex]; omega
  · rw [setIndex_index h]; rfl

theorem step_eq {p : IterPos} (h : WF p) :
    p.step = if p.index + 1 < p.size then (p.setIndex (p.index + 1), true)
      else (p.setIndex 0, false) := by
  obtain ⟨h1, h2⟩ := h
  have hc : p.index + 1 < p.size ↔ p.remaining ≠ 0 := by
    unfold IterPos.index IterPos.size; omega
  unfold IterPos.step IterPos.setIndex
  by_cases hr : p.remaining ≠ 0
  · rw [if_pos hr, if_pos (hc.mpr hr), Nat.succ_mul, ← h2]
    congr 2
    unfold IterPos.index; omega
  · rw [if_neg hr, if_neg (mt hc.mp hr), Nat.zero_mul]; rfl

/-! ### `step_by` is mixed-radix addition -/

theorem addPos_zero (ps : List IterPos) : addPos ps 0 = ps := by
  cases ps <;> rfl

theorem dimsR_addPos (ps : List IterPos) (n : Nat) : dimsR (addPos ps n) = dimsR ps := by
  fun_induction addPos ps n with
  | case1 | case2 => rfl
  | case3 p ps n _ _ ih => exact congrArg ((p.size, p.stride) :: ·) ih

theorem tot_addPos (ps : List IterPos) (n : Nat) : tot (addPos ps n) = tot ps := by
  rw [tot_eq_total, dimsR_addPos, ← tot_eq_total]

theorem enc_addPos (ps : List IterPos) (n : Nat) : enc (addPos ps n) = (enc ps + n) % tot ps := by
  -- case1: no position left (`tot [] = 1`); case2: nothing left to add; case3: one digit and its carry
  fun_induction addPos ps n with
  | case1 n => exact (Nat.mod_one _).symm
  | case2 p ps => rw [Nat.add_zero, Nat.mod_eq_of_lt (enc_lt _)]
  | case3 p ps n _ _ ih =>
    have hm : (p.index + n) % p.size < p.size := Nat.mod_lt _ (size_pos p)
    simp only [enc, tot, setIndex_size]
    rw [setIndex_index hm, ih, Nat.add_right_comm, Nat.mod_mul,
      Nat.add_mul_mod_self_left, Nat.add_mul_div_left _ _ (size_pos p), Nat.add_comm (enc ps)]

theorem addPos_wf (ps : List IterPos) (n : Nat) (h : ∀ p ∈ ps, WF p) : ∀ q ∈ addPos ps n, WF q := by
  fun_induction addPos ps n with
  | case1 | case2 => exact h
  | case3 p ps n _ _ ih =>
    intro q hq
    rcases List.mem_cons.mp hq with rfl | hq
    · exact setIndex_wf (Nat.mod_lt _ (size_pos p))
    · exact ih (fun r hr => h r (List.mem_cons_of_mem _ hr)) q hq

theorem stepOuterLoop_eq : ∀ ps : List IterPos, (∀ p ∈ ps, WF p) →
    stepOuterLoop ps = (addPos ps 1, decide (enc ps + 1 < tot ps))
  | [], _ => rfl
  | p :: ps, h => by
    have ih := stepOuterLoop_eq ps (fun q hq => h q (List.mem_cons_of_mem _ hq))
    simp only [stepOuterLoop, addPos, Nat.one_ne_zero, if_false, enc, tot]
    rw [step_eq (h p (List.mem_cons_self ..))]
    by_cases hlt : p.index + 1 < p.size
    · have : p.index + p.size * enc ps + 1 < p.size * tot ps := by
        rw [Nat.add_right_comm]; exact digit_add_mul_lt hlt (enc_lt ps)
      simp only [hlt, if_true, this, decide_true]
      rw [Nat.mod_eq_of_lt hlt, Nat.div_eq_of_lt hlt, addPos_zero]
    · have he : p.index + 1 = p.size := by have := index_lt p; omega
      have : p.index + p.size * enc ps + 1 = p.size * (enc ps + 1) := by
        rw [Nat.mul_succ, Nat.add_right_comm, he, Nat.add_comm]
      simp only [hlt, if_false, Bool.false_eq_true, ih, this, Nat.mul_lt_mul_left (size_pos p)]
      rw [he, Nat.mod_self, Nat.div_self (size_pos p)]

structure Inv (s : OffsetsBase) : Prop where
  wf : ∀ p ∈ s.allPos, WF p
  inner : s.innerOffset = s.inner0.offset + s.inner1.offset
  outer : s.outerOffset = sumOff s.outerRev
  bound : s.len ≠ 0 → enc s.allPos + s.len ≤ tot s.allPos

/-- The offsets still to be yielded, in order. -/
def absB (s : OffsetsBase) : List Nat :=
  (List.range' (enc s.allPos) s.len).map (offR (dimsR s.allPos))

theorem absB_length (s : OffsetsBase) : (absB s).length = s.len := by simp [absB]

theorem stepBy_shape (s : OffsetsBase) (n : Nat) :
    ∃ i1 i0 outer, addPos s.allPos (min n s.len) = i1 :: i0 :: outer ∧
      s.stepBy n = { len := s.len - min n s.len, inner1 := i1, inner0 := i0, outerRev := outer,
                     innerOffset := i0.offset + i1.offset, outerOffset := sumOff outer } := by
  have hl := congrArg List.length (dimsR_addPos s.allPos (min n s.len))
  simp only [dimsR, List.length_map, allPos, List.length_cons] at hl
  match hm : addPos s.allPos (min n s.len), hl with
  | i1 :: i0 :: outer, _ =>
    refine ⟨i1, i0, outer, rfl, ?_⟩
    simp only [stepBy, hm]

theorem stepBy_spec {s : OffsetsBase} (hs : Inv s) (n : Nat) :
    Inv (s.stepBy n) ∧ absB (s.stepBy n) = (absB s).drop n := by
  obtain ⟨i1, i0, outer, hadd, hst⟩ := stepBy_shape s n
  have hall : (s.stepBy n).allPos = addPos s.allPos (min n s.len) := by rw [hst, hadd]; rfl
  have hlen : (s.stepBy n).len = s.len - min n s.len := by rw [hst]
  refine ⟨⟨by rw [hall]; exact addPos_wf _ _ hs.wf, by rw [hst], by rw [hst], ?_⟩, ?_⟩
  · intro hne
    rw [hlen] at hne
    have hb := hs.bound (by omega)
    rw [hall, enc_addPos, tot_addPos, hlen, Nat.mod_eq_of_lt (by omega)]
    omega
  · unfold absB
    rw [hall, dimsR_addPos, enc_addPos, hlen, ← List.map_drop, List.drop_range', Nat.mul_one]
    by_cases hge : s.len ≤ n
    · rw [Nat.min_eq_right hge, Nat.sub_self, Nat.sub_eq_zero_of_le hge]; rfl
    · have hb := hs.bound (by omega)
      rw [Nat.min_eq_left (by omega), Nat.mod_eq_of_lt (by omega)]

theorem step_offset (p : IterPos) :
    p.step.1.offset = if p.step.2 then p.offset + p.stride else 0 := by
  unfold IterPos.step
  split <;> rfl

/-- `next` is the carry loop of `step_outer_pos` with the two inner positions unrolled. -/
theorem next_eq {s : OffsetsBase} (hs : Inv s) (hl : s.len ≠ 0) :
    s.next = (some (sumOff s.allPos), s.stepBy 1) := by
  have hoff : s.outerOffset + s.innerOffset = sumOff s.allPos := by
    rw [hs.inner, hs.outer]; simp only [allPos, sumOff]; omega
  have hadd : (stepOuterLoop s.allPos).1 = addPos s.allPos 1 := by rw [stepOuterLoop_eq _ hs.wf]
  have hmin : min 1 s.len = 1 := Nat.min_eq_left (Nat.pos_of_ne_zero hl)
  have h1 := step_offset s.inner1
  have h0 := step_offset s.inner0
  simp only [OffsetsBase.next, stepBy, hl, if_false, hmin, ← hadd, hoff]
  simp only [allPos, stepOuterLoop, stepOuterPos]
  cases e1 : s.inner1.step with | mk i1 ok1 =>
  cases e0 : s.inner0.step with | mk i0 ok0 =>
  rw [e1] at h1
  rw [e0] at h0
  cases ok1 <;> cases ok0 <;> simp only [if_true, if_false, Bool.false_eq_true] at h1 h0 ⊢ <;>
    simp only [h1, h0, hs.inner, hs.outer, Nat.add_zero, Nat.add_assoc]

theorem next_spec {s : OffsetsBase} (hs : Inv s) :
    s.next.1 = (absB s).head? ∧ absB s.next.2 = (absB s).tail ∧ Inv s.next.2 := by
  by_cases hl : s.len = 0
  · have : s.next = (none, s) := by simp [OffsetsBase.next, hl]
    rw [this]
    simp [absB, hl, hs]
  · rw [next_eq hs hl]
    obtain ⟨h1, h2⟩ := stepBy_spec hs 1
    refine ⟨?_, ?_, h1⟩
    · simp only [absB, List.head?_map, List.head?_range', hl, if_false, Option.map_some]
      rw [offR_enc _ hs.wf]
    · simp only [h2, List.drop_one]

theorem nextBack_spec {s : OffsetsBase} (hs : Inv s) :
    s.nextBack.1 = (absB s).getLast? ∧ absB s.nextBack.2 = (absB s).dropLast ∧
      Inv s.nextBack.2 := by
  by_cases hl : s.len = 0
  · have : s.nextBack = (none, s) := if_pos hl
    rw [this]
    simp [absB, hl, hs]
  · have : s.nextBack = (some (s.offsetFromLinearIndex (s.linearIndex + s.len - 1)),
        { s with len := s.len - 1 }) := if_neg hl
    rw [this]
    refine ⟨?_, ?_, ⟨hs.wf, hs.inner, hs.outer, fun _ => ?_⟩⟩
    · rw [absB, List.getLast?_map, List.getLast?_range', if_neg hl, offsetFromLinearIndex,
        offLin_eq, linearIndex_eq, Nat.div_one]
      rfl
    · show (List.range' _ (s.len - 1)).map _ = _
      rw [absB, List.dropLast_eq_take, List.length_map, List.length_range', ← List.map_take,
        List.take_range'_of_length_ge (Nat.sub_le _ _)]
      rfl
    · exact Nat.le_trans (Nat.add_le_add_left (Nat.sub_le _ _) _) (hs.bound hl)

theorem truncate_spec {s : OffsetsBase} (hs : Inv s) (k : Nat) :
    absB (s.truncate k) = (absB s).take k ∧ Inv (s.truncate k) := by
  refine ⟨?_, ⟨hs.wf, hs.inner, hs.outer, fun hne => ?_⟩⟩
  · show (List.range' _ (min s.len k)).map _ = _
    rw [absB, ← List.map_take]
    by_cases hk : k ≤ s.len
    · rw [Nat.min_eq_right hk, List.take_range'_of_length_ge hk]; rfl
    · rw [Nat.min_eq_left (Nat.le_of_not_le hk), List.take_range'_of_length_le (Nat.le_of_not_le hk)]
      rfl
  · have hb := hs.bound (fun h0 => hne (by show min s.len k = 0; rw [h0, Nat.zero_min]))
    exact Nat.le_trans (Nat.add_le_add_left (Nat.min_le_left ..) _) hb

theorem nth_spec {s : OffsetsBase} (hs : Inv s) (n : Nat) :
    (s.stepBy n).next.1 = ((absB s).drop n).head? ∧
      absB (s.stepBy n).next.2 = (absB s).drop (n + 1) ∧ Inv (s.stepBy n).next.2 := by
  obtain ⟨h1, h2⟩ := stepBy_spec hs n
  obtain ⟨g1, g2, g3⟩ := next_spec h1
  refine ⟨by rw [g1, h2], ?_, g3⟩
  rw [g2, h2, List.tail_drop]

end RtenVerif.Iter
