import RtenVerif.Model.Iter

/-!
Generic refinement (simulation) machinery for C07: an iterator implementation
`ops : IterOps σ ι` refines the deque specification `listOps ι` under an abstraction
function `abs : σ → List ι` and an invariant `Inv`.
-/
namespace RtenVerif.Iter

def NextOk {σ ι : Type} (next : σ → Option ι × σ) (Inv : σ → Prop) (abs : σ → List ι) : Prop :=
  ∀ s, Inv s → (next s).1 = (abs s).head? ∧ abs (next s).2 = (abs s).tail ∧ Inv (next s).2

def BackOk {σ ι : Type} (nextBack : σ → Option ι × σ) (Inv : σ → Prop) (abs : σ → List ι) : Prop :=
  ∀ s, Inv s → (nextBack s).1 = (abs s).getLast? ∧ abs (nextBack s).2 = (abs s).dropLast ∧
    Inv (nextBack s).2

/-- `Refines` without the `split_at` clauses: `Lane` and `LaneMut` are not `SplitIterator`s. -/
structure RefinesNS {σ ι : Type} (ops : IterOps σ ι) (Inv : σ → Prop) (abs : σ → List ι) : Prop where
  next : NextOk ops.next Inv abs
  nextBack : BackOk ops.nextBack Inv abs
  nth : ∀ s n, Inv s → (ops.nth s n).1 = ((abs s).drop n).head? ∧
    abs (ops.nth s n).2 = (abs s).drop (n + 1) ∧ Inv (ops.nth s n).2
  len : ∀ s, Inv s → ops.len s = (abs s).length
  fold : ∀ s, Inv s → ops.fold s = abs s
  rev : ∀ s, Inv s → ops.rev s = (abs s).reverse

structure SplitOk {σ ι : Type} (ops : IterOps σ ι) (Inv : σ → Prop) (abs : σ → List ι) : Prop where
  splitOk : ∀ s k, Inv s → k ≤ (abs s).length →
    ∃ a b, ops.splitAt s k = some (a, b) ∧ abs a = (abs s).take k ∧ abs b = (abs s).drop k ∧
      Inv a ∧ Inv b
  splitPanic : ∀ s k, Inv s → (abs s).length < k → ops.splitAt s k = none

/-- Per-operation commutation of an implementation with the deque specification. -/
structure Refines {σ ι : Type} (ops : IterOps σ ι) (Inv : σ → Prop) (abs : σ → List ι) : Prop
    extends RefinesNS ops Inv abs, SplitOk ops Inv abs

theorem run_list_split {ι : Type} (k : Nat) (l r : Hist) (L : List ι) :
    run (listOps ι) (.split k l r) L =
      if k ≤ L.length then run (listOps ι) l (L.take k) ++ run (listOps ι) r (L.drop k) else [.panic] := by
  by_cases h : k ≤ L.length <;> simp only [run, listOps, h, if_true, if_false]

theorem run_refines_of {σ ι : Type} {ops : IterOps σ ι} {Inv : σ → Prop} {abs : σ → List ι}
    (R : RefinesNS ops Inv abs) : ∀ (h : Hist), h.noSplit = true ∨ SplitOk ops Inv abs →
    ∀ s : σ, Inv s → run ops h s = run (listOps ι) h (abs s) := by
  intro h
  induction h with
  | drop => intro _ s _; rfl
  | fold => intro _ s hs; simp [run, R.fold s hs, listOps]
  | rev => intro _ s hs; simp [run, R.rev s hs, listOps]
  | next h ih =>
    intro hn s hs
    obtain ⟨h1, h2, h3⟩ := R.next s hs
    simp only [run]
    rw [h1, ih hn _ h3, h2]
    rfl
  | back h ih =>
    intro hn s hs
    obtain ⟨h1, h2, h3⟩ := R.nextBack s hs
    simp only [run]
    rw [h1, ih hn _ h3, h2]
    rfl
  | len h ih =>
    intro hn s hs
    simp only [run]
    rw [R.len s hs, ih hn _ hs]
    rfl
  | nth k h ih =>
    intro hn s hs
    obtain ⟨h1, h2, h3⟩ := R.nth s k hs
    simp only [run]
    rw [h1, ih hn _ h3, h2]
    rfl
  | split k l r ihl ihr =>
    intro hn s hs
    rcases hn with hn | S
    · cases hn
    · by_cases hk : k ≤ (abs s).length
      · obtain ⟨a, b, hsp, ha, hb, hia, hib⟩ := S.splitOk s k hs hk
        rw [run_list_split, if_pos hk, ← ha, ← hb, ← ihl (.inr S) _ hia, ← ihr (.inr S) _ hib]
        simp only [run, hsp]
      · rw [run_list_split, if_neg hk]
        simp only [run, S.splitPanic s k hs (by omega)]

/-- **Simulation theorem**: every history (any interleaving of `next`, `next_back`, `nth`,
`len`, `split_at` with both halves continued, terminated by `fold`, reverse draining or
dropping) observes on the implementation exactly what it observes on the deque. -/
theorem run_refines {σ ι : Type} {ops : IterOps σ ι} {Inv : σ → Prop} {abs : σ → List ι}
    (R : Refines ops Inv abs) (h : Hist) (s : σ) (hs : Inv s) :
    run ops h s = run (listOps ι) h (abs s) :=
  run_refines_of R.toRefinesNS h (.inr R.toSplitOk) s hs

theorem run_refines_ns {σ ι : Type} {ops : IterOps σ ι} {Inv : σ → Prop} {abs : σ → List ι}
    (R : RefinesNS ops Inv abs) (h : Hist) (hn : h.noSplit = true) (s : σ) (hs : Inv s) :
    run ops h s = run (listOps ι) h (abs s) :=
  run_refines_of R h (.inl hn) s hs

theorem drainFront_spec {σ ι : Type} {next : σ → Option ι × σ} {Inv : σ → Prop}
    {abs : σ → List ι} (H : NextOk next Inv abs) :
    ∀ (fuel : Nat) (s : σ), Inv s → (abs s).length ≤ fuel → drainFront next fuel s = abs s := by
  intro fuel
  induction fuel with
  | zero => intro s _ hl; exact (List.length_eq_zero_iff.mp (Nat.le_zero.mp hl)).symm
  | succ f ih =>
    intro s hs hl
    obtain ⟨h1, h2, h3⟩ := H s hs
    unfold drainFront
    split
    · next x s' hn =>
      rw [hn] at h1 h2 h3
      obtain ⟨xs, hab⟩ := List.head?_eq_some_iff.mp h1.symm
      rw [hab] at hl h2 ⊢
      rw [ih s' h3 (by rw [h2]; exact Nat.le_of_succ_le_succ hl), h2]
      rfl
    · next s' hn =>
      rw [hn] at h1
      exact (List.head?_eq_none_iff.mp h1.symm).symm

theorem drainBack_spec {σ ι : Type} {nextBack : σ → Option ι × σ} {Inv : σ → Prop}
    {abs : σ → List ι} (H : BackOk nextBack Inv abs) :
    ∀ (fuel : Nat) (s : σ), Inv s → (abs s).length ≤ fuel →
      drainBack nextBack fuel s = (abs s).reverse := by
  intro fuel s hs hl
  -- view `next_back` as `next` of the reversed abstraction
  have H' : NextOk nextBack Inv (fun s => (abs s).reverse) := by
    intro s hs
    obtain ⟨h1, h2, h3⟩ := H s hs
    refine ⟨by rw [h1, List.head?_reverse], ?_, h3⟩
    simp only
    rw [h2, List.tail_reverse]
  exact drainFront_spec H' fuel s hs (by simpa using hl)

theorem defaultNth_spec {σ ι : Type} {next : σ → Option ι × σ} {Inv : σ → Prop}
    {abs : σ → List ι} (H : NextOk next Inv abs) :
    ∀ (n : Nat) (s : σ), Inv s → (defaultNth next s n).1 = ((abs s).drop n).head? ∧
      abs (defaultNth next s n).2 = (abs s).drop (n + 1) ∧ Inv (defaultNth next s n).2 := by
  intro n
  induction n with
  | zero =>
    intro s hs
    obtain ⟨h1, h2, h3⟩ := H s hs
    exact ⟨h1, by rw [List.drop_one]; exact h2, h3⟩
  | succ n ih =>
    intro s hs
    obtain ⟨h1, h2, h3⟩ := H s hs
    unfold defaultNth
    split
    · next x s' hn =>
      rw [hn] at h2 h3
      obtain ⟨i1, i2, i3⟩ := ih s' h3
      rw [h2, List.drop_tail] at i1 i2
      exact ⟨i1, i2, i3⟩
    · next s' hn =>
      rw [hn] at h1 h2 h3
      have hnil : abs s = [] := List.head?_eq_none_iff.mp h1.symm
      rw [hnil] at h2 ⊢
      exact ⟨rfl, h2, h3⟩

/-! ### Windows of a sequence

The abstraction of a cursor iterator (`Range`, `Lane`, `AxisIter`) is the list of `f i` for
`lo ≤ i < hi`; the deque operations move one of the two ends. -/

def window {ι : Type} (f : Nat → ι) (lo hi : Nat) : List ι := (List.range' lo (hi - lo)).map f

section window
variable {ι : Type} (f : Nat → ι) (lo hi : Nat)

theorem window_length : (window f lo hi).length = hi - lo := by simp [window]

theorem window_of_le (h : hi ≤ lo) : window f lo hi = [] := by
  simp [window, Nat.sub_eq_zero_of_le h]

theorem window_zero : window f 0 hi = (List.range hi).map f := by
  rw [window, Nat.sub_zero, List.range_eq_range']

theorem window_head? : (window f lo hi).head? = if lo < hi then some (f lo) else none := by
  rw [window, List.head?_map, List.head?_range']
  by_cases h : lo < hi
  · rw [if_neg (Nat.sub_ne_zero_of_lt h), if_pos h]; rfl
  · rw [if_pos (Nat.sub_eq_zero_of_le (Nat.le_of_not_lt h)), if_neg h]; rfl

theorem window_tail : (window f lo hi).tail = window f (lo + 1) hi := by
  rw [window, ← List.map_tail, List.tail_range', Nat.sub_sub]; rfl

theorem window_getLast? :
    (window f lo hi).getLast? = if lo < hi then some (f (hi - 1)) else none := by
  rw [window, List.getLast?_map, List.getLast?_range']
  by_cases h : lo < hi
  · rw [if_neg (Nat.sub_ne_zero_of_lt h), if_pos h, Nat.add_sub_of_le (Nat.le_of_lt h)]; rfl
  · rw [if_pos (Nat.sub_eq_zero_of_le (Nat.le_of_not_lt h)), if_neg h]; rfl

theorem window_drop (k : Nat) : (window f lo hi).drop k = window f (lo + k) hi := by
  rw [window, ← List.map_drop, List.drop_range', Nat.mul_one, Nat.sub_sub]; rfl

theorem window_take {k : Nat} (h : k ≤ hi - lo) :
    (window f lo hi).take k = window f lo (lo + k) := by
  rw [window, window, ← List.map_take, List.take_range'_of_length_ge h, Nat.add_sub_cancel_left]

theorem window_dropLast : (window f lo hi).dropLast = window f lo (hi - 1) := by
  rw [window, window, List.dropLast_eq_take, List.length_map, List.length_range', ← List.map_take,
    List.take_range'_of_length_ge (Nat.sub_le _ _), Nat.sub_right_comm]

theorem window_congr {g : Nat → ι} (h : ∀ i, lo ≤ i → i < hi → f i = g i) :
    window f lo hi = window g lo hi :=
  List.map_congr_left fun i hi' => by
    rw [List.mem_range'_1] at hi'
    exact h i hi'.1 (by omega)

theorem map_range'_shift {β : Type} (f : Nat → β) (a b n : Nat) :
    (List.range' (a + b) n).map f = (List.range' a n).map (fun i => f (i + b)) := by
  rw [Nat.add_comm a b, ← List.map_add_range' a n 1, List.map_map]
  apply List.map_congr_left
  intro x _
  simp [Nat.add_comm]

theorem window_shift (b : Nat) : window (fun i => f (i + b)) lo hi = window f (lo + b) (hi + b) := by
  rw [window, window, Nat.add_sub_add_right, map_range'_shift]

end window

end RtenVerif.Iter
